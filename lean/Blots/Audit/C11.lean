import Blots.Props.C11
/- GENERATED by ./check: axioms of every property theorem of C11 -/
#print axioms Blots.C11.scalar_rule
#print axioms Blots.C11.scalar_arith
#print axioms Blots.C11.add_concatenates_strings
#print axioms Blots.C11.add_requires_same_kind
#print axioms Blots.C11.arith_requires_numbers
#print axioms Blots.C11.scalar_compare
#print axioms Blots.C11.compare_follows_value_ordering
#print axioms Blots.C11.logical_on_booleans
#print axioms Blots.C11.logical_requires_booleans
#print axioms Blots.C11.coalesce_iff_null
#print axioms Blots.C11.element_rule_is_scalar_rule
#print axioms Blots.C11.scalar_rule_ok_or_err
#print axioms Blots.C11.broadcast_list_scalar
#print axioms Blots.C11.broadcast_scalar_list
#print axioms Blots.C11.scalar_left_eq_ne_order_irrelevant
#print axioms Blots.C11.scalar_left_mul
#print axioms Blots.C11.scalar_left_other
#print axioms Blots.C11.elementwise_law
#print axioms Blots.C11.fails_iff_some_element_fails
#print axioms Blots.C11.broadcast_list_list
#print axioms Blots.C11.unequal_lengths_fail
#print axioms Blots.C11.list_list_fails_iff
#print axioms Blots.C11.dot_never_broadcasts
#print axioms Blots.C11.dot_on_lists
#print axioms Blots.C11.state_untouched
