import Blots.Lemmas.EvalBin
/-
  C11 — Scalar operator semantics and the broadcasting law.

  Everything is about `evalBin ops (fuel+1) depth op a b s` (`evaluate_binary_op_ast` after
  both operands are evaluated) for all `ops : NumOps`, values, list lengths, `fuel`, `depth`
  and states (helpers in `Blots/Lemmas/EvalBin.lean`).
  * "computes the IEEE-754 result" is reduced to: the result IS the `NumOps` primitive applied
    to the two operands in source order (the harness validates `NumOps.native` bit for bit);
  * `scalarOp ops false op x y` is the scalar rule, and also the element rule of the three
    list arms (`element_rule_is_scalar_rule`);
  * `listOf (Outcome.mapM' f L)` = the results of `f` on `L` in order wrapped in a list value,
    the first failure wins (`Outcome.mapM'_first_failure`);
  * `bcast` = the 17 broadcasting operators, `dotOps` the six dot comparisons, `callOps` =
    via / into / where (`binOp_trichotomy`: every operator is in one of the three).
  A "scalar" is any non-list value (`isListV v = false`).
-/
namespace Blots.C11

theorem scalar_rule (ops : NumOps) (fuel depth : Nat) (op : BinOp) (x y : Value) (s : ES)
    (hop : op ∈ bcast) (hx : isListV x = false) (hy : isListV y = false) :
    evalBin ops (fuel+1) depth op x y s = (scalarOp ops false op x y, s) := by
  rw [evalBin_bcast _ _ _ _ _ _ _ hop, binValue_scalar_scalar ops (bcast_not_dot hop) _ _ hx hy]

theorem scalar_arith (ops : NumOps) (fuel depth : Nat) (x y : F64) (s : ES) :
    evalBin ops (fuel+1) depth .add (.num x) (.num y) s = (.ok (.num (ops.add x y)), s) ∧
    evalBin ops (fuel+1) depth .sub (.num x) (.num y) s = (.ok (.num (ops.sub x y)), s) ∧
    evalBin ops (fuel+1) depth .mul (.num x) (.num y) s = (.ok (.num (ops.mul x y)), s) ∧
    evalBin ops (fuel+1) depth .div (.num x) (.num y) s = (.ok (.num (ops.div x y)), s) ∧
    evalBin ops (fuel+1) depth .mod (.num x) (.num y) s = (.ok (.num (ops.rem x y)), s) ∧
    evalBin ops (fuel+1) depth .pow (.num x) (.num y) s = (.ok (.num (ops.powf x y)), s) := by
  refine ⟨?_, ?_, ?_, ?_, ?_, ?_⟩ <;> exact evalBin_bcast _ _ _ _ _ _ _ (by decide)

theorem add_concatenates_strings (ops : NumOps) (fuel depth : Nat) (x y : String) (s : ES) :
    evalBin ops (fuel+1) depth .add (.str x) (.str y) s = (.ok (.str (x ++ y)), s) :=
  evalBin_bcast _ _ _ _ _ _ _ (by decide)

theorem add_requires_same_kind (ops : NumOps) (fuel depth : Nat) (a b : Value) (s : ES)
    (ha : isListV a = false) (hb : isListV b = false)
    (hs : ¬ ∃ x y, a = .str x ∧ b = .str y) (hn : ¬ ∃ x y, a = .num x ∧ b = .num y) :
    evalBin ops (fuel+1) depth .add a b s = (.err .type_, s) := by
  rw [scalar_rule _ _ _ _ _ _ _ (by decide) ha hb]
  cases a with
  | str x =>
    cases b with
    | str y => exact absurd ⟨x, y, rfl, rfl⟩ hs
    | _ => rfl
  | num x =>
    cases b with
    | num y => exact absurd ⟨x, y, rfl, rfl⟩ hn
    | _ => rfl
  | _ => rfl

theorem arith_requires_numbers (ops : NumOps) (fuel depth : Nat) (op : BinOp) (a b : Value) (s : ES)
    (hop : op ∈ [BinOp.sub, .mul, .div, .mod, .pow])
    (ha : isListV a = false) (hb : isListV b = false)
    (hn : ¬ ∃ x y, a = .num x ∧ b = .num y) :
    evalBin ops (fuel+1) depth op a b s = (.err .type_, s) := by
  have key (f : F64 → F64 → F64) : ((asNumber a).bind fun x => (asNumber b).bind fun y =>
      Outcome.ok (Value.num (f x y))) = .err .type_ := by
    cases a with
    | num x =>
      cases b with
      | num y => exact absurd ⟨x, y, rfl, rfl⟩ hn
      | _ => rfl
    | _ => rfl
  simp only [List.mem_cons, List.not_mem_nil, or_false] at hop
  rcases hop with rfl | rfl | rfl | rfl | rfl <;> rw [scalar_rule _ _ _ _ _ _ _ (by decide) ha hb] <;>
    exact congrArg (·, s) (key _)

/-- On scalars the six plain comparisons are exactly the dot operators, whose coherence is C12
    (`Blots.C12.*` are theorems about `compareOp` of the dot operators). -/
theorem scalar_compare (ops : NumOps) (fuel depth : Nat) (op : BinOp) (a b : Value) (s : ES)
    (hop : op ∈ [BinOp.eq, .ne, .lt, .le, .gt, .ge])
    (ha : isListV a = false) (hb : isListV b = false) :
    evalBin ops (fuel+1) depth op a b s = (compareOp op a b, s) ∧
    compareOp op a b = compareOp (dotted op) a b := by
  simp only [List.mem_cons, List.not_mem_nil, or_false] at hop
  rcases hop with rfl | rfl | rfl | rfl | rfl | rfl <;>
    exact ⟨scalar_rule _ _ _ _ _ _ _ (by decide) ha hb, rfl⟩

theorem compare_follows_value_ordering (a b : Value) :
    compareOp .eq a b = .ok (.bool (veq a b)) ∧ compareOp .ne a b = .ok (.bool (!veq a b)) ∧
    (∀ o, vcmp a b = some o →
      compareOp .lt a b = .ok (.bool (o == .lt)) ∧
      compareOp .le a b = .ok (.bool (o == .lt || o == .eq)) ∧
      compareOp .gt a b = .ok (.bool (o == .gt)) ∧
      compareOp .ge a b = .ok (.bool (o == .gt || o == .eq))) ∧
    (vcmp a b = none →
      compareOp .lt a b = .err .compare ∧ compareOp .le a b = .err .compare ∧
      compareOp .gt a b = .err .compare ∧ compareOp .ge a b = .err .compare) := by
  refine ⟨rfl, rfl, fun o h => ?_, fun h => ?_⟩ <;> simp only [compareOp, orderingsOf, h]
  · cases o <;> exact ⟨rfl, rfl, rfl, rfl⟩
  · exact ⟨rfl, rfl, rfl, rfl⟩

/-- `.and` / `.or` are `&&` / `||`, `.nand` / `.nor` the words `and` / `or` (`NaturalAnd`, `NaturalOr`) -/
theorem logical_on_booleans (ops : NumOps) (fuel depth : Nat) (p q : Bool) (s : ES) :
    evalBin ops (fuel+1) depth .and (.bool p) (.bool q) s = (.ok (.bool (p && q)), s) ∧
    evalBin ops (fuel+1) depth .nand (.bool p) (.bool q) s = (.ok (.bool (p && q)), s) ∧
    evalBin ops (fuel+1) depth .or (.bool p) (.bool q) s = (.ok (.bool (p || q)), s) ∧
    evalBin ops (fuel+1) depth .nor (.bool p) (.bool q) s = (.ok (.bool (p || q)), s) := by
  refine ⟨?_, ?_, ?_, ?_⟩ <;> exact evalBin_bcast _ _ _ _ _ _ _ (by decide)

/-- no short-circuit: the right operand must be a boolean whatever the left one is
    (the pinned tree gave `false and 5 = false`; fix 81d7e1c) -/
theorem logical_requires_booleans (ops : NumOps) (fuel depth : Nat) (op : BinOp) (a b : Value) (s : ES)
    (hop : op ∈ [BinOp.and, .nand, .or, .nor])
    (ha : isListV a = false) (hb : isListV b = false) :
    ((∃ v, (evalBin ops (fuel+1) depth op a b s).1 = .ok v) ↔ ∃ p q, a = .bool p ∧ b = .bool q) ∧
    ((¬ ∃ p q, a = .bool p ∧ b = .bool q) →
      evalBin ops (fuel+1) depth op a b s = (.err .type_, s)) := by
  simp only [List.mem_cons, List.not_mem_nil, or_false] at hop
  by_cases hbb : ∃ p q, a = .bool p ∧ b = .bool q
  · obtain ⟨p, q, rfl, rfl⟩ := hbb
    refine ⟨⟨fun _ => ⟨p, q, rfl, rfl⟩, fun _ => ?_⟩, fun h => absurd ⟨p, q, rfl, rfl⟩ h⟩
    rcases hop with rfl | rfl | rfl | rfl <;>
      exact ⟨_, congrArg Prod.fst (evalBin_bcast _ _ _ _ _ _ _ (by decide))⟩
  · -- `logical_operands` fails before either operator looks at the values
    have he : evalBin ops (fuel+1) depth op a b s = (.err .type_, s) := by
      rcases hop with rfl | rfl | rfl | rfl <;> rw [scalar_rule _ _ _ _ _ _ _ (by decide) ha hb] <;>
        exact congrArg (·, s) (logicalOperands_bind_not_bool _ hbb)
    rw [he]
    exact ⟨⟨fun ⟨_, hv⟩ => (nomatch hv), fun h => absurd h hbb⟩, fun _ => rfl⟩

theorem coalesce_iff_null (ops : NumOps) (fuel depth : Nat) (a b : Value) (s : ES)
    (ha : isListV a = false) (hb : isListV b = false) :
    (a = .null → evalBin ops (fuel+1) depth .coalesce a b s = (.ok b, s)) ∧
    (a ≠ .null → evalBin ops (fuel+1) depth .coalesce a b s = (.ok a, s)) := by
  rw [scalar_rule _ _ _ _ _ _ _ (by decide) ha hb]
  constructor
  · rintro rfl; rfl
  · intro h
    cases a with
    | null => exact absurd rfl h
    | _ => rfl

/-- The Rust code spells `+` differently in the list arms ((string,string) | (number,number) |
    error) and in the scalar arm (left is a string ⇒ right must be one; otherwise both numbers).
    The two spellings are the same function — same results, same failures, same error kind —
    on all pairs of values; for the other 16 operators the code is shared. -/
theorem element_rule_is_scalar_rule (ops : NumOps) (op : BinOp) (x y : Value) :
    scalarOp ops true op x y = scalarOp ops false op x y :=
  scalarOp_elementwise_irrelevant ops op x y

theorem scalar_rule_ok_or_err (ops : NumOps) (op : BinOp) (x y : Value) :
    (scalarOp ops false op x y).isOk = true ∨ (scalarOp ops false op x y).isErr = true :=
  scalarOp_ok_or_err ops false op x y

theorem broadcast_list_scalar (ops : NumOps) (fuel depth : Nat) (op : BinOp) (L : List Value)
    (sc : Value) (s : ES) (hop : op ∈ bcast) (hs : isListV sc = false) :
    evalBin ops (fuel+1) depth op (.list L) sc s =
      (listOf (Outcome.mapM' (fun x => scalarOp ops false op x sc) L), s) := by
  rw [evalBin_bcast _ _ _ _ _ _ _ hop, binValue_list_scalar ops (bcast_not_dot hop) _ _ hs, mapScalar_eq]
  simp only [elemScalar_listFirst, scalarOp_elementwise_irrelevant]

/-- `sc op L` (`scalarLeftRule`, Lemmas/EvalBin.lean): the scalar is the left operand of each
    element operation, except that `*`, `==`, `!=` are written with the list element first -/
theorem broadcast_scalar_list (ops : NumOps) (fuel depth : Nat) (op : BinOp) (sc : Value)
    (L : List Value) (s : ES) (hop : op ∈ bcast) (hs : isListV sc = false) :
    evalBin ops (fuel+1) depth op sc (.list L) s =
      (listOf (Outcome.mapM' (fun x => scalarLeftRule ops op sc x) L), s) := by
  rw [evalBin_bcast _ _ _ _ _ _ _ hop, binValue_scalar_list ops (bcast_not_dot hop) _ _ hs, mapScalar_eq]
  simp only [elemScalar_scalarFirst, scalarOp_elementwise_irrelevant, scalarLeftRule]

/-- `sc == x` / `sc != x` with the element first is the same as with the scalar first when both
    are data values (`veq` is symmetric on data: `veq_symm`; on function values `veq` compares
    parameter lists and bodies and symmetry of `Expr.beq` is not claimed here). -/
theorem scalar_left_eq_ne_order_irrelevant (ops : NumOps) (op : BinOp) (sc x : Value)
    (hop : op = .eq ∨ op = .ne) (h1 : isData sc = true) (h2 : isData x = true) :
    scalarLeftRule ops op sc x = scalarOp ops false op sc x := by
  rcases hop with rfl | rfl
  · show Outcome.ok (Value.bool (veq x sc)) = .ok (.bool (veq sc x))
    rw [veq_symm x sc h2 h1]
  · show Outcome.ok (Value.bool (!veq x sc)) = .ok (.bool (!veq sc x))
    rw [veq_symm x sc h2 h1]

/-- `sc * x` is computed as `ops.mul x sc` (element first).  Commutativity of the float
    multiplication is not a property of an arbitrary `NumOps`, so it is a hypothesis here.
    (IEEE-754 multiplication is commutative up to the payload of a NaN result.) -/
theorem scalar_left_mul (ops : NumOps) (sc x : Value) :
    scalarLeftRule ops .mul sc x = scalarOp ops false .mul x sc ∧
    ((∀ u v, ops.mul u v = ops.mul v u) →
      scalarLeftRule ops .mul sc x = scalarOp ops false .mul sc x) := by
  refine ⟨rfl, fun hc => ?_⟩
  show scalarOp ops false .mul x sc = scalarOp ops false .mul sc x
  cases x with
  | num u =>
    cases sc with
    | num v => exact congrArg (fun r => Outcome.ok (Value.num r)) (hc u v)
    | _ => rfl
  | _ => cases sc <;> rfl

theorem scalar_left_other (ops : NumOps) (op : BinOp) (sc x : Value)
    (h : op ≠ .mul ∧ op ≠ .eq ∧ op ≠ .ne) :
    scalarLeftRule ops op sc x = scalarOp ops false op sc x :=
  if_neg fun h' => h'.elim h.1 fun h' => h'.elim h.2.1 h.2.2

/-- the shape shared by the three list arms -/
theorem elementwise_law {α} (f : α → Outcome Value) (L : List α)
    (hf : ∀ x, (f x).isOk = true ∨ (f x).isErr = true) :
    (∀ v, listOf (Outcome.mapM' f L) = .ok v ↔
      ∃ vs : List Value, v = .list vs ∧ vs.length = L.length ∧
        ∀ (i : Nat) (h1 : i < L.length) (h2 : i < vs.length), f L[i] = .ok vs[i]) ∧
    ((listOf (Outcome.mapM' f L)).isOk = true ∨ (listOf (Outcome.mapM' f L)).isErr = true) ∧
    ((listOf (Outcome.mapM' f L)).isErr = true ↔ ∃ x ∈ L, (f x).isErr = true) ∧
    (∀ pre x post k, L = pre ++ x :: post → (∀ y ∈ pre, (f y).isOk = true) → f x = .err k →
      listOf (Outcome.mapM' f L) = .err k) := by
  refine ⟨fun v => listOf_mapM'_ok_iff f L v, (listOf_mapM'_isErr_iff f L hf).1,
    (listOf_mapM'_isErr_iff f L hf).2, ?_⟩
  rintro pre x post k rfl hpre hx
  rw [(Outcome.mapM'_first_failure f pre x post hpre).1 k hx]; rfl

theorem fails_iff_some_element_fails (ops : NumOps) (fuel depth : Nat) (op : BinOp)
    (L : List Value) (sc : Value) (s : ES) (hop : op ∈ bcast) (hs : isListV sc = false) :
    ((evalBin ops (fuel+1) depth op (.list L) sc s).1.isErr = true ↔
      ∃ x ∈ L, (scalarOp ops false op x sc).isErr = true) ∧
    (∀ v, (evalBin ops (fuel+1) depth op (.list L) sc s).1 = .ok v ↔
      ∃ vs : List Value, v = .list vs ∧ vs.length = L.length ∧
        ∀ (i : Nat) (h1 : i < L.length) (h2 : i < vs.length),
          scalarOp ops false op L[i] sc = .ok vs[i]) ∧
    ((evalBin ops (fuel+1) depth op sc (.list L) s).1.isErr = true ↔
      ∃ x ∈ L, (scalarLeftRule ops op sc x).isErr = true) ∧
    (∀ v, (evalBin ops (fuel+1) depth op sc (.list L) s).1 = .ok v ↔
      ∃ vs : List Value, v = .list vs ∧ vs.length = L.length ∧
        ∀ (i : Nat) (h1 : i < L.length) (h2 : i < vs.length),
          scalarLeftRule ops op sc L[i] = .ok vs[i]) := by
  rw [broadcast_list_scalar _ _ _ _ _ _ _ hop hs, broadcast_scalar_list _ _ _ _ _ _ _ hop hs]
  have h1 := elementwise_law (fun x => scalarOp ops false op x sc) L
    (fun x => scalarOp_ok_or_err ops false op x sc)
  have h2 := elementwise_law (fun x => scalarLeftRule ops op sc x) L (fun x => by
    unfold scalarLeftRule; split <;> exact scalarOp_ok_or_err ..)
  exact ⟨h1.2.2.1, h1.1, h2.2.2.1, h2.1⟩

theorem broadcast_list_list (ops : NumOps) (fuel depth : Nat) (op : BinOp) (la lb : List Value)
    (s : ES) (hop : op ∈ bcast) (hl : la.length = lb.length) :
    evalBin ops (fuel+1) depth op (.list la) (.list lb) s =
      (listOf (Outcome.mapM' (fun p : Value × Value => scalarOp ops false op p.1 p.2) (la.zip lb)), s) := by
  rw [evalBin_bcast _ _ _ _ _ _ _ hop, binValue_list_list ops (bcast_not_dot hop), if_pos hl, zipScalar_eq]
  simp only [scalarOp_elementwise_irrelevant]

/-- for `into` a list as right operand is rejected first, as a type error -/
theorem unequal_lengths_fail (ops : NumOps) (fuel depth : Nat) (op : BinOp) (la lb : List Value)
    (s : ES) (hop : op ∉ dotOps) (hl : la.length ≠ lb.length) :
    evalBin ops (fuel+1) depth op (.list la) (.list lb) s =
      (.err (if op = .into then .type_ else .length), s) := by
  have hd : isDot op = false := Bool.eq_false_iff.mpr fun h => hop ((mem_dotOps_iff op).mpr h)
  have hne : (la.length != lb.length) = true := bne_iff_ne.mpr hl
  by_cases hc : isCallOp op = false
  · have hi : op ≠ .into := by rintro rfl; cases hc
    rw [evalBin_value _ _ _ _ _ _ _ hc, binValue_list_list ops hd, if_neg hl, if_neg hi]
  · cases op <;> first | exact absurd rfl hc | skip
    · rw [evalBin_via]; exact if_pos hne
    · rw [evalBin_into]; rfl
    · rw [evalBin_where]; exact if_pos hne

theorem list_list_fails_iff (ops : NumOps) (fuel depth : Nat) (op : BinOp) (la lb : List Value)
    (s : ES) (hop : op ∈ bcast) :
    ((evalBin ops (fuel+1) depth op (.list la) (.list lb) s).1.isErr = true ↔
      la.length ≠ lb.length ∨
      ∃ (i : Nat) (h1 : i < la.length) (h2 : i < lb.length),
        (scalarOp ops false op la[i] lb[i]).isErr = true) ∧
    (∀ v, (evalBin ops (fuel+1) depth op (.list la) (.list lb) s).1 = .ok v ↔
      la.length = lb.length ∧
      ∃ vs : List Value, v = .list vs ∧ vs.length = la.length ∧
        ∀ (i : Nat) (h1 : i < la.length) (h2 : i < lb.length) (h3 : i < vs.length),
          scalarOp ops false op la[i] lb[i] = .ok vs[i]) := by
  by_cases hl : la.length = lb.length
  · rw [broadcast_list_list _ _ _ _ _ _ _ hop hl]
    have h := elementwise_law (fun p : Value × Value => scalarOp ops false op p.1 p.2) (la.zip lb)
      (fun p => scalarOp_ok_or_err ops false op p.1 p.2)
    have hlen : (la.zip lb).length = la.length := by simp [List.length_zip, hl]
    constructor
    · rw [h.2.2.1]
      constructor
      · rintro ⟨p, hp, he⟩
        obtain ⟨i, hi, rfl⟩ := List.getElem_of_mem hp
        refine Or.inr ⟨i, by omega, by omega, ?_⟩
        simpa [List.getElem_zip] using he
      · rintro (h' | ⟨i, h1, h2, he⟩)
        · exact absurd hl h'
        · refine ⟨(la.zip lb)[i]'(by omega), List.getElem_mem _, ?_⟩
          simpa [List.getElem_zip] using he
    · intro v
      rw [h.1 v]
      constructor
      · rintro ⟨vs, rfl, hvl, hg⟩
        refine ⟨hl, vs, rfl, by omega, fun i h1 h2 h3 => ?_⟩
        have := hg i (by omega) h3
        simp only [List.getElem_zip] at this
        exact this
      · rintro ⟨_, vs, rfl, hvl, hg⟩
        refine ⟨vs, rfl, by omega, fun i h1 h2 => ?_⟩
        simp only [List.getElem_zip]
        exact hg i (by omega) (by omega) h2
  · have hnd : op ∉ dotOps := fun hd => by
      have := bcast_not_dot hop; rw [(mem_dotOps_iff op).mp hd] at this; cases this
    have hni : op ≠ .into := by rintro rfl; revert hop; decide
    rw [unequal_lengths_fail _ _ _ _ _ _ _ hnd hl, if_neg hni]
    exact ⟨⟨fun _ => .inl hl, fun _ => rfl⟩, fun v => ⟨fun h => (nomatch h), fun h => absurd h.1 hl⟩⟩

theorem dot_never_broadcasts (ops : NumOps) (fuel depth : Nat) (op : BinOp) (a b : Value) (s : ES)
    (hop : op ∈ dotOps) : evalBin ops (fuel+1) depth op a b s = (compareOp op a b, s) :=
  evalBin_dot ops fuel depth op a b s hop

theorem dot_on_lists (ops : NumOps) (fuel depth : Nat) (la lb : List Value) (sc : Value) (s : ES)
    (hs : isListV sc = false) :
    evalBin ops (fuel+1) depth .deq (.list la) (.list lb) s = (.ok (.bool (veqList la lb)), s) ∧
    evalBin ops (fuel+1) depth .deq (.list la) sc s = (.ok (.bool false), s) ∧
    evalBin ops (fuel+1) depth .dne (.list la) sc s = (.ok (.bool true), s) := by
  have hv : veq (.list la) sc = false := by
    cases sc with
    | list _ => cases hs
    | _ => simp only [veq]
  refine ⟨?_, ?_, ?_⟩ <;> rw [evalBin_dot _ _ _ _ _ _ _ (by decide)] <;>
    simp only [compareOp, veq, hv, Bool.not_false]

theorem state_untouched (ops : NumOps) (fuel depth : Nat) (op : BinOp) (a b : Value) (s : ES)
    (hop : op ∉ callOps) : (evalBin ops (fuel+1) depth op a b s).2 = s := by
  rcases binOp_trichotomy op with h | h | h
  · rw [evalBin_bcast _ _ _ _ _ _ _ h]
  · rw [evalBin_dot _ _ _ _ _ _ _ h]
  · exact absurd h hop

/-! the hypotheses above are satisfiable by non-trivial values -/

section examples
/-- `false and 5` is a type error (81d7e1c) -/
example : evalBin toyOps 1 0 .and (.bool false) (.num (F64.ofNat 5)) demoState = (.err .type_, demoState) :=
  (logical_requires_booleans toyOps 0 0 .and _ _ demoState (by simp) rfl rfl).2 (by simp)
example : (evalBin toyOps 1 0 .or (.bool true) (.str "x") demoState).1 = .err .type_ := by
  rw [evalBin_bcast (h := by decide)]; rfl

/-- string + number and number + string are errors; `"a" + "b"` is `"ab"` -/
example : (evalBin toyOps 1 0 .add (.str "a") vOne demoState).1 = .err .type_ := by
  rw [evalBin_bcast (h := by decide)]; rfl
example : (evalBin toyOps 1 0 .add vOne (.str "a") demoState).1 = .err .type_ := by
  rw [evalBin_bcast (h := by decide)]; rfl
example : ¬ ∃ x y, Value.str "a" = .str x ∧ vOne = .str y := by simp [vOne]
example : (evalBin toyOps 1 0 .add (.str "a") (.str "b") demoState).1 = .ok (.str "ab") := by
  rw [add_concatenates_strings]; rfl

/-- `null ?? 2 = 2`, `false ?? 2 = false` -/
example : (evalBin toyOps 1 0 .coalesce .null vTwo demoState).1 = .ok vTwo := by
  rw [evalBin_bcast (h := by decide)]; rfl
example : (evalBin toyOps 1 0 .coalesce (.bool false) vTwo demoState).1 = .ok (.bool false) := by
  rw [evalBin_bcast (h := by decide)]; rfl

/-- list ∘ scalar with a failing element in the middle: the first failure wins -/
example : (evalBin toyOps 1 0 .sub (.list [vOne, .str "a", .null]) vTwo demoState).1 = .err .type_ := by
  rw [evalBin_bcast (h := by decide)]; rfl
example : (evalBin toyOps 1 0 .lt (.list [vOne, vTwo]) vTwo demoState).1 =
    .ok (.list [.bool true, .bool false]) := by
  rw [evalBin_bcast (h := by decide)]; rfl
/-- `*` with the scalar on the left: the element is the first argument of `ops.mul`
    (`toyOps.mul` returns its second argument, so every result is the scalar); for `-` the scalar
    is the first argument (`toyOps.sub` returns its first argument) -/
example : (evalBin toyOps 1 0 .mul vTwo (.list [vOne]) demoState).1 = .ok (.list [vTwo]) := by
  rw [evalBin_bcast (h := by decide)]; rfl
example : (evalBin toyOps 1 0 .sub vTwo (.list [vOne]) demoState).1 = .ok (.list [vTwo]) := by
  rw [evalBin_bcast (h := by decide)]; rfl
/-- list ∘ list, and the length error -/
example : (evalBin toyOps 1 0 .coalesce (.list [.null, vOne]) (.list [vTwo, vTwo]) demoState).1 =
    .ok (.list [vTwo, vOne]) := by
  rw [evalBin_bcast (h := by decide)]; rfl
example : (evalBin toyOps 1 0 .add (.list [vOne]) (.list [vTwo, vTwo]) demoState).1 = .err .length := by
  rw [evalBin_bcast (h := by decide)]; rfl
/-- nested lists do not broadcast a second time: the element rule is the scalar rule -/
example : (evalBin toyOps 1 0 .add (.list [.list [vOne]]) vTwo demoState).1 = .err .type_ := by
  rw [evalBin_bcast (h := by decide)]; rfl
/-- dot comparisons: no broadcast, no length error -/
example : (evalBin toyOps 1 0 .deq (.list [vOne]) (.list [vTwo, vTwo]) demoState).1 = .ok (.bool false) := by
  rw [evalBin_dot (h := by decide)]; rfl
example : (evalBin toyOps 1 0 .dlt (.list [vOne]) (.list [vOne, vTwo]) demoState).1 = .ok (.bool true) := by
  rw [evalBin_dot (h := by decide)]; rfl
example : isData vOne = true ∧ isData (.list [vOne, .str "q"]) = true := by decide
end examples

end Blots.C11
