import Blots.Model.Cli
import Blots.Lemmas.Json
import Blots.Props.C06
/-
  C19 — CLI contract: exit status, outputs object, input merging, `#name`.

  Helper lemmas: `Blots/Lemmas/Json.lean`.  The model is
  `Blots/Model/Cli.lean`: the statement loop of `evaluate_source` over the driver's
  observations (`Event`) of an abstract evaluator, and `Blots/Model/Json.lean` for the
  input merge.  A statement "parsed and evaluated successfully" = `Event.succeeded`
  (for an `output` this includes the two checks whose failure the CLI reports as
  `[output error]`: a function must be portable, the value must not contain NaN / ±inf).
  The model follows /repo after the fixes b646a47 (`output n` of a name that evaluates
  without being bound emits the evaluated value) and afa129b (non-finite output = error).

  Not modelled (observed by the harness on the real binary): clap's argument parsing,
  file / inline / `-e` source selection, the `--output` file, the error text.
-/
namespace Blots.C19

theorem exit_zero_iff_all_succeeded (outs : Outputs) (evs : List Event) :
    (runEvents outs evs).exit = 0 ↔ ∀ e ∈ evs, e.succeeded = true := by
  constructor
  · intro h e he
    cases hs : e.succeeded with
    | true => rfl
    | false => exact absurd h (runEvents_failed evs outs ⟨e, he, hs⟩).1
  · intro h; rw [runEvents_all_ok evs outs h]

/-- "exactly one" object: the result type holds at most one -/
theorem object_iff_exit_zero (outs : Outputs) (evs : List Event) :
    (runEvents outs evs).object.isSome = true ↔ (runEvents outs evs).exit = 0 := by
  cases hall : evs.all Event.succeeded with
  | true =>
    have h : ∀ e ∈ evs, e.succeeded = true := by simpa [List.all_eq_true] using hall
    rw [runEvents_all_ok evs outs h]; simp
  | false =>
    have h : ∃ e ∈ evs, e.succeeded = false := by simpa [List.all_eq_false] using hall
    have := runEvents_failed evs outs h
    simp [this.1, this.2]

theorem no_object_on_failure (outs : Outputs) (evs : List Event) (h : ∃ e ∈ evs, e.succeeded = false) :
    (runEvents outs evs).exit ≠ 0 ∧ (runEvents outs evs).object = none :=
  runEvents_failed evs outs h

/-- on success the object is the `IndexMap` of the entries stored by the `output`
    statements, each serialised by `to_json` -/
theorem object_on_success (evs : List Event) (h : ∀ e ∈ evs, e.succeeded = true) :
    runEvents [] evs = ⟨0, some (writeOutputs (insertAll [] (evs.filterMap Event.stored)))⟩ := by
  rw [runEvents_all_ok evs [] h, foldl_storeEvent]

example : (runEvents [] [.expr (.ok .null), .outAssign "a" (.ok (.num F64.one)) true, .comment,
    .outIdent "a" (.ok (.num F64.one)) (some (.num F64.one)) true]).exit = 0 := by decide

example : (runEvents [] [.outAssign "a" (.ok (.num F64.one)) true, .expr (.err .unknownIdent)]).exit = 1 := by
  decide

/-- first declaration: `IndexMap::insert` keeps the position of an existing key -/
theorem keys_in_first_declaration_order (evs : List Event) (h : ∀ e ∈ evs, e.succeeded = true) :
    ∃ obj, (runEvents [] evs).object = some obj ∧
      obj.map Prod.fst = firstOccurrences ((evs.filterMap Event.stored).map Prod.fst) := by
  refine ⟨_, by rw [object_on_success evs h], ?_⟩
  simp only [writeOutputs, List.map_map]
  have := keys_insertAll (evs.filterMap Event.stored) ([] : Outputs)
  simpa [firstOccurrences, Function.comp_def] using this

/-- each key holds the serialisation of the value stored by the last declaration of that
    name.  (In the real language a name is bound once and never re-bound, so every
    declaration of one name — only `output n` can be repeated; `output n = e` twice is an
    "already defined" error — stores the same value: "the value at its declaration".) -/
theorem value_is_the_stored_one (evs : List Event) (h : ∀ e ∈ evs, e.succeeded = true) (k : String) :
    ∃ obj, (runEvents [] evs).object = some obj ∧
      lookupAL k obj = (lookupLast k (evs.filterMap Event.stored)).map toJson := by
  refine ⟨_, by rw [object_on_success evs h], ?_⟩
  have h1 : writeOutputs (insertAll [] (evs.filterMap Event.stored)) =
      mapVals toJson (insertAll [] (evs.filterMap Event.stored)) := rfl
  rw [h1, lookupAL_mapVals, lookupAL_insertAll]
  simp [lookupAL]

/-- later statements cannot change an emitted value: the object stores serialised trees -/
theorem later_statements_do_not_change (evs later : List Event)
    (h : ∀ e ∈ evs ++ later, e.succeeded = true) (k : String)
    (hk : ∀ e ∈ later, e.declaredName ≠ some k) :
    ∃ o1 o2, (runEvents [] evs).object = some o1 ∧ (runEvents [] (evs ++ later)).object = some o2 ∧
      lookupAL k o2 = lookupAL k o1 := by
  have h1 : ∀ e ∈ evs, e.succeeded = true := fun e he => h e (List.mem_append_left _ he)
  obtain ⟨o1, ho1, hl1⟩ := value_is_the_stored_one evs h1 k
  obtain ⟨o2, ho2, hl2⟩ := value_is_the_stored_one (evs ++ later) h k
  refine ⟨o1, o2, ho1, ho2, ?_⟩
  rw [hl1, hl2, List.filterMap_append, lookupLast_append]
  have : lookupLast k (later.filterMap Event.stored) = none := by
    cases hl : lookupLast k (later.filterMap Event.stored) with
    | none => rfl
    | some sv =>
      exfalso
      have hm := lookupLast_mem hl
      obtain ⟨e, he, hes⟩ := List.mem_filterMap.mp hm
      exact hk e he (stored_name hes)
  rw [this]; simp

/-- Every successfully executed `output` statement contributes its name: the keys of the
    object are the declared names in order of first declaration.  The hypothesis `hser`
    only excludes values that `to_serializable_value` refuses (spread values — never the
    value of a statement in the real evaluator); such an output would be skipped silently,
    see `unserialisable_output_is_skipped`. -/
theorem keys_are_declared_names (evs : List Event) (h : ∀ e ∈ evs, e.succeeded = true)
    (hser : ∀ e ∈ evs, ∀ v, e.declared = some v → (fromValue v).isOk = true) :
    ∃ obj, (runEvents [] evs).object = some obj ∧
      obj.map Prod.fst = firstOccurrences (evs.filterMap Event.declaredName) := by
  obtain ⟨obj, h1, h2⟩ := keys_in_first_declaration_order evs h
  refine ⟨obj, h1, ?_⟩
  rw [h2, stored_names_of_all_stored evs (fun e he hn => stored_of_succeeded (hser e he) (h e he) hn)]

/-- `output map` (a built-in: evaluates, but `bindings.get("map")` is `None`) is emitted with
    the value the identifier evaluated to — likewise `output constants`.  (The pinned tree left
    such names out silently: fix b646a47.) -/
theorem unbound_name_outputs_evaluated_value :
    (runEvents [] [.outIdent "map" (.ok (.builtin "map")) none true]).exit = 0 ∧
    (runEvents [] [.outIdent "map" (.ok (.builtin "map")) none true]).object =
      some [("map", .obj [("__blots_function", .str "map")])] := by
  constructor <;> rfl

/-- the only way a successful `output` leaves no key: the value cannot be serialised -/
theorem unserialisable_output_is_skipped :
    (runEvents [] [.outAssign "a" (.ok (.spread .null)) true]).exit = 0 ∧
    (runEvents [] [.outAssign "a" (.ok (.spread .null)) true]).object = some [] := by
  constructor <;> rfl

example : ∀ e ∈ [Event.outAssign "a" (.ok (.num F64.one)) true, .expr (.ok .null),
      .outIdent "map" (.ok (.builtin "map")) none true,
      .outIdent "a" (.ok (.num F64.one)) (some (.num F64.one)) true],
    e.succeeded = true ∧ (∀ v, e.declared = some v → (fromValue v).isOk = true) := by
  intro e he
  simp only [List.mem_cons, List.mem_nil_iff, or_false] at he
  rcases he with rfl | rfl | rfl | rfl
  · exact ⟨by decide, by intro v hv; cases hv; rfl⟩
  · exact ⟨by decide, by intro v hv; cases hv⟩
  · exact ⟨by decide, by intro v hv; cases hv; rfl⟩
  · exact ⟨by decide, by intro v hv; cases hv; rfl⟩

/-- NaN or ±inf anywhere in an output is an error (JSON cannot denote such a number; the pinned
    tree wrote it as `0`: fix afa129b) -/
theorem nonfinite_output_is_error (outs : Outputs) (evs : List Event) (e : Event) (he : e ∈ evs)
    (v : Value) (sv : SV) (hd : e.declared = some v) (hsv : fromValue v = .ok sv)
    (hnf : sv.finite = false) :
    (runEvents outs evs).exit ≠ 0 ∧ (runEvents outs evs).object = none := by
  apply runEvents_failed evs outs
  refine ⟨e, he, ?_⟩
  have hw : writable v = false := by simp [writable, hsv, hnf]
  exact Bool.eq_false_iff.2 fun hs => by rw [writable_of_succeeded hs hd] at hw; cases hw

example : (runEvents [] [.outAssign "a" (.ok (.list [.num F64.one, .num F64.inf])) true]).exit = 1 ∧
    (runEvents [] [.outIdent "inf" (.ok (.num F64.inf)) none true]).exit = 1 := by decide

/-- A successful `output n = e` of a data value emits, under `n`, a tree that reads back
    as a value `.==` to the declared one.  Success already implies that every number is
    finite; `hn` is the exclusion clause of C06 (a record shaped like a function object
    denotes a function when read back). -/
theorem emitted_value_is_declared_value (pf : ParseFn) (pb : ParseBody) (n : String) (v : Value)
    (hd : isData v = true) (hs : (Event.outAssign n (.ok v) true).succeeded = true)
    (sv : SV) (hsv : fromValue v = .ok sv) (hn : sv.noFn pf = true) :
    ∃ j w, (runEvents [] [.outAssign n (.ok v) true]).object = some [(n, j)] ∧
      readJson pf pb j = .ok w ∧ veq w v = true := by
  have hf : sv.finite = true := by
    simpa [Event.succeeded, Event.declared, Outcome.isOk, writable, hsv] using hs
  obtain ⟨j, w, h1, h2, h3⟩ := C06.data_roundtrip pf pb v hd sv hsv hf hn
  refine ⟨j, w, ?_, h2, h3⟩
  simp only [writeJson, hsv, Outcome.ok.injEq] at h1
  subst h1
  have hw : writable v = true := by simp [writable, hsv, hf]
  simp [runEvents, stepEvent, stepOutput, Event.declared, Outcome.isOk, hw, declare, hsv, insertAL,
    writeOutputs]

/-- in general: whatever is stored is finite, so `to_json` writes it without loss (the
    `non-finite ↦ 0` rule of `to_json` is unreachable from the CLI's outputs) -/
theorem stored_values_are_finite (e : Event) (hs : e.succeeded = true) (n : String) (sv : SV)
    (hst : e.stored = some (n, sv)) : sv.finite = true := by
  obtain ⟨v, _, hd, hf⟩ := stored_eq_some.1 hst
  simpa [writable, hf] using writable_of_succeeded hs hd

theorem run_is_event_machine {Env Code} (ev : Evaluator Env Code) (env : Env) (stmts : List (Stmt Code)) :
    runStmts ev env [] stmts = runEvents [] (trace ev env stmts) :=
  runStmts_eq_runEvents ev stmts env []

/-- the whole CLI: `sources` are the inputs (`none`: not JSON), `program` the parsed source
    (`none`: parse error) -/
theorem cli_exit_zero_iff {Env Code} (ev : Evaluator Env Code) (pf : ParseFn) (pb : ParseBody)
    (mkEnv : List (String × Value) → Env) (sources : List (Option Json))
    (program : Option (List (Stmt Code))) :
    ((cliRun ev pf pb mkEnv sources program).exit = 0 ↔
      ∃ docs stmts, sources.mapM id = some docs ∧ program = some stmts ∧
        ∀ e ∈ trace ev (mkEnv (mergeFrom pf pb 0 [] docs)) stmts, e.succeeded = true) ∧
    ((cliRun ev pf pb mkEnv sources program).object.isSome = true ↔
      (cliRun ev pf pb mkEnv sources program).exit = 0) := by
  unfold cliRun
  cases hs : sources.mapM id with
  | none => simp
  | some docs =>
    cases program with
    | none => simp
    | some stmts =>
      simp only [run_is_event_machine, exit_zero_iff_all_succeeded, object_iff_exit_zero,
        Option.some.injEq, exists_and_left, exists_eq_left', and_true]

theorem parse_error_runs_nothing {Env Code} (ev : Evaluator Env Code) (pf : ParseFn) (pb : ParseBody)
    (mkEnv : List (String × Value) → Env) (sources : List (Option Json)) :
    (cliRun ev pf pb mkEnv sources none).exit ≠ 0 ∧ (cliRun ev pf pb mkEnv sources none).object = none := by
  unfold cliRun
  cases sources.mapM id <;> simp

/-- stdin first, then the `--input` flags left to right -/
theorem merge_is_insertion_in_order (pf : ParseFn) (pb : ParseBody) (stdin : Option Json) (flags : List Json) :
    mergeInputs pf pb stdin flags = insertAll [] (entriesFrom pf pb 0 (stdin.toList ++ flags)) :=
  mergeFrom_eq pf pb _ 0 []

theorem later_source_overrides (pf : ParseFn) (pb : ParseBody) (docs : List Json) (d : Json) (k : String) :
    lookupAL k (mergeFrom pf pb 0 [] (docs ++ [d])) =
      (lookupLast k (sourceEntries pf pb (counterAfter pf pb 0 docs) d.norm).1).or
        (lookupAL k (mergeFrom pf pb 0 [] docs)) := by
  rw [mergeFrom_eq, mergeFrom_eq, entriesFrom_append, insertAll_append, lookupAL_insertAll]
  simp [entriesFrom]

theorem merged_value_is_last_definition (pf : ParseFn) (pb : ParseBody) (stdin : Option Json)
    (flags : List Json) (k : String) :
    lookupAL k (mergeInputs pf pb stdin flags) =
      lookupLast k (entriesFrom pf pb 0 (stdin.toList ++ flags)) := by
  rw [merge_is_insertion_in_order, lookupAL_insertAll]; simp [lookupAL]

theorem merged_key_order (pf : ParseFn) (pb : ParseBody) (stdin : Option Json) (flags : List Json) :
    (mergeInputs pf pb stdin flags).map Prod.fst =
      firstOccurrences ((entriesFrom pf pb 0 (stdin.toList ++ flags)).map Prod.fst) := by
  rw [merge_is_insertion_in_order, keys_insertAll]; rfl

/-- non-object sources are numbered across stdin and flags together; object sources do not
    consume numbers (`object_source_keeps_counter`) -/
theorem unnamed_numbering (pf : ParseFn) (pb : ParseBody) (before : List Json) (d : Json) (v : Value)
    (hno : d.isObj = false) (hv : readJson pf pb d = .ok v) :
    sourceEntries pf pb (counterAfter pf pb 0 before) d.norm =
      ([(unnamedKey ((before.filter (unnamedSource pf pb)).length + 1), v)],
       (before.filter (unnamedSource pf pb)).length + 1) := by
  rw [counterAfter_eq]
  unfold readJson at hv
  have h1 := norm_isObj d
  rw [hno] at h1
  cases hd : d.norm with
  | obj ms => rw [hd] at h1; cases h1
  | _ => rw [hd] at hv; simp [sourceEntries, hv]

theorem object_source_keeps_counter (pf : ParseFn) (pb : ParseBody) (c : Nat) (ms : List (String × Json)) :
    (sourceEntries pf pb c (Json.obj ms).norm).2 = c := rfl

/-- the numbering starts at 1 and counts across stdin and flags -/
example : (mergeInputs (fun _ => none) (fun _ => none) (some (.num F64.one))
    [.obj [("q", .null)], .str "s"]).map Prod.fst = ["value_1", "q", "value_2"] := by decide

theorem unnamed_value_can_be_overridden :
    (lookupAL "value_1" (mergeInputs (fun _ => none) (fun _ => none) none
      [.num F64.one, .obj [("value_1", .bool true)]])).map (veq (.bool true)) = some true := by decide

/-- both forms look `inputs` up in the same environment and read the same member, absent
    ↦ null; both fail when `inputs` is unbound or not a record.  (Only the error text
    differs.)  Both go through `bindings.get("inputs")`; a parameter or local called
    `inputs` is rejected by the evaluator (fix a665514), so nothing can come between the two. -/
theorem hash_name_eq_inputs_name (inputsBinding : Option Value) (name : String) :
    (evalInputRef inputsBinding name).isOk = (evalDotAccess (evalInputsIdent inputsBinding) name).isOk ∧
    ∀ v, evalInputRef inputsBinding name = .ok v ↔
      evalDotAccess (evalInputsIdent inputsBinding) name = .ok v := by
  cases inputsBinding with
  | none => simp [evalInputRef, evalInputsIdent, evalDotAccess, Outcome.isOk]
  | some b => cases b <;> simp [evalInputRef, evalInputsIdent, evalDotAccess, Outcome.isOk]

theorem hash_name_absent_is_null (r : List (String × Value)) (name : String) (h : lookupAL name r = none) :
    evalInputRef (some (.record r)) name = .ok .null ∧
    evalDotAccess (evalInputsIdent (some (.record r))) name = .ok .null := by
  simp [evalInputRef, evalInputsIdent, evalDotAccess, h]

theorem hash_name_fails_without_record_inputs (name : String) :
    (evalInputRef none name).isOk = false ∧ (evalInputRef (some (.num F64.one)) name).isOk = false := by
  simp [evalInputRef, Outcome.isOk]

end Blots.C19
