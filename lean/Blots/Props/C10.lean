import Blots.Lemmas.PrattRoundTrip
import Blots.Lemmas.IdentLemmas
import Blots.Lemmas.ExprPegLemmas
import Blots.Model.Json
/-
  C10 — the precedence table, and the round trip between the printer's parenthesisation
  rule and the Pratt parser.

  Statements only; helper lemmas and definitions live in `Blots/Lemmas/PrattRoundTrip.lean` (the
  table and the Pratt round trip), `IdentLemmas.lean` (names) and `ExprPegFuel.lean`,
  `ExprPegOps.lean`, `ExprPegLemmas.lean` (text level).
  * `prattOps` / `opLookup` / `prattParse` model `build_pratt_parser` + pest's `PrattParser`
    configured from the generated `Gen.precTable` / `Gen.prattTail` / `Gen.infixMap`;
  * `opInfo` is the printer's private view of the levels (`operator_info`), `needsParens`
    its parenthesisation rule;
  * `items e` is the flat pair sequence of the minimally parenthesised print of `e`
    (a parenthesised child is one primary), `itemsFull e` the one where every compound
    operand is parenthesised;
  * `NoInvert e`: no `.un .invert` node (the parser has no rule that produces it).
  Every fact about the tables is re-established by evaluation whenever they are regenerated.

  Names (second part of the file): `Blots.Ident` (Model/Ident.lean) is a character-level PEG
  model of the grammar rules `identifier`, `identifier_rest`, `reserved_word`, `bool`, `null`,
  `input_reference` and of the ordered choice `term` on a one-word input; the reserved words
  are the generated `Gen.grammarReserved` in grammar order, the rule texts are pinned by the
  translator.  `IdentShape w`: nonempty, first character an ASCII letter or `_`, all
  characters ASCII letters, digits or `_`.  `Boundary rest`: `rest` is empty or starts with
  a character that is not one of those.

  Text level (third part): `Blots.ExprPeg` (Model/ExprPeg.lean) is a character-level PEG model
  of the grammar rule `expression` for a fragment — terms `conditional | do_block | lambda |
  assignment | list | record | bool | string | null | identifier | number (ASCII digits) |
  nested_expression` (a do-block by the rules `do_block`, `do_statement`, `return_statement`,
  its comments read and dropped; a lambda body by the rule `lambda_expression`, which has no
  `via` / `into` / `where` at its top level), prefix `-` `!` `not`, all four postfix forms (`!`,
  index `access`, `call_list` with spread arguments and the optional trailing comma, field
  `dot_access`), all 26 binary operators through `infix_usage`, each with the layout the
  grammar admits (rule texts pinned by the translator, operator literals and their order
  generated).  `exprItems fuel text` is the item sequence pest hands to the Pratt parser,
  `parseText` the whole pipeline text → tree.  `CST` (Lemmas/ExprPegLemmas.lean) are concrete
  syntax trees: the tree with every layout string and every parenthesis written out; `canon t`
  is the one `exprToSource` writes.  `Frag t`: `t` is built from binary operators, prefix `-`
  / `!`, postfix `!`, calls `f(a, ...b)`, index `e[i]`, field `e.name` (an identifier that is
  not a reserved word), list literals `[a, ...b]` without comments, lambdas `(x, y?, ...r) =>
  body` (argument names that are identifiers), conditionals `if c then a else b`, string literals
  that do not contain both kinds of quote, record literals without comments, do-blocks `do { s₁
  … return e }` without comments whose statements are fragment expressions with a leftmost name
  other than `via` / `into` / `where` (`do_block_in_fragment_iff`), assignments `name = value`
  (`assignment_in_fragment_iff`), over atoms (non-reserved identifiers, built-in names,
  `true false null`, integers 0 ≤ n < 10^15).  Left out of `Frag` and `CST`: `output`, input
  references, the statement / program level, the word `not`, comments, other number forms.
-/
namespace Blots.C10
open Blots.PrattRT

/-- The operator map of the parser has exactly the documented levels, loosest to tightest
    (rules shown by their spelling, levels by their rank among the distinct binding powers;
    no rule is registered twice), and every binary operator is left-associative except `^`. -/
theorem table_is_documented :
    documentedLevels = [
      (.infixL, ["and", "or", "&&", "||", "via", "into", "where"]),
      (.infixL, ["==", "!=", "<", "<=", ">", ">=", ".==", ".!=", ".<", ".<=", ".>", ".>="]),
      (.infixL, ["+", "-"]),
      (.infixL, ["*", "/", "%"]),
      (.infixR, ["^"]),
      (.infixL, ["??"]),
      (.prefix_, ["-", "!", "not", "..."]),
      (.postfix_, ["!"]),
      (.postfix_, ["call_list", "access", "dot_access"])] ∧
    (prattOps.map (·.1)).Nodup ∧
    (∀ x, x ∈ rankedOps ↔ x ∈ documentedOps) ∧
    (∀ op : BinOp, (opLookup (ruleOf op)).map (·.1) =
      some (if op = .pow then Affix.infixR else Affix.infixL)) := by
  have h : tableDocumented = true := by decide +kernel
  simp only [tableDocumented, Bool.and_eq_true, decide_eq_true_eq, List.all_eq_true,
    List.contains_iff_mem] at h
  refine ⟨rfl, h.1.1, fun x => ⟨h.1.2 x, h.2 x⟩, fun op => ?_⟩
  have hall : (BinOp.all.all fun op => (opLookup (ruleOf op)).map (·.1) ==
      some (if op = .pow then Affix.infixR else Affix.infixL)) = true := by decide +kernel
  simpa using List.all_eq_true.mp hall op (BinOp.mem_all op)

/-- The printer's copy of the levels (`operator_info`) agrees with the parser's operator map
    for all 26 operators / 676 ordered pairs: same order, same ties, associativity as the
    parser has it, and the rule maps back to the operator. -/
theorem operator_info_agrees_with_parser (a b : BinOp) :
    ((opInfo a).1 < (opInfo b).1 ↔ bp a < bp b) ∧
    ((opInfo a).1 = (opInfo b).1 ↔ bp a = bp b) ∧
    ((opInfo a).1 = (opInfo b).1 → (opInfo a).2 = (opInfo b).2) ∧
    opLookup (ruleOf a) = some (if (opInfo a).2 then Affix.infixR else Affix.infixL, bp a) ∧
    (∀ l r, mapInfix (ruleOf a) l r = some (.bin a l r)) ∧
    0 < bp a ∧ bp a + 1 < P :=
  ⟨pp_lt_iff a b, pp_eq_iff a b, ra_eq_of_pp_eq a b, opLookup_ruleOf a, mapInfix_ruleOf a,
    bp_pos a, bp_lt_P a⟩

/-- prefix operators sit on one level above every binary operator, postfix `!` above that,
    call / index / field access above that -/
theorem prefix_postfix_levels :
    opLookup "negation" = some (.prefix_, P) ∧ opLookup "invert" = some (.prefix_, P) ∧
    opLookup "natural_not" = some (.prefix_, P) ∧ opLookup "spread_operator" = some (.prefix_, P) ∧
    opLookup "factorial" = some (.postfix_, lvl "factorial") ∧
    opLookup "access" = some (.postfix_, lvl "access") ∧
    opLookup "dot_access" = some (.postfix_, lvl "access") ∧
    opLookup "call_list" = some (.postfix_, lvl "access") ∧
    P < lvl "factorial" ∧ lvl "factorial" < lvl "access" := by decide +kernel

/-- `PExpr` / `PLoop`, the fuel-free relations the round trip is proved on, imply the fuelled
    `prattExpr` / `prattLoop` / `prattParse` at every sufficient fuel. -/
theorem relational_semantics_adequate :
    (∀ rbp its e rest, PExpr rbp its e rest → rest.length ≤ its.length ∧
      ∀ fuel, fuel ≥ 2 * (its.length - rest.length) → prattExpr fuel rbp its = some (e, rest)) ∧
    (∀ rbp lhs its e rest, PLoop rbp lhs its e rest → rest.length ≤ its.length ∧
      ∀ fuel, fuel ≥ 2 * (its.length - rest.length) + 1 →
        prattLoop fuel rbp lhs its = some (e, rest)) ∧
    (∀ its e, PExpr 0 its e [] → prattParse its = some e) :=
  ⟨fun _ _ _ _ h => ⟨Nat.le_of_lt h.rest_lt, h.run⟩, fun _ _ _ _ _ h => ⟨h.rest_le, h.run⟩,
    fun _ _ h => h.parse⟩

/-- The main lemma of the Pratt round trip (unbounded depth): in any context `rbp` below the
    prefix level and before any `rest` that `Fits` (a binary `e` binds tighter than `rbp` and its
    right operand does not capture the next pair; a prefix `e` is not followed by a postfix
    operator), parsing `items e ++ rest` reaches the loop with `lhs = e` and `rest` still to
    read. -/
theorem items_reach_loop (e : Expr) (h : NoInvert e) (rbp : Nat) (rest : List PItem)
    (hr : rbp ≤ P - 1) (hfit : Fits e rbp rest) (e' : Expr) (rest' : List PItem)
    (hk : PLoop rbp e rest e' rest') : PExpr rbp (items e ++ rest) e' rest' :=
  items_parse e h rbp rest hr hfit e' rest' hk

/-- The minimally parenthesised print of every tree parses back to the tree. -/
theorem pratt_roundtrip (e : Expr) (h : NoInvert e) : prattParse (items e) = some e :=
  (items_PExpr e h).parse

/-- The fully parenthesised print parses back too: an expression and its fully parenthesised
    form parse identically. -/
theorem minimal_and_full_parenthesisation_agree (e : Expr) (h : NoInvert e) :
    prattParse (itemsFull e) = some e ∧ prattParse (items e) = prattParse (itemsFull e) := by
  have h1 := (itemsFull_PExpr e h.top).parse
  exact ⟨h1, (pratt_roundtrip e h).trans h1.symm⟩

section examples
private abbrev a : Expr := .ident "a"
private abbrev b : Expr := .ident "b"
private abbrev c : Expr := .ident "c"
private abbrev d : Expr := .ident "d"
private abbrev f : Expr := .ident "f"
private abbrev g : Expr := .ident "g"

/-- `(a - (b - c)) * -d! ^ f ?? g`, that is `((a - (b - c)) * ((-(d!)) ^ (f ?? g)))` -/
private abbrev t1 : Expr :=
  .bin .mul (.bin .sub a (.bin .sub b c))
    (.bin .pow (.un .negate (.fact d)) (.bin .coalesce f g))

/-- its items: both `-` groups need parentheses (one primary each), `-d!` and `f ?? g` do not -/
example : items t1 =
    [.prim (.bin .sub a (.bin .sub b c)), .inf "multiply", .pre "negation", .prim d, .postFact,
     .inf "power", .prim f, .inf "coalesce", .prim g] := by rfl

example : NoInvert t1 := by decide
example : prattParse (items t1) = some t1 := pratt_roundtrip t1 (by decide)
example : prattParse (items t1) = some t1 := by rfl

/-- `a - (b - c)` keeps its parentheses -/
example : items (.bin .sub a (.bin .sub b c)) =
    [.prim a, .inf "subtract", .prim (.bin .sub b c)] := by rfl

/-- dropping them changes the parse: `a - b - c` is `(a - b) - c` -/
example : prattParse [.prim a, .inf "subtract", .prim b, .inf "subtract", .prim c] =
    some (.bin .sub (.bin .sub a b) c) := by rfl
example : Expr.bin .sub (.bin .sub a b) c ≠ .bin .sub a (.bin .sub b c) := by simp

/-- `^` is right-associative: `a ^ b ^ c` needs no parentheses on the right, needs them on the left -/
example : items (.bin .pow a (.bin .pow b c)) =
    [.prim a, .inf "power", .prim b, .inf "power", .prim c] := by rfl
example : items (.bin .pow (.bin .pow a b) c) =
    [.prim (.bin .pow a b), .inf "power", .prim c] := by rfl

/-- `-a!` is `-(a!)`; `(-a)!` keeps its parentheses; `-a ^ b` is `(-a) ^ b` -/
example : prattParse [.pre "negation", .prim a, .postFact] = some (.un .negate (.fact a)) := by rfl
example : items (.fact (.un .negate a)) = [.prim (.un .negate a), .postFact] := by rfl
example : prattParse [.pre "negation", .prim a, .inf "power", .prim b] =
    some (.bin .pow (.un .negate a) b) := by rfl

/-- `Fits` in a non-trivial context: `a * b` as the right operand of `+`, followed by `- c` -/
example : Fits (.bin .mul a b) (bp .add) [.inf "subtract", .prim c] :=
  ⟨by decide +kernel, bp .sub, by decide +kernel, by decide +kernel⟩

/-- why `NoInvert`: the printer's `~` has no prefix rule -/
example : prattParse (items (.un .invert a)) = none := by rfl
end examples

section names
open Blots.Ident

/-- Every identifier-shaped word that is not a reserved word is consumed whole by the
    `identifier` rule, and the one-word program `w` is an identifier term (the `bool`,
    `null`, `input_reference` alternatives tried before `identifier` in `term` all fail).
    All words, no bound on the length. -/
theorem ident_usable (w : List Char) (hw : IdentShape w)
    (hr : String.ofList w ∉ Gen.grammarReserved) :
    identifier w = some [] ∧ termWord w = .ident := by
  have hnot : w ∉ reservedLits := fun h => hr (mem_reservedLits.mp h)
  have h1 := identifier_run (rest := []) hw hnot rfl
  have h2 := termStart_run (rest := []) hw hnot rfl
  simp only [List.append_nil] at h1 h2
  exact ⟨h1, by simp [termWord, h2]⟩

/-- Every word of the grammar's `reserved_word` list is refused by `identifier` (in
    particular: no earlier alternative of the ordered choice is a proper prefix of a later
    one, which would let the later word through), and as a one-word program it is the
    literal `true` / `false` / `null` or does not parse. -/
theorem reserved_refused : ∀ s ∈ Gen.grammarReserved,
    identifier s.toList = none ∧
    termWord s.toList =
      (if s = "true" then .bool true else if s = "false" then .bool false
       else if s = "null" then .null else .reserved) := by
  decide +kernel

theorem ident_iff_not_reserved (w : List Char) (hw : IdentShape w) :
    termWord w = .ident ↔ String.ofList w ∉ Gen.grammarReserved := by
  constructor
  · intro h hmem
    have := (reserved_refused _ hmem).2
    rw [String.toList_ofList, h] at this
    split at this
    · cases this
    · split at this
      · cases this
      · split at this <;> cases this
  · exact fun h => (ident_usable w hw h).2

/-- A reserved word followed by more identifier characters (`trueish`, `nullable`, `iffy`,
    `do_it`, `outputs`, `notx`, `or_else`, `and1`) is a usable name, as long as the longer
    word is not itself in the list. -/
theorem prefix_of_reserved_is_usable (r : String) (t : List Char)
    (hr : r ∈ Gen.grammarReserved) (ht : ∀ x ∈ t, isIdentChar x = true)
    (hnot : String.ofList (r.toList ++ t) ∉ Gen.grammarReserved) :
    identifier (r.toList ++ t) = some [] ∧ termWord (r.toList ++ t) = .ident :=
  ident_usable _ (IdentShape.append (reserved_identShape r hr) ht) hnot

/-- A reserved word preceded by identifier characters (`_if`, `xor`, `a_do`) is a usable name
    too. -/
theorem suffix_of_reserved_is_usable (r : String) (p : List Char)
    (hr : r ∈ Gen.grammarReserved) (hp : IdentShape p)
    (hnot : String.ofList (p ++ r.toList) ∉ Gen.grammarReserved) :
    identifier (p ++ r.toList) = some [] ∧ termWord (p ++ r.toList) = .ident :=
  ident_usable _ (IdentShape.append hp (reserved_identShape r hr).all) hnot

/-- Maximal munch: in front of anything that does not start with an identifier character
    (end of input, space, operator, bracket, …) `identifier` consumes exactly the word, and
    the `term` choice takes the identifier alternative. -/
theorem identifier_is_maximal_munch (w rest : List Char) (hw : IdentShape w)
    (hr : String.ofList w ∉ Gen.grammarReserved) (hb : Boundary rest) :
    identifier (w ++ rest) = some rest ∧ termStart (w ++ rest) = some (.ident, rest) := by
  have hnot : w ∉ reservedLits := fun h => hr (mem_reservedLits.mp h)
  exact ⟨identifier_run hw hnot hb, termStart_run hw hnot hb⟩

/-- `#name`: `input_reference` has no reserved-word look-ahead — every identifier-shaped word,
    reserved or not, is consumed whole after `#`, and `#w` is an input-reference term. -/
theorem input_reference_is_maximal_munch (w rest : List Char) (hw : IdentShape w)
    (hb : Boundary rest) :
    inputReference ('#' :: (w ++ rest)) = some rest ∧
    termStart ('#' :: (w ++ rest)) = some (.input, rest) ∧ termWord ('#' :: w) = .input := by
  refine ⟨inputReference_run hw hb, termStart_input_run hw hb, ?_⟩
  have h := termStart_input_run (rest := []) hw rfl
  simp only [List.append_nil] at h
  simp [termWord, h]

example : IdentShape "trueish".toList ∧ String.ofList "trueish".toList ∉ Gen.grammarReserved := by
  decide +kernel
example : termWord "trueish".toList = .ident := (ident_usable _ (by decide) (by decide +kernel)).2
example : termWord "nullable".toList = .ident := (ident_usable _ (by decide) (by decide +kernel)).2
example : termWord "iffy".toList = .ident := (ident_usable _ (by decide) (by decide +kernel)).2
example : termWord "do_it".toList = .ident := (ident_usable _ (by decide) (by decide +kernel)).2
example : termWord "outputs".toList = .ident := (ident_usable _ (by decide) (by decide +kernel)).2
example : termWord "notx".toList = .ident := (ident_usable _ (by decide) (by decide +kernel)).2
example : termWord "or_else".toList = .ident := (ident_usable _ (by decide) (by decide +kernel)).2
example : termWord "and1".toList = .ident := (ident_usable _ (by decide) (by decide +kernel)).2
example : termWord "_if".toList = .ident := (ident_usable _ (by decide) (by decide +kernel)).2
/-- case matters -/
example : termWord "If".toList = .ident := (ident_usable _ (by decide) (by decide +kernel)).2
example : termWord "_".toList = .ident := (ident_usable _ (by decide) (by decide +kernel)).2
/-- through the corollaries: `"true" ++ "ish"`, `"_" ++ "if"` -/
example : termWord ("true".toList ++ "ish".toList) = .ident :=
  (prefix_of_reserved_is_usable "true" "ish".toList (by decide +kernel) (by decide) (by decide +kernel)).2
example : termWord ("_".toList ++ "if".toList) = .ident :=
  (suffix_of_reserved_is_usable "if" "_".toList (by decide +kernel) (by decide) (by decide +kernel)).2
/-- the model agrees by plain evaluation, and really distinguishes the classes -/
example : termWord "trueish".toList = .ident ∧ termWord "true".toList = .bool true ∧
    termWord "false".toList = .bool false ∧ termWord "null".toList = .null ∧
    termWord "if".toList = .reserved ∧ termWord "output".toList = .reserved ∧
    identifier "output".toList = none ∧ identifier "outputs".toList = some [] := by decide +kernel
/-- not identifier-shaped: digit first, non-ASCII letter, empty -/
example : ¬ IdentShape "1a".toList ∧ ¬ IdentShape "é".toList ∧ ¬ IdentShape [] ∧
    termWord "1a".toList = .reserved ∧ termWord "aé".toList = .reserved ∧
    termWord [] = .reserved := by decide +kernel
/-- maximal munch in context: `iffy+1`, `notx (`, and the keyword case it must not swallow:
    `if x` is not an identifier followed by ` x` -/
example : identifier "iffy+1".toList = some "+1".toList ∧
    identifier "notx (".toList = some " (".toList ∧ identifier "if x".toList = none ∧
    identifier "ifx y".toList = some " y".toList := by decide +kernel
example : Boundary "+1".toList ∧ Boundary [] ∧ ¬ Boundary "x".toList := by decide
/-- `#if`, `#true` are input references -/
example : termWord "#if".toList = .input ∧ termWord "#true".toList = .input ∧
    termWord "#1".toList = .reserved ∧ termWord "#".toList = .reserved := by decide +kernel
/-- The PEG hazard `reserved_refused` guards against: an ordered choice listing a word after
    one of its proper prefixes never reaches it, so the longer word would pass as a name. -/
example : keyword ["do".toList, "done".toList] "done".toList = none ∧
    keyword ["done".toList, "do".toList] "done".toList = some ("done".toList, []) := by
  decide +kernel
end names

section text
open Blots.ExprPeg

/-- The fuel the driver passes (`fuelFor cs = 8 * cs.length + 8`) never runs out, and a run that
    succeeds with some fuel gives the same answer with every fuel from `fuelFor` upwards:
    `none` from `exprItems (fuelFor cs) cs` is a genuine "no match". -/
theorem peg_fuel_suffices (cs : List Char) :
    (∀ lam f, fuelFor cs ≤ f → exprR lam f cs ≠ .out) ∧
    (∀ f x, exprR false f cs = .ok x → ∀ f', fuelFor cs ≤ f' → exprItems f' cs = some x) :=
  ⟨fun lam f hf => (fuel_suffices f cs).e lam (by unfold fuelFor at hf; omega),
    fun _ _ hx => exprItems_of_exprR hx⟩

/-- What the printer writes is a concrete syntax tree of the fragment: `canon t` has the text
    `exprToSource t`, the item sequence `items t` of `pratt_roundtrip`, the tree `t`, and is
    well-formed. -/
theorem printer_output_is_cst (t : Expr) (h : Frag t) :
    (canon t).text = (exprToSource t).toList ∧ (canon t).items = items t ∧ (canon t).tree = t ∧
      (canon t).WF :=
  ⟨canon_text_frag t h, canon_items_frag t h, canon_tree_frag t h, canon_wf t h⟩

/-- The main lemma at text level (unbounded depth): in front of any `rest` that ends a term
    (`TEnd`: it continues neither a word nor a lambda head — an identifier or a parenthesised
    name followed by `=>` is a lambda) and that, when the tree ends with a lambda body, continues
    no expression (`Closes`), and whatever follows (`After`: postfix operators, then the
    operator tail), the `expression` rule splits the text of a well-formed concrete syntax tree
    into exactly its items.  (With only `Boundary rest` the statement is false: `x` in front of
    ` => 1` is the head of a lambda.) -/
theorem cst_text_reaches_tail (c : CST) (h : c.WF) (rest : List Char) (its : List PItem)
    (r : List Char) (hb : TEnd rest)
    (hc : c.isParen = false → endsOpen c.tree = true → Closes rest) (hk : After false rest its r) :
    ∃ fuel, exprR false fuel (c.text ++ rest) = .ok (c.items ++ its, r) :=
  lex_cst false c h.1 h.2 (fun e => by cases e) rest its r hb hc hk

/-- The same for the `lambda_expression` rule, on a tree without `via` / `into` / `where` at its
    top level (`LamSafe`). -/
theorem cst_text_reaches_tail_lambda_body (c : CST) (h : c.WF) (hs : LamSafe c.items)
    (rest : List Char) (its : List PItem) (r : List Char) (hb : TEnd rest)
    (hc : c.isParen = false → endsOpen c.tree = true → Closes rest) (hk : After true rest its r) :
    ∃ fuel, exprR true fuel (c.text ++ rest) = .ok (c.items ++ its, r) :=
  lex_cst true c h.1 h.2 (fun _ => hs) rest its r hb hc hk

/-- Every well-formed concrete syntax tree — any admissible layout, any number of redundant
    parentheses — is split by the grammar into its items, nothing left over, and parsed to its
    abstract tree. -/
theorem cst_text_roundtrip (c : CST) (h : c.WF) :
    (∀ fuel, fuelFor c.text ≤ fuel → exprItems fuel c.text = some (c.items, [])) ∧
    prattParse c.items = some c.tree ∧ parseText (String.ofList c.text) = some c.tree :=
  ⟨cst_lex c h, cst_pratt c h.1, cst_roundtrip c h⟩

/-- The text the printer writes for a tree of the fragment is split by the grammar
    into exactly the item sequence of `pratt_roundtrip` (printer's parenthesisation: a
    parenthesised operand is one primary), consuming the whole text. -/
theorem print_then_lex (t : Expr) (h : Frag t) (fuel : Nat)
    (hf : fuelFor (exprToSource t).toList ≤ fuel) :
    exprItems fuel (exprToSource t).toList = some (items t, []) := by
  have := cst_lex (canon t) (canon_wf t h) fuel (by rw [canon_text_frag t h]; exact hf)
  rwa [canon_text_frag t h, canon_items_frag t h] at this

/-- Printing any tree of the fragment and reading the text back — PEG recogniser, then Pratt
    parser — gives the tree. -/
theorem text_roundtrip (t : Expr) (h : Frag t) : parseText (exprToSource t) = some t :=
  print_reparses t h

/-- Layout insensitivity: replace every separator the printer wrote — the single blanks around
    a binary operator, the nothing between a parenthesis and its content, the `, ` between
    arguments — by any admissible layout string of that position (`Relayout`: blanks, tabs,
    line feeds, CR LF; around a symbol operator anything including nothing, except nothing in
    front of `!=`; in front of a word operator at least one layout atom, behind it at least one
    blank or tab and no line break; in a call anything behind `(`, behind a comma and in front
    of `)`, blanks only in front of a comma, optionally a trailing comma that is followed by a
    line break; in a list the same with blanks and line breaks, and a trailing comma needs no
    line break; inside the brackets of an index line breaks only; nothing between an operand
    and its `(` / `[` / `.name`; in a conditional at least one blank (no line break) behind
    `if`, at least one layout atom on each side of `then` and of `else`; in a lambda blanks in
    front of `=>`, anything behind it, and the parentheses around a single required / optional
    parameter may go; a string literal in either quote character that does not occur in it; in
    a record the layout of a list, blanks only in front of a colon and inside the brackets of a
    computed key, anything behind the colon, and a static key bare when it is an identifier or
    as a string literal; in a do-block at least one blank or line break between `do` and `{`,
    anything behind `{` and in front of `}`, between two statements and in front of `return`
    either blanks, one `;` and anything, or any layout with a line break in it, and at least one
    blank (no line break) behind `return`; blanks only around the `=` of an assignment): the
    grammar yields the same items, and the same tree. -/
theorem layout_insensitive (t : Expr) (h : Frag t) (c : CST) (hr : Relayout t c) :
    (∀ fuel, fuelFor c.text ≤ fuel → exprItems fuel c.text = some (items t, [])) ∧
    parseText (String.ofList c.text) = some t := by
  obtain ⟨hwf, hi, ht⟩ := relayout_wf h hr
  exact ⟨fun fuel hf => hi ▸ cst_lex c hwf fuel hf, ht ▸ cst_roundtrip c hwf⟩

/-- Redundant parentheses: wrapping any sub-expression (at any depth) of a well-formed text in
    an extra pair of parentheses, with any layout inside them, gives a well-formed text with
    the same parsed tree. -/
theorem redundant_parens (c c' : CST) (h : c.WF) (hw : Wrap c c') :
    c'.WF ∧ parseText (String.ofList c'.text) = parseText (String.ofList c.text) ∧
      parseText (String.ofList c.text) = some c.tree := by
  obtain ⟨ht, _, hs, hl⟩ := wrap_facts hw
  have hwf' : c'.WF := ⟨hs h.1, hl h.2⟩
  have h1 := cst_roundtrip c h
  have h2 := cst_roundtrip c' hwf'
  rw [ht] at h2
  exact ⟨hwf', h2.trans h1.symm, h1⟩

/-- For the printer's output, and repeatedly: any text obtained from
    `exprToSource t` by re-layout and then any number of extra pairs of parentheses (`Wraps`)
    parses to `t`. -/
theorem printed_text_with_extra_parens (t : Expr) (h : Frag t) (c c' : CST) (hr : Relayout t c)
    (hw : Wraps c c') : parseText (String.ofList c'.text) = some t := by
  obtain ⟨hwf, _, ht⟩ := relayout_wf h hr
  obtain ⟨ht', hwf'⟩ := wraps_facts hw hwf
  exact ht ▸ ht' ▸ cst_roundtrip c' hwf'

private abbrev xa : Expr := .ident "a"
private abbrev xb : Expr := .ident "b"
private abbrev xc : Expr := .ident "c"
private abbrev one : Expr := .num ⟨0x3FF0000000000000⟩
private abbrev n42 : Expr := .num ⟨0x4045000000000000⟩

/-- what the model computes for a text, shown as the printer's text of the parsed tree
    (`Expr` has no decidable equality; the theorems above give the trees themselves) -/
private def reads (s : String) : Option String := (parseText s).map exprToSource

/-- `^` / `??` nesting: `(a ^ b) ^ (c ?? 42) ^ a` -/
private abbrev u1 : Expr :=
  .bin .pow (.bin .pow xa xb) (.bin .pow (.bin .coalesce xc n42) xa)
example : Frag u1 := by decide +kernel
example : exprToSource u1 = "(a ^ b) ^ c ?? 42 ^ a" := by decide +kernel
example : items u1 = [.prim (.bin .pow xa xb), .inf "power", .prim xc, .inf "coalesce", .prim n42,
    .inf "power", .prim xa] := by rfl
example : parseText (exprToSource u1) = some u1 := text_roundtrip u1 (by decide +kernel)
/-- the model computes it (no theorem involved) -/
example : reads "(a ^ b) ^ c ?? 42 ^ a" = some "(a ^ b) ^ c ?? 42 ^ a" := by decide +kernel

/-- prefix minus over a parenthesised sum, under a postfix `!`, with a word operator:
    `-(a + 1)! and !true` -/
private abbrev u2 : Expr :=
  .bin .nand (.un .negate (.fact (.bin .add xa one))) (.un .not (.bool true))
example : Frag u2 := by decide +kernel
example : exprToSource u2 = "-(a + 1)! and !true" := by decide +kernel
example : parseText (exprToSource u2) = some u2 := text_roundtrip u2 (by decide +kernel)
example : items u2 = [.pre "negation", .prim (.bin .add xa one), .postFact, .inf "natural_and",
    .pre "invert", .prim (.bool true)] := by rfl
example : exprItems (fuelFor (exprToSource u2).toList) (exprToSource u2).toList =
    some (items u2, []) :=
  print_then_lex u2 (by decide +kernel) _ (Nat.le_refl _)

/-- a re-layout of `u2`: line break + blanks in front of `and`, a tab behind it, nothing around
    `+`, layout inside the parentheses:  `-(␉a+1␍␊)!␊  and␉!true` -/
private abbrev c2 : CST :=
  .bin .nand
    (.un .negate (.fact (.paren [.tab] (.bin .add (.atom xa) [] [] (.atom one)) [.crlf])))
    [.lf, .sp, .sp] [.tab]
    (.un .not (.atom (.bool true)))
example : String.ofList c2.text = "-(\ta+1\r\n)!\n  and\t!true" := by decide +kernel
example : Relayout u2 c2 :=
  ⟨by rfl, ⟨⟨trivial, trivial, by decide +kernel⟩, trivial, by decide +kernel⟩⟩
example : parseText (String.ofList c2.text) = some u2 :=
  (layout_insensitive u2 (by decide +kernel) c2
    ⟨by rfl, ⟨⟨trivial, trivial, by decide +kernel⟩, trivial, by decide +kernel⟩⟩).2
example : reads "-(\ta+1\r\n)!\n  and\t!true" = some "-(a + 1)! and !true" := by decide +kernel

/-- redundant parentheses: around all of `u1`'s printed form (theorem), around inner atoms and
    groups (computed) -/
example : parseText (String.ofList (CST.paren [.sp] (canon u1) []).text) = some (canon u1).tree :=
  ((redundant_parens (canon u1) _ (canon_wf u1 (by decide +kernel)) (.here [.sp] _ [])).2.1).trans
    (redundant_parens (canon u1) _ (canon_wf u1 (by decide +kernel)) (.here [.sp] _ [])).2.2
example : reads "( (a ^ b) ^ c ?? 42 ^ a)" = some "(a ^ b) ^ c ?? 42 ^ a" ∧
    reads "((a) ^ ((b))) ^ (c) ?? (( 42 )) ^ a" = some "(a ^ b) ^ c ?? 42 ^ a" := by
  decide +kernel

/-- what the layout conditions exclude, on the model (and on the real parser, see the harness):
    `!=` directly behind its left operand is the postfix `!` followed by `=`; a line break
    behind a word operator; a word operator without layout in front. -/
example : CST.layOk .ne [] [.sp] = false ∧ CST.layOk .ne [.sp] [] = true ∧
    CST.layOk .nand [.sp] [.lf] = false ∧ CST.layOk .nand [] [.sp] = false ∧
    CST.layOk .dne [] [] = true := by decide +kernel
example : reads "a != b" = some "a != b" ∧ reads "a !=b" = some "a != b" ∧ reads "a!=b" = none ∧
    reads "a! !=b" = some "a! != b" ∧ reads "a.!=b" = some "a .!= b" := by decide +kernel
example : reads "a and b" = some "a and b" ∧ reads "a\nand b" = some "a and b" ∧
    reads "a and\nb" = none ∧ reads "(a)and b" = none ∧ reads "a andb" = none := by
  decide +kernel
/-- `///` is a comment, not `/` followed by a comment: why comments are left out of `Lay` -/
example : reads "a /\nb" = some "a / b" ∧ reads "a / // c\nb" = some "a / b" ∧
    reads "a ///c\nb" = none := by decide +kernel
/-- outside the fragment's atoms: reserved words are not identifiers, `~` has no prefix rule,
    negative literals are `-` applied to a literal; built-in names are their own node -/
example : ¬ Frag (.ident "not") ∧ ¬ Frag (.un .invert xa) ∧ ¬ Frag (.num ⟨0xBFF0000000000000⟩) ∧
    Frag (.builtin "sqrt") ∧ ¬ Frag (.ident "sqrt") := by decide +kernel
example : reads "sqrt + not_x" = some "sqrt + not_x" ∧
    Frag (.bin .add (.builtin "sqrt") (.ident "not_x")) := by decide +kernel

private abbrev xf : Expr := .ident "f"
/-- `(-a).b(c, ...f(1))[a + 1]!` : every postfix form, a parenthesised prefix operand, a spread
    argument, a nested call -/
private abbrev u3 : Expr :=
  .fact (.access (.call (.dot (.un .negate xa) "b") [xc, .spread (.call xf [one])])
    (.bin .add xa one))
example : Frag u3 := by decide +kernel
example : exprToSource u3 = "(-a).b(c, ...f(1))[a + 1]!" := by decide +kernel
example : parseText (exprToSource u3) = some u3 := text_roundtrip u3 (by decide +kernel)
example : items u3 = [.prim (.un .negate xa), .postDot "b",
    .postCall [xc, .spread (.call xf [one])], .postAccess (.bin .add xa one), .postFact] := by rfl
example : reads "(-a).b(c, ...f(1))[a + 1]!" = some "(-a).b(c, ...f(1))[a + 1]!" := by
  decide +kernel

/-- the formatter's multi-line call layout — line break and indent behind `(` and behind every
    comma, a trailing comma, the closing parenthesis on its own line — is a re-layout:
    `f(⏎  a,⏎  b + 1,⏎)` -/
private abbrev u4 : Expr := .call xf [xa, .bin .add xb one]
private abbrev c4 : CST :=
  .call (.atom xf) [.lf, .sp, .sp]
    (.cons false (.atom xa) [] [.lf, .sp, .sp]
      (.last false (.bin .add (.atom xb) [.sp] [.sp] (.atom one))))
    (.comma [] [.lf])
example : String.ofList c4.text = "f(\n  a,\n  b + 1,\n)" := by decide +kernel
example : Relayout u4 c4 :=
  ⟨by rfl, ⟨trivial, ⟨trivial, rfl, ⟨trivial, trivial, by decide +kernel⟩⟩, rfl⟩⟩
example : parseText (String.ofList c4.text) = some u4 :=
  (layout_insensitive u4 (by decide +kernel) c4
    ⟨by rfl, ⟨trivial, ⟨trivial, rfl, ⟨trivial, trivial, by decide +kernel⟩⟩, rfl⟩⟩).2
example : reads "f(\n  a,\n  b + 1,\n)" = some "f(a, b + 1)" := by decide +kernel

/-- what the layout conditions of the postfix forms exclude, on the model (and on the real
    parser, see the harness): `call_list` is non-atomic (blanks between its tokens) but a
    trailing comma needs a line break behind it and a comma takes no line break in front;
    `access` and `dot_access` are atomic (line breaks inside `[ ]`, no blanks; nothing around
    the `.`); no layout between an operand and its postfix operator. -/
example : reads "f( a , b )" = some "f(a, b)" ∧ reads "f(a,\n)" = some "f(a)" ∧
    reads "f(a, )" = none ∧ reads "f(a,b,)" = none ∧ reads "f(a\n, b)" = none ∧
    reads "f(,\n)" = some "f()" ∧ reads "f( )" = some "f()" ∧ reads "f (a)" = none := by
  decide +kernel
example : reads "a[\n1\n]" = some "a[1]" ∧ reads "a[ 1]" = none ∧ reads "a[1 ]" = none ∧
    reads "a[\n 1]" = none ∧ reads "a [1]" = none ∧ reads "a.b.c" = some "a.b.c" ∧
    reads "a. b" = none ∧ reads "a .b" = none ∧ reads "a.if" = none ∧ reads "a.iffy" = some "a.iffy" := by
  decide +kernel
/-- a symbol operator that starts with `.` directly behind its operand is not a field access,
    and a digit run followed by `.name` is a number with a field -/
example : reads "a.==b" = some "a .== b" ∧ reads "1.e5" = some "1.e5" ∧
    reads "f(...a, b)" = some "f(...a, b)" ∧ reads "f(... a)" = none := by decide +kernel
example : ¬ Frag (.dot xa "if") ∧ ¬ Frag (.spread xa) ∧ Frag (.call xf [.spread xa]) ∧
    ¬ Frag (.call xf [.spread (.spread xa)]) := by decide +kernel

private abbrev it (e : Expr) : Item := .mk [] e none
/-- `[a, ...b, [], [1][a]] + f([c])` : items, a spread item, the empty list, a list under an
    index, a list as an argument -/
private abbrev u5 : Expr :=
  .bin .add (.list [it xa, it (.spread xb), it (.list []), it (.access (.list [it one]) xa)])
    (.call xf [.list [it xc]])
example : Frag u5 := by decide +kernel
example : exprToSource u5 = "[a, ...b, [], [1][a]] + f([c])" := by decide +kernel
example : parseText (exprToSource u5) = some u5 := text_roundtrip u5 (by decide +kernel)
example : reads "[a, ...b, [], [1][a]] + f([c])" = some "[a, ...b, [], [1][a]] + f([c])" := by
  decide +kernel

/-- the formatter's multi-line list layout `[⏎  a,⏎  ...b,⏎]` is a re-layout -/
private abbrev u6 : Expr := .list [it xa, it (.spread xb)]
private abbrev c6 : CST :=
  .list [.lf, .sp, .sp]
    (.cons false (.atom xa) [] [.lf, .sp, .sp] (.last true (.atom xb)))
    (.comma [] [.lf])
example : String.ofList c6.text = "[\n  a,\n  ...b,\n]" := by decide +kernel
example : Relayout u6 c6 := ⟨by rfl, ⟨trivial, rfl, trivial⟩, rfl⟩
example : parseText (String.ofList c6.text) = some u6 :=
  (layout_insensitive u6 (by decide +kernel) c6 ⟨by rfl, ⟨trivial, rfl, trivial⟩, rfl⟩).2
/-- `list` is non-atomic: blanks and plain line breaks anywhere between its tokens except in
    front of a comma (blanks only); a trailing comma needs no line break (unlike a call); a
    comment must be followed by a line break, and the one behind an item (`eol_comment`) ends
    the line, so no comma can follow it there -/
example : reads "[ a , b ]" = some "[a, b]" ∧ reads "[a, ]" = some "[a]" ∧ reads "[a,]" = some "[a]" ∧
    reads "[a\n, b]" = none ∧ reads "[,]" = some "[]" ∧ reads "[\n]" = some "[]" ∧
    reads "[a,,]" = none ∧ reads "[a b]" = none := by decide +kernel
example : reads "[a, // c\n b]" = some "[a, b]" ∧ reads "[a // c\n]" = some "[a]" ∧
    reads "[a // c\n, b]" = none ∧ reads "[// c]" = none ∧ reads "[// c\n]" = some "[]" := by
  decide +kernel
/-- a `[` directly behind an operand is an index, behind an operator a list -/
example : reads "a[b]" = some "a[b]" ∧ reads "a+[b]" = some "a + [b]" ∧
    reads "[a][b]" = some "[a][b]" ∧ reads "a [b]" = none := by decide +kernel
example : ¬ Frag (.list [.mk ["// c"] xa none]) ∧ ¬ Frag (.list [.mk [] xa (some "// c")]) ∧
    Frag (.list []) := by decide +kernel

/-- The text the printer / the closure emitter (C05) writes for a lambda whose
    body is in the fragment — `(args) => body`, the body in parentheses exactly when
    `lambdaBodyNeedsParens` (a `via` / `into` / `where` on its left spine at the chain level) —
    is read back to the same lambda; and that text is what `to_json` stores for it
    (`lambdaSource`). -/
theorem lambda_source_reparses (args : List LArg) (body : Expr)
    (ha : (args.all fun a => nameOk a.name) = true) (hb : Frag body) :
    parseText (exprToSource (.lambda args body)) = some (.lambda args body) ∧
    lambdaSource args (parenIf (lambdaBodyNeedsParens body) (exprToSource body)) =
      exprToSource (.lambda args body) := by
  refine ⟨text_roundtrip _ (by simp only [Frag, frag_lambda_eq, ha, Bool.true_and]; exact hb), ?_⟩
  simp only [lambdaSource, exprToSource, exprSrc, PrintL.foldl_scopeRemove_nil]

/-- why the parentheses are needed: without them the body ends in front of the chain operator
    (`lambda_infix_usage` has no `via` / `into` / `where`), and the lambda becomes its left
    operand -/
example : reads "(x) => a via f" = some "((x) => a) via f" ∧
    reads "(x) => (a via f)" = some "(x) => (a via f)" ∧
    reads "(x) => a and b" = some "(x) => a and b" ∧
    reads "(x) => a where b and c" = some "((x) => a) where b and c" := by decide +kernel

private abbrev xx : Expr := .ident "x"
/-- `(x, y?, ...r) => (x via f and y)`: a chain operator on the left spine of the body at the
    chain level, so the body is parenthesised -/
private abbrev u7 : Expr :=
  .lambda [.req "x", .opt "y", .rest "r"]
    (.bin .nand (.bin .via xx xf) (.ident "y"))
example : Frag u7 := by decide +kernel
example : exprToSource u7 = "(x, y?, ...r) => (x via f and y)" := by decide +kernel
example : parseText (exprToSource u7) = some u7 :=
  (lambda_source_reparses _ _ (by decide +kernel) (by decide +kernel)).1
private abbrev u8 : Expr :=
  .call xf [.lambda [.req "x"] (.bin .add xx one), .list [it (.lambda [] (.lambda [.req "z"] (.ident "z")))]]
example : Frag u8 := by decide +kernel
example : exprToSource u8 = "f((x) => x + 1, [() => (z) => z])" := by decide +kernel
example : parseText (exprToSource u8) = some u8 := text_roundtrip u8 (by decide +kernel)

/-- re-layout of a lambda: the parentheses around a single (required or optional) parameter
    may go, blanks in front of `=>`, any layout behind it: `x  =>⏎  x + 1` -/
private abbrev u9 : Expr := .lambda [.req "x"] (.bin .add xx one)
private abbrev c9 : CST :=
  .lambda (.bare (.req "x")) [.sp, .sp] [.lf, .sp, .sp] (.bin .add (.atom xx) [.sp] [.sp] (.atom one))
example : String.ofList c9.text = "x  =>\n  x + 1" := by decide +kernel
example : Relayout u9 c9 := ⟨by rfl, rfl, rfl, trivial, trivial, by decide +kernel⟩
example : parseText (String.ofList c9.text) = some u9 :=
  (layout_insensitive u9 (by decide +kernel) c9
    ⟨by rfl, rfl, rfl, trivial, trivial, by decide +kernel⟩).2
/-- `argument_list` is non-atomic (`( a , b? , ...r )`, even `x ?` and `... r`), with the
    trailing-comma rule of `call_list`; no line break in front of `=>`; `lambda` comes before
    `identifier` and `nested_expression` among the alternatives of `term` -/
example : reads "( a , b? , ...r ) => a" = some "(a, b?, ...r) => a" ∧
    reads "x ? => 1" = some "(x?) => 1" ∧ reads "... r => 1" = some "(...r) => 1" ∧
    reads "(a,\n) => a" = some "(a) => a" ∧ reads "(a, ) => a" = none ∧
    reads "x\n=> x" = none ∧ reads "x =>\n x" = some "(x) => x" ∧ reads "true => 1" = none ∧
    reads "(a) + b" = some "a + b" ∧ reads "a ?? b" = some "a ?? b" ∧
    reads "f(...r => 1)" = some "f(...(r) => 1)" := by decide +kernel
example : ¬ Frag (.lambda [.req "if"] xx) ∧ ¬ Frag (.lambda [.req "a b"] xx) ∧
    Frag (.lambda [.req "sqrt"] xx) := by decide +kernel

/-- `if a and b then if c then 1 else (x) => x else a + if b then c else 42` : a conditional in
    the then-branch (its `else` is the nearest one), a lambda in an else-branch, a conditional
    as a right operand; no parentheses anywhere (every part is an `expression`) -/
private abbrev u10 : Expr :=
  .cond (.bin .nand xa xb) (.cond xc one (.lambda [.req "x"] xx))
    (.bin .add xa (.cond xb xc n42))
example : Frag u10 := by decide +kernel
example : exprToSource u10 =
    "if a and b then if c then 1 else (x) => x else a + if b then c else 42" := by decide +kernel
example : parseText (exprToSource u10) = some u10 := text_roundtrip u10 (by decide +kernel)
example : items u10 = [.prim u10] := by rfl
/-- a conditional as a left operand or under a postfix operator is parenthesised by the printer
    (`ends_open`): its else-branch would swallow what follows -/
example : exprToSource (.bin .add (.cond xa xb xc) one) = "(if a then b else c) + 1" ∧
    reads "(if a then b else c) + 1" = some "(if a then b else c) + 1" ∧
    reads "if a then b else c + 1" = some "if a then b else c + 1" ∧
    exprToSource (.cond xa xb (.bin .add xc one)) = "if a then b else c + 1" := by decide +kernel

/-- the formatter's multi-line layouts are re-layouts: `if a then⏎  b⏎else⏎  c` and, when even
    `if a then` does not fit, `if a⏎then⏎  b⏎else if …` (else-if chains stay flat) -/
private abbrev u11 : Expr := .cond xa xb xc
private abbrev c11 : CST :=
  .cond [.sp] (.atom xa) [.sp] [.lf, .sp, .sp] (.atom xb) [.lf] [.lf, .sp, .sp] (.atom xc)
example : String.ofList c11.text = "if a then\n  b\nelse\n  c" := by decide +kernel
example : Relayout u11 c11 :=
  ⟨by rfl, ⟨by simp, rfl, by simp, by simp, by simp, by simp⟩, trivial, trivial, trivial⟩
example : parseText (String.ofList c11.text) = some u11 :=
  (layout_insensitive u11 (by decide +kernel) c11
    ⟨by rfl, ⟨by simp, rfl, by simp, by simp, by simp, by simp⟩, trivial, trivial, trivial⟩).2
/-- `conditional` is atomic with explicit layout: a blank (not a line break) behind `if`,
    layout on both sides of `then` / `else` (parentheses do not replace it) -/
example : reads "if  a\nthen\n b\n else\tc" = some "if a then b else c" ∧
    reads "if\na then b else c" = none ∧ reads "if(a) then b else c" = none ∧
    reads "if a then(b) else c" = none ∧ reads "if (a)then b else c" = none ∧
    reads "if a then b" = none ∧ reads "if a then b elsec" = none ∧ reads "iffy" = some "iffy" ∧
    reads "x => if a then b else c via f" = some "(x) => if a then b else c via f" := by
  decide +kernel

/-- A string literal round-trips exactly when the string does not contain both kinds of quote:
    the grammar has no escapes (`string_value` is every character up to the opening quote
    character), so `"…"` denotes any string without `"`, `'…'` any string without `'`, and no
    literal denotes a string with both. -/
theorem string_literal_roundtrip_iff (s : String) :
    parseText (exprToSource (.str s)) = some (.str s) ↔ Frag (.str s) :=
  string_roundtrip_iff s

/-- For a string with both kinds of quote the printer writes the parenthesised concatenation
    `("a" + '"' + "b")` (C07 `string_with_both_quotes_is_concatenation`), which is a text of the
    fragment and is read back — to the left-nested `+` of the string literals of its pieces
    (`bothTree`; the contents of the pieces concatenate to the string), not to the string node:
    the text round trip holds up to evaluating that `+`, not as trees. -/
theorem both_quotes_string_reads_back_as_concatenation (s : String)
    (h1 : '"' ∈ s.toList) (h2 : '\'' ∈ s.toList) :
    ¬ Frag (.str s) ∧ parseText (exprToSource (.str s)) = some (bothTree s) ∧
      bothTree s ≠ .str s ∧ (PrintL.pieces s.toList).flatten = s.toList ∧
      ∃ p0 rest, PrintL.pieces s.toList = p0 :: rest ∧
        bothTree s = strSum (.str (String.ofList p0)) rest := by
  refine ⟨?_, both_quotes_parse s h1 h2, bothTree_ne_str s h1 h2, PrintL.pieces_flatten _, ?_⟩
  · simp [Frag, frag_str_eq, bothQuotes, h1, h2]
  · unfold bothTree
    cases hp : PrintL.pieces s.toList with
    | nil =>
      have := PrintL.pieces_flatten s.toList
      rw [hp] at this
      rw [← this] at h1
      cases h1
    | cons p0 rest => exact ⟨p0, rest, rfl, rfl⟩

/-- `"a b" + 'say "hi"'[0] == "it's //" via f` : the printer's choice of quote; a literal may
    contain the other quote, blanks, `//`; postfix forms apply to a literal -/
private abbrev u12 : Expr :=
  .bin .via (.bin .eq (.bin .add (.str "a b") (.access (.str "say \"hi\"") (.num ⟨0⟩))) (.str "it's //")) xf
example : Frag u12 := by decide +kernel
example : exprToSource u12 = "\"a b\" + 'say \"hi\"'[0] == \"it's //\" via f" := by decide +kernel
example : parseText (exprToSource u12) = some u12 := text_roundtrip u12 (by decide +kernel)
example : reads "\"a b\" + 'say \"hi\"'[0] == \"it's //\" via f" =
    some "\"a b\" + 'say \"hi\"'[0] == \"it's //\" via f" := by decide +kernel

/-- re-layout of a string literal: the other quote character, when it does not occur in the
    string (`CST.LayoutOk` of `.str`); `'a b'+"x"` is a re-layout of `"a b" + "x"` -/
private abbrev u13 : Expr := .bin .add (.str "a b") (.str "x")
private abbrev c13 : CST := .bin .add (.str false "a b") [] [] (.str true "x")
example : String.ofList c13.text = "'a b'+\"x\"" := by decide +kernel
example : Relayout u13 c13 := ⟨by rfl, by rfl, by rfl, by decide +kernel⟩
example : parseText (String.ofList c13.text) = some u13 :=
  (layout_insensitive u13 (by decide +kernel) c13
    ⟨by rfl, by rfl, by rfl, by decide +kernel⟩).2
/-- the `string` rule on the model (and on the real parser, see the harness): no escapes, the
    literal ends at the first occurrence of its opening quote; any other character — a line
    break, `//`, the other quote — belongs to it; nothing may follow directly but a postfix or
    infix operator -/
example : reads "'a'" = some "\"a\"" ∧ reads "\"\"" = some "\"\"" ∧ reads "\"a" = none ∧
    reads "\"a\"b" = none ∧ reads "\"a\"\"b\"" = none ∧ reads "\"a\\\"" = some "\"a\\\"" ∧
    reads "\"a\nb // c\"" = some "\"a\nb // c\"" ∧ reads "\"a\"+'b'" = some "\"a\" + \"b\"" ∧
    reads "-\"a\"!" = some "-\"a\"!" ∧ reads "\"a\".b(\"c\")" = some "\"a\".b(\"c\")" ∧
    reads "[\"a\", ...\"b\"]" = some "[\"a\", ...\"b\"]" ∧
    reads "x => \"a\"" = some "(x) => \"a\"" ∧
    reads "if \"a\" then 'b' else \"c\"" = some "if \"a\" then \"b\" else \"c\"" := by
  decide +kernel
/-- a string with both kinds of quote: not in the fragment; printed as a concatenation, which is
    read back as the concatenation (by the theorem, and computed) -/
example : ¬ Frag (.str "a\"b'c") ∧ Frag (.str "a\"bc") ∧ Frag (.str "ab'c") := by decide +kernel
example : exprToSource (.str "a\"b'c") = "(\"a\" + '\"' + \"b'c\")" := by decide +kernel
example : parseText (exprToSource (.str "a\"b'c")) = some (bothTree "a\"b'c") :=
  (both_quotes_string_reads_back_as_concatenation _ (by decide +kernel) (by decide +kernel)).2.1
example : exprToSource (bothTree "a\"b'c") = "\"a\" + '\"' + \"b'c\"" ∧
    reads "(\"a\" + '\"' + \"b'c\")" = some "\"a\" + '\"' + \"b'c\"" := by decide +kernel

private abbrev en (k : Key) (v : Expr) : Entry := .mk [] k v none
/-- `{a: 1, "k 2": x, [f(a)]: [b], c, ...g, "it's": {}, 'say "x"': (y) => {y}}` : a bare key, keys
    that need quotes (the printer's choice of quote), a computed key, a shorthand, a spread, the
    empty record, a record as a lambda body -/
private abbrev u14 : Expr :=
  .record [en (.static "a") one, en (.static "k 2") xx, en (.dyn (.call xf [xa])) (.list [it xb]),
    en (.short "c") .null, en (.spread (.spread (.ident "g"))) .null, en (.static "it's") (.record []),
    en (.static "say \"x\"") (.lambda [.req "y"] (.record [en (.short "y") .null]))]
example : Frag u14 := by decide +kernel
example : exprToSource u14 =
    "{a: 1, \"k 2\": x, [f(a)]: [b], c, ...g, \"it's\": {}, 'say \"x\"': (y) => {y}}" := by
  decide +kernel
example : parseText (exprToSource u14) = some u14 := text_roundtrip u14 (by decide +kernel)
example : items u14 = [.prim u14] := by rfl
example : reads "{a: 1, \"k 2\": x, [f(a)]: [b], c, ...g, \"it's\": {}, 'say \"x\"': (y) => {y}}" =
    some "{a: 1, \"k 2\": x, [f(a)]: [b], c, ...g, \"it's\": {}, 'say \"x\"': (y) => {y}}" := by
  decide +kernel

/-- the formatter's multi-line record layout `{⏎  a: 1,⏎  "b c": x,⏎}` is a re-layout; so is
    quoting a bare key, the other quote character, blanks in front of the colon and a line
    break behind it: `{ 'a' :⏎1 , "b c":x }` -/
private abbrev u15 : Expr := .record [en (.static "a") one, en (.static "b c") xx]
private abbrev c15 : CST :=
  .record [.lf, .sp, .sp]
    (.cons (.pairId "a" [] [.sp] (.atom one)) [] [.lf, .sp, .sp]
      (.last (.pairStr true "b c" [] [.sp] (.atom xx))))
    (.comma [] [.lf])
private abbrev c15' : CST :=
  .record [.sp]
    (.cons (.pairStr false "a" [.sp] [.lf] (.atom one)) [.sp] [.sp]
      (.last (.pairStr true "b c" [] [] (.atom xx))))
    (.plain [.sp])
example : String.ofList c15.text = "{\n  a: 1,\n  \"b c\": x,\n}" ∧
    String.ofList c15'.text = "{ 'a' :\n1 , \"b c\":x }" := by decide +kernel
example : Relayout u15 c15 ∧ Relayout u15 c15' :=
  ⟨⟨by rfl, ⟨⟨by decide +kernel, rfl, trivial⟩, rfl, ⟨by rfl, rfl, trivial⟩⟩, rfl⟩,
   ⟨by rfl, ⟨⟨by rfl, rfl, trivial⟩, rfl, ⟨by rfl, rfl, trivial⟩⟩, rfl⟩⟩
example : parseText (String.ofList c15.text) = some u15 ∧
    parseText (String.ofList c15'.text) = some u15 :=
  ⟨(layout_insensitive u15 (by decide +kernel) c15
      ⟨by rfl, ⟨⟨by decide +kernel, rfl, trivial⟩, rfl, ⟨by rfl, rfl, trivial⟩⟩, rfl⟩).2,
   (layout_insensitive u15 (by decide +kernel) c15'
      ⟨by rfl, ⟨⟨by rfl, rfl, trivial⟩, rfl, ⟨by rfl, rfl, trivial⟩⟩, rfl⟩).2⟩
/-- `record` is non-atomic like `list` (blanks and plain line breaks between its tokens, blanks
    only in front of a comma, a trailing comma needs no line break); `record_pair` is non-atomic
    too: blanks (no line break) in front of the colon, any layout behind it; inside the brackets
    of a computed key blanks only; `...e` takes no blank; a pair is tried before a shorthand -/
example : reads "{ a : 1 , b }" = some "{a: 1, b}" ∧ reads "{a: 1,}" = some "{a: 1}" ∧
    reads "{a\n: 1}" = none ∧ reads "{a:\n1}" = some "{a: 1}" ∧ reads "{a: // c\n 1}" = some "{a: 1}" ∧
    reads "{a: 1\n, b}" = none ∧ reads "{,}" = some "{}" ∧ reads "{\n}" = some "{}" ∧
    reads "{[ a ]: 1}" = some "{[a]: 1}" ∧ reads "{[\na]: 1}" = none ∧ reads "{[a]}" = none ∧
    reads "{... a}" = none ∧ reads "{...a.b}" = some "{...a.b}" ∧ reads "{a b}" = none ∧
    reads "{a: b: c}" = none ∧ reads "{a.b}" = none := by decide +kernel
/-- keys: a reserved word is no bare key (the printer quotes it), a built-in name is an ordinary
    key, a quoted identifier is printed bare; a record directly behind an operand is no postfix
    form; postfix forms apply to a record -/
example : reads "{if: 1}" = none ∧ reads "{\"if\": 1}" = some "{\"if\": 1}" ∧
    reads "{sqrt: 1, max}" = some "{sqrt: 1, max}" ∧ reads "{'abc': 1}" = some "{abc: 1}" ∧
    reads "{\"\": 1}" = some "{\"\": 1}" ∧ reads "a{b}" = none ∧ reads "{a: 1}.a" = some "{a: 1}.a" ∧
    reads "{a: 1}[\"a\"]" = some "{a: 1}[\"a\"]" ∧ reads "x => {a: x}" = some "(x) => {a: x}" ∧
    reads "{a: x => x, b: 1}" = some "{a: (x) => x, b: 1}" := by decide +kernel
/-- outside the fragment: comments, a key with both kinds of quote (printed as a computed key
    over the concatenation, which reads back as a computed key), a shorthand that is no
    identifier, a shorthand or spread entry with a value -/
example : ¬ Frag (.record [.mk ["// c"] (.static "a") one none]) ∧
    ¬ Frag (.record [en (.static "a\"b'") one]) ∧ ¬ Frag (.record [en (.short "if") .null]) ∧
    ¬ Frag (.record [en (.short "a") one]) ∧ ¬ Frag (.record [en (.spread xa) .null]) ∧
    Frag (.record []) ∧ Frag (.record [en (.static "if") one]) := by decide +kernel
example : exprToSource (.record [en (.static "a\"b'") one]) = "{[(\"a\" + '\"' + \"b'\")]: 1}" ∧
    reads "{[(\"a\" + '\"' + \"b'\")]: 1}" = some "{[\"a\" + '\"' + \"b'\"]: 1}" := by decide +kernel

/-- Which do-blocks are in the fragment: statements and the returned expression in the fragment,
    no comments, and no statement whose leftmost name is `via` / `into` / `where` (`stmtHeadOk`:
    a parenthesised operand or a prefix operator shields the name).  Such a statement is printed
    safely — in parentheses, C07 `statement_start_protected` — but the formatter's layouts of it
    differ in their parentheses (`(via + b)` on one line, `via` ⏎ `+ b` on two), so it is left
    out of the text-level theorems rather than described by a width-dependent syntax tree. -/
theorem do_block_in_fragment_iff (ss : List Item) (lead : List String) (e : Expr)
    (tr : Option String) :
    Frag (.doBlock ss (.mk lead e tr)) ↔
      (∀ s ∈ ss, ∃ e', s = .mk [] e' none ∧ Frag e' ∧ stmtHeadOk e' = true) ∧
        lead = [] ∧ tr = none ∧ Frag e := by
  have hs : ∀ l : List Item, fragStmts l = true ↔
      ∀ s ∈ l, ∃ e', s = .mk [] e' none ∧ Frag e' ∧ stmtHeadOk e' = true := by
    intro l
    induction l with
    | nil => simp [fragStmts]
    | cons i rest ih =>
      obtain ⟨l1, e1, t1⟩ := i
      simp only [fragStmts, Bool.and_eq_true, ih, List.mem_cons, forall_eq_or_imp, entPlain,
        List.isEmpty_iff, Option.isNone_iff_eq_none, Item.mk.injEq, Frag, frag]
      constructor
      · rintro ⟨⟨⟨rfl, rfl⟩, h1, h2⟩, h3⟩
        exact ⟨⟨e1, ⟨rfl, rfl, rfl⟩, h1, h2⟩, h3⟩
      · rintro ⟨⟨e', ⟨rfl, rfl, rfl⟩, h1, h2⟩, h3⟩
        exact ⟨⟨⟨rfl, rfl⟩, h1, h2⟩, h3⟩
  unfold Frag
  rw [frag_doBlock_eq]
  simp only [Bool.and_eq_true, hs, entPlain, List.isEmpty_iff, Option.isNone_iff_eq_none, Frag]
  constructor
  · rintro ⟨h1, ⟨h2, h3⟩, h4⟩
    exact ⟨h1, h2, h3, h4⟩
  · rintro ⟨h1, h2, h3, h4⟩
    exact ⟨h1, ⟨h2, h3⟩, h4⟩

private abbrev st (e : Expr) : Item := .mk [] e none
/-- `(x) => do {⏎  f(x)⏎  (-x)⏎  return x + 1⏎}` : the printer writes every statement on its own
    line and parenthesises one that starts with `-` (it would continue the line before it) -/
private abbrev u16 : Expr :=
  .lambda [.req "x"] (.doBlock [st (.call xf [xx]), st (.un .negate xx)] (st (.bin .add xx one)))
example : Frag u16 := by decide +kernel
example : exprToSource u16 = "(x) => do {\n  f(x)\n  (-x)\n  return x + 1\n}" := by decide +kernel
example : parseText (exprToSource u16) = some u16 := text_roundtrip u16 (by decide +kernel)
example : items u16 = [.prim u16] := by rfl
example : reads "(x) => do {\n  f(x)\n  (-x)\n  return x + 1\n}" =
    some "(x) => do {\n  f(x)\n  (-x)\n  return x + 1\n}" := by decide +kernel

/-- a re-layout: a line break between `do` and `{`, nothing behind `{`, `;` (blanks in front of
    it, anything behind it) or any layout with a line break between statements, a tab behind
    `return`, a blank in front of `}`: `x=>do⏎{f(x) ;⇥(-x)⏎⏎ return⇥x+1 }` -/
private abbrev c16 : CST :=
  .lambda (.bare (.req "x")) [] []
    (.doB [.lf] []
      (.cons (.call (.atom xf) [] (.last false (.atom xx)) (.plain [])) (.semi [.sp] [.tab])
        (.cons (.paren [] (.un .negate (.atom xx)) []) (.line [.lf, .lf, .sp]) .nil))
      [.tab] (.bin .add (.atom xx) [] [] (.atom one)) [.sp])
example : String.ofList c16.text = "x=>do\n{f(x) ;\t(-x)\n\n return\tx+1 }" := by decide +kernel
example : Relayout u16 c16 := by
  refine ⟨by rfl, ?_⟩
  simp only [CST.LayoutOk, CST.StmtsLayoutOk, CST.ArgsLayoutOk]
  decide
example : parseText (String.ofList c16.text) = some u16 :=
  (layout_insensitive u16 (by decide +kernel) c16 (by
    refine ⟨by rfl, ?_⟩
    simp only [CST.LayoutOk, CST.StmtsLayoutOk, CST.ArgsLayoutOk]
    decide)).2
/-- a line break is not `;`: behind `;` a statement starts afresh, behind a line break the
    grammar first tries to continue the expression before it — with a binary `-`, or with a
    variable named like a word operator (`a` ⏎ `where into x` is `a where into` and a stray `x`:
    no parse).  This is what `protect_statement_start` guards against (C07). -/
example : reads "do {a; where into x\n return 1}" = some "do {\n  a\n  (where into x)\n  return 1\n}" ∧
    reads "do {a\n where into x\n return 1}" = none ∧
    reads "do {a; -x\n return 1}" = some "do {\n  a\n  (-x)\n  return 1\n}" ∧
    reads "do {a\n -x\n return 1}" = some "do {\n  a - x\n  return 1\n}" := by decide +kernel
/-- `do_block` is compound-atomic with its layout written out: at least one blank or line break
    between `do` and `{`; blanks (no line break) between `return` and its expression; a
    separator — `;` or line breaks — behind every statement, exactly one `;`, blanks only in
    front of it; nothing but layout behind the returned expression; `returns` is a name; postfix
    and infix operators apply to a block; comments are read and dropped by the conversion -/
example : reads "do{return 1}" = none ∧ reads "do {return 1}" = some "do {\n  return 1\n}" ∧
    reads "do\n\n{\n\nreturn 1\n\n}" = some "do {\n  return 1\n}" ∧ reads "do { return\n1 }" = none ∧
    reads "do { a return 1 }" = none ∧ reads "do { a;return 1 }" = some "do {\n  a\n  return 1\n}" ∧
    reads "do { a;; return 1 }" = none ∧ reads "do { a\n; return 1 }" = none ∧
    reads "do { a; }" = none ∧ reads "do { return 1; }" = none ∧
    reads "do { returns; return 1 }" = some "do {\n  returns\n  return 1\n}" ∧
    reads "do { return 1 } + 1" = some "do {\n  return 1\n} + 1" ∧
    reads "do { a // c\n // d\n b\n // e\n return 1 }" = some "do {\n  a\n  b\n  return 1\n}" := by
  decide +kernel
/-- outside the fragment: comments, a statement whose leftmost name is a word operator (shielded
    by parentheses or a prefix operator it is inside) -/
example : ¬ Frag (.doBlock [.mk ["// c"] xa none] (st one)) ∧
    ¬ Frag (.doBlock [st xa] (.mk [] one (some "// c"))) ∧
    ¬ Frag (.doBlock [st (.bin .into (.ident "where") xx)] (st one)) ∧
    ¬ Frag (.doBlock [st (.call (.ident "via") [xx])] (st one)) ∧
    Frag (.doBlock [st (.un .not (.ident "via"))] (st (.ident "via"))) ∧
    Frag (.doBlock [st (.bin .mul (.bin .add (.ident "via") xa) xb)] (st one)) ∧
    Frag (.doBlock [] (st one)) := by decide +kernel

/-- Which assignments are in the fragment: an identifier that is not a reserved word on the left
    (`nameOk`: what the `identifier` rule accepts), a fragment tree on the right. -/
theorem assignment_in_fragment_iff (n : String) (v : Expr) :
    Frag (.assign n v) ↔ nameOk n = true ∧ Frag v := by
  simp [Frag, frag_assign_eq]

/-- `f = (x) => do {⏎  y = x + 1⏎  return y == c + z = b⏎}` : assignments as a statement, as the
    value of an assignment, and as a right operand, where the printer writes no parentheses
    (`c + z = b` is `c + (z = b)`: the value of an assignment extends as far right as possible) -/
private abbrev u17 : Expr :=
  .assign "f" (.lambda [.req "x"] (.doBlock [st (.assign "y" (.bin .add xx one))]
    (st (.bin .eq (.ident "y") (.bin .add xc (.assign "z" xb))))))
example : Frag u17 := by decide +kernel
example : exprToSource u17 = "f = (x) => do {\n  y = x + 1\n  return y == c + z = b\n}" := by
  decide +kernel
example : parseText (exprToSource u17) = some u17 := text_roundtrip u17 (by decide +kernel)
example : items u17 = [.prim u17] := by rfl
example : reads "f = (x) => do {\n  y = x + 1\n  return y == c + z = b\n}" =
    some "f = (x) => do {\n  y = x + 1\n  return y == c + z = b\n}" := by decide +kernel
/-- a re-layout: blanks (or nothing) around `=` : `a⇥=b+⏎1` -/
private abbrev u18 : Expr := .assign "a" (.bin .add xb one)
private abbrev c18 : CST := .asg "a" [.tab] [] (.bin .add (.atom xb) [] [.lf] (.atom one))
example : String.ofList c18.text = "a\t=b+\n1" := by decide +kernel
example : Relayout u18 c18 := by
  refine ⟨by rfl, ?_⟩
  simp only [CST.LayoutOk]
  decide
example : parseText (String.ofList c18.text) = some u18 :=
  (layout_insensitive u18 (by decide +kernel) c18 (by
    refine ⟨by rfl, ?_⟩
    simp only [CST.LayoutOk]
    decide)).2
/-- `assignment` is non-atomic: blanks, but no line break, around `=`; the value is an
    `expression` (right-nested, it takes everything to its right); `==` is no assignment (the
    rule takes `a =`, finds no expression at the second `=`, and gives way to `identifier`); the
    target is an identifier — a reserved word, a field, a postfix form is none, a built-in name
    is; as a left operand or under a postfix operator an assignment needs parentheses (the
    printer writes them), as a right operand, an argument, a record value, a condition, a lambda
    body it does not -/
example : reads "a = 1" = some "a = 1" ∧ reads "a=1" = some "a = 1" ∧ reads "a =\n1" = none ∧
    reads "a\n= 1" = none ∧ reads "a == 1" = some "a == 1" ∧ reads "a = = 1" = none ∧
    reads "a = b = 1" = some "a = b = 1" ∧ reads "a = b == 1" = some "a = b == 1" ∧
    reads "a == b = 1" = some "a == b = 1" ∧ reads "1 + a = 2" = some "1 + a = 2" ∧
    reads "(a = 2) + 1" = some "(a = 2) + 1" ∧ reads "-a = 1" = some "-a = 1" ∧
    reads "a! = 1" = none ∧ reads "a != 1" = some "a != 1" ∧
    reads "f(a = 1, b = 2)" = some "f(a = 1, b = 2)" ∧
    reads "x => a = x via f" = some "(x) => a = x via f" ∧ reads "a = x => x" = some "a = (x) => x" ∧
    reads "if a = 1 then b else c" = some "if a = 1 then b else c" ∧ reads "true = 1" = none ∧
    reads "sqrt = 1" = some "sqrt = 1" ∧ reads "a.b = 1" = none ∧ reads "{a = 1}" = none ∧
    reads "{a: b = 1}" = some "{a: b = 1}" ∧ reads "a += 1" = none := by decide +kernel
example : exprToSource (.bin .add (.assign "a" (.num ⟨0x4000000000000000⟩)) one) = "(a = 2) + 1" ∧
    exprToSource (.fact (.assign "a" one)) = "(a = 1)!" ∧
    exprToSource (.bin .add one (.assign "a" (.num ⟨0x4000000000000000⟩))) = "1 + a = 2" := by
  decide +kernel
/-- outside the fragment: a target that is no identifier for the grammar -/
example : ¬ Frag (.assign "if" one) ∧ ¬ Frag (.assign "a b" one) ∧ ¬ Frag (.assign "" one) ∧
    Frag (.assign "sqrt" one) ∧ Frag (.assign "iffy" one) := by decide +kernel
end text

end Blots.C10
