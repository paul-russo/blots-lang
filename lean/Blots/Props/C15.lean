import Blots.Lemmas.AggLaws
import Blots.Lemmas.ToyOps
import Blots.Lemmas.Rounding
/-
  C15 — Aggregates equal their mathematical definitions in both calling conventions.

  Helpers in `Blots/Lemmas/AggLaws.lean`.  `callPure ops name args` models
  `BuiltInFunction::call` (functions.rs:423-639) for `min max avg sum prod median percentile`;
  `aggArgs args = .ok ns` says "the call hands the numbers `ns` to the aggregate", which both
  conventions `f([x1, …, xn])` and `f(x1, …, xn)` do (`numbers_of_both_conventions`).
  Every theorem holds for all float primitives `ops`; where the float index computation of
  `percentile` matters, the needed facts about `ops` are explicit hypotheses.
  Comparison is on bit patterns: `F64.fle` is IEEE `<=`, `F64.feq` IEEE `==`, `totalKey` the
  key of `f64::total_cmp`.  `sum` / `prod` / `avg` are the left folds of `ops.add` / `ops.mul`
  from `-0.0` / `1.0` (what `Iterator::sum` / `product` do).  They are not bit-exactly
  permutation invariant (`sum_order_matters_under_model`).  "Up to rounding" is made exact
  under the standard model of floating-point arithmetic, an explicit hypothesis
  `RoundingModel ops u` on the abstract `ops` (Lemmas/Rounding.lean; IEEE binary64 is the
  intended inhabitant with `u = 2^-53`, validated numerically by the harness), the classical
  forward error bounds hold, hence permutation invariance within twice the bound.
  `median` / `percentile` are bit-exactly permutation invariant; `min` / `max` only up to IEEE
  `==` (the sign of a zero result depends on the order: `min_exact_permutation_invariance_fails`),
  and `percentile(l, 0)` / `percentile(l, 100)` equal `min` / `max` up to IEEE `==` as well.
-/
namespace Blots.C15

theorem numbers_of_both_conventions (ns : List F64) :
    aggArgs [.list (ns.map Value.num)] = .ok ns ∧ aggArgs (ns.map Value.num) = .ok ns :=
  ⟨by rw [aggArgs_list, numList_map_num], aggArgs_map_num ns⟩

theorem conventions_agree (ops : NumOps) (name : String)
    (hname : name ∈ ["min", "max", "avg", "sum", "prod", "median"])
    (L : List Value) (hL : 2 ≤ L.length) :
    callPure ops name [.list L] = callPure ops name L := by
  obtain ⟨f, hf⟩ := callPure_agg ops name hname
  rw [hf, hf, aggThen_congr (aggArgs_list_eq L (.inl (by omega)))]

theorem conventions_agree_numbers (ops : NumOps) (name : String)
    (hname : name ∈ ["min", "max", "avg", "sum", "prod", "median"]) (ns : List F64) :
    callPure ops name [.list (ns.map Value.num)] = callPure ops name (ns.map Value.num) := by
  obtain ⟨f, hf⟩ := callPure_agg ops name hname
  have h := numbers_of_both_conventions ns
  rw [hf, hf, aggThen_congr (h.1.trans h.2.symm)]

theorem conventions_agree_single (ops : NumOps) (name : String)
    (hname : name ∈ ["min", "max", "avg", "sum", "prod", "median"])
    (v : Value) (hv : ∀ xs, v ≠ .list xs) :
    callPure ops name [.list [v]] = callPure ops name [v] := by
  obtain ⟨f, hf⟩ := callPure_agg ops name hname
  rw [hf, hf, aggThen_congr (aggArgs_list_eq [v] (.inr ⟨v, rfl, hv⟩))]

/-- a single list argument is unpacked once, so `f([[x…]])` is a type error while `f([x…])` is
    the aggregate of the `x…` -/
theorem nested_singleton_is_type_error (ops : NumOps) (name : String)
    (hname : name ∈ ["min", "max", "avg", "sum", "prod", "median"]) (xs : List Value) :
    callPure ops name [.list [.list xs]] = some (.err .type_) := by
  obtain ⟨f, hf⟩ := callPure_agg ops name hname
  rw [hf]; rfl

theorem empty_is_domain_error (ops : NumOps) (name : String)
    (hname : name ∈ ["min", "max", "avg", "sum", "prod", "median"]) :
    callPure ops name [.list []] = some (.err .domain) ∧ callPure ops name [] = some (.err .domain) := by
  obtain ⟨f, hf⟩ := callPure_agg ops name hname
  rw [hf, hf]; exact ⟨rfl, rfl⟩

theorem lone_non_number_is_type_error (ops : NumOps) (name : String)
    (hname : name ∈ ["min", "max", "avg", "sum", "prod", "median"])
    (v : Value) (hl : ∀ xs, v ≠ .list xs) (hn : ∀ x, v ≠ .num x) :
    callPure ops name [v] = some (.err .type_) := by
  obtain ⟨f, hf⟩ := callPure_agg ops name hname
  rw [hf, aggThen, aggArgs_single_err v hl hn]; rfl

theorem non_number_member_is_type_error (ops : NumOps) (name : String)
    (hname : name ∈ ["min", "max", "avg", "sum", "prod", "median"])
    (L : List Value) (v : Value) (hv : v ∈ L) (hn : ∀ x, v ≠ .num x) :
    callPure ops name [.list L] = some (.err .type_) ∧
    (2 ≤ L.length → callPure ops name L = some (.err .type_)) := by
  have h1 : callPure ops name [.list L] = some (.err .type_) := by
    obtain ⟨f, hf⟩ := callPure_agg ops name hname
    rw [hf, aggThen, aggArgs_list, numList_err_of_mem L v hv hn]; rfl
  exact ⟨h1, fun h2 => by rw [← conventions_agree ops name hname L h2, h1]⟩

theorem aggregates_total (ops : NumOps) (name : String)
    (hname : name ∈ ["min", "max", "avg", "sum", "prod", "median"]) (args : List Value) :
    (∃ x, callPure ops name args = some (.ok (.num x))) ∨
    callPure ops name args = some (.err .type_) ∨ callPure ops name args = some (.err .domain) := by
  obtain ⟨f, hf⟩ := callPure_agg ops name hname
  rw [hf]
  rcases aggArgs_cases args with ⟨ns, h⟩ | h
  · by_cases hne : ns = []
    · subst hne; exact .inr (.inr (by rw [aggThen_of_empty h]))
    · exact .inl ⟨f ns, by rw [aggThen_of_ok h hne]⟩
  · refine .inr (.inl ?_)
    simp only [aggThen, h, Outcome.bind]

theorem min_bound_and_member (ops : NumOps) (args : List Value) (ns : List F64)
    (h : aggArgs args = .ok ns) (hne : ns ≠ []) (hnan : ∀ x ∈ ns, x.isNaN = false) :
    ∃ m, callPure ops "min" args = some (.ok (.num m)) ∧ m ∈ ns ∧ ∀ x ∈ ns, F64.fle m x = true := by
  obtain ⟨h1, h2⟩ := foldl_fmin_inf_spec ns hne hnan
  exact ⟨_, by rw [callPure_min, aggThen_of_ok h hne], h1, h2⟩

theorem max_bound_and_member (ops : NumOps) (args : List Value) (ns : List F64)
    (h : aggArgs args = .ok ns) (hne : ns ≠ []) (hnan : ∀ x ∈ ns, x.isNaN = false) :
    ∃ m, callPure ops "max" args = some (.ok (.num m)) ∧ m ∈ ns ∧ ∀ x ∈ ns, F64.fle x m = true := by
  obtain ⟨h1, h2⟩ := foldl_fmax_negInf_spec ns hne hnan
  exact ⟨_, by rw [callPure_max, aggThen_of_ok h hne], h1, h2⟩

theorem min_ignores_nan (ops : NumOps) (args : List Value) (ns : List F64)
    (h : aggArgs args = .ok ns) (hne : ns ≠ []) :
    ∃ m, callPure ops "min" args = some (.ok (.num m)) ∧
      (((∀ x ∈ ns, x.isNaN = true) ∧ m = F64.inf) ∨
       (m ∈ ns ∧ m.isNaN = false ∧ ∀ x ∈ ns, x.isNaN = false → F64.fle m x = true)) := by
  refine ⟨_, by rw [callPure_min, aggThen_of_ok h hne], ?_⟩
  rcases foldl_fmin_inf_general ns with ⟨h1, h2⟩ | h1
  · refine .inl ⟨fun x hx => ?_, h2⟩
    cases hn : x.isNaN with
    | true => rfl
    | false => have := mem_nonNaNs.mpr ⟨hx, hn⟩; rw [h1] at this; cases this
  · exact .inr h1

theorem max_ignores_nan (ops : NumOps) (args : List Value) (ns : List F64)
    (h : aggArgs args = .ok ns) (hne : ns ≠ []) :
    ∃ m, callPure ops "max" args = some (.ok (.num m)) ∧
      (((∀ x ∈ ns, x.isNaN = true) ∧ m = F64.negInf) ∨
       (m ∈ ns ∧ m.isNaN = false ∧ ∀ x ∈ ns, x.isNaN = false → F64.fle x m = true)) := by
  refine ⟨_, by rw [callPure_max, aggThen_of_ok h hne], ?_⟩
  rcases foldl_fmax_negInf_general ns with ⟨h1, h2⟩ | h1
  · refine .inl ⟨fun x hx => ?_, h2⟩
    cases hn : x.isNaN with
    | true => rfl
    | false => have := mem_nonNaNs.mpr ⟨hx, hn⟩; rw [h1] at this; cases this
  · exact .inr h1

theorem sum_prod_avg_are_left_folds (ops : NumOps) (args : List Value) (ns : List F64)
    (h : aggArgs args = .ok ns) (hne : ns ≠ []) :
    callPure ops "sum" args = some (.ok (.num (ns.foldl ops.add F64.negZero))) ∧
    callPure ops "prod" args = some (.ok (.num (ns.foldl ops.mul F64.one))) ∧
    callPure ops "avg" args =
      some (.ok (.num (ops.div (ns.foldl ops.add F64.negZero) (F64.ofNat ns.length)))) := by
  refine ⟨?_, ?_, ?_⟩
  · rw [callPure_sum, aggThen_of_ok h hne]
  · rw [callPure_prod, aggThen_of_ok h hne]
  · rw [callPure_avg, aggThen_of_ok h hne]

theorem avg_is_sum_div_count (ops : NumOps) (args : List Value) (s : F64)
    (h : callPure ops "sum" args = some (.ok (.num s))) :
    ∃ ns, aggArgs args = .ok ns ∧ ns ≠ [] ∧
      callPure ops "avg" args = some (.ok (.num (ops.div s (F64.ofNat ns.length)))) := by
  rw [callPure_sum] at h
  obtain ⟨ns, h1, h2, h3⟩ := aggThen_ok_inv (Option.some.inj h)
  refine ⟨ns, h1, h2, ?_⟩
  rw [callPure_avg, aggThen_of_ok h1 h2]
  cases h3
  rfl

theorem avg_fails_like_sum (ops : NumOps) (args : List Value) (k : ErrKind)
    (h : callPure ops "sum" args = some (.err k)) :
    callPure ops "avg" args = some (.err k) ∧ callPure ops "prod" args = some (.err k) := by
  rw [callPure_sum] at h
  have h := Option.some.inj h
  rw [callPure_avg, callPure_prod]
  unfold aggThen at *
  cases ha : aggArgs args with
  | ok ns =>
    rw [ha] at h
    cases ns with
    | nil => simp only [Outcome.bind] at h ⊢; exact ⟨congrArg some h, congrArg some h⟩
    | cons x xs => simp [Outcome.bind] at h
  | err k' => rw [ha] at h; simp only [Outcome.bind] at h ⊢; exact ⟨congrArg some h, congrArg some h⟩
  | panic s => rw [ha] at h; simp [Outcome.bind] at h
  | fuel => rw [ha] at h; simp [Outcome.bind] at h

/-- `sortTotal` is the sort used by `median` / `percentile` -/
theorem sortTotal_is_sorted_permutation (ns : List F64) :
    (sortTotal ns).Perm ns ∧ (sortTotal ns).Pairwise fun a b => totalKey a ≤ totalKey b :=
  ⟨sortTotal_perm ns, sortTotal_sorted ns⟩

/-- `total_cmp` order refines IEEE order: it only adds `-0 < +0` (and places NaNs) -/
theorem totalKey_refines_key (a b : F64) (h : totalKey a ≤ totalKey b) : a.key ≤ b.key :=
  F64.key_le_of_totalKey_le h

theorem sortTotal_ascending_fle (ns : List F64) (hnan : ∀ x ∈ ns, x.isNaN = false) :
    (sortTotal ns).Pairwise fun a b => F64.fle a b = true :=
  sortTotal_sorted_fle ns hnan

theorem median_odd_is_middle (ops : NumOps) (args : List Value) (ns : List F64)
    (h : aggArgs args = .ok ns) (hodd : ns.length % 2 = 1) :
    ∃ x, (sortTotal ns)[ns.length / 2]? = some x ∧ x ∈ ns ∧
      callPure ops "median" args = some (.ok (.num x)) := by
  have hne : ns ≠ [] := by intro h0; subst h0; simp at hodd
  have hl := sortTotal_length ns
  obtain ⟨x, h1, h2⟩ := medianOf_odd ops (sortTotal ns) (by rw [hl]; exact hodd)
  rw [hl] at h1
  refine ⟨x, h1, mem_sortTotal.mp (List.mem_of_getElem? h1), ?_⟩
  rw [callPure_median, aggThen_of_ok h hne, h2]

theorem median_even_is_mean_of_middle (ops : NumOps) (args : List Value) (ns : List F64)
    (h : aggArgs args = .ok ns) (hne : ns ≠ []) (heven : ns.length % 2 = 0) :
    ∃ a b, (sortTotal ns)[ns.length / 2 - 1]? = some a ∧ (sortTotal ns)[ns.length / 2]? = some b ∧
      a ∈ ns ∧ b ∈ ns ∧ totalKey a ≤ totalKey b ∧
      callPure ops "median" args = some (.ok (.num (ops.div (ops.add a b) f64Two))) := by
  have hl := sortTotal_length ns
  have hne' : sortTotal ns ≠ [] := by
    intro h0; exact hne (List.length_eq_zero_iff.mp (by rw [← hl, h0]; rfl))
  obtain ⟨a, b, h1, h2, h3⟩ := medianOf_even ops (sortTotal ns) (by rw [hl]; exact heven) hne'
  rw [hl] at h1 h2
  refine ⟨a, b, h1, h2, mem_sortTotal.mp (List.mem_of_getElem? h1),
    mem_sortTotal.mp (List.mem_of_getElem? h2),
    sortTotal_getElem_le ns (Nat.sub_le _ _) h1 h2, ?_⟩
  rw [callPure_median, aggThen_of_ok h hne, h3]

/-- assumed (`hidx`): the float index computation of `ops` stays in range -/
theorem percentile_is_member (ops : NumOps) (L : List Value) (p : F64) (ns : List F64)
    (hL : numList L = .ok ns) (hne : ns ≠ [])
    (hp : F64.fle F64.zero p = true ∧ F64.fle p hundred = true)
    (hidx : (ops.round (ops.mul (ops.div p hundred) (F64.ofNat (ns.length - 1)))).toU64 < ns.length) :
    ∃ x, callPure ops "percentile" [.list L, .num p] = some (.ok (.num x)) ∧
      (sortTotal ns)[(ops.round (ops.mul (ops.div p hundred) (F64.ofNat (ns.length - 1)))).toU64]?
        = some x ∧ x ∈ ns := by
  obtain ⟨x, h1, h2⟩ := pctOf_of_lt ops p ns hidx
  refine ⟨x, ?_, h1, mem_sortTotal.mp (List.mem_of_getElem? h1)⟩
  have hemp : ns.isEmpty = false := by cases ns with | nil => exact absurd rfl hne | cons _ _ => rfl
  rw [callPure_percentile, hL]
  simp only [hp.1, hp.2, Bool.and_self, Bool.not_true, Bool.false_eq_true, if_false, Outcome.bind,
    hemp, h2]

/-- the complementary case: an index out of range is the Rust panic `nums[index]` -/
theorem percentile_index_out_of_range_panics (ops : NumOps) (L : List Value) (p : F64) (ns : List F64)
    (hL : numList L = .ok ns) (hne : ns ≠ [])
    (hp : F64.fle F64.zero p = true ∧ F64.fle p hundred = true)
    (hidx : ns.length ≤ (ops.round (ops.mul (ops.div p hundred) (F64.ofNat (ns.length - 1)))).toU64) :
    callPure ops "percentile" [.list L, .num p] = some (.panic "nums[index] in percentile") := by
  have h2 := pctOf_of_ge ops p ns hidx
  have hemp : ns.isEmpty = false := by cases ns with | nil => exact absurd rfl hne | cons _ _ => rfl
  rw [callPure_percentile, hL]
  simp only [hp.1, hp.2, Bool.and_self, Bool.not_true, Bool.false_eq_true, if_false, Outcome.bind,
    hemp, h2]

theorem percentile_guards (ops : NumOps) (L : List Value) (p : F64) :
    ((F64.fle F64.zero p && F64.fle p hundred) = false →
      callPure ops "percentile" [.list L, .num p] = some (.err .domain)) ∧
    ((F64.fle F64.zero p && F64.fle p hundred) = true → L = [] →
      callPure ops "percentile" [.list L, .num p] = some (.err .domain)) ∧
    ((F64.fle F64.zero p && F64.fle p hundred) = true → (∃ v, v ∈ L ∧ ∀ x, v ≠ .num x) →
      callPure ops "percentile" [.list L, .num p] = some (.err .type_)) := by
  refine ⟨fun h => ?_, fun h h0 => ?_, fun h ⟨v, hv, hn⟩ => ?_⟩
  · rw [callPure_percentile, h]; rfl
  · rw [callPure_percentile, h, h0]; rfl
  · rw [callPure_percentile, h, numList_err_of_mem L v hv hn]; rfl

theorem percentile_monotone_of_index (ops : NumOps) (L : List Value) (p q : F64) (ns : List F64)
    (hL : numList L = .ok ns) (hne : ns ≠ [])
    (hp : F64.fle F64.zero p = true ∧ F64.fle p hundred = true)
    (hq : F64.fle F64.zero q = true ∧ F64.fle q hundred = true)
    (hpq : (ops.round (ops.mul (ops.div p hundred) (F64.ofNat (ns.length - 1)))).toU64 ≤
           (ops.round (ops.mul (ops.div q hundred) (F64.ofNat (ns.length - 1)))).toU64)
    (hidx : (ops.round (ops.mul (ops.div q hundred) (F64.ofNat (ns.length - 1)))).toU64 < ns.length) :
    ∃ x y, callPure ops "percentile" [.list L, .num p] = some (.ok (.num x)) ∧
      callPure ops "percentile" [.list L, .num q] = some (.ok (.num y)) ∧
      totalKey x ≤ totalKey y ∧ ((∀ z ∈ ns, z.isNaN = false) → F64.fle x y = true) := by
  obtain ⟨x, h1, h2, h3⟩ := percentile_is_member ops L p ns hL hne hp (by omega)
  obtain ⟨y, g1, g2, g3⟩ := percentile_is_member ops L q ns hL hne hq hidx
  have hle := sortTotal_getElem_le ns hpq h2 g2
  exact ⟨x, y, h1, g1, hle, fun hnan => F64.fle_of_totalKey_le (hnan x h3) (hnan y g3) hle⟩

/-- `percentile(L, p)` is non-decreasing in `p`, for every `ops` whose `/ 100`, `* c` (`c ≥ 0`)
    and `round` are monotone for IEEE `<=` (explicit hypotheses; the cast `as usize` is monotone
    by `F64.toU64_mono`), and at most 2^53 numbers (so that `(n-1) as f64 ≥ 0` is exact). -/
theorem percentile_monotone (ops : NumOps) (L : List Value) (p q : F64) (ns : List F64)
    (hdiv : ∀ a b, F64.fle a b = true → F64.fle (ops.div a hundred) (ops.div b hundred) = true)
    (hmul : ∀ a b c, F64.fle a b = true → F64.fle F64.zero c = true →
      F64.fle (ops.mul a c) (ops.mul b c) = true)
    (hround : ∀ a b, F64.fle a b = true → F64.fle (ops.round a) (ops.round b) = true)
    (hL : numList L = .ok ns) (hlen : ns.length ≤ 2 ^ 53)
    (h0p : F64.fle F64.zero p = true) (hpq : F64.fle p q = true) (hq100 : F64.fle q hundred = true)
    (x y : F64) (hx : callPure ops "percentile" [.list L, .num p] = some (.ok (.num x)))
    (hy : callPure ops "percentile" [.list L, .num q] = some (.ok (.num y))) :
    totalKey x ≤ totalKey y ∧ ((∀ z ∈ ns, z.isNaN = false) → F64.fle x y = true) := by
  have hp : F64.fle F64.zero p = true ∧ F64.fle p hundred = true := ⟨h0p, F64.fle_trans hpq hq100⟩
  have hq : F64.fle F64.zero q = true ∧ F64.fle q hundred = true := ⟨F64.fle_trans h0p hpq, hq100⟩
  have hne : ns ≠ [] := by
    intro h0
    have hg := (percentile_guards ops L q).2.1 (by simp [hq.1, hq.2])
      ((numList_ok_iff L ns).mp hL ▸ by rw [h0]; rfl)
    rw [hg] at hy
    injection hy with hy
    cases hy
  have hidx : (ops.round (ops.mul (ops.div q hundred) (F64.ofNat (ns.length - 1)))).toU64 < ns.length := by
    apply Nat.lt_of_not_le
    intro hge
    rw [percentile_index_out_of_range_panics ops L q ns hL hne hq hge] at hy
    injection hy with hy
    cases hy
  have hmono := hround _ _ (hmul _ _ (F64.ofNat (ns.length - 1)) (hdiv p q hpq)
    (F64.fle_zero_ofNat _ (by have := List.length_pos_iff.mpr hne; omega)))
  have hm := (F64.fle_iff _ _).mp hmono
  obtain ⟨x', y', h1, h2, h3, h4⟩ := percentile_monotone_of_index ops L p q ns hL hne hp hq
    (F64.toU64_mono hm.1 hm.2.1 hm.2.2) hidx
  rw [h1] at hx
  rw [h2] at hy
  injection hx with hx; injection hx with hx; injection hx with hx
  injection hy with hy; injection hy with hy; injection hy with hy
  subst hx; subst hy
  exact ⟨h3, h4⟩

/-- `percentile(L, 0)` is least for `total_cmp`, hence equal to `min(L)` up to IEEE `==` when
    there is no NaN.  Assumed of `ops`: `0/100`, `0 * (n-1)`, `round 0` are bit-exactly `+0.0`. -/
theorem percentile_0_is_min (ops : NumOps) (L : List Value) (ns : List F64)
    (hL : numList L = .ok ns) (hne : ns ≠ [])
    (hdiv : ops.div F64.zero hundred = F64.zero)
    (hmul : ops.mul F64.zero (F64.ofNat (ns.length - 1)) = F64.zero)
    (hround : ops.round F64.zero = F64.zero) :
    ∃ x, callPure ops "percentile" [.list L, .num F64.zero] = some (.ok (.num x)) ∧
      (sortTotal ns)[0]? = some x ∧ x ∈ ns ∧ (∀ y ∈ ns, totalKey x ≤ totalKey y) ∧
      ((∀ y ∈ ns, y.isNaN = false) →
        (∀ y ∈ ns, F64.fle x y = true) ∧
        ∃ m, callPure ops "min" [.list L] = some (.ok (.num m)) ∧ F64.feq x m = true) := by
  have hidx : (ops.round (ops.mul (ops.div F64.zero hundred) (F64.ofNat (ns.length - 1)))).toU64 = 0 := by
    rw [hdiv, hmul, hround, F64.toU64_zero]
  have hpos : 0 < ns.length := List.length_pos_iff.mpr hne
  obtain ⟨x, h1, h2, h3⟩ := percentile_is_member ops L F64.zero ns hL hne
    ⟨by decide, by decide +kernel⟩ (by rw [hidx]; exact hpos)
  rw [hidx] at h2
  have hleast : ∀ y ∈ ns, totalKey x ≤ totalKey y := by
    intro y hy
    obtain ⟨j, hj⟩ := List.mem_iff_getElem?.mp (mem_sortTotal.mpr hy)
    exact sortTotal_getElem_le ns (Nat.zero_le j) h2 hj
  refine ⟨x, h1, h2, h3, hleast, fun hnan => ?_⟩
  have hfle : ∀ y ∈ ns, F64.fle x y = true := fun y hy =>
    F64.fle_of_totalKey_le (hnan x h3) (hnan y hy) (hleast y hy)
  refine ⟨hfle, ?_⟩
  obtain ⟨m, hm1, hm2, hm3⟩ := min_bound_and_member ops [.list L] ns (by rw [aggArgs_list, hL]) hne hnan
  refine ⟨m, hm1, ?_⟩
  have a1 := (F64.fle_iff _ _).mp (hfle m hm2)
  have a2 := (F64.fle_iff _ _).mp (hm3 x h3)
  have : x.key = m.key := by omega
  simp [F64.feq, a1.1, a1.2.1, this]

/-- Assumed of `ops`: `100/100 = 1`, `1 * (n-1) = (n-1)`, `round (n-1) = (n-1)` on the double
    `(n-1) as f64`; and at most 2^53 numbers (so that `(n-1) as f64 as usize = n-1`,
    `F64.toU64_ofNat`). -/
theorem percentile_100_is_max (ops : NumOps) (L : List Value) (ns : List F64)
    (hL : numList L = .ok ns) (hne : ns ≠ []) (hlen : ns.length ≤ 2 ^ 53)
    (hdiv : ops.div hundred hundred = F64.one)
    (hmul : ops.mul F64.one (F64.ofNat (ns.length - 1)) = F64.ofNat (ns.length - 1))
    (hround : ops.round (F64.ofNat (ns.length - 1)) = F64.ofNat (ns.length - 1)) :
    ∃ x, callPure ops "percentile" [.list L, .num hundred] = some (.ok (.num x)) ∧
      (sortTotal ns)[ns.length - 1]? = some x ∧ x ∈ ns ∧ (∀ y ∈ ns, totalKey y ≤ totalKey x) ∧
      ((∀ y ∈ ns, y.isNaN = false) →
        (∀ y ∈ ns, F64.fle y x = true) ∧
        ∃ m, callPure ops "max" [.list L] = some (.ok (.num m)) ∧ F64.feq x m = true) := by
  have hpos : 0 < ns.length := List.length_pos_iff.mpr hne
  have hidx : (ops.round (ops.mul (ops.div hundred hundred) (F64.ofNat (ns.length - 1)))).toU64
      = ns.length - 1 := by
    rw [hdiv, hmul, hround, F64.toU64_ofNat _ (by omega)]
  obtain ⟨x, h1, h2, h3⟩ := percentile_is_member ops L hundred ns hL hne
    ⟨by decide +kernel, by decide +kernel⟩ (by rw [hidx]; omega)
  rw [hidx] at h2
  have hgreatest : ∀ y ∈ ns, totalKey y ≤ totalKey x := by
    intro y hy
    obtain ⟨j, hj⟩ := List.mem_iff_getElem?.mp (mem_sortTotal.mpr hy)
    have hjlt : j < (sortTotal ns).length := (List.getElem?_eq_some_iff.mp hj).1
    rw [sortTotal_length] at hjlt
    exact sortTotal_getElem_le ns (by omega) hj h2
  refine ⟨x, h1, h2, h3, hgreatest, fun hnan => ?_⟩
  have hfle : ∀ y ∈ ns, F64.fle y x = true := fun y hy =>
    F64.fle_of_totalKey_le (hnan y hy) (hnan x h3) (hgreatest y hy)
  refine ⟨hfle, ?_⟩
  obtain ⟨m, hm1, hm2, hm3⟩ := max_bound_and_member ops [.list L] ns (by rw [aggArgs_list, hL]) hne hnan
  refine ⟨m, hm1, ?_⟩
  have a1 := (F64.fle_iff _ _).mp (hfle m hm2)
  have a2 := (F64.fle_iff _ _).mp (hm3 x h3)
  have : x.key = m.key := by omega
  simp [F64.feq, a1.1, a1.2.1, this]

theorem usize_f64_round_trip (k : Nat) (hk : k < 2 ^ 53) : (F64.ofNat k).toU64 = k :=
  F64.toU64_ofNat k hk

theorem totalKey_injective (a b : F64) (h : totalKey a = totalKey b) : a = b :=
  F64.totalKey_inj h

/-- `total_cmp` distinguishes all bit patterns, so the sorted arrangement depends on the multiset
    only -/
theorem sortTotal_perm_invariant (ns ms : List F64) (h : ns.Perm ms) : sortTotal ns = sortTotal ms :=
  sortTotal_eq_of_perm h

theorem median_permutation_invariant (ops : NumOps) (L M : List Value) (h : L.Perm M) :
    callPure ops "median" [.list L] = callPure ops "median" [.list M] ∧
    callPure ops "median" L = callPure ops "median" M := by
  have hf : ∀ ns ms : List F64, ns.Perm ms →
      medianOf ops (sortTotal ns) = medianOf ops (sortTotal ms) :=
    fun ns ms hp => by rw [sortTotal_eq_of_perm hp]
  rw [callPure_median, callPure_median, callPure_median, callPure_median]
  exact ⟨congrArg some (aggThen_perm_exact (aggPerm_list h) _ hf),
    congrArg some (aggThen_perm_exact (aggPerm_varargs h) _ hf)⟩

theorem percentile_permutation_invariant (ops : NumOps) (L M : List Value) (p : F64) (h : L.Perm M) :
    callPure ops "percentile" [.list L, .num p] = callPure ops "percentile" [.list M, .num p] := by
  rw [callPure_percentile, callPure_percentile]
  congr 1
  split
  · rfl
  · rcases numList_perm h with ⟨ns, ms, h1, h2, hp⟩ | ⟨h1, h2⟩
    · have hl : ns.isEmpty = ms.isEmpty := by
        cases ns with
        | nil => rw [hp.symm.eq_nil]
        | cons x xs =>
          cases ms with
          | nil => exact absurd hp.eq_nil (by simp)
          | cons _ _ => rfl
      simp only [h1, h2, Outcome.bind, hl, pctOf, sortTotal_eq_of_perm hp]
    · rw [h1, h2]

/-- `min` / `max` of a permuted argument list: same failure, or results that are IEEE-equal
    (`==`).  Bit-exact equality fails through the sign of zero
    (`min_sign_of_zero_depends_on_order`). -/
theorem min_max_permutation_invariant (ops : NumOps) (name : String) (hname : name ∈ ["min", "max"])
    (L M : List Value) (h : L.Perm M) (a b : List Value)
    (hab : (a = [.list L] ∧ b = [.list M]) ∨ (a = L ∧ b = M)) :
    (∃ x y, callPure ops name a = some (.ok (.num x)) ∧ callPure ops name b = some (.ok (.num y)) ∧
      F64.feq x y = true) ∨
    (∃ k, callPure ops name a = some (.err k) ∧ callPure ops name b = some (.err k)) := by
  have hperm : AggPerm a b := by
    rcases hab with ⟨rfl, rfl⟩ | ⟨rfl, rfl⟩
    · exact aggPerm_list h
    · exact aggPerm_varargs h
  simp only [List.mem_cons, List.not_mem_nil, or_false] at hname
  rcases hname with rfl | rfl
  · rw [callPure_min, callPure_min]
    rcases aggThen_of_aggPerm hperm (fun ns => ns.foldl fmin F64.inf) with
      ⟨ns, ms, hp, h1, h2⟩ | ⟨k, h1, h2⟩
    · exact .inl ⟨_, _, congrArg some h1, congrArg some h2, foldl_fmin_perm hp⟩
    · exact .inr ⟨k, congrArg some h1, congrArg some h2⟩
  · rw [callPure_max, callPure_max]
    rcases aggThen_of_aggPerm hperm (fun ns => ns.foldl fmax F64.negInf) with
      ⟨ns, ms, hp, h1, h2⟩ | ⟨k, h1, h2⟩
    · exact .inl ⟨_, _, congrArg some h1, congrArg some h2, foldl_fmax_perm hp⟩
    · exact .inr ⟨k, congrArg some h1, congrArg some h2⟩

/-- `fmin` keeps its first operand on IEEE-equal operands -/
theorem min_sign_of_zero_depends_on_order (ops : NumOps) :
    callPure ops "min" [.num F64.zero, .num F64.negZero] = some (.ok (.num F64.zero)) ∧
    callPure ops "min" [.num F64.negZero, .num F64.zero] = some (.ok (.num F64.negZero)) ∧
    F64.zero ≠ F64.negZero := by
  have h1 : [F64.zero, F64.negZero].foldl fmin F64.inf = F64.zero := by decide
  have h2 : [F64.negZero, F64.zero].foldl fmin F64.inf = F64.negZero := by decide
  refine ⟨?_, ?_, by decide⟩
  · rw [callPure_min, aggThen_of_ok (ns := [F64.zero, F64.negZero]) rfl (by simp), h1]
  · rw [callPure_min, aggThen_of_ok (ns := [F64.negZero, F64.zero]) rfl (by simp), h2]

/-- the bit-exact version of permutation invariance for `min` (false in the model, and on
    the real binary: `min(0, -0)` prints `0.0`, `min(-0, 0)` prints `-0.0`) -/
def min_exact_permutation_invariance_statement : Prop :=
  ∀ (ops : NumOps) (L M : List Value), L.Perm M → callPure ops "min" L = callPure ops "min" M

theorem min_exact_permutation_invariance_fails : ¬ min_exact_permutation_invariance_statement := by
  intro h
  obtain ⟨h1, h2, h3⟩ := min_sign_of_zero_depends_on_order intOps
  have := h intOps [.num F64.zero, .num F64.negZero] [.num F64.negZero, .num F64.zero]
    (List.Perm.swap _ _ _)
  rw [h1, h2] at this
  injection this with this
  injection this with this
  injection this with this
  exact h3 this

/-! `sum`, `avg`, `prod` up to rounding: error bounds under the standard model.

  `RoundingModel ops u` (Lemmas/Rounding.lean) is Higham's model (2.4):
  `fl(a op b) = (a op b)(1 + δ)`, `|δ| ≤ u`, for `+ × /` on finite operands whenever the
  computed result is finite and (for `× /`) the exact result did not underflow.  `x.toRat` is
  the exact rational value of a finite double; `exactSum ns = Σ xᵢ`, `exactAbsSum ns = Σ |xᵢ|`,
  `exactProd ns = Π xᵢ` in ℚ.  The accumulated factor is written `(1+u)^n − 1` (it is `≤ γₙ =
  n·u/(1 − n·u)` when `n·u < 1`; for `n = 50`, `u = 2^-53`: `< 5.6e-15`).  The exponent is `n`,
  not `n − 1`, because the model's fold starts with `-0.0 + x₁` / `1.0 × x₁`, which the abstract
  model does not know to be exact.

  Side conditions, each needed:
  * `PartialsFinite f a ns`: operands and every partial result finite.  Overflow:
    `sum(1.7e308, 1.7e308, -1.7e308)` is `inf` in one order and `1.7e308` in another.
  * `PartialProductsNoUnderflow` (prod) / `NoUnderflow (s / n)` (avg): no exact product /
    quotient lands strictly between `0` and the smallest normal double `2^-1022`.  Underflow:
    `prod(5e-324, 0.5, 2)` is `0` (`5e-324 × 0.5` rounds to `0`) while `prod(2, 5e-324, 0.5)`
    is `5e-324`, and the exact product is `4.9e-324`: relative error `1` whatever `n`
    (`underflow_breaks_relative_model`).  Sums need no such condition (IEEE addition is exact
    in the subnormal range).
  * `ns.length < 2^53` (avg): the count converts to a double exactly. -/

/-- both conventions: any `args` that hands `ns` to the aggregate (`numbers_of_both_conventions`) -/
theorem sum_error_bound (ops : NumOps) (u : ℚ) (M : RoundingModel ops u)
    (args : List Value) (ns : List F64) (h : aggArgs args = .ok ns) (hne : ns ≠ [])
    (hfin : PartialsFinite ops.add F64.negZero ns) :
    ∃ s, callPure ops "sum" args = some (.ok (.num s)) ∧ s.isFinite = true ∧
      |s.toRat - exactSum ns| ≤ ((1 + u) ^ ns.length - 1) * exactAbsSum ns :=
  ⟨_, (sum_prod_avg_are_left_folds ops args ns h hne).1, hfin.result, sum_error M ns hfin⟩

/-- the property's "invariant under permutation up to rounding", made exact -/
theorem sum_permutation_invariant_up_to_rounding (ops : NumOps) (u : ℚ) (M : RoundingModel ops u)
    (ns ms : List F64) (hp : ns.Perm ms) (hne : ns ≠ [])
    (h1 : PartialsFinite ops.add F64.negZero ns) (h2 : PartialsFinite ops.add F64.negZero ms)
    (a b : List Value) (ha : aggArgs a = .ok ns) (hb : aggArgs b = .ok ms) :
    ∃ s t, callPure ops "sum" a = some (.ok (.num s)) ∧ callPure ops "sum" b = some (.ok (.num t)) ∧
      |s.toRat - t.toRat| ≤ 2 * ((1 + u) ^ ns.length - 1) * exactAbsSum ns := by
  have hne' : ms ≠ [] := fun h0 => hne (by rw [h0] at hp; exact hp.eq_nil)
  exact ⟨_, _, (sum_prod_avg_are_left_folds ops a ns ha hne).1,
    (sum_prod_avg_are_left_folds ops b ms hb hne').1, sum_perm_error M hp h1 h2⟩

/-- one more rounding than `sum`: the division by the count -/
theorem avg_error_bound (ops : NumOps) (u : ℚ) (M : RoundingModel ops u)
    (args : List Value) (ns : List F64) (h : aggArgs args = .ok ns) (hne : ns ≠ [])
    (hlen : ns.length < 2 ^ 53)
    (hfin : PartialsFinite ops.add F64.negZero ns)
    (hdiv : (ops.div (ns.foldl ops.add F64.negZero) (F64.ofNat ns.length)).isFinite = true)
    (hnu : NoUnderflow ((ns.foldl ops.add F64.negZero).toRat / (ns.length : ℚ))) :
    ∃ m, callPure ops "avg" args = some (.ok (.num m)) ∧ m.isFinite = true ∧
      |m.toRat - exactSum ns / (ns.length : ℚ)| ≤
        ((1 + u) ^ (ns.length + 1) - 1) * exactAbsSum ns / (ns.length : ℚ) :=
  ⟨_, (sum_prod_avg_are_left_folds ops args ns h hne).2.2, hdiv,
    avg_error M ns hne hlen hfin hdiv hnu⟩

theorem avg_permutation_invariant_up_to_rounding (ops : NumOps) (u : ℚ) (M : RoundingModel ops u)
    (ns ms : List F64) (hp : ns.Perm ms) (hne : ns ≠ []) (hlen : ns.length < 2 ^ 53)
    (h1 : PartialsFinite ops.add F64.negZero ns) (h2 : PartialsFinite ops.add F64.negZero ms)
    (d1 : (ops.div (ns.foldl ops.add F64.negZero) (F64.ofNat ns.length)).isFinite = true)
    (d2 : (ops.div (ms.foldl ops.add F64.negZero) (F64.ofNat ms.length)).isFinite = true)
    (n1 : NoUnderflow ((ns.foldl ops.add F64.negZero).toRat / (ns.length : ℚ)))
    (n2 : NoUnderflow ((ms.foldl ops.add F64.negZero).toRat / (ms.length : ℚ)))
    (a b : List Value) (ha : aggArgs a = .ok ns) (hb : aggArgs b = .ok ms) :
    ∃ s t, callPure ops "avg" a = some (.ok (.num s)) ∧ callPure ops "avg" b = some (.ok (.num t)) ∧
      |s.toRat - t.toRat| ≤
        2 * (((1 + u) ^ (ns.length + 1) - 1) * exactAbsSum ns / (ns.length : ℚ)) := by
  have hne' : ms ≠ [] := fun h0 => hne (by rw [h0] at hp; exact hp.eq_nil)
  obtain ⟨s, hs, _, es⟩ := avg_error_bound ops u M a ns ha hne hlen h1 d1 n1
  obtain ⟨t, ht, _, et⟩ := avg_error_bound ops u M b ms hb hne' (by rw [← hp.length_eq]; exact hlen)
    h2 d2 n2
  rw [← hp.length_eq, ← exactSum_perm hp, ← exactAbsSum_perm hp] at et
  exact ⟨s, t, hs, ht, by rw [two_mul]; exact Rounding.abs_sub_le_add es et⟩

theorem prod_error_bound (ops : NumOps) (u : ℚ) (M : RoundingModel ops u)
    (args : List Value) (ns : List F64) (h : aggArgs args = .ok ns) (hne : ns ≠ [])
    (hfin : PartialsFinite ops.mul F64.one ns)
    (hnu : PartialProductsNoUnderflow ops F64.one ns) :
    ∃ p, callPure ops "prod" args = some (.ok (.num p)) ∧ p.isFinite = true ∧
      |p.toRat - exactProd ns| ≤ ((1 + u) ^ ns.length - 1) * |exactProd ns| :=
  ⟨_, (sum_prod_avg_are_left_folds ops args ns h hne).2.1, hfin.result, prod_error M ns hfin hnu⟩

theorem prod_permutation_invariant_up_to_rounding (ops : NumOps) (u : ℚ) (M : RoundingModel ops u)
    (ns ms : List F64) (hp : ns.Perm ms) (hne : ns ≠ [])
    (h1 : PartialsFinite ops.mul F64.one ns) (n1 : PartialProductsNoUnderflow ops F64.one ns)
    (h2 : PartialsFinite ops.mul F64.one ms) (n2 : PartialProductsNoUnderflow ops F64.one ms)
    (a b : List Value) (ha : aggArgs a = .ok ns) (hb : aggArgs b = .ok ms) :
    ∃ s t, callPure ops "prod" a = some (.ok (.num s)) ∧ callPure ops "prod" b = some (.ok (.num t)) ∧
      |s.toRat - t.toRat| ≤ 2 * ((1 + u) ^ ns.length - 1) * |exactProd ns| := by
  have hne' : ms ≠ [] := fun h0 => hne (by rw [h0] at hp; exact hp.eq_nil)
  exact ⟨_, _, (sum_prod_avg_are_left_folds ops a ns ha hne).2.1,
    (sum_prod_avg_are_left_folds ops b ms hb hne').2.1, prod_perm_error M hp h1 n1 h2 n2⟩

/-- Higham, Lemma 3.1: the factor of the bounds above is at most `γₙ` -/
theorem rounding_factor_le_gamma (u : ℚ) (hu : 0 ≤ u) (n : ℕ) (hn : (n : ℚ) * u < 1) :
    (1 + u) ^ n - 1 ≤ (n : ℚ) * u / (1 - (n : ℚ) * u) :=
  Rounding.E_le_gamma hu n hn

/-- "up to rounding" cannot be dropped: there are primitives satisfying the standard model
    (`guardedOps`: correct rounding by `F64.ofRatio`, `u = 2^-53`) for which
    `sum(0.1, 0.2, 0.3) = 0.6000000000000001` and `sum(0.3, 0.2, 0.1) = 0.6` (as on the real
    binary), and likewise `prod` -/
theorem sum_order_matters_under_model :
    ∃ (ops : NumOps) (u : ℚ), RoundingModel ops u ∧ ∃ ns ms : List F64, ns.Perm ms ∧
      callPure ops "sum" (ns.map .num) ≠ callPure ops "sum" (ms.map .num) ∧
      callPure ops "prod" (ns.map .num) ≠ callPure ops "prod" (ms.map .num) := by
  refine ⟨guardedOps, u64, guardedOps_model, [dbl01, dbl02, dbl03], [dbl03, dbl02, dbl01],
    by decide, ?_, ?_⟩
  · have h1 : [dbl01, dbl02, dbl03].foldl guardedOps.add F64.negZero =
        F64.ofNatBits 0x3FE3333333333334 := by decide +kernel
    have h2 : [dbl03, dbl02, dbl01].foldl guardedOps.add F64.negZero =
        F64.ofNatBits 0x3FE3333333333333 := by decide +kernel
    rw [callPure_sum, callPure_sum, aggThen_of_ok (aggArgs_map_num _) (by simp),
      aggThen_of_ok (aggArgs_map_num _) (by simp), h1, h2]
    intro h
    injection h with h; injection h with h; injection h with h
    exact absurd h (by decide)
  · have h1 : [dbl01, dbl02, dbl03].foldl guardedOps.mul F64.one =
        F64.ofNatBits 0x3F789374BC6A7EFB := by decide +kernel
    have h2 : [dbl03, dbl02, dbl01].foldl guardedOps.mul F64.one =
        F64.ofNatBits 0x3F789374BC6A7EFA := by decide +kernel
    rw [callPure_prod, callPure_prod, aggThen_of_ok (aggArgs_map_num _) (by simp),
      aggThen_of_ok (aggArgs_map_num _) (by simp), h1, h2]
    intro h
    injection h with h; injection h with h; injection h with h
    exact absurd h (by decide)

/-- why `NoUnderflow` is in the model for `×` (and `/`): the correctly rounded product of the
    finite doubles `5e-324 = 2^-1074` and `0.5` is the finite double `0`, while the exact
    product `2^-1075` is not `0`; no `δ` with `|δ| ≤ u < 1` can give
    `fl(a × b) = (a × b)(1 + δ)`.  (Correct rounding = `roundRat`, i.e. `F64.ofRatio`.) -/
theorem underflow_breaks_relative_model :
    dblTiny.isFinite = true ∧ dblHalf.isFinite = true ∧
    dblTiny.toRat * dblHalf.toRat = 1 / 2 ^ 1075 ∧ ¬ NoUnderflow (dblTiny.toRat * dblHalf.toRat) ∧
    roundRat (dblTiny.toRat * dblHalf.toRat) = F64.zero ∧
    ∀ u δ : ℚ, u < 1 → |δ| ≤ u →
      (roundRat (dblTiny.toRat * dblHalf.toRat)).toRat ≠ dblTiny.toRat * dblHalf.toRat * (1 + δ) := by
  have hq : dblTiny.toRat * dblHalf.toRat = 1 / 2 ^ 1075 := by decide +kernel
  have hr : roundRat (dblTiny.toRat * dblHalf.toRat) = F64.zero := by decide +kernel
  refine ⟨by decide, by decide, hq, by unfold NoUnderflow; decide +kernel, hr, fun u δ hu hδ h => ?_⟩
  rw [hr, F64.toRat_zero, hq] at h
  have h1 : (1 : ℚ) + δ = 0 := by
    rcases mul_eq_zero.mp h.symm with h0 | h0
    · exact absurd h0 (by positivity)
    · exact h0
  have h2 := (abs_le.mp hδ).1
  linarith

/-! #### examples: hypotheses are satisfiable, concrete runs with the toy `ops` -/

-- `conventions_agree`: a two-element list with a non-number (both sides are type errors)
example : callPure intOps "sum" [.list [.num int1, .bool true]] = callPure intOps "sum" [.num int1, .bool true] :=
  conventions_agree intOps "sum" (by simp) [.num int1, .bool true] (by decide)
-- `conventions_agree_single` / `lone_non_number_is_type_error`: `v = true`
example : callPure intOps "avg" [.list [.bool true]] = callPure intOps "avg" [.bool true] :=
  conventions_agree_single intOps "avg" (by simp) (.bool true) (fun _ h => by cases h)
example : callPure intOps "prod" [.bool true] = some (.err .type_) :=
  lone_non_number_is_type_error intOps "prod" (by simp) (.bool true) (fun _ h => by cases h) (fun _ h => by cases h)
-- `non_number_member_is_type_error`
example : callPure intOps "max" [.list [.num int1, .null]] = some (.err .type_) :=
  (non_number_member_is_type_error intOps "max" (by simp) [.num int1, .null] .null (by simp)
    (fun _ h => by cases h)).1
-- the one-element exception: `min([[1]])` is a type error while `min([1]) = 1`
example : callPure intOps "min" [.list [.list [.num int1]]] = some (.err .type_) ∧
    callPure intOps "min" [.list [.num int1]] = some (.ok (.num int1)) := by
  refine ⟨nested_singleton_is_type_error intOps "min" (by simp) _, ?_⟩
  have h : [int1].foldl fmin F64.inf = int1 := by decide
  rw [callPure_min, aggThen_of_ok (ns := [int1]) rfl (by simp), h]

-- `min_bound_and_member` / `max_bound_and_member` on `[3, 1, 2]`: hypotheses hold, result `1` / `3`
example : aggArgs [.list [.num int3, .num int1, .num int2]] = .ok [int3, int1, int2] ∧
    [int3, int1, int2] ≠ [] ∧ (∀ x ∈ [int3, int1, int2], x.isNaN = false) :=
  ⟨rfl, by simp, by decide⟩
example : callPure intOps "min" [.num int3, .num int1, .num int2] = some (.ok (.num int1)) := by
  have h : [int3, int1, int2].foldl fmin F64.inf = int1 := by decide
  rw [callPure_min, aggThen_of_ok (ns := [int3, int1, int2]) rfl (by simp), h]
example : callPure intOps "max" [.list [.num int3, .num int1, .num int2]] = some (.ok (.num int3)) := by
  have h : [int3, int1, int2].foldl fmax F64.negInf = int3 := by decide
  rw [callPure_max, aggThen_of_ok (ns := [int3, int1, int2]) rfl (by simp), h]
-- `min_ignores_nan`: `min(NaN, 2) = 2`, `min(NaN) = inf`
example : callPure intOps "min" [.num F64.nan, .num int2] = some (.ok (.num int2)) := by
  have h : [F64.nan, int2].foldl fmin F64.inf = int2 := by decide
  rw [callPure_min, aggThen_of_ok (ns := [F64.nan, int2]) rfl (by simp), h]
example : callPure intOps "min" [.num F64.nan] = some (.ok (.num F64.inf)) := by
  have h : [F64.nan].foldl fmin F64.inf = F64.inf := by decide
  rw [callPure_min, aggThen_of_ok (ns := [F64.nan]) rfl (by simp), h]

-- `avg_is_sum_div_count`: `sum(1, 2) = 3` with the toy ops, so `avg(1, 2) = 3 / 2`
example : callPure intOps "sum" [.num int1, .num int2] = some (.ok (.num int3)) := by
  have h : [int1, int2].foldl intOps.add F64.negZero = int3 := by decide +kernel
  rw [callPure_sum, aggThen_of_ok (ns := [int1, int2]) rfl (by simp), h]
-- `avg_fails_like_sum`: `sum([]) ` is a domain error
example : callPure intOps "sum" [.list []] = some (.err .domain) := rfl

-- `median_odd_is_middle` on `[3, 1, 2]` (median 2) and `median_even_is_mean_of_middle` on `[3, 1]`
example : aggArgs [.num int3, .num int1, .num int2] = .ok [int3, int1, int2] ∧
    [int3, int1, int2].length % 2 = 1 := ⟨rfl, rfl⟩
example : callPure intOps "median" [.num int3, .num int1, .num int2] = some (.ok (.num int2)) := by
  have h : medianOf intOps (sortTotal [int3, int1, int2]) = int2 := by decide +kernel
  rw [callPure_median, aggThen_of_ok (ns := [int3, int1, int2]) rfl (by simp), h]
example : aggArgs [.list [.num int3, .num int1]] = .ok [int3, int1] ∧ [int3, int1] ≠ [] ∧
    [int3, int1].length % 2 = 0 := ⟨rfl, by simp, rfl⟩
example : callPure intOps "median" [.list [.num int3, .num int1]] = some (.ok (.num int2)) := by
  have h : medianOf intOps (sortTotal [int3, int1]) = int2 := by decide +kernel
  rw [callPure_median, aggThen_of_ok (ns := [int3, int1]) rfl (by simp), h]

-- `percentile_is_member`: the index hypothesis holds for the toy ops, `p = 100`, three numbers
example : numList [.num int3, .num int1, .num int2] = .ok [int3, int1, int2] ∧
    F64.fle F64.zero hundred = true ∧ F64.fle hundred hundred = true ∧
    (intOps.round (intOps.mul (intOps.div hundred hundred) (F64.ofNat ([int3, int1, int2].length - 1)))).toU64
      < [int3, int1, int2].length :=
  ⟨rfl, by decide +kernel, by decide +kernel, by decide +kernel⟩
-- `percentile_index_out_of_range_panics`: an `ops` whose `round` returns `+inf` violates it
example : [int1].length ≤
    ({ intOps with round := fun _ => F64.inf }.round
      ({ intOps with round := fun _ => F64.inf }.mul
        ({ intOps with round := fun _ => F64.inf }.div F64.zero hundred) (F64.ofNat ([int1].length - 1)))).toU64 := by
  decide +kernel
-- `percentile_0_is_min`: the three facts about `ops` hold for the toy ops (three numbers)
example : intOps.div F64.zero hundred = F64.zero ∧
    intOps.mul F64.zero (F64.ofNat ([int3, int1, int2].length - 1)) = F64.zero ∧
    intOps.round F64.zero = F64.zero := by decide +kernel
-- `percentile_100_is_max`: likewise
example : [int3, int1, int2].length ≤ 2 ^ 53 ∧ intOps.div hundred hundred = F64.one ∧
    intOps.mul F64.one (F64.ofNat ([int3, int1, int2].length - 1)) = F64.ofNat ([int3, int1, int2].length - 1) ∧
    intOps.round (F64.ofNat ([int3, int1, int2].length - 1)) = F64.ofNat ([int3, int1, int2].length - 1) := by
  decide +kernel
-- `percentile_guards`: `p = -0.0 … ` is in range, `p = NaN` is not
example : (F64.fle F64.zero F64.nan && F64.fle F64.nan hundred) = false := by decide +kernel
-- `percentile_guards` (2nd, 3rd part) and `percentile_monotone_of_index`: `p = 0`, `q = 100` are in range;
-- with the toy ops the indices for three numbers are `0 ≤ 2 < 3`
example : (F64.fle F64.zero hundred && F64.fle hundred hundred) = true := by decide +kernel
example : (intOps.round (intOps.mul (intOps.div F64.zero hundred) (F64.ofNat ([int3, int1, int2].length - 1)))).toU64 ≤
    (intOps.round (intOps.mul (intOps.div hundred hundred) (F64.ofNat ([int3, int1, int2].length - 1)))).toU64 := by
  decide +kernel
-- `percentile_monotone`: the hypotheses hold for the (non-constant) primitives `a / _ = a`,
-- `a * _ = a`, `round a = a`, with `p = 1 ≤ q = 2` on three numbers (results `2` and `3`)
example : (∀ a b, F64.fle a b = true →
      F64.fle ({ intOps with div := fun a _ => a, mul := fun a _ => a }.div a hundred)
        ({ intOps with div := fun a _ => a, mul := fun a _ => a }.div b hundred) = true) ∧
    (∀ a b c, F64.fle a b = true → F64.fle F64.zero c = true →
      F64.fle ({ intOps with div := fun a _ => a, mul := fun a _ => a }.mul a c)
        ({ intOps with div := fun a _ => a, mul := fun a _ => a }.mul b c) = true) ∧
    (∀ a b, F64.fle a b = true →
      F64.fle ({ intOps with div := fun a _ => a, mul := fun a _ => a }.round a)
        ({ intOps with div := fun a _ => a, mul := fun a _ => a }.round b) = true) ∧
    F64.fle F64.zero int1 = true ∧ F64.fle int1 int2 = true ∧ F64.fle int2 hundred = true :=
  ⟨fun _ _ h => h, fun _ _ _ h _ => h, fun _ _ h => h, by decide, by decide, by decide +kernel⟩
set_option exponentiation.threshold 2000 in
set_option maxRecDepth 10000 in
example : callPure { intOps with div := fun a _ => a, mul := fun a _ => a } "percentile"
      [.list [.num int3, .num int1, .num int2], .num int1] = some (.ok (.num int2)) ∧
    callPure { intOps with div := fun a _ => a, mul := fun a _ => a } "percentile"
      [.list [.num int3, .num int1, .num int2], .num int2] = some (.ok (.num int3)) := by
  exact ⟨by rfl, by rfl⟩
-- a concrete run: `percentile([3, 1, 2], 100) = 3`, `percentile([3, 1, 2], 0) = 1`
set_option exponentiation.threshold 2000 in
set_option maxRecDepth 10000 in
example : callPure intOps "percentile" [.list [.num int3, .num int1, .num int2], .num hundred] =
    some (.ok (.num int3)) := by rfl
set_option exponentiation.threshold 2000 in
set_option maxRecDepth 10000 in
example : callPure intOps "percentile" [.list [.num int3, .num int1, .num int2], .num F64.zero] =
    some (.ok (.num int1)) := by rfl
-- `min_max_permutation_invariant` on the swapped pair `(+0, -0)`: results are `==`, not identical
example : ∃ x y, callPure intOps "min" [.num F64.zero, .num F64.negZero] = some (.ok (.num x)) ∧
    callPure intOps "min" [.num F64.negZero, .num F64.zero] = some (.ok (.num y)) ∧ F64.feq x y = true :=
  ⟨_, _, (min_sign_of_zero_depends_on_order intOps).1, (min_sign_of_zero_depends_on_order intOps).2.1,
    by decide⟩
-- `usize_f64_round_trip` / `totalKey_refines_key` / `totalKey_injective`
example : (F64.ofNat 2).toU64 = 2 := usize_f64_round_trip 2 (by decide)
example : totalKey F64.negZero ≤ totalKey F64.zero ∧ F64.negZero.key ≤ F64.zero.key := by decide
example : totalKey F64.one = totalKey (F64.ofNat 1) := by decide +kernel

-- permutation invariance: `[3, 1, 2]` is a permutation of `[1, 2, 3]`
example : callPure intOps "median" [.num int3, .num int1, .num int2] =
    callPure intOps "median" [.num int1, .num int2, .num int3] :=
  (median_permutation_invariant intOps [.num int3, .num int1, .num int2] [.num int1, .num int2, .num int3]
    ((List.Perm.swap _ _ _).trans ((List.Perm.swap _ _ _).cons _))).2

-- `RoundingModel` is satisfiable, with the unit roundoff of binary64 …
example : RoundingModel guardedOps (1 / 2 ^ 53) := guardedOps_model
-- … and the side conditions of the bounds hold for `[0.1, 0.2, 0.3]` in both orders
example : [dbl01, dbl02, dbl03].Perm [dbl03, dbl02, dbl01] ∧
    PartialsFinite guardedOps.add F64.negZero [dbl01, dbl02, dbl03] ∧
    PartialsFinite guardedOps.add F64.negZero [dbl03, dbl02, dbl01] ∧
    PartialsFinite guardedOps.mul F64.one [dbl01, dbl02, dbl03] ∧
    PartialsFinite guardedOps.mul F64.one [dbl03, dbl02, dbl01] ∧
    PartialProductsNoUnderflow guardedOps F64.one [dbl01, dbl02, dbl03] ∧
    PartialProductsNoUnderflow guardedOps F64.one [dbl03, dbl02, dbl01] := by
  unfold PartialsFinite PartialProductsNoUnderflow NoUnderflow
  decide +kernel
example : ([dbl01, dbl02, dbl03].length < 2 ^ 53) ∧
    (guardedOps.div ([dbl01, dbl02, dbl03].foldl guardedOps.add F64.negZero)
      (F64.ofNat [dbl01, dbl02, dbl03].length)).isFinite = true ∧
    NoUnderflow (([dbl01, dbl02, dbl03].foldl guardedOps.add F64.negZero).toRat /
      ([dbl01, dbl02, dbl03].length : ℚ)) := by
  unfold NoUnderflow
  decide +kernel
-- the bounds instantiated: `sum([0.1, 0.2, 0.3])` (one list) against `sum(0.3, 0.2, 0.1)`
-- (separate arguments): the results differ in the last bit (`sum_order_matters_under_model`)
-- and are within `2((1 + 2^-53)^3 − 1)(0.1 + 0.2 + 0.3) ≈ 4e-16` of each other
example : ∃ s t,
    callPure guardedOps "sum" [.list [.num dbl01, .num dbl02, .num dbl03]] = some (.ok (.num s)) ∧
    callPure guardedOps "sum" [.num dbl03, .num dbl02, .num dbl01] = some (.ok (.num t)) ∧
    |s.toRat - t.toRat| ≤ 2 * ((1 + u64) ^ 3 - 1) * exactAbsSum [dbl01, dbl02, dbl03] :=
  sum_permutation_invariant_up_to_rounding guardedOps u64 guardedOps_model
    [dbl01, dbl02, dbl03] [dbl03, dbl02, dbl01] (by decide) (by simp)
    (by unfold PartialsFinite; decide +kernel) (by unfold PartialsFinite; decide +kernel)
    _ _ rfl rfl
example : ∃ p, callPure guardedOps "prod" [.num dbl01, .num dbl02, .num dbl03] = some (.ok (.num p)) ∧
    p.isFinite = true ∧
    |p.toRat - exactProd [dbl01, dbl02, dbl03]| ≤ ((1 + u64) ^ 3 - 1) * |exactProd [dbl01, dbl02, dbl03]| :=
  prod_error_bound guardedOps u64 guardedOps_model _ [dbl01, dbl02, dbl03] rfl (by simp)
    (by unfold PartialsFinite; decide +kernel)
    (by unfold PartialProductsNoUnderflow NoUnderflow; decide +kernel)
example : ∃ m, callPure guardedOps "avg" [.list [.num dbl01, .num dbl02, .num dbl03]] = some (.ok (.num m)) ∧
    m.isFinite = true ∧
    |m.toRat - exactSum [dbl01, dbl02, dbl03] / 3| ≤
      ((1 + u64) ^ (3 + 1) - 1) * exactAbsSum [dbl01, dbl02, dbl03] / 3 := by
  have := avg_error_bound guardedOps u64 guardedOps_model [.list [.num dbl01, .num dbl02, .num dbl03]]
    [dbl01, dbl02, dbl03] rfl (by simp) (by decide)
    (by unfold PartialsFinite; decide +kernel) (by decide +kernel)
    (by unfold NoUnderflow; decide +kernel)
  simpa using this
-- `rounding_factor_le_gamma`: for the 50 numbers of the property's quantifier and binary64,
-- `n·u = 50 · 2^-53 < 1`
example : (0 : ℚ) ≤ u64 ∧ ((50 : ℕ) : ℚ) * u64 < 1 := by unfold u64; norm_num
-- overflow: with correct rounding `max + max` is not finite, so `PartialsFinite` fails and
-- `toRat` of the result means nothing
example : (guardedOps.add dblMax dblMax).isFinite = false ∧ (roundRat (dblMax.toRat + dblMax.toRat)) = F64.inf := by
  decide +kernel

end Blots.C15
