import Blots.Lemmas.Separators
import Blots.Lemmas.DisplayInt
import Blots.Lemmas.DisplayExact
import Blots.Lemmas.DisplayRounding
import Blots.Lemmas.FixedRendering
/-
  C20 — Displayed numbers are well-formed and accurate to 15 significant digits.

  Helper lemmas in `Blots/Lemmas`.  `Display.formatDisplayNumber ops`
  models `format_display_number` (`values.rs`) step by step; `ops : NumOps` are the
  float primitives it calls (`log10 floor round * / powi`).  The specification vocabulary
  (`isGrouped`, `stripCommas`, `decValue`, `ratEq`, `denotesExactly`) is in
  `Lemmas/NumSpec.lean` and does not mention the code model.

  What is proved, for all inputs and all `ops`:
    * NaN and the infinities are shown by name;
    * the comma grouping produces groups of three for every digit string, can be undone by
      removing the commas, keeps the first digit first, introduces no sign; hence every i64
      is rendered as sign + well-formed grouped numeral of its exact decimal digits;
    * on texts `[-]digits[.digits]` only the integer part is touched by the grouping;
    * trimming trailing zeros (and a then trailing point) never changes the denoted rational;
    * the integer path and the scientific path use no float operation at all;
    * every integral double below 2^53 that is shown in standard notation takes the integer
      path, and its text denotes it exactly, with the sign shown exactly once.
    * under named hypotheses (the standard model of float arithmetic `RoundingModel ops u`
      for `* /`, exactness of the magnitude step (H1), of `powi` (H2) and of `round` (H3) at
      the values used, no overflow): `round_to_significant_figures(x, 15)` is within
      `(½ + 3·u·10^15)` units of the 15th significant digit of `x` (`fraction_rounding_error`;
      less than one unit for `u = 2^-53`), and — with the text-level rendering step
      `FractionRendering`, proved for every finite rounded value (`fraction_rendering_holds`,
      `fixed_text_is_correctly_rounded`) — the displayed numeral denotes exactly
      `n/10^(14−e)`, `n` the integer `round` returned, within `(½ + u·10^15) < 0.62` units of
      `x`, whichever decade the rounded value falls in (`display_accuracy_fraction'`).
  What is not proved:
    * `display_accuracy_statement` — fewer than one unit of error in the 15th significant
      digit, unconditionally.  On the `fraction` path it rests on facts about the float
      primitives that are hypotheses here.  The delicate one is (H1): the float `log10` returns
      k for doubles up to a few dozen ulps below 10^k, k = 6..15 (e.g. bits 412e847ffffffff4 =
      999999.9999999986, 41cdcd64ffffffec = 999999999.9999976), which alone would show them as
      10^k, more than one unit off; `decimal_exponent` therefore compares with `powi(10, k)` and
      steps down (`Display.decimalExponent`; fix 625beb1).  That the corrected exponent is the true one is a
      fact about libm, checked by the harness's exact referee on every sampled double (key
      `c20.accuracy`).  The `…_partial` theorem below is the part of the accuracy claim that
      holds unconditionally: zero error on the integer path.
-/
namespace Blots.C20

open Blots Blots.Display Blots.NumSpec

theorem special_values_named (ops : NumOps) (x : F64) :
    (x.isNaN = true → formatDisplayNumber ops x = "NaN".toList) ∧
    (x.isInf = true → x.neg = false → formatDisplayNumber ops x = "Infinity".toList) ∧
    (x.isInf = true → x.neg = true → formatDisplayNumber ops x = "-Infinity".toList) := by
  refine ⟨formatDisplayNumber_nan ops x, ?_, ?_⟩
  · intro h hs; rw [formatDisplayNumber_inf ops x h]; simp [hs]
  · intro h hs; rw [formatDisplayNumber_inf ops x h]; simp [hs]

example : (F64.nan).isNaN = true := by decide
example : (F64.negInf).isInf = true ∧ (F64.negInf).neg = true := by decide

/-- `isGrouped`: read from the right, groups of exactly three digits separated by commas, then a
    leftmost group of one to three digits -/
theorem separators_wellformed (ds : List Char) (hne : ds ≠ [])
    (hd : ∀ c ∈ ds, isDigit c = true) : isGrouped (withCommas ds) = true :=
  withCommas_grouped ds hne hd

theorem strip_separators (ds : List Char) (h : ∀ c ∈ ds, c ≠ ',') :
    stripCommas (withCommas ds) = ds :=
  withCommas_strip ds h

theorem separators_keep_head (ds : List Char) :
    (withCommas ds).head? = ds.head? ∧
    (noLeadingZero ds = true → noLeadingZero (withCommas ds) = true) :=
  ⟨withCommas_head ds, withCommas_noLeadingZero ds⟩

theorem separators_only_add_commas (ds : List Char) : ∀ c ∈ withCommas ds, c = ',' ∨ c ∈ ds :=
  mem_withCommas ds

example : withCommas "1234567".toList = "1,234,567".toList := by decide
example : isGrouped "1,234,567".toList = true ∧ isGrouped "1234".toList = false ∧
    isGrouped "1,23".toList = false ∧ isGrouped ",123".toList = false := by decide

theorem integer_numeral_wellformed (i : Int) :
    ∃ body, formatIntegerWithSeparators i = (if i < 0 then ['-'] else []) ++ body ∧
      isGrouped body = true ∧
      stripCommas body = (F64.natDigits i.natAbs).toList ∧
      '-' ∉ body := by
  obtain ⟨body, h1, h2, h3, _⟩ := formatIntegerWithSeparators_spec i
  refine ⟨body, h1, h2, h3, ?_⟩
  have hb : body = withCommas (F64.natDigits i.natAbs).toList := by
    have h1' := formatIntegerWithSeparators_eq i
    rw [h1] at h1'
    exact List.append_cancel_left h1'
  rw [hb]
  apply withCommas_no_minus
  intro hmem
  exact absurd (F64.natDigits_all_isDigit _ _ hmem) (by decide)

theorem integer_numeral_strip (i : Int) :
    stripCommas (formatIntegerWithSeparators i) = intToString i :=
  formatIntegerWithSeparators_strip i

example : formatIntegerWithSeparators (-1234567) = "-1,234,567".toList := by decide

theorem fraction_numeral_separators (ip rest : List Char) (h1 : ∀ c ∈ ip, c ≠ '.')
    (h2 : ip.head? ≠ some '-') (h3 : rest = [] ∨ rest.head? = some '.') :
    addThousandSeparators (ip ++ rest) = withCommas ip ++ rest ∧
    addThousandSeparators ('-' :: ip ++ rest) = '-' :: (withCommas ip ++ rest) :=
  ⟨addThousandSeparators_unsigned ip rest h1 h2 h3, addThousandSeparators_signed ip rest h1 h3⟩

example : addThousandSeparators "-1234567.891".toList = "-1,234,567.891".toList := by decide

theorem trim_zeros_value_preserving (ip fp : List Char) (hi : ∀ c ∈ ip, isDigit c = true)
    (hf : ∀ c ∈ fp, isDigit c = true) :
    ratEq (decValue (trimFraction (ip ++ '.' :: fp))) (decValue (ip ++ '.' :: fp)) ∧
    ratEq (decValue (trimEnd '.' (trimEnd '0' (ip ++ '.' :: fp)))) (decValue (ip ++ '.' :: fp)) :=
  ⟨trimFraction_value_digits ip fp hi hf, formatMantissa_trims_value_digits ip fp hi hf⟩

theorem trim_keeps_integers (s : List Char) (h : '.' ∉ s) : trimFraction s = s :=
  trimFraction_no_dot s h

example : trimFraction "12.500".toList = "12.5".toList ∧ trimFraction "12.000".toList = "12".toList ∧
    trimFraction "1200".toList = "1200".toList := by decide

theorem integer_and_scientific_paths_use_no_float_op (ops₁ ops₂ : NumOps) (x : F64)
    (h : path x = .integer ∨ path x = .scientific) :
    formatDisplayNumber ops₁ x = formatDisplayNumber ops₂ x := by
  rcases h with h | h
  · rw [formatDisplayNumber_integer ops₁ x h, formatDisplayNumber_integer ops₂ x h]
  · rw [formatDisplayNumber_scientific ops₁ x h, formatDisplayNumber_scientific ops₂ x h]

example : path (F64.ofNatBits 0x412E848000000000) = .integer := by decide      -- 1000000.0
example : path (F64.ofNatBits 0x4415AF1D78B58C40) = .scientific := by decide   -- 1e20

theorem integral_takes_integer_path (x : F64) (hn : x.isNaN = false) (hi : x.isInf = false)
    (hz : F64.feq x F64.zero = false) (hint : x.isIntegral = true)
    (hlt : F64.flt x.abs twoPow53 = true) (hstd : path x ≠ .scientific) : path x = .integer :=
  Display.integral_takes_integer_path x hn hi hz hint hlt hstd

theorem int_display_exact (ops : NumOps) (x : F64) (h : path x = .integer) :
    denotesExactly (formatDisplayNumber ops x) x ∧
    ∃ body, formatDisplayNumber ops x = (if x.neg then ['-'] else []) ++ body ∧
      isGrouped body = true ∧ noLeadingZero body = true := by
  refine ⟨integer_path_exact ops x h, ?_⟩
  obtain ⟨htext, _, hpos, _⟩ := integer_path_text ops x h
  refine ⟨_, htext, withCommas_grouped _ (F64.natDigits_toList_ne_nil _) (F64.natDigits_all_isDigit _), ?_⟩
  exact withCommas_noLeadingZero _ (natDigits_noLeadingZero _ hpos)

example : path (F64.ofNatBits 0xC132D687E3D70A3D) ≠ .integer := by decide     -- -1234567.89
example : path (F64.ofNatBits 0xC132D68700000000) = .integer := by decide     -- -1234567.0

/-- exact value of a finite double -/
def toRat (x : F64) : Rat :=
  (if x.neg then -1 else 1) * ((x.ratio.1 : Rat) / (x.ratio.2 : Rat))

def absRat (q : Rat) : Rat := if q < 0 then -q else q

/-- The well-formed numerals of the property and the rational each denotes: optional sign,
    integer digits grouped in threes, optional fraction; or mantissa `e` exponent. -/
inductive Denotes : List Char → Rat → Prop
  | standard (neg : Bool) (ip fp : List Char) :
      isGrouped ip = true → noLeadingZero ip = true → (∀ c ∈ fp, isDigit c = true) →
      Denotes ((if neg then ['-'] else []) ++ ip ++ (if fp = [] then [] else '.' :: fp))
        ((if neg then -1 else 1) * ((digitsVal (stripCommas ip ++ fp) : Rat) / (10 : Rat) ^ fp.length))
  | scientific (neg : Bool) (m : Char) (fp : List Char) (eneg : Bool) (es : List Char) :
      isDigit m = true → (∀ c ∈ fp, isDigit c = true) → es ≠ [] → (∀ c ∈ es, isDigit c = true) →
      Denotes ((if neg then ['-'] else []) ++ m :: (if fp = [] then [] else '.' :: fp) ++
                'e' :: (if eneg then ['-'] else []) ++ es)
        ((if neg then -1 else 1) * ((digitsVal (m :: fp) : Rat) / (10 : Rat) ^ fp.length) *
          (10 : Rat) ^ (if eneg then - (digitsVal es : Int) else (digitsVal es : Int)))

/-- The full statement (not proved; for the hardware/libm instance of `ops` the harness's exact
    referee tests it, key `c20.accuracy`): every finite non-zero
    double is shown as a well-formed numeral within one unit of its 15th significant digit. -/
def display_accuracy_statement (ops : NumOps) : Prop :=
  ∀ x : F64, x.isFinite = true → x.isZero = false →
    ∃ v : Rat, Denotes (formatDisplayNumber ops x) v ∧
      ∃ k : Int, (10 : Rat) ^ k ≤ absRat (toRat x) ∧ absRat (toRat x) < (10 : Rat) ^ (k + 1) ∧
        absRat (v - toRat x) < (10 : Rat) ^ (k - 14)

/-- The proved part: on the integer path (every integral double below 2^53 in standard
    notation) the error is zero — the numeral denotes the double exactly — whatever the float
    primitives do.  Missing for the full statement: the `scientific` path (needs the 15-digit
    round trip `{:.14}` ∘ parse on the mantissa, not proved) and the `fraction` path (proved
    under hypotheses on the float primitives, `display_accuracy_fraction'`). -/
theorem display_accuracy_partial (ops : NumOps) (x : F64) (h : path x = .integer) :
    denotesExactly (formatDisplayNumber ops x) x :=
  integer_path_exact ops x h

/-! The fraction path under the standard model of float arithmetic.

  `RoundingModel ops u` (`Lemmas/Rounding.lean`): `fl(a∘b) = (a∘b)(1+δ)`, `|δ| ≤ u`, for
  `+ × /` on finite operands with finite, not underflowed results (binary64: `u = 2^-53`).
  The remaining float steps of the path are named hypotheses:
    (H1) `MagnitudeExact ops x e`  — `decimal_exponent(|x|)` is the true `e = ⌊log10 |x|⌋`
         (the float `log10` alone rounds up to k a few ulps below 10^k; the comparison with
         `powi(10, k)` in `decimalExponent` is there to undo that);
    (H2) `PowiExactAt ops (14 − e)` — `10f64.powi(14 − e)` is finite and exactly `10^(14−e)`
         (true of `f64::powi` for exponents of magnitude ≤ 22);
    (H3) `RoundExactAt ops p`       — `round` returns at `p = fl(x·scale)` a finite integer
         within ½ of `p`;
  plus "no overflow" (`hmf`, `hdf`: the product and the final quotient are finite).
  `toRat x = x.toRat` (`F64.toRat`) by `rfl`; `absRat q = |q|`. -/

private theorem absRat_eq (q : Rat) : absRat q = |q| := ratAbs_eq q

/-- (H1) the magnitude step is exact at `x` -/
def MagnitudeExact (ops : NumOps) (x : F64) (e : Int) : Prop :=
  decimalExponent ops x.abs = e ∧
    (10 : Rat) ^ e ≤ absRat (toRat x) ∧ absRat (toRat x) < (10 : Rat) ^ (e + 1)

/-- `½ + 3·u·10^15` units of the 15th digit: half a unit from `round`, relative errors `u` from
    `*` and `/` -/
theorem fraction_rounding_error (ops : NumOps) (u : Rat) (M : RoundingModel ops u)
    (hu : u ≤ 1 / 2) (x : F64) (e : Int) (hpath : path x = .fraction) (he : -5 ≤ e)
    (H1 : MagnitudeExact ops x e) (H2 : PowiExactAt ops (14 - e))
    (H3 : RoundExactAt ops (ops.mul x (ops.powi ten (14 - e))))
    (hmf : (ops.mul x (ops.powi ten (14 - e))).isFinite = true)
    (hdf : (roundToSignificantFigures ops x 15).isFinite = true) :
    absRat (toRat (roundToSignificantFigures ops x 15) - toRat x) ≤
      (1 / 2 + 3 * u * 10 ^ 15) * (10 : Rat) ^ (e - 14) := by
  obtain ⟨_, hn, hi, hz⟩ := formatDisplayNumber_fraction ops x hpath
  obtain ⟨h1, hlo, hhi⟩ := H1
  rw [absRat_eq] at hlo hhi ⊢
  exact roundToSignificantFigures_error M hu x e (F64.isFinite_of_not_nan_inf x hn hi) hz hlo hhi he
    h1 H2 H3 hmf hdf

/-- binary64: `u = 2^-53`, `3·u·10^15 < 0.34`, less than one unit -/
theorem fraction_rounding_within_one_unit (ops : NumOps) (M : RoundingModel ops u64)
    (x : F64) (e : Int) (hpath : path x = .fraction) (he : -5 ≤ e)
    (H1 : MagnitudeExact ops x e) (H2 : PowiExactAt ops (14 - e))
    (H3 : RoundExactAt ops (ops.mul x (ops.powi ten (14 - e))))
    (hmf : (ops.mul x (ops.powi ten (14 - e))).isFinite = true)
    (hdf : (roundToSignificantFigures ops x 15).isFinite = true) :
    absRat (toRat (roundToSignificantFigures ops x 15) - toRat x) < (10 : Rat) ^ (e - 14) := by
  have h := fraction_rounding_error ops u64 M (by unfold u64; norm_num) x e hpath he H1 H2 H3 hmf hdf
  have hc : (1 / 2 + 3 * u64 * 10 ^ 15 : Rat) < 1 := by unfold u64; norm_num
  exact h.trans_lt ((mul_lt_iff_lt_one_left (ten_zpow_pos _)).mpr hc)

/-- The text-level step (independent of float arithmetic; `fraction_rendering_holds` proves it
    for every finite `y`): the text produced from `y = round_to_significant_figures(x, 15)` — `{:.dp}` with
    `dp = decimalPlaces ops y 15`, trailing zeros trimmed, integer part grouped — is a
    well-formed numeral whose value is a multiple of `10^-dp` within half of it of `y`
    (`F64.toFixed` rounds `y` correctly to `dp` places; trimming and grouping keep the value,
    `trim_zeros_value_preserving`, `fraction_numeral_separators`). -/
def FractionRendering (ops : NumOps) (x : F64) : Prop :=
  let y := roundToSignificantFigures ops x 15
  let dp := decimalPlaces ops y 15
  ∃ (v : Rat) (m : Int), Denotes (addThousandSeparators (formatFloatSignificant ops y 15)) v ∧
    v = (m : Rat) / (10 : Rat) ^ dp ∧ absRat (v - toRat y) ≤ 1 / 2 / (10 : Rat) ^ dp

/-- Accuracy on the fraction path, conditional on the named hypotheses: under the standard
    model with `u = 2^-53`, (H1) for `x` and for the rounded value `y` (whose decade `e'` may
    be `e − 1`, `e` or `e + 1`; the number of decimals is `max(0, 14 − e')`), (H2), (H3), no
    overflow, and the rendering step `FractionRendering`, the displayed numeral is well-formed
    and within one unit of the 15th significant digit of `x` — in fact within
    `½ + 2^-53·10^15 < 0.62` units: the text denotes exactly `n/10^(14−e)`, `n` the integer
    that `round` returned.  Missing for the unconditional statement: (H1)–(H3) are facts about
    libm / hardware; `FractionRendering` is discharged in `display_accuracy_fraction'`. -/
theorem display_accuracy_fraction (ops : NumOps) (M : RoundingModel ops u64)
    (x : F64) (e e' : Int) (hpath : path x = .fraction) (he : -5 ≤ e) (he' : e ≤ 14)
    (H1 : MagnitudeExact ops x e) (H2 : PowiExactAt ops (14 - e))
    (H3 : RoundExactAt ops (ops.mul x (ops.powi ten (14 - e))))
    (hmf : (ops.mul x (ops.powi ten (14 - e))).isFinite = true)
    (hdf : (roundToSignificantFigures ops x 15).isFinite = true)
    (H1y : MagnitudeExact ops (roundToSignificantFigures ops x 15) e')
    (R : FractionRendering ops x) :
    ∃ v : Rat, Denotes (formatDisplayNumber ops x) v ∧
      absRat (v - toRat x) < (10 : Rat) ^ (e - 14) := by
  obtain ⟨htext, hn, hi, hz⟩ := formatDisplayNumber_fraction ops x hpath
  obtain ⟨h1, hlo, hhi⟩ := H1
  obtain ⟨h1y, hy1, hy2⟩ := H1y
  obtain ⟨v, m, hden, hv, hvy⟩ := R
  rw [absRat_eq] at hlo hhi hvy hy1 hy2
  have h := display_value_error_any_decade M (by unfold u64; norm_num) x e e'
    (F64.isFinite_of_not_nan_inf x hn hi) hz hlo hhi he he' h1 H2 H3 hmf hdf h1y hy1 hy2 v m hv hvy
  refine ⟨v, by rw [htext]; exact hden, ?_⟩
  rw [absRat_eq]
  have hc : (1 / 2 + u64 * 10 ^ 15 : Rat) < 1 := by unfold u64; norm_num
  exact h.trans_lt ((mul_lt_iff_lt_one_left (ten_zpow_pos _)).mpr hc)

/-- the same in the shape of `display_accuracy_statement` -/
theorem display_accuracy_statement_at (ops : NumOps) (M : RoundingModel ops u64)
    (x : F64) (e e' : Int) (hpath : path x = .fraction) (he : -5 ≤ e) (he' : e ≤ 14)
    (H1 : MagnitudeExact ops x e) (H2 : PowiExactAt ops (14 - e))
    (H3 : RoundExactAt ops (ops.mul x (ops.powi ten (14 - e))))
    (hmf : (ops.mul x (ops.powi ten (14 - e))).isFinite = true)
    (hdf : (roundToSignificantFigures ops x 15).isFinite = true)
    (H1y : MagnitudeExact ops (roundToSignificantFigures ops x 15) e')
    (R : FractionRendering ops x) :
    ∃ v : Rat, Denotes (formatDisplayNumber ops x) v ∧
      ∃ k : Int, (10 : Rat) ^ k ≤ absRat (toRat x) ∧ absRat (toRat x) < (10 : Rat) ^ (k + 1) ∧
        absRat (v - toRat x) < (10 : Rat) ^ (k - 14) := by
  obtain ⟨v, hv, hb⟩ :=
    display_accuracy_fraction ops M x e e' hpath he he' H1 H2 H3 hmf hdf H1y R
  exact ⟨v, hv, e, H1.2.1, H1.2.2, hb⟩

/-- all hypotheses of `display_accuracy_fraction` (hence of the theorems around it) hold
    for `x = 0.1 + 0.2 = 0.30000000000000004`, `e = −1`, with `displayOps` (correctly rounded
    `+ × /`, exact round-half-away `round`, `Lemmas/DisplayRounding.lean`): the text is `0.3` -/
example : ∃ v : Rat, Denotes (formatDisplayNumber displayOps dbl0304) v ∧
    absRat (v - toRat dbl0304) < (10 : Rat) ^ ((-1 : Int) - 14) := by
  have hS : displayOps.powi ten (14 - (-1 : Int)) = highThreshold := by decide +kernel
  have hx : toRat dbl0304 = 1351079888211149 / 4503599627370496 := by decide +kernel
  have hp : (displayOps.mul dbl0304 highThreshold).toRat = 4800000000000001 / 16 := by
    decide +kernel
  have hr : (displayOps.round (displayOps.mul dbl0304 highThreshold)).toRat = 300000000000000 := by
    decide +kernel
  have hy : roundToSignificantFigures displayOps dbl0304 15 = dbl03 := by decide +kernel
  have hy3 : toRat dbl03 = 5404319552844595 / 18014398509481984 := by decide +kernel
  refine display_accuracy_fraction displayOps displayOps_model dbl0304 (-1) (-1) (by decide +kernel)
    (by decide) (by decide) ⟨by decide +kernel, ?_, ?_⟩ ⟨?_, ?_⟩ ⟨?_, 300000000000000, ?_, ?_⟩
    ?_ ?_ ⟨?_, ?_, ?_⟩ ?_
  · rw [absRat_eq, hx, abs_of_pos (by norm_num)]; norm_num
  · rw [absRat_eq, hx, abs_of_pos (by norm_num)]; norm_num
  · rw [hS]; decide
  · rw [hS]
    have : highThreshold.toRat = 1000000000000000 := by decide +kernel
    rw [this]; norm_num
  · rw [hS]; decide +kernel
  · rw [hS, hr]; norm_num
  · rw [hS, hp]; rw [abs_le]; constructor <;> norm_num
  · rw [hS]; decide +kernel
  · rw [hy]; decide
  · rw [hy]; decide +kernel
  · rw [hy, absRat_eq, hy3, abs_of_pos (by norm_num)]; norm_num
  · rw [hy, absRat_eq, hy3, abs_of_pos (by norm_num)]; norm_num
  · unfold FractionRendering
    rw [hy]
    have htext : addThousandSeparators (formatFloatSignificant displayOps dbl03 15) =
        ((if false = true then ['-'] else []) ++ ['0'] ++ (if ['3'] = [] then [] else '.' :: ['3'])) := by
      decide +kernel
    have hdp : decimalPlaces displayOps dbl03 15 = 15 := by decide +kernel
    have hd : digitsVal (stripCommas ['0'] ++ ['3']) = 3 := by decide
    refine ⟨(if false = true then -1 else 1) *
      ((digitsVal (stripCommas ['0'] ++ ['3']) : Rat) / (10 : Rat) ^ ['3'].length),
      300000000000000, ?_, ?_, ?_⟩
    · rw [htext]
      exact Denotes.standard false ['0'] ['3'] (by decide) (by decide) (by decide)
    · simp only [hdp, hd]; norm_num
    · simp only [hdp, hd, absRat_eq, hy3]
      rw [abs_le]; constructor <;> norm_num

/-- the same for `x = 0.9999999999999999` (the double below 1), whose rounded value `1.0`
    leaves the decade of `x` (`e = −1`, `e' = 0`, 14 decimals): the text is `1` -/
example : ∃ v : Rat, Denotes (formatDisplayNumber displayOps (F64.ofNatBits 0x3FEFFFFFFFFFFFFF)) v ∧
    absRat (v - toRat (F64.ofNatBits 0x3FEFFFFFFFFFFFFF)) < (10 : Rat) ^ ((-1 : Int) - 14) := by
  have hS : displayOps.powi ten (14 - (-1 : Int)) = highThreshold := by decide +kernel
  have hx : toRat (F64.ofNatBits 0x3FEFFFFFFFFFFFFF) = 9007199254740991 / 9007199254740992 := by
    decide +kernel
  have hp : (displayOps.mul (F64.ofNatBits 0x3FEFFFFFFFFFFFFF) highThreshold).toRat =
      7999999999999999 / 8 := by decide +kernel
  have hr : (displayOps.round (displayOps.mul (F64.ofNatBits 0x3FEFFFFFFFFFFFFF) highThreshold)).toRat
      = 1000000000000000 := by decide +kernel
  have hy : roundToSignificantFigures displayOps (F64.ofNatBits 0x3FEFFFFFFFFFFFFF) 15 = F64.one := by
    decide +kernel
  have hy1 : toRat F64.one = 1 := F64.toRat_one
  refine display_accuracy_fraction displayOps displayOps_model (F64.ofNatBits 0x3FEFFFFFFFFFFFFF) (-1) (0 : Int)
    (by decide +kernel)
    (by decide) (by decide) ⟨by decide +kernel, ?_, ?_⟩ ⟨?_, ?_⟩ ⟨?_, 1000000000000000, ?_, ?_⟩
    ?_ ?_ ⟨?_, ?_, ?_⟩ ?_
  · rw [absRat_eq, hx, abs_of_pos (by norm_num)]; norm_num
  · rw [absRat_eq, hx, abs_of_pos (by norm_num)]; norm_num
  · rw [hS]; decide
  · rw [hS]
    have : highThreshold.toRat = 1000000000000000 := by decide +kernel
    rw [this]; norm_num
  · rw [hS]; decide +kernel
  · rw [hS, hr]; norm_num
  · rw [hS, hp]; rw [abs_le]; constructor <;> norm_num
  · rw [hS]; decide +kernel
  · rw [hy]; decide
  · rw [hy]; decide +kernel
  · rw [hy, absRat_eq, hy1]; norm_num
  · rw [hy, absRat_eq, hy1]; norm_num
  · unfold FractionRendering
    rw [hy]
    have htext : addThousandSeparators (formatFloatSignificant displayOps F64.one 15) =
        ((if false = true then ['-'] else []) ++ ['1'] ++
          (if ([] : List Char) = [] then [] else '.' :: [])) := by
      decide +kernel
    have hdp : decimalPlaces displayOps F64.one 15 = 14 := by decide +kernel
    have hd : digitsVal (stripCommas ['1'] ++ []) = 1 := by decide
    refine ⟨(if false = true then -1 else 1) *
      ((digitsVal (stripCommas ['1'] ++ []) : Rat) / (10 : Rat) ^ ([] : List Char).length),
      100000000000000, ?_, ?_, ?_⟩
    · rw [htext]
      exact Denotes.standard false ['1'] [] (by decide) (by decide) (by decide)
    · simp only [hdp, hd]; norm_num
    · simp only [hdp, hd, absRat_eq, hy1]; norm_num

/-- `F64.toFixed y dp` is `{:.dp}`: the rounding to `dp` places is exact, ties to even -/
theorem fixed_text_is_correctly_rounded (y : F64) (hf : y.isFinite = true) (dp : Nat) :
    ∃ (ip fp : List Char) (m : Int),
      (F64.toFixed y dp).toList =
        (if y.neg then ['-'] else []) ++ ip ++ (if dp = 0 then [] else '.' :: fp) ∧
      ip ≠ [] ∧ (∀ c ∈ ip, isDigit c = true) ∧ noLeadingZero ip = true ∧
      (∀ c ∈ fp, isDigit c = true) ∧ fp.length = dp ∧
      (m : Rat) = (if y.neg then -1 else 1) * (digitsVal (ip ++ fp) : Rat) ∧
      absRat ((m : Rat) / (10 : Rat) ^ dp - toRat y) ≤ 1 / 2 / (10 : Rat) ^ dp := by
  obtain ⟨ip, fp, htext, hne, hip, hfp, hlen, hnlz, hval⟩ := toFixed_shape y hf dp
  have hround := roundHalfEven_rat y.ratio.1 y.ratio.2 (10 ^ dp) (F64.ratio_snd_pos y)
    (Nat.pow_pos (by decide))
  rw [← hval] at hround
  have hcast : (((10 : Nat) ^ dp : Nat) : Rat) = (10 : Rat) ^ dp := by push_cast; rfl
  rw [hcast] at hround
  refine ⟨ip, fp, (if y.neg then -1 else 1) * ((digitsVal (ip ++ fp) : Nat) : Int), htext, hne,
    hip, hnlz, hfp, hlen, ?_, ?_⟩
  · cases y.neg <;> simp
  · rw [absRat_eq]
    unfold toRat
    rw [Int.cast_mul, mul_div_assoc, Int.cast_ite, Int.cast_neg, Int.cast_one, abs_signed_sub,
      Int.cast_natCast]
    exact hround

/-- `hdf` is the "no overflow" that `display_accuracy_fraction` assumes anyway -/
theorem fraction_rendering_holds (ops : NumOps) (x : F64)
    (hdf : (roundToSignificantFigures ops x 15).isFinite = true) : FractionRendering ops x := by
  unfold FractionRendering
  simp only
  obtain ⟨neg, ip, fp, m, htext, hg, hz, hfp, hv, herr⟩ :=
    fixed_rendering (roundToSignificantFigures ops x 15) hdf
      (decimalPlaces ops (roundToSignificantFigures ops x 15) 15)
  refine ⟨_, m, ?_, hv, ?_⟩
  · unfold formatFloatSignificant
    rw [htext]
    exact Denotes.standard neg ip fp hg hz hfp
  · rw [hv, absRat_eq]; exact herr

/-- `display_accuracy_fraction` without the rendering hypothesis -/
theorem display_accuracy_fraction' (ops : NumOps) (M : RoundingModel ops u64)
    (x : F64) (e e' : Int) (hpath : path x = .fraction) (he : -5 ≤ e) (he' : e ≤ 14)
    (H1 : MagnitudeExact ops x e) (H2 : PowiExactAt ops (14 - e))
    (H3 : RoundExactAt ops (ops.mul x (ops.powi ten (14 - e))))
    (hmf : (ops.mul x (ops.powi ten (14 - e))).isFinite = true)
    (hdf : (roundToSignificantFigures ops x 15).isFinite = true)
    (H1y : MagnitudeExact ops (roundToSignificantFigures ops x 15) e') :
    ∃ v : Rat, Denotes (formatDisplayNumber ops x) v ∧
      absRat (v - toRat x) < (10 : Rat) ^ (e - 14) :=
  display_accuracy_fraction ops M x e e' hpath he he' H1 H2 H3 hmf hdf H1y
    (fraction_rendering_holds ops x hdf)

/-- and in the shape of `display_accuracy_statement` -/
theorem display_accuracy_statement_at' (ops : NumOps) (M : RoundingModel ops u64)
    (x : F64) (e e' : Int) (hpath : path x = .fraction) (he : -5 ≤ e) (he' : e ≤ 14)
    (H1 : MagnitudeExact ops x e) (H2 : PowiExactAt ops (14 - e))
    (H3 : RoundExactAt ops (ops.mul x (ops.powi ten (14 - e))))
    (hmf : (ops.mul x (ops.powi ten (14 - e))).isFinite = true)
    (hdf : (roundToSignificantFigures ops x 15).isFinite = true)
    (H1y : MagnitudeExact ops (roundToSignificantFigures ops x 15) e') :
    ∃ v : Rat, Denotes (formatDisplayNumber ops x) v ∧
      ∃ k : Int, (10 : Rat) ^ k ≤ absRat (toRat x) ∧ absRat (toRat x) < (10 : Rat) ^ (k + 1) ∧
        absRat (v - toRat x) < (10 : Rat) ^ (k - 14) :=
  display_accuracy_statement_at ops M x e e' hpath he he' H1 H2 H3 hmf hdf H1y
    (fraction_rendering_holds ops x hdf)

end Blots.C20
