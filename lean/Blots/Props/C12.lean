import Blots.Model.Outcome
import Blots.Model.Data
import Blots.Lemmas.ValueEq
import Blots.Lemmas.ValueOrder
/-
  C12 — Equality and ordering are coherent.

  `veq` / `vcmp` model `Value::equals` / `Value::compare`; `compareOp` is the meaning of the
  six dot operators (and of the plain ones on scalars); `uncheckedCmp` models `ugt ult ugte ulte`.
  "Data value" = `isData` (no NaN, no functions, records with distinct keys).

  The operators are first reduced to `veq` and `vcmp` (`holds_deq`, `holds_ord`); each property
  is then the corresponding law of `veq` / `vcmp` from `Blots/Lemmas/ValueEq.lean` and
  `ValueOrder.lean`.
-/
namespace Blots.C12

/-- the Boolean an operator returned, if it returned one -/
def holds (r : Outcome Value) : Option Bool :=
  match r with
  | .ok (.bool b) => some b
  | _ => none

private theorem holds_deq (a b : Value) : holds (compareOp .deq a b) = some (veq a b) := by rfl

private theorem holds_dne (a b : Value) : holds (compareOp .dne a b) = some (!veq a b) := by rfl

private theorem compareOp_ord {op : BinOp} {exp : List Ordering} (h : orderingsOf op = some exp)
    (a b : Value) : compareOp op a b = (checkOrdering (vcmp a b) exp).bind fun r => .ok (.bool r) := by
  cases op <;> cases h <;> rfl

private theorem holds_ord {op : BinOp} {exp : List Ordering} (h : orderingsOf op = some exp) (a b : Value) :
    holds (compareOp op a b) = (vcmp a b).map exp.contains := by
  rw [compareOp_ord h]; cases vcmp a b <;> rfl

private theorem lt_iff (x y : Value) : holds (compareOp .dlt x y) = some true ↔ vcmp x y = some .lt := by
  rw [holds_ord (op := .dlt) rfl]
  cases vcmp x y with
  | none => simp
  | some o => cases o <;> simp

/-! #### `.==` is an equivalence on data values, ignoring record key order; `.!=` negates it -/

theorem eq_refl (v : Value) (h : isData v = true) : holds (compareOp .deq v v) = some true :=
  (holds_deq v v).trans (congrArg some (veq_refl v h))

theorem eq_symm (a b : Value) (ha : isData a = true) (hb : isData b = true) :
    holds (compareOp .deq a b) = holds (compareOp .deq b a) := by
  rw [holds_deq, holds_deq, veq_symm a b ha hb]

theorem eq_trans (a b c : Value) (ha : isData a = true)
    (h1 : holds (compareOp .deq a b) = some true) (h2 : holds (compareOp .deq b c) = some true) :
    holds (compareOp .deq a c) = some true := by
  rw [holds_deq] at h1 h2 ⊢
  exact congrArg some (veq_trans a b c ha (Option.some.inj h1) (Option.some.inj h2))

theorem eq_ignores_key_order (ra rb : List (String × Value)) (hd : isData (.record ra) = true)
    (hp : ra.Perm rb) : holds (compareOp .deq (.record ra) (.record rb)) = some true :=
  (holds_deq _ _).trans (congrArg some (veq_record_perm ra rb hd hp))

/-- for all values, not only data -/
theorem ne_is_negation (a b : Value) :
    ∃ e, holds (compareOp .deq a b) = some e ∧ holds (compareOp .dne a b) = some (!e) :=
  ⟨veq a b, holds_deq a b, holds_dne a b⟩

/-! #### on mutually comparable values exactly one of `.<`, `.==`, `.>` holds -/

theorem trichotomy (a b : Value) (o : Ordering) (h : vcmp a b = some o) :
    ∃ l e g, holds (compareOp .dlt a b) = some l ∧ holds (compareOp .deq a b) = some e ∧
      holds (compareOp .dgt a b) = some g ∧
      ((l = true ∧ e = false ∧ g = false) ∨ (l = false ∧ e = true ∧ g = false) ∨
       (l = false ∧ e = false ∧ g = true)) := by
  refine ⟨o == .lt, o == .eq, o == .gt, ?_, ?_, ?_, ?_⟩
  · rw [holds_ord (op := .dlt) rfl, h]; cases o <;> rfl
  · rw [holds_deq, veq_of_vcmp h]
  · rw [holds_ord (op := .dgt) rfl, h]; cases o <;> rfl
  · cases o <;> decide

theorem le_ge_are_unions (a b : Value) (o : Ordering) (h : vcmp a b = some o) :
    holds (compareOp .dle a b) = some (o == .lt || veq a b) ∧
    holds (compareOp .dge a b) = some (o == .gt || veq a b) := by
  rw [holds_ord (op := .dle) rfl, holds_ord (op := .dge) rfl, h, veq_of_vcmp h]
  cases o <;> exact ⟨rfl, rfl⟩

theorem lt_gt_dual (a b : Value) : holds (compareOp .dlt a b) = holds (compareOp .dgt b a) := by
  rw [holds_ord (op := .dlt) rfl, holds_ord (op := .dgt) rfl, vcmp_swap a b]
  cases vcmp a b with
  | none => rfl
  | some o => cases o <;> rfl

theorem lt_trans (a b c : Value) (h1 : holds (compareOp .dlt a b) = some true)
    (h2 : holds (compareOp .dlt b c) = some true) : holds (compareOp .dlt a c) = some true :=
  (lt_iff a c).mpr (vcmp_lt_trans a b c ((lt_iff a b).mp h1) ((lt_iff b c).mp h2))

theorem eq_congruent (a b c : Value) (h : vcmp b c = some .eq) :
    holds (compareOp .dlt a b) = holds (compareOp .dlt a c) ∧
    holds (compareOp .dlt b a) = holds (compareOp .dlt c a) := by
  simp only [holds_ord (op := .dlt) rfl, vcmp_congr b c h a, vcmp_congr_left h a, and_self]

/-! #### `.<=` is a total preorder on comparable values whose symmetric part is `.==` -/

theorem le_key (x y : Value) (h : holds (compareOp .dle x y) = some true) :
    vcmp x y = some .lt ∨ vcmp x y = some .eq := by
  rw [holds_ord (op := .dle) rfl] at h
  cases hv : vcmp x y with
  | none => rw [hv] at h; cases h
  | some o => cases o <;> simp_all

theorem le_of (x y : Value) (h : vcmp x y = some .lt ∨ vcmp x y = some .eq) :
    holds (compareOp .dle x y) = some true := by
  rcases h with h | h <;> rw [holds_ord (op := .dle) rfl, h] <;> rfl

theorem le_trans (a b c : Value) (h1 : holds (compareOp .dle a b) = some true)
    (h2 : holds (compareOp .dle b c) = some true) : holds (compareOp .dle a c) = some true := by
  apply le_of
  rcases le_key a b h1 with hab | hab
  · rcases le_key b c h2 with hbc | hbc
    · exact Or.inl (vcmp_lt_trans a b c hab hbc)
    · exact Or.inl ((vcmp_congr b c hbc a) ▸ hab)
  · rw [vcmp_congr_left hab c]
    exact le_key b c h2

theorem le_antisymm (a b : Value) (h1 : holds (compareOp .dle a b) = some true)
    (h2 : holds (compareOp .dle b a) = some true) : holds (compareOp .deq a b) = some true := by
  have hab : vcmp a b = some .eq := by
    rcases le_key a b h1 with hab | hab
    · rcases le_key b a h2 with hba | hba
      · rw [vcmp_lt_gt hab] at hba; cases hba
      · exact vcmp_eq_symm hba
    · exact hab
  exact (holds_deq a b).trans (congrArg some (vcmp_eq_imp_veq a b hab))

theorem lt_asymm (a b : Value) (h : holds (compareOp .dlt a b) = some true) :
    holds (compareOp .dlt b a) = some false := by
  rw [holds_ord (op := .dlt) rfl, vcmp_lt_gt ((lt_iff a b).mp h)]; rfl

theorem lt_irrefl (a : Value) : holds (compareOp .dlt a a) ≠ some true := by
  intro h
  have := lt_asymm a a h
  rw [h] at this
  cases this

theorem le_total (a b : Value) (o : Ordering) (h : vcmp a b = some o) :
    holds (compareOp .dle a b) = some true ∨ holds (compareOp .dle b a) = some true := by
  cases o with
  | lt => exact Or.inl (le_of a b (Or.inl h))
  | eq => exact Or.inl (le_of a b (Or.inr h))
  | gt => exact Or.inr (le_of b a (Or.inl (vcmp_gt_lt h)))

theorem le_iff_not_gt (a b : Value) (o : Ordering) (h : vcmp a b = some o) :
    ∃ g, holds (compareOp .dgt a b) = some g ∧ holds (compareOp .dle a b) = some (!g) := by
  rw [holds_ord (op := .dgt) rfl, holds_ord (op := .dle) rfl, h]
  cases o <;> exact ⟨_, rfl, rfl⟩

/-! #### lists and strings compare lexicographically, a proper prefix first -/

theorem list_lex_head (x y : Value) (xs ys : List Value) (o : Ordering) (h : vcmp x y = some o)
    (hne : o ≠ .eq) : vcmp (.list (x :: xs)) (.list (y :: ys)) = some o := by
  cases o with
  | eq => exact absurd rfl hne
  | _ => simp only [vcmp, vcmpList, h]

theorem list_lex_tail (x y : Value) (xs ys : List Value) (h : vcmp x y = some .eq) :
    vcmp (.list (x :: xs)) (.list (y :: ys)) = vcmp (.list xs) (.list ys) := by
  simp only [vcmp, vcmpList, h]

theorem list_prefix_first (xs ys : List Value) (hself : vcmp (.list xs) (.list xs) = some .eq)
    (hne : ys ≠ []) : holds (compareOp .dlt (.list xs) (.list (xs ++ ys))) = some true := by
  simp only [vcmp] at hself
  rw [lt_iff, vcmp]
  exact vcmpList_prefix xs hself ys hne

theorem string_prefix_first (s t : String) (hne : t ≠ "") :
    holds (compareOp .dlt (.str s) (.str (s ++ t))) = some true := by
  have h2 : t.toList ≠ [] := fun h => hne (String.ext_iff.mpr (by simpa using h))
  rw [lt_iff, vcmp, strCmp, String.toList_append, strCmpL_prefix s.toList t.toList h2]

/-! #### different or unordered types: never equal, ordering fails, `u*` return false -/

theorem cross_type_never_equal (a b : Value) (h : a.typeName ≠ b.typeName) :
    holds (compareOp .deq a b) = some false :=
  (holds_deq a b).trans (congrArg some (veq_type_mismatch a b h))

theorem ordering_fails_iff_incomparable (a b : Value) (op : BinOp)
    (hop : op = .dlt ∨ op = .dle ∨ op = .dgt ∨ op = .dge) :
    (compareOp op a b).isErr = true ↔ vcmp a b = none := by
  rcases hop with rfl | rfl | rfl | rfl <;> rw [compareOp_ord rfl] <;> cases vcmp a b <;>
    simp [checkOrdering, Outcome.bind, Outcome.isErr]

theorem cross_type_ordering_fails (a b : Value) (h : a.typeName ≠ b.typeName) (op : BinOp)
    (hop : op = .dlt ∨ op = .dle ∨ op = .dgt ∨ op = .dge) :
    (compareOp op a b).isErr = true :=
  (ordering_fails_iff_incomparable a b op hop).mpr (vcmp_type_mismatch a b h)

theorem unchecked_agree (a b : Value) :
    (∀ o, vcmp a b = some o →
      holds (uncheckedCmp "ugt" a b) = holds (compareOp .dgt a b) ∧
      holds (uncheckedCmp "ult" a b) = holds (compareOp .dlt a b) ∧
      holds (uncheckedCmp "ugte" a b) = holds (compareOp .dge a b) ∧
      holds (uncheckedCmp "ulte" a b) = holds (compareOp .dle a b)) ∧
    (vcmp a b = none →
      holds (uncheckedCmp "ugt" a b) = some false ∧ holds (uncheckedCmp "ult" a b) = some false ∧
      holds (uncheckedCmp "ugte" a b) = some false ∧ holds (uncheckedCmp "ulte" a b) = some false) := by
  constructor
  · intro o h
    rw [holds_ord (op := .dgt) rfl, holds_ord (op := .dlt) rfl, holds_ord (op := .dge) rfl,
      holds_ord (op := .dle) rfl]
    simp only [uncheckedCmp, h]
    cases o <;> exact ⟨rfl, rfl, rfl, rfl⟩
  · intro h
    simp only [uncheckedCmp, h]
    exact ⟨rfl, rfl, rfl, rfl⟩

/-! #### non-vacuity: concrete non-trivial values meeting the hypotheses -/

def r1 : Value := .record [("a", .num F64.one), ("b", .list [.str "x", .null])]
def r2 : Value := .record [("b", .list [.str "x", .null]), ("a", .num F64.one)]

example : isData r1 = true ∧ isData r2 = true := by decide
example : holds (compareOp .deq r1 r2) = some true := by decide
example : vcmp (.list [.num F64.one, .str "a"]) (.list [.num F64.one, .str "ab"]) = some .lt := by decide
example : vcmp (.num F64.zero) (.num F64.negZero) = some .eq := by decide
example : vcmp (.list [.num F64.one]) (.list [.str "a"]) = none := by decide
example : F64.nan.isNaN = true ∧ veq (.num F64.nan) (.num F64.nan) = false := by decide

end Blots.C12
