import Blots.Lemmas.EvalDepthWitness
/-
  C13 — via / where / into agree with map / filter / application for every function.

  Helpers in `Blots/Lemmas/EvalHof.lean`, `EvalFuel.lean`, `EvalDepth.lean`,
  `EvalDepthMono.lean`, `EvalDepthWitness.lean`.  In the model
  * `L via f`   = `evalBin ops (fuel+1) depth .via (.list L) f s`,
    `map(L, f)` = `callFn ops (fuel+2) (.builtin "map") this [.list L, f] depth s`,
    and likewise `where` / `filter`, `into` / application, `every`, `some`, `reduce`;
  * the shared workers are `mapCalls`, `whereCalls`, `quantCalls`, `foldCalls`, which call
    `callFn ops _ f f args depth s` — the function is passed as its own `this`, whatever kind of
    function value it is (lambda, named or recursive closure, built-in);
  * `seqMap call w L i s` etc. are the reference passes: left to right over `L`, callback
    arguments `idxArgs w x i` = `[x, i]` if `w` else `[x]` with `i` counting up from the start
    index, state threaded through, first failure wins;
  * `fuel` only decides whether an answer is produced (`*_fuel_mono`), so the forms are compared
    at any fuel that is enough for both.
  The operator form runs the callbacks at call depth `depth`, the built-in form at `depth + 2`
  (one level for the built-in, one for its callbacks): the same computation started two call
  levels deeper.  See `map_is_via_two_levels_deeper` (exact, unconditional) and the note on the
  call depth below for what that means for equality of the two forms.
-/
namespace Blots.C13

/- `NF x` (Lemmas/EvalFuel.lean) / `ND x` (Lemmas/EvalHof.lean) abbreviate `x.1 ≠ .fuel` /
   `x.1 ≠ .err .depth`: the call did not run out of fuel / did not end in the depth error. -/

theorem via_is_map_calls (ops : NumOps) (fuel depth : Nat) (L : List Value) (f : Value) (s : ES)
    (ar : Gen.Arity) (h : arityOf f = some ar) :
    evalBin ops (fuel+1) depth .via (.list L) f s =
      wrapList (mapCalls ops fuel f (ar.canAccept 2) L 0 depth s) :=
  evalBin_via_list ops fuel depth L f s ar h

theorem map_is_map_calls (ops : NumOps) (fuel depth : Nat) (this : Value) (L : List Value) (f : Value)
    (s : ES) (ar : Gen.Arity) (h : arityOf f = some ar) :
    callFn ops (fuel+2) (.builtin "map") this [.list L, f] depth s =
      if depth > MAX_DEPTH then (.err .depth, s)
      else wrapList (mapCalls ops fuel f (ar.canAccept 2) L 0 (depth + 2) s) := by
  rw [callFn_hof ops (fuel+1) "map" this [.list L, f] depth s hof_arities.1 rfl, callHof_map, h, wrapList_eq_bind]

theorem where_is_where_calls (ops : NumOps) (fuel depth : Nat) (L : List Value) (f : Value) (s : ES)
    (ar : Gen.Arity) (h : arityOf f = some ar) :
    evalBin ops (fuel+1) depth .where_ (.list L) f s =
      whereCalls ops fuel f (ar.canAccept 2) L 0 depth s :=
  evalBin_where_list ops fuel depth L f s ar h

theorem filter_is_where_calls (ops : NumOps) (fuel depth : Nat) (this : Value) (L : List Value)
    (f : Value) (s : ES) (ar : Gen.Arity) (h : arityOf f = some ar) :
    callFn ops (fuel+2) (.builtin "filter") this [.list L, f] depth s =
      if depth > MAX_DEPTH then (.err .depth, s)
      else whereCalls ops fuel f (ar.canAccept 2) L 0 (depth + 2) s := by
  rw [callFn_hof ops (fuel+1) "filter" this [.list L, f] depth s hof_arities.2.1 rfl, callHof_filter, h]

/-- `x into f` is the application `f(x)` — a list `x` is passed whole; the call expression
    evaluates to the same `callFn ops fuel f f [x] depth s` (`call_expr_is_call`) -/
theorem into_is_call (ops : NumOps) (fuel depth : Nat) (x f : Value) (s : ES)
    (hc : f.isCallable = true) :
    evalBin ops (fuel+1) depth .into x f s = callFn ops fuel f f [x] depth s :=
  by rw [evalBin_into, not_isListV_of_callable hc, hc]; rfl

theorem call_expr_is_call (ops : NumOps) (fuel depth : Nat) (g : Expr) (args : List Expr) (f : Value)
    (raw : List Value) (s s1 s2 : ES)
    (hg : eval ops fuel depth g s = (.ok f, s1))
    (ha : evalList ops fuel depth args s1 = (.ok raw, s2)) (hc : f.isCallable = true) :
    eval ops (fuel+1) depth (.call g args) s = callFn ops fuel f f (flattenSpreads raw) depth s2 := by
  rw [eval_call, hg, R.bind_ok, ha, R.bind_ok, hc]
  rfl

theorem into_not_callable (ops : NumOps) (fuel depth : Nat) (x f : Value) (s : ES)
    (hc : f.isCallable = false) :
    evalBin ops (fuel+1) depth .into x f s = (.err (if isListV f then .type_ else .notCallable), s) :=
  evalBin_into_not_callable ops fuel depth x f s hc

theorem every_some_reduce_unfold (ops : NumOps) (fuel depth : Nat) (this : Value) (L : List Value)
    (f init : Value) (s : ES) (ar : Gen.Arity) (h : arityOf f = some ar) (hd : depth ≤ MAX_DEPTH) :
    callFn ops (fuel+2) (.builtin "every") this [.list L, f] depth s =
      quantCalls ops fuel f (ar.canAccept 2) true L 0 (depth + 2) s ∧
    callFn ops (fuel+2) (.builtin "some") this [.list L, f] depth s =
      quantCalls ops fuel f (ar.canAccept 2) false L 0 (depth + 2) s ∧
    callFn ops (fuel+2) (.builtin "reduce") this [.list L, f, init] depth s =
      foldCalls ops fuel f (ar.canAccept 3) init L 0 (depth + 2) s := by
  have hd' : ¬ depth > MAX_DEPTH := by omega
  refine ⟨?_, ?_, ?_⟩
  · rw [callFn_hof ops (fuel+1) "every" this [.list L, f] depth s hof_arities.2.2.1 rfl, if_neg hd', callHof_every, h]
  · rw [callFn_hof ops (fuel+1) "some" this [.list L, f] depth s hof_arities.2.2.2.1 rfl, if_neg hd', callHof_some, h]
  · rw [callFn_hof ops (fuel+1) "reduce" this [.list L, f, init] depth s hof_arities.2.2.2.2 rfl, if_neg hd',
      callHof_reduce, h]
    rfl

/-- `w` is `ar.canAccept 2` (`canAccept 3` for reduce): the function accepts the index as one
    more argument -/
theorem callback_arguments (w : Bool) (acc x : Value) (i : Nat) :
    (w = true → idxArgs w x i = [x, .num (F64.ofNat i)] ∧ foldArgs w acc x i = [acc, x, .num (F64.ofNat i)]) ∧
    (w = false → idxArgs w x i = [x] ∧ foldArgs w acc x i = [acc, x]) := by
  cases w <;> simp [idxArgs, foldArgs]

theorem pass_step (call : List Value → ES → R Value) (w : Bool) (x : Value) (xs : List Value)
    (i : Nat) (s : ES) (acc : Value) :
    seqMap call w [] i s = (.ok [], s) ∧
    seqMap call w (x :: xs) i s =
      (match call (idxArgs w x i) s with
       | (.ok v, s1) =>
         (match seqMap call w xs (i + 1) s1 with
          | (.ok vs, s2) => (.ok (v :: vs), s2)
          | r => r)
       | (.err k, s1) => (.err k, s1)
       | (.panic p, s1) => (.panic p, s1)
       | (.fuel, s1) => (.fuel, s1)) ∧
    seqFold call w acc [] i s = (.ok acc, s) ∧
    seqFold call w acc (x :: xs) i s =
      (match call (foldArgs w acc x i) s with
       | (.ok v, s1) => seqFold call w v xs (i + 1) s1
       | r => r) :=
  ⟨rfl, rfl, rfl, rfl⟩

/-- `mapCalls` is the worker of via, map, group_by, count_by -/
theorem map_calls_is_pass (ops : NumOps) (f : Value) (w : Bool) (d : Nat) (L : List Value) (i : Nat) (s : ES) :
    (∀ n, NF (mapCalls ops n f w L i d s) → ∀ N, n ≤ N →
      seqMap (fun a st => callFn ops N f f a d st) w L i s = mapCalls ops n f w L i d s) ∧
    (∀ N, NF (seqMap (fun a st => callFn ops N f f a d st) w L i s) →
      mapCalls ops (N + L.length + 1) f w L i d s = seqMap (fun a st => callFn ops N f f a d st) w L i s) :=
  ⟨fun n h N hN => mapCalls_eq_seqMap ops f w d n L i s h N hN,
   fun N h => seqMap_eq_mapCalls ops f w d N L i s h⟩

theorem where_quant_calls_are_passes (ops : NumOps) (f : Value) (w q : Bool) (d : Nat) (L : List Value)
    (i : Nat) (s : ES) :
    (∀ n, NF (whereCalls ops n f w L i d s) → ∀ N, n ≤ N →
      seqWhere (fun a st => callFn ops N f f a d st) w L i s = whereCalls ops n f w L i d s) ∧
    (∀ N, NF (seqWhere (fun a st => callFn ops N f f a d st) w L i s) →
      whereCalls ops (N + L.length + 1) f w L i d s =
        seqWhere (fun a st => callFn ops N f f a d st) w L i s) ∧
    (∀ n, NF (quantCalls ops n f w q L i d s) → ∀ N, n ≤ N →
      seqQuant (fun a st => callFn ops N f f a d st) w q L i s = quantCalls ops n f w q L i d s) ∧
    (∀ N, NF (seqQuant (fun a st => callFn ops N f f a d st) w q L i s) →
      quantCalls ops (N + L.length + 1) f w q L i d s =
        seqQuant (fun a st => callFn ops N f f a d st) w q L i s) :=
  ⟨fun n h N hN => whereCalls_eq_seqWhere ops f w d n L i s h N hN,
   fun N h => seqWhere_eq_whereCalls ops f w d N L i s h,
   fun n h N hN => quantCalls_eq_seqQuant ops f w q d n L i s h N hN,
   fun N h => seqQuant_eq_quantCalls ops f w q d N L i s h⟩

theorem map_pass_pure (call : List Value → ES → R Value) (w : Bool) (g : Value → Nat → Value)
    (hpure : ∀ x i s, call (idxArgs w x i) s = (.ok (g x i), s)) (L : List Value) (i : Nat) (s : ES) :
    seqMap call w L i s = (.ok ((L.zipIdx i).map fun p => g p.1 p.2), s) :=
  seqMap_pure call w g hpure L i s

/-- "the predicate succeeds on all elements" is: `mapCalls` with the same arguments and fuel is
    `ok` with booleans.  Outcome component only: `every` / `some` stop at the first deciding
    element, so later callbacks (and their effects on `nextId` / `names`) do not happen. -/
theorem every_is_all_some_is_any (ops : NumOps) (n : Nat) (f : Value) (w : Bool) (d : Nat)
    (L : List Value) (i : Nat) (s : ES) (bs : List Value) (s' : ES)
    (h : mapCalls ops n f w L i d s = (.ok bs, s')) (hb : ∀ b ∈ bs, ∃ p, b = Value.bool p) :
    (quantCalls ops n f w true L i d s).1 = .ok (.bool (bs.all isTrueV)) ∧
    (quantCalls ops n f w false L i d s).1 = .ok (.bool (bs.any isTrueV)) :=
  quantCalls_of_mapCalls ops f w d n L i s bs s' h hb

theorem every_some_full_pass_state (ops : NumOps) (n : Nat) (f : Value) (w q : Bool) (d : Nat)
    (L : List Value) (i : Nat) (s : ES) (bs : List Value) (s' : ES)
    (h : mapCalls ops n f w L i d s = (.ok bs, s')) (hb : ∀ b ∈ bs, b = Value.bool q) :
    quantCalls ops n f w q L i d s = (.ok (.bool q), s') :=
  quantCalls_of_mapCalls_state ops f w q d n L i s bs s' h hb

theorem reduce_is_foldl (ops : NumOps) (f : Value) (w : Bool) (d : Nat) (acc : Value) (L : List Value)
    (i : Nat) (s : ES) :
    (∀ n, NF (foldCalls ops n f w acc L i d s) → ∀ N, n ≤ N →
      seqFold (fun a st => callFn ops N f f a d st) w acc L i s = foldCalls ops n f w acc L i d s) ∧
    (∀ N, NF (seqFold (fun a st => callFn ops N f f a d st) w acc L i s) →
      foldCalls ops (N + L.length + 1) f w acc L i d s =
        seqFold (fun a st => callFn ops N f f a d st) w acc L i s) :=
  ⟨fun n h N hN => foldCalls_eq_seqFold ops f w d n acc L i s h N hN,
   fun N h => seqFold_eq_foldCalls ops f w d N acc L i s h⟩

theorem fold_pass_pure (call : List Value → ES → R Value) (w : Bool) (g : Value → Value → Nat → Value)
    (hpure : ∀ acc x i s, call (foldArgs w acc x i) s = (.ok (g acc x i), s))
    (acc : Value) (L : List Value) (i : Nat) (s : ES) :
    seqFold call w acc L i s = (.ok ((L.zipIdx i).foldl (fun a p => g a p.1 p.2) acc), s) :=
  seqFold_pure call w g hpure acc L i s

/-- the remaining functions of the evaluator: `Blots.*_fuel_mono` -/
theorem fuel_mono (ops : NumOps) (n m : Nat) (hm : n ≤ m) :
    (∀ fv this args d s, NF (callFn ops n fv this args d s) →
      callFn ops m fv this args d s = callFn ops n fv this args d s) ∧
    (∀ d e s, NF (eval ops n d e s) → eval ops m d e s = eval ops n d e s) ∧
    (∀ d op a b s, NF (evalBin ops n d op a b s) → evalBin ops m d op a b s = evalBin ops n d op a b s) ∧
    (∀ f w L i d s, NF (mapCalls ops n f w L i d s) →
      mapCalls ops m f w L i d s = mapCalls ops n f w L i d s) ∧
    (∀ f w L i d s, NF (whereCalls ops n f w L i d s) →
      whereCalls ops m f w L i d s = whereCalls ops n f w L i d s) ∧
    (∀ f w q L i d s, NF (quantCalls ops n f w q L i d s) →
      quantCalls ops m f w q L i d s = quantCalls ops n f w q L i d s) ∧
    (∀ f w acc L i d s, NF (foldCalls ops n f w acc L i d s) →
      foldCalls ops m f w acc L i d s = foldCalls ops n f w acc L i d s) :=
  ⟨fun _ _ _ _ _ h => callFn_fuel_mono ops hm h, fun _ _ _ h => eval_fuel_mono ops hm h,
   fun _ _ _ _ _ h => evalBin_fuel_mono ops hm h, fun _ _ _ _ _ _ h => mapCalls_fuel_mono ops hm h,
   fun _ _ _ _ _ _ h => whereCalls_fuel_mono ops hm h,
   fun _ _ _ _ _ _ _ h => quantCalls_fuel_mono ops hm h,
   fun _ _ _ _ _ _ _ h => foldCalls_fuel_mono ops hm h⟩

/-- the exact relation between the two forms, no side condition on the function (the built-in
    form needs two more units of fuel for its two extra levels) -/
theorem map_is_via_two_levels_deeper (ops : NumOps) (n m depth : Nat) (this : Value) (L : List Value)
    (f : Value) (s : ES) (ar : Gen.Arity) (h : arityOf f = some ar) (hd : depth ≤ MAX_DEPTH) :
    (NF (callFn ops (n+2) (.builtin "map") this [.list L, f] depth s) → n ≤ m →
      evalBin ops (m+1) (depth + 2) .via (.list L) f s =
        callFn ops (n+2) (.builtin "map") this [.list L, f] depth s) ∧
    (NF (evalBin ops (n+1) (depth + 2) .via (.list L) f s) → n ≤ m →
      callFn ops (m+2) (.builtin "map") this [.list L, f] depth s =
        evalBin ops (n+1) (depth + 2) .via (.list L) f s) ∧
    (NF (callFn ops (n+2) (.builtin "filter") this [.list L, f] depth s) → n ≤ m →
      evalBin ops (m+1) (depth + 2) .where_ (.list L) f s =
        callFn ops (n+2) (.builtin "filter") this [.list L, f] depth s) ∧
    (NF (evalBin ops (n+1) (depth + 2) .where_ (.list L) f s) → n ≤ m →
      callFn ops (m+2) (.builtin "filter") this [.list L, f] depth s =
        evalBin ops (n+1) (depth + 2) .where_ (.list L) f s) := by
  have hd' : ¬ depth > MAX_DEPTH := by omega
  simp only [map_is_map_calls ops _ depth this L f s ar h, filter_is_where_calls ops _ depth this L f s ar h,
    via_is_map_calls ops _ (depth + 2) L f s ar h, where_is_where_calls ops _ (depth + 2) L f s ar h,
    if_neg hd', wrapList_fst_ne_fuel]
  refine ⟨fun hnf hm => ?_, fun hnf hm => ?_, fun hnf hm => ?_, fun hnf hm => ?_⟩
  · rw [mapCalls_fuel_mono ops hm hnf]
  · rw [mapCalls_fuel_mono ops hm hnf]
  · rw [whereCalls_fuel_mono ops hm hnf]
  · rw [whereCalls_fuel_mono ops hm hnf]

/-! The call depth.

  The depth argument is consulted in two places only: the guard `depth > MAX_DEPTH` (= 1000) of
  `callFn`, and `alreadyDefined depth …` of a top-level assignment (depth 0 versus positive).
  Function bodies run at `depth + 1 > 0`, so for calls only the guard matters — except that
  `sort_by` swallows every failure of its key function, the depth error included
  (functions.rs `_ => Ordering::Equal`): `sort_by([3,1,2], abs)` evaluated at call depth 999
  returns `[3,1,2]` (every key call fails with the depth error), at depth 998 `[1,2,3]`.  Hence:
  * the statements below are for `sort_by`-free inputs: `Value.nsb` / `Expr.nsb` / `nsbEnv`
    ("no `sort_by` built-in value reachable": not in the function, its captured scope and body,
    the list, or the environment), preserved by evaluation (`Blots.pres`);
  * the callback-free built-ins keep the invariant too (`pure_builtins_keep_invariant`): their
    results contain no function value that was not in their arguments. -/

theorem pure_builtins_keep_invariant (ops : NumOps) (name : String) (args : List Value) (v : Value)
    (h : callPure ops name args = some (.ok v)) (ha : Value.nsbList args = true) : v.nsb = true :=
  callPure_keeps_nsb ops h ha

theorem depth_antitone (ops : NumOps) (n d d' : Nat) (fv this : Value)
    (args : List Value) (s : ES) (hdd : d' ≤ d) (hf : fv.nsb = true) (ht : this.nsb = true)
    (ha : Value.nsbList args = true) (hs : nsbEnv s.env = true)
    (h : ND (callFn ops n fv this args d s)) :
    callFn ops n fv this args d' s = callFn ops n fv this args d s :=
  (anti ops n).callFn d d' fv this args s hdd hf ht ha hs h

theorem depth_antitone_workers (ops : NumOps) (n d d' : Nat) (f : Value)
    (w : Bool) (L : List Value) (i : Nat) (s : ES) (hdd : d' ≤ d) (hf : f.nsb = true)
    (hL : Value.nsbList L = true) (hs : nsbEnv s.env = true) :
    (ND (mapCalls ops n f w L i d s) → mapCalls ops n f w L i d' s = mapCalls ops n f w L i d s) ∧
    (ND (whereCalls ops n f w L i d s) → whereCalls ops n f w L i d' s = whereCalls ops n f w L i d s) ∧
    (∀ q, ND (quantCalls ops n f w q L i d s) →
      quantCalls ops n f w q L i d' s = quantCalls ops n f w q L i d s) ∧
    (∀ acc, acc.nsb = true → ND (foldCalls ops n f w acc L i d s) →
      foldCalls ops n f w acc L i d' s = foldCalls ops n f w acc L i d s) :=
  ⟨(anti ops n).mapCalls d d' f w L i s hdd hf hL hs, (anti ops n).whereCalls d d' f w L i s hdd hf hL hs,
   fun q => (anti ops n).quantCalls d d' f w q L i s hdd hf hL hs,
   fun acc ha => (anti ops n).foldCalls d d' f w acc L i s hdd hf ha hL hs⟩

theorem sort_by_free_is_invariant (ops : NumOps) (n d : Nat) (fv this : Value)
    (args : List Value) (s : ES) (v : Value) (s' : ES) (h : callFn ops n fv this args d s = (.ok v, s'))
    (hf : fv.nsb = true) (ht : this.nsb = true) (ha : Value.nsbList args = true)
    (hs : nsbEnv s.env = true) : v.nsb = true ∧ nsbEnv s'.env = true :=
  (pres ops n).callFn h hf ht ha hs

/-- "The result or failure is the same whichever form is used" — what is proved, for
    `sort_by`-free inputs:
    (1) if `map(L, f)` (the deeper form) returns anything but the depth error, `L via f` returns
        exactly that (outcome and state), at every fuel that is enough;
    (2) if `L via f` would also not hit the depth limit when started two call levels deeper,
        `map(L, f)` returns exactly what `L via f` returns.
    Left out: the two call levels next to the limit (`via_eq_map_statement`). -/
theorem via_eq_map_partial (ops : NumOps) (n m depth : Nat) (this : Value)
    (L : List Value) (f : Value) (s : ES) (ar : Gen.Arity) (h : arityOf f = some ar)
    (hd : depth ≤ MAX_DEPTH) (hf : f.nsb = true) (hL : Value.nsbList L = true)
    (hs : nsbEnv s.env = true) (hm : n ≤ m) :
    (NF (callFn ops (n+2) (.builtin "map") this [.list L, f] depth s) →
     ND (callFn ops (n+2) (.builtin "map") this [.list L, f] depth s) →
      evalBin ops (m+1) depth .via (.list L) f s =
        callFn ops (n+2) (.builtin "map") this [.list L, f] depth s) ∧
    (NF (evalBin ops (n+1) (depth + 2) .via (.list L) f s) →
     ND (evalBin ops (n+1) (depth + 2) .via (.list L) f s) →
      callFn ops (m+2) (.builtin "map") this [.list L, f] depth s =
        evalBin ops (n+1) depth .via (.list L) f s) := by
  have hd' : ¬ depth > MAX_DEPTH := by omega
  simp only [map_is_map_calls ops _ depth this L f s ar h, via_is_map_calls ops _ _ L f s ar h,
    if_neg hd', wrapList_fst_ne_fuel, wrapList_fst_ne_depth]
  have ha := fun hnd => (anti ops n).mapCalls (depth + 2) depth f (ar.canAccept 2) L 0 s (by omega)
    hf hL hs hnd
  refine ⟨fun hnf hnd => ?_, fun hnf hnd => ?_⟩
  · rw [← ha hnd] at hnf ⊢
    rw [mapCalls_fuel_mono ops hm hnf]
  · rw [mapCalls_fuel_mono ops hm hnf, ha hnd]

theorem where_eq_filter_partial (ops : NumOps) (n m depth : Nat) (this : Value)
    (L : List Value) (f : Value) (s : ES) (ar : Gen.Arity) (h : arityOf f = some ar)
    (hd : depth ≤ MAX_DEPTH) (hf : f.nsb = true) (hL : Value.nsbList L = true)
    (hs : nsbEnv s.env = true) (hm : n ≤ m) :
    (NF (callFn ops (n+2) (.builtin "filter") this [.list L, f] depth s) →
     ND (callFn ops (n+2) (.builtin "filter") this [.list L, f] depth s) →
      evalBin ops (m+1) depth .where_ (.list L) f s =
        callFn ops (n+2) (.builtin "filter") this [.list L, f] depth s) ∧
    (NF (evalBin ops (n+1) (depth + 2) .where_ (.list L) f s) →
     ND (evalBin ops (n+1) (depth + 2) .where_ (.list L) f s) →
      callFn ops (m+2) (.builtin "filter") this [.list L, f] depth s =
        evalBin ops (n+1) depth .where_ (.list L) f s) := by
  have hd' : ¬ depth > MAX_DEPTH := by omega
  simp only [filter_is_where_calls ops _ depth this L f s ar h, where_is_where_calls ops _ _ L f s ar h,
    if_neg hd']
  have ha := fun hnd => (anti ops n).whereCalls (depth + 2) depth f (ar.canAccept 2) L 0 s (by omega)
    hf hL hs hnd
  refine ⟨fun hnf hnd => ?_, fun hnf hnd => ?_⟩
  · rw [← ha hnd] at hnf ⊢
    rw [whereCalls_fuel_mono ops hm hnf]
  · rw [whereCalls_fuel_mono ops hm hnf, ha hnd]

/-- `x into f` against the call expression `g(a)`: no depth difference, both are the same
    `callFn` at the same depth -/
theorem into_eq_call (ops : NumOps) (fuel depth : Nat) (g : Expr) (args : List Expr) (f x : Value)
    (s s1 s2 : ES) (hg : eval ops fuel depth g s = (.ok f, s1))
    (ha : evalList ops fuel depth args s1 = (.ok [x], s2)) (hx : ∀ v, x ≠ .spread v)
    (hc : f.isCallable = true) :
    eval ops (fuel+1) depth (.call g args) s = evalBin ops (fuel+1) depth .into x f s2 := by
  have hfl : flattenSpreads [x] = [x] := by
    cases x <;> first | rfl | exact absurd rfl (hx _)
  rw [call_expr_is_call ops fuel depth g args f [x] s s1 s2 hg ha hc, hfl,
    into_is_call ops fuel depth x f s2 hc]

/-- The unrestricted statement: "for every function, list and state, whenever both forms have
    enough fuel they return the same outcome and state".  It is false, but only in the band of two
    call levels next to the limit of 1000: take `f` a function that recurses exactly 999 levels
    deep (`r = n => if n <= 0 then 0 else r(n - 1)` applied to 997): `[997] via r` at top level
    reaches depth 999 and succeeds, `map([997], r)` runs the same calls two levels deeper, reaches
    1001 and fails with the depth error.  With `sort_by` inside `f` both forms can even succeed
    with different values (`via_eq_map_statement_false`).  `via_eq_map_partial` is everything
    outside that band. -/
def via_eq_map_statement : Prop :=
  ∀ (ops : NumOps) (fuel depth : Nat) (this : Value) (L : List Value) (f : Value) (s : ES) (ar : Gen.Arity),
    arityOf f = some ar →
    NF (callFn ops (fuel+2) (.builtin "map") this [.list L, f] depth s) →
    NF (evalBin ops (fuel+1) depth .via (.list L) f s) →
    callFn ops (fuel+2) (.builtin "map") this [.list L, f] depth s =
      evalBin ops (fuel+1) depth .via (.list L) f s

/-- the witness: `f = l => sort_by(l, to_string)`, `L = [["b","a"]]`, both forms at call
    depth 996 (`Lemmas/EvalDepthWitness.lean`): `L via f` = `[["a","b"]]` (sorted), `map(L, f)` =
    `[["b","a"]]` — the key calls of the deeper form land at depth 1001, fail with the depth
    error, and `sort_by` swallows the failure.  Both succeed, with different values. -/
theorem via_eq_map_statement_false : ¬ via_eq_map_statement := by
  intro h
  have := h toyOps 11 996 .null [listBA] sortFn sortState (.exact 1) rfl
    (by rw [sort_map_996]; simp) (by rw [sort_via_996]; simp)
  rw [sort_map_996, sort_via_996] at this
  simp [listAB, listBA] at this

/-- every worker passes the function value itself as `this` (the value bound to the function's
    own name inside its body), exactly like a direct call `f(x)` / `x into f` does: a named
    recursive function sees itself in all the forms (the pinned tree passed null from the
    built-ins; fix 9c4f791).  `x via f` on a non-list, `x into f` and the first callback of
    `[x] via f` are the same `callFn` call. -/
theorem self_reference (ops : NumOps) (fuel depth : Nat) (x f : Value) (s : ES) (ar : Gen.Arity)
    (h : arityOf f = some ar) (hx : isListV x = false) :
    evalBin ops (fuel+1) depth .into x f s = callFn ops fuel f f [x] depth s ∧
    evalBin ops (fuel+1) depth .via x f s = callFn ops fuel f f [x] depth s ∧
    mapCalls ops (fuel+1) f false [x] 0 depth s =
      (match callFn ops fuel f f [x] depth s with
       | (.ok v, s1) =>
         (match mapCalls ops fuel f false [] 1 depth s1 with
          | (.ok vs, s2) => (.ok (v :: vs), s2)
          | r => r)
       | (.err k, s1) => (.err k, s1)
       | (.panic p, s1) => (.panic p, s1)
       | (.fuel, s1) => (.fuel, s1)) := by
  have hc := isCallable_of_arityOf h
  exact ⟨into_is_call ops fuel depth x f s hc, evalBin_via_scalar ops fuel depth x f s hx hc,
    by rw [mapCalls.eq_3]; rfl⟩

section examples

/-- `recFn` is `f = b => if b then f(false) else "done"` (heap cell 7, named `f` in `recState`,
    `f` not otherwise in scope): a named recursive function through all the forms -/
example : arityOf recFn = some (.exact 1) ∧ (Gen.Arity.exact 1).canAccept 2 = false := by decide

set_option maxRecDepth 4000 in
example : evalBin toyOps 8 0 .via (.list [.bool true, .bool false]) recFn recState =
    (.ok (.list [.str "done", .str "done"]), recState) := by
  simp [evalBin_via, recFn, Value.isCallable, arityOf, lambdaArity,
    Gen.Arity.canAccept, mapCalls, callFn, checkArity, MAX_DEPTH, nameOf, recState, lookupAL, envGet,
    bindParams, bindParams.go, insertAL, eval, recBody, evalList, flattenSpreads]

set_option maxRecDepth 4000 in
example : callFn toyOps 9 (.builtin "map") (.builtin "map") [.list [.bool true, .bool false], recFn] 0
    recState = (.ok (.list [.str "done", .str "done"]), recState) := by
  rw [map_is_map_calls toyOps 7 0 _ _ recFn recState (.exact 1) rfl]
  simp [wrapList, recFn, Value.isCallable, lambdaArity,
    Gen.Arity.canAccept, mapCalls, callFn, checkArity, MAX_DEPTH, nameOf, recState, lookupAL, envGet,
    bindParams, bindParams.go, insertAL, eval, recBody, evalList, flattenSpreads]

set_option maxRecDepth 4000 in
example : evalBin toyOps 8 0 .into (.bool true) recFn recState = (.ok (.str "done"), recState) := by
  simp [evalBin_into, isListV, recFn, Value.isCallable, lambdaArity,
    Gen.Arity.canAccept, callFn, checkArity, MAX_DEPTH, nameOf, recState, lookupAL, envGet,
    bindParams, bindParams.go, insertAL, eval, recBody, evalList, flattenSpreads]

/-- a built-in as the function, with the index: `abs` accepts exactly one argument, so no index -/
example : arityOf (.builtin "abs") = some (.exact 1) := by decide +kernel
/-- a predicate whose results are all booleans / the hypotheses of `every_is_all_some_is_any` -/
example : ∀ b ∈ [Value.bool true, .bool false], ∃ p, b = Value.bool p := by simp
example : [Value.bool true, .bool false].all isTrueV = false ∧
    [Value.bool true, .bool false].any isTrueV = true := by decide

/-- the witness function is not `sort_by`-free; the recursive example is -/
example : sortFn.nsb = false ∧ recFn.nsb = true ∧ nsbEnv recState.env = true := by decide

end examples

end Blots.C13
