import Blots.Model.Json
import Blots.Model.JsonText
import Blots.Model.Data
import Blots.Lemmas.Json
import Blots.Lemmas.JsonText
/-
  C06 — Data survives output → JSON → input unchanged.

  The model (`Blots/Model/Json.lean`) has three layers: `Value` ⇄ `SV` (`from_value`/`to_value`),
  `SV` ⇄ `serde_json::Value` trees (`to_json`/`from_json`), and documents → trees
  (`Json.norm`: serde_json is built without `preserve_order`, so object members are sorted
  by key and a duplicate key keeps its last value).

  The JSON text layer is modelled too (`Blots/Model/JsonText.lean`): `jsonWrite` is
  `serde_json::to_string` on a tree of `f64` numbers (ryu's number format, serde_json's
  string escapes), `jsonRead` is `serde_json::from_str::<Value>` as a document tree (RFC
  8259 with serde_json's recursion limit of 128; numbers by correct rounding: the crate is
  built with `float_roundtrip`).  `text_roundtrip`: reading a written tree gives the tree
  back, for all strings, all finite doubles, any nesting below the recursion limit; hence
  `value_text_roundtrip`: value → tree → text → tree → value is `.==` the original.
  Assumption (validated by the harness on every run, `c06.model.json-text`): the two real
  functions agree with `jsonWrite` / `jsonRead` (character for character; accept/reject
  and tree).  Finding: the recursion limit makes the property fail on the real code for
  trees nested 128 levels or deeper (`deep_nesting_is_written_but_not_read`).

  `pf : ParseFn` ("the string parses as a lambda") and `pb : ParseBody` are the two facts
  about the Blots parser the JSON layer consults; every theorem holds for all of them.
-/
namespace Blots.C06

/-- A function-free value with finite numbers in which no record is "function shaped"
    comes back from `to_json`/`from_json` as the same tree — numbers bit for bit, strings
    and keys character for character, at any depth — except that the keys of every record
    are in `BTreeMap` order. -/
theorem tree_roundtrip (pf : ParseFn) (sv : SV) (hp : sv.plain = true) (hf : sv.finite = true)
    (hn : sv.noFn pf = true) : fromJson pf (toJson sv) = sv.sortKeys :=
  fromJson_toJson pf sv hp hf hn

/-- … and exactly the same tree when its record keys are already in that order (which is
    the case for every value that was itself read from JSON). -/
theorem tree_roundtrip_exact (pf : ParseFn) (sv : SV) (hp : sv.plain = true) (hf : sv.finite = true)
    (hn : sv.noFn pf = true) (hc : sv.canonical = true) : fromJson pf (toJson sv) = sv := by
  rw [fromJson_toJson pf sv hp hf hn, sortKeys_of_canonical sv hc]

/-- the text that is printed is re-parsed to the same tree: `to_json` only produces trees
    serde_json can hold (finite numbers, sorted unique keys), on which parsing a faithful
    print is the identity -/
theorem printed_tree_is_canonical (sv : SV) : (toJson sv).canonical = true ∧ (toJson sv).norm = toJson sv :=
  ⟨toJson_canonical sv, norm_of_canonical _ (toJson_canonical sv)⟩

example : (SV.record [("b", .num F64.one), ("a", .list [.str "x\"\\", .null, .bool true])]).plain = true ∧
    (SV.record [("b", .num F64.one), ("a", .list [.str "x\"\\", .null, .bool true])]).finite = true := by
  decide

example : ∀ pf : ParseFn,
    (SV.record [("b", .num F64.one), ("a", .list [.str "x", .null]), ("__blots_function", .null)]).noFn pf = true := by
  intro pf; rfl

example : (SV.record [("a", .null), ("b", .record [("", .num F64.one), ("1", .str "s")])]).canonical = true := by
  decide

/-- `to_value (from_value v) = v` for every data value, as trees (no reordering, no
    rounding; this leg also preserves ±inf) -/
theorem value_sv_roundtrip (pb : ParseBody) (v : Value) (hd : isData v = true) :
    ∃ sv, fromValue v = .ok sv ∧ sv.plain = true ∧ toValue pb sv = .ok v := by
  refine ⟨svOf v, fromValue_data v hd, svOf_plain v hd, ?_⟩
  rw [toValue_plain pb _ (svOf_plain v hd), valOf_svOf v hd]

theorem value_sv_roundtrip_veq (pb : ParseBody) (v : Value) (hd : isData v = true) :
    ∃ sv w, fromValue v = .ok sv ∧ toValue pb sv = .ok w ∧ veq w v = true := by
  obtain ⟨sv, h1, _, h2⟩ := value_sv_roundtrip pb v hd
  exact ⟨sv, v, h1, h2, veq_refl v hd⟩

/-- Any data value whose numbers are finite and that contains no function-shaped record is
    written (`from_value`, `to_json`) to a JSON tree that is read back (`parse`,
    `from_json`, `to_value`) as a value `.==` to the original.  (`.==` ignores record key
    order, which is all that changes: see `tree_roundtrip`.) -/
theorem data_roundtrip (pf : ParseFn) (pb : ParseBody) (v : Value) (hd : isData v = true)
    (sv : SV) (hsv : fromValue v = .ok sv) (hf : sv.finite = true) (hn : sv.noFn pf = true) :
    ∃ j w, writeJson v = .ok j ∧ readJson pf pb j = .ok w ∧ veq w v = true := by
  have e : sv = svOf v := by
    have := fromValue_data v hd; rw [hsv] at this; cases this; rfl
  subst e
  have hp := svOf_plain v hd
  refine ⟨toJson (svOf v), valOf (svOf v).sortKeys, ?_, ?_, veq_sorted_reload v hd⟩
  · simp [writeJson, hsv]
  · unfold readJson
    rw [norm_of_canonical _ (toJson_canonical _), fromJson_toJson pf _ hp hf hn,
      toValue_plain pb _ (sortKeys_plain _ hp)]

example : isData (.record [("k", .list [.num F64.one, .str "é"]), ("", .null)]) = true := by decide

/-- `tree_roundtrip` without "finite": false (`roundtrip_any_number_false`) -/
def roundtrip_any_number_statement : Prop :=
  ∀ (pf : ParseFn) (sv : SV), sv.plain = true → sv.noFn pf = true → fromJson pf (toJson sv) = sv.sortKeys

/-- a non-finite number is written as `0` by `to_json` (`Number::from_f64(..).unwrap_or(0)`).
    This is the library function; the CLI refuses such an output with exit 1 (C19
    `nonfinite_output_is_error`, fix afa129b), so the "finite" hypothesis of the property is
    necessary for `to_json` itself and enforced by the CLI. -/
theorem nonfinite_written_as_zero :
    toJson (.num F64.inf) = .num F64.zero ∧ toJson (.num F64.negInf) = .num F64.zero ∧
    toJson (.num F64.nan) = .num F64.zero := by
  have h1 : F64.inf.isFinite = false := by decide
  have h2 : F64.negInf.isFinite = false := by decide
  have h3 : F64.nan.isFinite = false := by decide
  simp [toJson, h1, h2, h3]

theorem roundtrip_any_number_false : ¬ roundtrip_any_number_statement := by
  intro h
  have h0 := h (fun _ => none) (.num F64.inf) rfl rfl
  rw [nonfinite_written_as_zero.1] at h0
  simp only [fromJson, SV.sortKeys, SV.num.injEq] at h0
  revert h0
  decide

/-- `tree_roundtrip` without "no function-shaped record": false (`roundtrip_any_record_false`) -/
def roundtrip_any_record_statement : Prop :=
  ∀ (pf : ParseFn) (sv : SV), sv.plain = true → sv.finite = true → fromJson pf (toJson sv) = sv.sortKeys

theorem function_shaped_record_becomes_function (pf : ParseFn) :
    fromJson pf (toJson (.record [("__blots_function", .str "map")])) = .builtin "map" := by
  simp [toJson, toJsonMembers, collectSorted, insertSorted, fromJson, fnObject, lookupAL, isBuiltinName,
    Gen.fromIdent]

theorem roundtrip_any_record_false : ¬ roundtrip_any_record_statement := by
  intro h
  have h1 := h (fun _ => none) (.record [("__blots_function", .str "map")]) rfl rfl
  rw [function_shaped_record_becomes_function] at h1
  simp [SV.sortKeys] at h1

theorem unparsable_function_string_is_a_record (pf : ParseFn) (ms : List (String × Json)) (s : String)
    (hl : lookupAL "__blots_function" ms = some (.str s)) (hb : isBuiltinName s = false)
    (hpf : pf s = none) : fromJson pf (.obj ms) = .record (fromJsonMembers pf ms) := by
  simp [fromJson, fnObject, hl, hb, hpf]

/-- A document with no function-shaped object is reproduced by `from_json`/`to_json`
    exactly as the tree serde_json parsed it … -/
theorem json_echo_tree (pf : ParseFn) (j : Json) (hf : j.finite = true) (hn : j.norm.noFnObj pf = true) :
    toJson (fromJson pf j.norm) = j.norm :=
  toJson_fromJson_canonical pf _ (norm_canonical j hf) hn

/-- … and that tree is the document up to JSON value equality (`jeq`: numbers as doubles,
    object member order ignored, a duplicate key standing for its last value). -/
theorem json_echo (pf : ParseFn) (j : Json) (hf : j.finite = true) (hn : j.norm.noFnObj pf = true) :
    jeq (toJson (fromJson pf j.norm)) j = true := by
  rw [json_echo_tree pf j hf hn]; exact jeq_norm j hf

example : ∀ pf : ParseFn,
    (Json.obj [("b", .num F64.one), ("a", .arr [.str "x"]), ("b", .null)]).finite = true ∧
    (Json.obj [("b", .num F64.one), ("a", .arr [.str "x"]), ("b", .null)]).norm.noFnObj pf = true := by
  intro pf; exact ⟨by decide, rfl⟩

/-- the whole path of `output x = inputs.x`: document → value → output tree -/
theorem document_echo (pf : ParseFn) (pb : ParseBody) (j : Json) (hf : j.finite = true)
    (hn : j.norm.noFnObj pf = true) :
    ∃ w j', readJson pf pb j = .ok w ∧ writeJson w = .ok j' ∧ jeq j' j = true := by
  have hp := fromJson_plain pf _ hn
  refine ⟨valOf (fromJson pf j.norm), toJson (fromJson pf j.norm), ?_, ?_, json_echo pf j hf hn⟩
  · simp [readJson, toValue_plain pb _ hp]
  · simp [writeJson, fromValue_valOf _ hp]

theorem duplicate_keys_last_wins (k : String) (ms : List (String × Json)) :
    ∃ ms', (Json.obj ms).norm = .obj ms' ∧ keysSorted ms' = true ∧
      lookupAL k ms' = (lookupLast k ms).map Json.norm := by
  refine ⟨collectSorted (Json.normMembers ms), rfl, collectSorted_sorted _, ?_⟩
  rw [lookupAL_collectSorted, normMembers_eq, lookupLast_mapVals]

example : jeq (.obj [("b", .num F64.one), ("a", .null), ("b", .str "x")])
    (.obj [("a", .null), ("b", .str "x")]) = true := by decide

open Blots.JsonText

/-- ryu's text of every finite double — whichever of its five layouts (`1.0`, `12.34`,
    `0.00001234`, `1e21`, `1.234e-6`) applies — denotes, under correct rounding, exactly
    that double (so does `-0.0`); and the reader reads it back -/
theorem number_text_roundtrip (x : F64) (hf : x.isFinite = true) :
    F64.parseDec (String.ofList (ryuChars x)) = some x ∧ jsonRead (jsonWrite (.num x)) = some (.num x) :=
  ⟨parseDec_ryu x hf, read_write_with 128 (.num x) (by simpa [Json.finite] using hf) (by simp [Json.depth])⟩

/-- every string — any sequence of Unicode scalar values: quotes, backslashes, control
    characters, U+007F, non-ASCII, astral — is read back character for character -/
theorem string_text_roundtrip (s : String) : jsonRead (jsonWrite (.str s)) = some (.str s) :=
  read_write_with 128 (.str s) rfl (by simp [Json.depth])

/-- every tree of finite numbers nested less than 128
    deep (serde_json's recursion limit) is read back from its written text as the same
    tree: member order, duplicate keys, strings and numbers exactly -/
theorem text_roundtrip (j : Json) (hf : j.finite = true) (hd : j.depth < 128) :
    jsonRead (jsonWrite j) = some j :=
  read_write_with 128 j hf hd

/-- … and the depth bound is only the reader's recursion limit: with a limit above the
    depth of the tree the text of any tree of finite numbers is read back -/
theorem text_roundtrip_any_depth (j : Json) (hf : j.finite = true) :
    jsonReadWith (j.depth + 1) (jsonWrite j) = some j :=
  read_write_with (j.depth + 1) j hf (Nat.lt_succ_self _)

/-- the reader on every JSON number literal `-? int frac? exp?` (what a user may type):
    the correct rounding of its exact value `± digits × 10^(exponent − #fraction digits)`;
    out of range (rounds to ±inf) is an error -/
theorem number_literal_read_correctly_rounded (neg : Bool) (ip fp : List Char) (dot : Bool)
    (ex : List Char) (ev : Int) (rest : List Char)
    (hip : ∀ c ∈ ip, F64.isDigit c = true) (hlead : numLeadOk ip = true)
    (hfp : ∀ c ∈ fp, F64.isDigit c = true) (hdot1 : dot = false → fp = []) (hdot2 : dot = true → fp ≠ [])
    (hex : F64.IsExpText (400 + ip.length + fp.length) ex ev) (hrest : F64.HeadSat NumEnd rest) :
    jsonReadNumber ((if neg then ['-'] else []) ++ (ip ++ F64.fracText dot fp ++ ex) ++ rest) =
      (if (F64.decVal neg (F64.digitsVal (ip ++ fp)) (ev - Int.ofNat fp.length)).isFinite
       then some (.num (F64.decVal neg (F64.digitsVal (ip ++ fp)) (ev - Int.ofNat fp.length)), rest)
       else none) :=
  readNumber_lit neg ip fp dot ex ev rest hip hlead hfp hdot1 hdot2 hex hrest

/-- a tree with a string of quote, backslash, newline, U+0001, "é", an astral character; -0.0,
    1e21, 5e-324, f64::MAX; empty and nested containers; awkward keys -/
def exTree : Json :=
  .obj [("k\"", .arr [.str "q\"b\\n\nc\x01é😀", .num F64.negZero, .num (F64.ofNatBits 0x444B1AE4D6E2EF50),
      .num (F64.ofNatBits 1), .num (F64.ofNatBits 0x7FEFFFFFFFFFFFFF), .null, .bool true, .arr [], .obj []]),
    ("", .obj [("é", .num F64.one)])]

example : exTree.finite = true ∧ exTree.depth = 3 := by decide
example : exTree.chars =
    "{\"k\\\"\":[\"q\\\"b\\\\n\\nc\\u0001é😀\",-0.0,1e21,5e-324,1.7976931348623157e308,null,true,[],{}],\"\":{\"é\":1.0}}".toList := by
  decide +kernel
example : jsonRead (jsonWrite exTree) = some exTree := text_roundtrip exTree (by decide) (by decide)
example : jsonRead (jsonWrite (.num F64.negZero)) = some (.num F64.negZero) :=
  (number_text_roundtrip _ (by decide)).2
example : ryuChars (F64.ofNatBits 1) = "5e-324".toList ∧ ryuChars F64.negZero = "-0.0".toList ∧
    ryuChars (F64.ofNatBits 0x3E60000000000000) = "2.9802322387695312e-8".toList := by decide +kernel
-- the reader on texts a user may type: white space, escapes, a surrogate pair, number forms
example : (jsonRead " [ 1E5 , -0 , 1.0e-3 ] ").isSome = true ∧ (jsonRead "\"\\ud83d\\ude00\\/\"").isSome = true ∧
    (jsonRead "01").isSome = false ∧ (jsonRead "[1,]").isSome = false ∧ (jsonRead "\"\\ud83d\"").isSome = false ∧
    (jsonRead "1e999").isSome = false ∧ (jsonRead "{\"a\":1,\"a\":2}").isSome = true := by decide +kernel

/-- arrays nested `n + 1` deep -/
def nestArr : Nat → Json
  | 0 => .arr []
  | n + 1 => .arr [nestArr n]

private theorem nestArr_chars (n : Nat) : (nestArr (n + 1)).chars = '[' :: ((nestArr n).chars ++ [']']) := by
  rw [nestArr, Json.chars, Json.restChars]

private theorem nestArr_finite : ∀ n, (nestArr n).finite = true
  | 0 => rfl
  | n + 1 => by rw [nestArr, Json.finite, Json.finiteList, nestArr_finite n]; rfl

private theorem nestArr_depth : ∀ n, (nestArr n).depth = n + 1
  | 0 => rfl
  | n + 1 => by
    rw [nestArr, Json.depth, Json.depthList, Json.depthList, nestArr_depth n, Nat.max_zero, Nat.add_comm]

/-- a text that opens at least as many arrays as the reader has levels left is refused: each `[`
    uses up one level, and none is opened with a single level left -/
private theorem nestArr_refused : ∀ (n f d : Nat) (rest : List Char), d ≤ n + 1 →
    jsonReadValue f d ((nestArr n).chars ++ rest) = none
  | _, 0, _, _, _ => by rw [jsonReadValue]
  | 0, f + 1, d, _, hd => readValue_arr_deep f d _ hd
  | n + 1, f + 1, d, rest, hd => by
    rw [nestArr_chars, List.cons_append, List.append_assoc]
    by_cases h1 : d ≤ 1
    · exact readValue_arr_deep f d _ h1
    · rw [readValue_arr_chars f d _ (nestArr_finite n) _ h1]
      cases f with
      | zero => rfl
      | succ f => rw [jsonReadElems, nestArr_refused n f (d - 1) _ (by omega)]; rfl

private theorem nestArr_read (limit n : Nat) :
    jsonReadWith limit (jsonWrite (nestArr n)) = if n + 1 < limit then some (nestArr n) else none := by
  split
  · next h => exact read_write_with limit _ (nestArr_finite n) (by rw [nestArr_depth]; exact h)
  · next h =>
    refine read_write_none limit _ fun fuel => ?_
    rw [← List.append_nil (nestArr n).chars]
    exact nestArr_refused n fuel limit [] (by omega)

/-- The depth hypothesis is needed (a known finding about the real code with respect to "at any
    nesting depth"): a list nested 128 deep is written (`[[[…]]]`) but its text is refused by
    the reader — serde_json's recursion limit — while 127 levels are read back -/
theorem deep_nesting_is_written_but_not_read :
    (nestArr 127).finite = true ∧ (nestArr 127).depth = 128 ∧
      jsonRead (jsonWrite (nestArr 127)) = none ∧ jsonRead (jsonWrite (nestArr 126)) = some (nestArr 126) :=
  ⟨nestArr_finite _, nestArr_depth _, nestArr_read 128 127, nestArr_read 128 126⟩

/-- Any data value whose numbers are finite, that contains no function-shaped record and
    is nested less than 128 deep is written (`from_value`, `to_json`,
    `serde_json::to_string`) to a text that is read back (`serde_json::from_str`,
    `from_json`, `to_value`) as a value `.==` to the original. -/
theorem value_text_roundtrip (pf : ParseFn) (pb : ParseBody) (v : Value) (hd : isData v = true)
    (sv : SV) (hsv : fromValue v = .ok sv) (hf : sv.finite = true) (hn : sv.noFn pf = true)
    (hdepth : sv.depth < 128) :
    ∃ t w, writeText v = .ok t ∧ readText pf pb t = .ok w ∧ veq w v = true := by
  obtain ⟨j, w, h1, h2, h3⟩ := data_roundtrip pf pb v hd sv hsv hf hn
  have hj : j = toJson sv := by
    simp only [writeJson, hsv, Outcome.ok.injEq] at h1; exact h1.symm
  subst hj
  refine ⟨jsonWrite (toJson sv), w, ?_, ?_, h3⟩
  · simp only [writeText, h1]
  · have ht := text_roundtrip (toJson sv) (finite_of_canonical _ (toJson_canonical sv))
      (Nat.lt_of_le_of_lt (toJson_depth_le sv) hdepth)
    simp only [readText, ht, h2]

/-- the written text is canonical JSON text of the tree: reading it and writing again
    gives the same text (output of one program piped through another is stable) -/
theorem rewrite_is_identity (j : Json) (hf : j.finite = true) (hd : j.depth < 128) :
    (jsonRead (jsonWrite j)).map jsonWrite = some (jsonWrite j) := by
  rw [text_roundtrip j hf hd]; rfl

example : isData (.record [("k", .list [.num F64.negZero, .str "é\"\\\n\x01😀"]), ("", .null)]) = true := by decide
example : ∀ pf : ParseFn, ∃ t w,
    writeText (.record [("k", .list [.num F64.negZero, .str "é\"\n\x01😀"]), ("", .null)]) = .ok t ∧
    readText pf (fun _ => none) t = .ok w ∧
    veq w (.record [("k", .list [.num F64.negZero, .str "é\"\n\x01😀"]), ("", .null)]) = true := by
  intro pf
  exact value_text_roundtrip pf _ _ (by decide) _ rfl (by decide) rfl (by decide)

end Blots.C06
