import Blots.Lemmas.OfRatio
import Blots.Lemmas.ParseDec
import Blots.Lemmas.Shortest
import Blots.Lemmas.Shortest17
import Blots.Lemmas.NumText
import Blots.Lemmas.SrcNumber
/-
  C16 — Numbers keep their exact value through every textual path.

  Model (`Model/Num.lean`, `Model/NumText.lean`; helper lemmas in `Blots/Lemmas`):
  `F64.ofRatio` is the specification of correct rounding (round to
  nearest, ties to even, of an exact non-negative rational, with a sign); `F64.parseDec`
  models `str::parse::<f64>` as `ofRatio` of the exact decimal; `F64.toDisplay` models
  `f64::to_string` (shortest round-trip digits), `F64.toFixed x 0` models `{:.0}`;
  `NumText.literalValue` models the literal conversion of `expressions.rs` (arm `Rule::number`),
  `NumText.srcNumber` the number printing of `ast_to_source.rs`, `toStringNum`/`toNumberStr`
  the built-ins.  Rust's `{}` / `{:.0}` / `{:.14e}` / `parse`, serde_json's writer and the
  real literal conversion are compared with these on every run (harness `c16.model.*`).

  Proved for all inputs:
    * correct rounding is exact on every finite double and depends only on the rational value;
    * a well-formed decimal text `[sign] digits [. digits] [e [sign] digits]` parses to the
      correct rounding of its exact value; decimal literals are parsed after deleting `_`;
    * hex / binary literals (optional sign, `_` anywhere among the digits) denote the correct
      rounding of their exact integer value when it is below 2^63 and are rejected (an error,
      never a wrong value) from 2^63 on — the i64 route of the code;
    * the emitted-source text of every finite double, the `to_string` text of every finite
      double, and `{:.0}` of every integral double read back — through `str::parse`
      (`to_number`) and through the literal conversion of the parser — as the identical
      double.
  `ShortestFound true x` — the 18-round search of the shortest-digits model finds a candidate —
  is a hypothesis of `to_string_reads_back` and `source_text_reads_back`; it holds for every
  finite non-zero double (`shortest_digits_always_found`: 17 significant digits always read back,
  because a decimal within relative distance 1/(2·10^16) of a double rounds to it,
  `correct_rounding_within_17_digits`), so the `…_all` theorems carry no such hypothesis.  The
  harness also validates it on every sampled double (key `c16.model.shortest-found`).
  The number *reader* of serde_json (built with `float_roundtrip`, fix 3028bc2) is `jsonReadNumber` of
  `Model/JsonText.lean`; that it rounds every number literal correctly is
  `C06.number_literal_read_correctly_rounded`, and the harness compares it with the
  specification (key `c16.json-roundtrip`).
-/
namespace Blots.C16

open Blots Blots.F64 Blots.NumText Blots.NumSpec

theorem correct_rounding_exact_on_doubles (x : F64) (h : x.isFinite = true) :
    ofRatio x.neg x.ratio.1 x.ratio.2 = x :=
  ofRatio_ratio x h

theorem correct_rounding_depends_on_value (s : Bool) (n d n' d' : Nat) (hd : 0 < d) (hd' : 0 < d')
    (h : n * d' = n' * d) : ofRatio s n d = ofRatio s n' d' :=
  ofRatio_congr s n d n' d' hd hd' h

theorem correct_rounding_exact_on_integers (x : F64) (h : x.isFinite = true)
    (hint : x.ratio.1 % x.ratio.2 = 0) : ofRatio x.neg (x.ratio.1 / x.ratio.2) 1 = x :=
  ofRatio_integral x h hint

example : (ofNatBits 0x7FEFFFFFFFFFFFFF).isFinite = true := by decide     -- f64::MAX
example : negZero.isFinite = true := by decide
example : ofRatio false 1 10 = ofNatBits 0x3FB999999999999A := by decide   -- 0.1 rounds up

/-- `str::parse::<f64>` (hence `to_number` and decimal literals) on
    `[sign] digits [. digits] [(e|E) [sign] digits]` with at least one mantissa digit:
    the correct rounding of `± digits × 10 ^ (exponent − #fraction digits)`.
    (`decVal neg m e` is `ofRatio neg (m·10^e) 1` for `e ≥ 0` and `ofRatio neg m (10^-e)`
    otherwise; the bound on the exponent digits is the model's clamp: beyond it the result is
    0 or ∞ whatever the exponent.) -/
theorem decimal_text_correctly_rounded (sg : List Char) (neg : Bool) (ip fp : List Char) (dot : Bool)
    (ex : List Char) (ev : Int) (hsg : IsSign sg neg)
    (hip : ∀ c ∈ ip, F64.isDigit c = true) (hfp : ∀ c ∈ fp, F64.isDigit c = true)
    (hne : ip ++ fp ≠ []) (hdot : dot = false → fp = [])
    (hex : IsExpText (400 + ip.length + fp.length) ex ev) :
    parseDec (String.ofList (sg ++ (ip ++ fracText dot fp ++ ex))) =
      some (decVal neg (F64.digitsVal (ip ++ fp)) (ev - Int.ofNat fp.length)) :=
  parseDec_decimal_literal sg neg ip fp dot ex ev hsg hip hfp hne hdot hex

example : parseDec "-1.25E+3" = some (ofRatio true 1250 1) := by decide +kernel
example : parseDec ".5" = some (ofRatio false 5 10) := by decide +kernel
example : parseDec "9007199254740993" = some (ofNatBits 0x4340000000000000) := by decide +kernel  -- tie → even

theorem decimal_literal_ignores_underscores (cs : List Char) (hb : radixSplit 'b' cs = none)
    (hx : radixSplit 'x' cs = none) :
    literalValue (String.ofList cs) = parseDec (String.ofList (removeUnderscores cs)) :=
  literalValue_decimal cs hb hx

example : literalValue "1_000.5" = parseDec "1000.5" := by decide +kernel

/-- `vs` are the digit values, most significant first; from 2^63 on the literal is an error (the
    `i64::from_str_radix` route of the code) -/
theorem hex_literal_correctly_rounded (sg : Option Bool) (body : List Char) (vs : List Nat)
    (hne : removeUnderscores body ≠ [])
    (hdig : (removeUnderscores body).map (digitOf 16) = vs.map some) :
    literalValue (String.ofList (signPrefix sg ++ '0' :: 'x' :: body)) =
      if radixValue 16 vs < 2 ^ 63
      then some (mulSign (sg == some true) (ofRatio false (radixValue 16 vs) 1)) else none :=
  literalValue_hex sg body vs hne hdig

theorem binary_literal_correctly_rounded (sg : Option Bool) (body : List Char) (vs : List Nat)
    (hne : removeUnderscores body ≠ [])
    (hdig : (removeUnderscores body).map (digitOf 2) = vs.map some) :
    literalValue (String.ofList (signPrefix sg ++ '0' :: 'b' :: body)) =
      if radixValue 2 vs < 2 ^ 63
      then some (mulSign (sg == some true) (ofRatio false (radixValue 2 vs) 1)) else none :=
  literalValue_binary sg body vs hne hdig

example : literalValue "0xFF_ff" = some (ofRatio false 65535 1) := by decide +kernel
example : literalValue "+0b1_01" = some (ofRatio false 5 1) := by decide +kernel
example : literalValue "0x20000000000001" = some (ofNatBits 0x4340000000000000) := by decide +kernel  -- 2^53+1 → even
example : literalValue "0x7fffffffffffffff" = some (ofNatBits 0x43E0000000000000) := by decide +kernel -- 2^63-1 → 2^63
example : literalValue "0x8000000000000000" = none := by decide +kernel                                -- rejected
example : literalValue "-0b0" = some negZero := by decide                                      -- -1.0 * 0.0

/-- `{:.0}` of an integral double (the emitted-source rule below 1e15) -/
theorem integral_text_reads_back (x : F64) (hf : x.isFinite = true) (hi : x.isIntegral = true) :
    parseDec (toFixed x 0) = some x :=
  parseDec_toFixed_zero x hf hi

theorem to_string_reads_back (x : F64) (hf : x.isFinite = true)
    (h : x.isZero = true ∨ ShortestFound true x) : toNumberStr (toStringNum x) = some x :=
  parseDec_toDisplay x hf h

/-- `srcNumber` is the number text of emitted function source and of the formatter; it reads back
    through `str::parse` and through the literal conversion of the parser -/
theorem source_text_reads_back (x : F64) (hf : x.isFinite = true)
    (h : x.isZero = true ∨ ShortestFound true x) :
    parseDec (srcNumber x) = some x ∧ literalValue (srcNumber x) = some x :=
  ⟨parseDec_srcNumber x hf h, literalValue_srcNumber x hf h⟩

/-- correct rounding is nearest, with room for 17 digits: a fraction `n/d` within relative
    distance `1/(2·10^16)` of the exact value `|x|` of a finite non-zero double converts to `|x|`
    (`S17.qv n d` is the rational `n/d`) -/
theorem correct_rounding_within_17_digits (x : F64) (hf : x.isFinite = true) (hz : x.isZero = false)
    (n d : Nat) (hd : 0 < d)
    (hlo : S17.qv x.ratio.1 x.ratio.2 - S17.qv x.ratio.1 x.ratio.2 / (2 * 10 ^ 16) ≤ S17.qv n d)
    (hhi : S17.qv n d ≤ S17.qv x.ratio.1 x.ratio.2 + S17.qv x.ratio.1 x.ratio.2 / (2 * 10 ^ 16)) :
    ofRatio false n d = x.abs :=
  S17.ofRatio_eq_abs_of_close x hf hz n d hd hlo hhi

/-- `tieUp`: Rust's tie rule (`true`) or ryu's (`false`) -/
theorem shortest_digits_always_found (tieUp : Bool) (x : F64) (hf : x.isFinite = true)
    (hz : x.isZero = false) : ShortestFound tieUp x :=
  shortest_always_found tieUp x hf hz

/-- `to_number(to_string(x)) = x` -/
theorem to_string_reads_back_all (x : F64) (hf : x.isFinite = true) :
    toNumberStr (toStringNum x) = some x :=
  parseDec_toDisplay_all x hf

theorem source_text_reads_back_all (x : F64) (hf : x.isFinite = true) :
    parseDec (srcNumber x) = some x ∧ literalValue (srcNumber x) = some x :=
  ⟨parseDec_srcNumber x hf (zero_or_found x hf), literalValue_srcNumber x hf (zero_or_found x hf)⟩

/-- the parser reads `-5` as the negation operator applied to the literal `5`: negating the
    magnitude gives back a negative number -/
theorem negated_literal_reads_back (x : F64) (hn : x.neg = true) : x.abs.negate = x :=
  negate_abs x hn

theorem to_number_bool : toNumberBool true = F64.one ∧ toNumberBool false = F64.zero := ⟨rfl, rfl⟩

example : (ofNatBits 0x4059000000000000).isIntegral = true := by decide                 -- 100.0
example : srcNumber (ofNatBits 0x4059000000000000) = "100" := by decide
example : ShortestFound true (ofNatBits 0x3FB999999999999A) := by unfold ShortestFound; decide
example : srcNumber (ofNatBits 0x3FB999999999999A) = "0.1" := by decide +kernel
example : srcNumber (ofNatBits 0x430C6BF526340000) = "1000000000000000" := by decide +kernel     -- 1e15: to_string
example : toStringNum negZero = "-0" ∧ toNumberStr "-0" = some negZero := by decide +kernel
-- the unconditional read-back on 0.1, 1/3, f64::MAX, the smallest subnormal 5e-324, the smallest
-- normal 2^-1022, and 9007199254740993.0 (the double 2^53, a power of two: narrower gap below)
example : toNumberStr (toStringNum (ofNatBits 0x3FB999999999999A)) = some (ofNatBits 0x3FB999999999999A) :=
  to_string_reads_back_all _ (by decide)
example : toNumberStr (toStringNum (ofNatBits 0x3FD5555555555555)) = some (ofNatBits 0x3FD5555555555555) :=
  to_string_reads_back_all _ (by decide)
example : toNumberStr (toStringNum (ofNatBits 0x7FEFFFFFFFFFFFFF)) = some (ofNatBits 0x7FEFFFFFFFFFFFFF) :=
  to_string_reads_back_all _ (by decide)
example : toNumberStr (toStringNum (ofNatBits 1)) = some (ofNatBits 1) :=
  to_string_reads_back_all _ (by decide)
example : toNumberStr (toStringNum (ofNatBits 0x0010000000000000)) = some (ofNatBits 0x0010000000000000) :=
  to_string_reads_back_all _ (by decide)
example : parseDec "9007199254740993.0" = some (ofNatBits 0x4340000000000000) := by decide +kernel
example : literalValue (srcNumber (ofNatBits 0x4340000000000000)) = some (ofNatBits 0x4340000000000000) :=
  (source_text_reads_back_all _ (by decide)).2
example : toStringNum (ofNatBits 0x3FD5555555555555) = "0.3333333333333333" := by decide +kernel
example : toStringNum (ofNatBits 0x4340000000000000) = "9007199254740992" := by decide +kernel
example : (ofNatBits 1).shortestDigitsWith true = (5, -324) := shortestDigits_min
example : ShortestFound false (ofNatBits 0x3E60000000000000) :=          -- 2^-25, a tie between candidates
  shortest_digits_always_found false _ (by decide) (by decide)
example : (ofNatBits 0x7FEFFFFFFFFFFFFF).isZero = false ∧ (ofNatBits 1).isZero = false := by decide

end Blots.C16
