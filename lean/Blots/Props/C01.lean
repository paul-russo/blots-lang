import Blots.Lemmas.NoPanic
import Blots.Lemmas.ToyOps
/-
  C01 — No input crashes the pipeline (the logic part: no `panic` outcome of the model is
  reachable once arity was checked).

  In the model every Rust `args[i]`, `unwrap`, slice index … is a checked operation that yields
  `Outcome.panic`.
  All theorems hold for every `ops : NumOps`; the only hypothesis is `PercentileIndexOk ops`
  (the float-computed index of `percentile` is `< len`; validated by the harness on the native
  operations, and shown necessary by the last `example`).
-/
namespace Blots.C01

/-- For the rows with a callback and for `time_now`, `callPure` is `none` and the statement
    holds trivially. -/
theorem callPure_no_panic (ops : NumOps) (variant name : String) (ar : Gen.Arity)
    (hrow : (variant, name, ar) ∈ Gen.builtins)
    (hperc : name = "percentile" → PercentileIndexOk ops)
    (args : List Value) (harity : checkArity ar args.length = .ok ()) :
    ∀ p, callPure ops name args ≠ some (.panic p) :=
  callPure_noPanic_of_mem ops hrow hperc args (checkArity_ok_iff.mp harity)

theorem callPure_no_panic_except_percentile (ops : NumOps) (variant name : String)
    (ar : Gen.Arity) (hrow : (variant, name, ar) ∈ Gen.builtins) (hname : name ≠ "percentile")
    (args : List Value) (harity : checkArity ar args.length = .ok ()) :
    ∀ p, callPure ops name args ≠ some (.panic p) :=
  callPure_no_panic ops variant name ar hrow (fun h => absurd h hname) args harity

theorem callPure_no_panic_percentile (ops : NumOps) (hperc : PercentileIndexOk ops)
    (args : List Value) (harity : checkArity (.exact 2) args.length = .ok ()) :
    ∀ p, callPure ops "percentile" args ≠ some (.panic p) :=
  callPure_no_panic ops "Percentile" "percentile" (.exact 2) (by decide) (fun _ => hperc) args harity

theorem builtinArity_iff_row (name : String) (ar : Gen.Arity) :
    builtinArity name = some ar ↔ ∃ variant, (variant, name, ar) ∈ Gen.builtins :=
  ⟨mem_builtins_of_builtinArity, fun ⟨_, h⟩ => builtinArity_of_mem h⟩

/-- `callPure_no_panic` in the form `callFn` uses it -/
theorem callPure_no_panic_of_arity (ops : NumOps) (hperc : PercentileIndexOk ops) (name : String)
    (ar : Gen.Arity) (har : builtinArity name = some ar) (args : List Value)
    (harity : checkArity ar args.length = .ok ()) :
    ∀ p, callPure ops name args ≠ some (.panic p) :=
  callPure_noPanic_of_arity ops hperc har args harity

example : ("Slice", "slice", Gen.Arity.exact 3) ∈ Gen.builtins := by decide
example : "slice" ≠ "percentile" := by decide
example : checkArity (.exact 3) [Value.str "héllo", .num int1, .num int3].length = .ok () := rfl
example : builtinArity "slice" = some (.exact 3) := rfl
/-- `slice("ab", 1, 3)`: out of range is a reported error -/
example : callPure intOps "slice" [.str "ab", .num int1, .num int3] = some (.err .domain) := by
  set_option maxRecDepth 10000 in rfl

/-- an `ops` satisfying the `percentile` hypothesis -/
example : PercentileIndexOk { intOps with round := fun _ => F64.zero } := by
  intro p n hn _ _
  show F64.zero.toU64 < n
  have : F64.zero.toU64 = 0 := by decide +kernel
  omega

theorem bindParams_no_panic (ps : List LArg) (args : List Value) :
    ∀ p, bindParams ps args ≠ .panic p :=
  bindParams_noPanic ps args

/-- `(a?, b)` called with one argument (the case of fix 853ff5a) -/
example : bindParams [.opt "a", .req "b"] [.num int1] = .err .arity := rfl
example : bindParams [.rest "r", .req "b"] [] = .err .arity := rfl

/-! `FunctionDef::call` checks arity before it indexes an argument. -/

theorem callFn_builtin_checks_arity_first (ops : NumOps) (fuel : Nat) (name : String)
    (ar : Gen.Arity) (this : Value) (args : List Value) (depth : Nat) (s : ES)
    (har : builtinArity name = some ar) (hbad : checkArity ar args.length = .err .arity) :
    callFn ops (fuel + 1) (.builtin name) this args depth s = (.err .arity, s) := by
  rw [callFn_builtin, har]; simp only [hbad, R.bind_err]

theorem callFn_lambda_checks_arity_first (ops : NumOps) (fuel id : Nat) (ps : List LArg)
    (body : Expr) (sc : List (String × Value)) (this : Value) (args : List Value) (depth : Nat)
    (s : ES) (hbad : (lambdaArity ps).canAccept args.length = false) :
    callFn ops (fuel + 1) (.lambda id ps body sc) this args depth s = (.err .arity, s) := by
  rw [callFn_lambda, checkArity_err hbad, R.bind_err]

/-- `checkArity` has exactly two results: the second hypothesis above is "not accepted" -/
theorem checkArity_err_iff (ar : Gen.Arity) (n : Nat) :
    checkArity ar n = .err .arity ↔ ar.canAccept n = false := by
  unfold checkArity; split <;> simp_all

example : builtinArity "reduce" = some (.exact 3) := rfl
example : checkArity (.exact 3) [Value.list [], Value.null].length = .err .arity := rfl
example : (lambdaArity [.req "x", .opt "y"]).canAccept ([] : List Value).length = false := rfl

/-- the checked `args[0]`, `args[1]`, `args[2]` of the higher-order built-ins are covered by
    their table arity (exact 2, `reduce` exact 3) -/
theorem hof_arity_covers_index (name : String) (ar : Gen.Arity) (n : Nat)
    (hhof : isHof name = true) (har : builtinArity name = some ar)
    (hacc : ar.canAccept n = true) : 2 ≤ n ∧ (name = "reduce" → 3 ≤ n) :=
  hof_args_length hhof har hacc

example : isHof "reduce" = true := by decide
example : (Gen.Arity.exact 3).canAccept 3 = true := rfl

theorem eval_no_panic (ops : NumOps) (hperc : PercentileIndexOk ops) (fuel depth : Nat)
    (e : Expr) (s : ES) : ∀ p, (eval ops fuel depth e s).1 ≠ .panic p :=
  R_noPanic_of_ne ((NPAll_all ops hperc fuel).eval depth e s)

theorem callFn_no_panic (ops : NumOps) (hperc : PercentileIndexOk ops) (fuel : Nat)
    (fv this : Value) (args : List Value) (depth : Nat) (s : ES) :
    ∀ p, (callFn ops fuel fv this args depth s).1 ≠ .panic p :=
  R_noPanic_of_ne ((NPAll_all ops hperc fuel).callFn fv this args depth s)

theorem callHof_no_panic (ops : NumOps) (hperc : PercentileIndexOk ops) (fuel : Nat)
    (name : String) (args : List Value) (depth : Nat) (s : ES) (h2 : 2 ≤ args.length)
    (h3 : name = "reduce" → 3 ≤ args.length) :
    ∀ p, (callHof ops fuel name args depth s).1 ≠ .panic p :=
  R_noPanic_of_ne (fun p s' => (NPAll_all ops hperc fuel).callHof name args depth s p s' h2 h3)

example : 2 ≤ [Value.list [], Value.builtin "abs"].length := by decide
example : "map" = "reduce" → 3 ≤ [Value.list [], Value.builtin "abs"].length := by decide

/-- the whole mutual block of the evaluator (the fields of `NPAll`) -/
theorem evaluator_no_panic (ops : NumOps) (hperc : PercentileIndexOk ops) (fuel : Nat) :
    (∀ depth e s p, (eval ops fuel depth e s).1 ≠ .panic p) ∧
    (∀ depth es s p, (evalList ops fuel depth es s).1 ≠ .panic p) ∧
    (∀ depth es s p, (evalItems ops fuel depth es s).1 ≠ .panic p) ∧
    (∀ depth es acc s p, (evalEntries ops fuel depth es acc s).1 ≠ .panic p) ∧
    (∀ depth e s p, (evalDoStmt ops fuel depth e s).1 ≠ .panic p) ∧
    (∀ depth stmts ret s p, (evalDo ops fuel depth stmts ret s).1 ≠ .panic p) ∧
    (∀ fv this args depth s p, (callFn ops fuel fv this args depth s).1 ≠ .panic p) ∧
    (∀ f wi xs start depth s p, (mapCalls ops fuel f wi xs start depth s).1 ≠ .panic p) ∧
    (∀ f wi ie xs start depth s p, (quantCalls ops fuel f wi ie xs start depth s).1 ≠ .panic p) ∧
    (∀ f wi acc xs start depth s p, (foldCalls ops fuel f wi acc xs start depth s).1 ≠ .panic p) ∧
    (∀ f xs depth s kr, kr ∈ (keyCalls ops fuel f xs depth s).1 → ∀ p, kr.2 ≠ .panic p) ∧
    (∀ name args depth s p, 2 ≤ args.length → (name = "reduce" → 3 ≤ args.length) →
      (callHof ops fuel name args depth s).1 ≠ .panic p) ∧
    (∀ depth op a b s p, (evalBin ops fuel depth op a b s).1 ≠ .panic p) ∧
    (∀ la lb depth s p, (viaPairs ops fuel la lb depth s).1 ≠ .panic p) ∧
    (∀ f wi xs start depth s p, (whereCalls ops fuel f wi xs start depth s).1 ≠ .panic p) := by
  have h := NPAll_all ops hperc fuel
  refine ⟨?_, ?_, ?_, ?_, ?_, ?_, ?_, ?_, ?_, ?_, h.keyCalls, ?_, ?_, ?_, ?_⟩
  · intro depth e s; exact R_noPanic_of_ne (h.eval depth e s)
  · intro depth es s; exact R_noPanic_of_ne (h.evalList depth es s)
  · intro depth es s; exact R_noPanic_of_ne (h.evalItems depth es s)
  · intro depth es acc s; exact R_noPanic_of_ne (h.evalEntries depth es acc s)
  · intro depth e s; exact R_noPanic_of_ne (h.evalDoStmt depth e s)
  · intro depth stmts ret s; exact R_noPanic_of_ne (h.evalDo depth stmts ret s)
  · intro fv this args depth s; exact R_noPanic_of_ne (h.callFn fv this args depth s)
  · intro f wi xs start depth s; exact R_noPanic_of_ne (h.mapCalls f wi xs start depth s)
  · intro f wi ie xs start depth s; exact R_noPanic_of_ne (h.quantCalls f wi ie xs start depth s)
  · intro f wi acc xs start depth s; exact R_noPanic_of_ne (h.foldCalls f wi acc xs start depth s)
  · intro name args depth s p h2 h3
    exact R_noPanic_of_ne (fun p s' => h.callHof name args depth s p s' h2 h3) p
  · intro depth op a b s; exact R_noPanic_of_ne (h.evalBin depth op a b s)
  · intro la lb depth s; exact R_noPanic_of_ne (h.viaPairs la lb depth s)
  · intro f wi xs start depth s; exact R_noPanic_of_ne (h.whereCalls f wi xs start depth s)

/-- `reduce([], null)`: a missing third argument is the arity error, not `args[2]` -/
example : (eval intOps 5 0 (.call (.builtin "reduce") [.list [], .null]) ⟨[[]], 1, []⟩).1
    = .err .arity := by
  have h : builtinArity "reduce" = some (.exact 3) := rfl
  simp [eval, evalList, evalItems, flattenSpreads, Value.isCallable, callFn, h, checkArity,
    Gen.Arity.canAccept]

/-- the `percentile` hypothesis is needed: with a `round` that returns 3, `percentile([1], 0)`
    reaches the model's `nums[index]` with index 3 ≥ len 1 -/
example : callPure { intOps with round := fun _ => int3 } "percentile" [.list [.num int1], .num int0]
    = some (.panic "nums[index] in percentile") := by
  set_option maxRecDepth 10000 in rfl

end Blots.C01
