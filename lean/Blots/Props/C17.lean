import Blots.Model.Units
import Blots.Lemmas.Units
import Blots.Lemmas.UnitsRounding
/-
  C17 — Unit conversion is consistent across the whole unit table.

  Helper lemmas in `Blots/Lemmas/Units.lean`.  The table `Gen.units` is re-translated from
  `get_all_units()` of the current `/repo` on every run, so every `decide +kernel` below is a
  statement about the table of the code that is checked.

    resolveCodes q          `resolve_unit(q)`      (q = the Unicode scalar values of the string)
    convertF ops v a b      `units::convert(v, a, b)` over doubles, arithmetic = `ops`
    convertQ x a b          the same conversion over exact rationals, coefficients = the exact
                            value of the source literal; `ok none` = the `+∞` of a reciprocal
                            conversion of zero
    convQ a b x             one conversion between two `QConv`s (arbitrary coefficients)

  Rounding.  The laws for the double implementation are proved "up to rounding"
  with explicit factors, under the standard model of floating-point arithmetic
  `RoundingModel ops u` (`Lemmas/Rounding.lean`: `fl(a∘b) = (a∘b)(1+δ)`, `|δ| ≤ u`, for finite
  non-underflowed results) and the accuracy of the table's coefficient doubles
  (`CoefAccurate u`, proved for `u = 2^-53` by evaluating all rows in the kernel):
  `convert_error_bound`, `self_identity_up_to_rounding`, `there_and_back_up_to_rounding`,
  `triangle_up_to_rounding`, `temperature_error_bound`.  The factor is `(1-u)^-k − 1`
  (`≤ k·u/(1−k·u)`), not `(1+u)^k − 1`: rounded quantities are divided by, see
  `Lemmas/UnitsRounding.lean`.

  Not proved here (and not provable as stated):
    * `RoundingModel NumOps.native 2^-53`, i.e. that the hardware operations are IEEE-754
      binary64 round-to-nearest: Lean's `Float` is opaque.  It is validated numerically by the
      harness: `harness/src/props/c17.rs` compares the double conversion with the exact
      rational conversion of this model on every ordered pair of every category × the
      magnitude pool (and there-and-back / triangle / self with tolerances justified there).
      What is proved is that the hypothesis is satisfiable (`guardedOps_model`,
      `guardedOpsSub_model`: correct rounding by `F64.ofRatio`).
    * The rounding theorems need "every intermediate result finite, no multiplication or
      division underflowed, nothing divided by zero" (`RangeOk`); outside that range (results
      below 2^-1022, overflow, a reciprocal conversion of 0) no relative bound holds.
    * That the code computes what the model computes: checked bit-for-bit by the
      correspondence run, not proved.
    * `str::to_lowercase` is modelled per character (see Model/Units.lean); the per-character
      facts are validated against Rust for every Unicode scalar value on every run.
-/
namespace Blots.C17
open Blots Blots.Gen Blots.Units

/-- Identifiers listed verbatim for two different units: such an identifier is `ambiguous`
    for `resolve_unit` and resolves to neither (`shared_identifier_is_ambiguous`).  The table
    has none (celsius #1 owns `c`, coulombs #140 owns `C`: fix 64ebac8), so the list is empty.
    Hand-written, not generated: a duplicate in the table that is not recorded here makes
    `every_identifier_resolves_partial` fail to elaborate. -/
def knownShared : List (List Nat) := []

/-- the unit owning the lower-cased spelling of `q` according to the generated certificate
    (`units.length` when several units have an alias with that lower-case) -/
def caseOwner (q : List Nat) : Option Nat := treeFind lowTree (encodeCodes (lowerCodes q))

/-- the model's lower-casing agrees with the translator's `to_lowercase` on every identifier of
    the table (the translator's is cross-checked against Rust by the harness) -/
theorem lowercase_table_consistent : ∀ u ∈ units, u.ids.map lowerCodes = u.lowers := by
  have h : units.all (fun u => u.ids.map lowerCodes == u.lowers) = true := by decide +kernel
  intro u hu
  exact eq_of_beq (List.all_eq_true.mp h u hu)

/-- left out: identifiers recorded in `knownShared`.  One kernel evaluation of the certificate
    over the whole table. -/
theorem every_identifier_resolves_partial (i : Nat) (u : UnitRow) (q : List Nat)
    (hi : units[i]? = some u) (hq : q ∈ u.ids) (hk : q ∉ knownShared) : resolveCodes q = .ok i := by
  have hc : certExactFrom (fun q => treeFind idTree (encodeCodes q)) knownShared 0 units = true := by
    decide +kernel
  exact resolve_of_cert _ knownShared units hc i u hi q hq hk

/-- the full statement: `knownShared` is empty -/
theorem every_identifier_resolves (i : Nat) (u : UnitRow) (q : List Nat)
    (hi : units[i]? = some u) (hq : q ∈ u.ids) : resolveCodes q = .ok i :=
  every_identifier_resolves_partial i u q hi hq (by simp [knownShared])

theorem shared_identifier_is_ambiguous (q : List Nat) (i j : Nat) (u v : UnitRow)
    (hi : units[i]? = some u) (hj : units[j]? = some v) (hij : i ≠ j) (hu : q ∈ u.ids) (hv : q ∈ v.ids) :
    resolveCodes q = .ambiguous :=
  resolve_exact_shared units q i j u v hi hj hij hu hv

theorem aliases_same_unit (i : Nat) (u : UnitRow) (a b : List Nat) (hi : units[i]? = some u)
    (ha : a ∈ u.ids) (hb : b ∈ u.ids) (hka : a ∉ knownShared) (hkb : b ∉ knownShared) :
    resolveCodes a = resolveCodes b := by
  rw [every_identifier_resolves_partial i u a hi ha hka, every_identifier_resolves_partial i u b hi hb hkb]

theorem case_insensitive_unique_resolves (q : List Nat) (i : Nat) (u : UnitRow)
    (hex : ∀ (j : Nat) (v : UnitRow), units[j]? = some v → q ∉ v.ids)
    (hi : units[i]? = some u) (hq : ∃ a ∈ u.ids, lowerCodes a = lowerCodes q)
    (huniq : ∀ (j : Nat) (v : UnitRow), units[j]? = some v → (∃ a ∈ v.ids, lowerCodes a = lowerCodes q) → j = i) :
    resolveCodes q = .ok i :=
  resolve_case_unique units q i u hex hi hq huniq

theorem case_owner_spec (q : List Nat) (i : Nat) (hi : i < units.length) (ho : caseOwner q = some i) :
    ∀ (j : Nat) (v : UnitRow), units[j]? = some v → (∃ a ∈ v.ids, lowerCodes a = lowerCodes q) → j = i := by
  have hc : certCaseFrom (fun q => treeFind lowTree (encodeCodes q)) units.length 0 units = true := by
    decide +kernel
  exact case_owner_unique _ units hc q i hi ho

theorem case_variant_resolves (i : Nat) (u : UnitRow) (a q : List Nat) (hi : units[i]? = some u)
    (ha : a ∈ u.ids) (hl : lowerCodes a = lowerCodes q)
    (hex : ∀ (j : Nat) (v : UnitRow), units[j]? = some v → q ∉ v.ids)
    (ho : caseOwner q = some i) : resolveCodes q = .ok i := by
  have hlt : i < units.length := by
    have := List.getElem?_eq_some_iff.mp hi
    exact this.1
  exact resolve_case_unique units q i u hex hi ⟨a, ha, hl⟩ (case_owner_spec q i hlt ho)

theorem case_insensitive_shared_is_ambiguous (q : List Nat) (i j : Nat) (u v : UnitRow)
    (hex : ∀ (j : Nat) (v : UnitRow), units[j]? = some v → q ∉ v.ids)
    (hi : units[i]? = some u) (hj : units[j]? = some v) (hij : i ≠ j)
    (hu : ∃ a ∈ u.ids, lowerCodes a = lowerCodes q) (hv : ∃ a ∈ v.ids, lowerCodes a = lowerCodes q) :
    resolveCodes q = .ambiguous :=
  resolve_case_shared units q i j u v hex hi hj hij hu hv

theorem unknown_identifier_is_error (q : List Nat)
    (h : ∀ (j : Nat) (v : UnitRow), units[j]? = some v → ∀ a ∈ v.ids, lowerCodes a ≠ lowerCodes q) :
    resolveCodes q = .unknown :=
  resolve_unknown units q h

theorem resolution_never_guesses (q : List Nat) (i : Nat) (h : resolveCodes q = .ok i) :
    ∃ u, units[i]? = some u ∧ (q ∈ u.ids ∨ ∃ a ∈ u.ids, lowerCodes a = lowerCodes q) :=
  resolve_ok_sound units q i h

/-- the identifier enters `convert` only through the unit it resolves to -/
theorem aliases_behave_identically (ops : NumOps) (v : F64) (x : Rat) (a a' b b' : List Nat)
    (ha : resolveCodes a = resolveCodes a') (hb : resolveCodes b = resolveCodes b') :
    convertF ops v a b = convertF ops v a' b' ∧ convertQ x a b = convertQ x a' b' := by
  unfold convertF convertFIn convertQ convertQIn
  exact ⟨withPair_congr units a a' b b' _ ha hb, withPair_congr units a a' b b' _ ha hb⟩

theorem table_aliases_behave_identically (ops : NumOps) (v : F64) (i : Nat) (u : UnitRow)
    (a a' t : List Nat) (hi : units[i]? = some u) (ha : a ∈ u.ids) (ha' : a' ∈ u.ids)
    (hka : a ∉ knownShared) (hka' : a' ∉ knownShared) :
    convertF ops v a t = convertF ops v a' t ∧ convertF ops v t a = convertF ops v t a' := by
  have h := aliases_same_unit i u a a' hi ha ha' hka hka'
  unfold convertF convertFIn
  exact ⟨withPair_congr units a a' t t _ h rfl, withPair_congr units t t a a' _ rfl h⟩

theorem cross_category_never_converts (a b : List Nat) (i j : Nat)
    (hi : resolveCodes a = .ok i) (hj : resolveCodes b = .ok j)
    (hc : (units.getD i default).cat ≠ (units.getD j default).cat) :
    (∀ (ops : NumOps) (v : F64), convertF ops v a b = .category) ∧ (∀ x : Rat, convertQ x a b = .category) := by
  constructor
  · intro ops v
    unfold convertF convertFIn
    rw [withPair_resolved units a b _ i j hi hj, if_neg hc]
  · intro x
    unfold convertQ convertQIn
    rw [withPair_resolved units a b _ i j hi hj, if_neg hc]

theorem convert_ok_only_same_category (ops : NumOps) (v y : F64) (a b : List Nat)
    (h : convertF ops v a b = .ok y) :
    ∃ i j, resolveCodes a = .ok i ∧ resolveCodes b = .ok j ∧
      (units.getD i default).cat = (units.getD j default).cat ∧
      y = fromBaseF ops (units.getD j default).conv (toBaseF ops (units.getD i default).conv v) := by
  unfold convertF convertFIn at h
  exact withPair_ok_inv units a b _ y h

theorem unresolved_never_converts (ops : NumOps) (v : F64) (a b : List Nat)
    (h : (∀ i, resolveCodes a ≠ .ok i) ∨ (∀ j, resolveCodes b ≠ .ok j)) :
    (convertF ops v a b).isErr = true := by
  unfold convertF convertFIn
  exact withPair_unresolved units a b _ h

theorem self_identity (a : QConv) (ha : a.WellFormed) (x y : Rat) (h : convQ a a x = some y) : y = x :=
  convQ_self a ha x y h

theorem self_identity_defined (a : QConv) (ha : a.WellFormed) (x : Rat)
    (hx : (∃ c, a = .reciprocal c) → x ≠ 0) : convQ a a x = some x :=
  convQ_self_defined a ha x hx

theorem linear_self (c x : Rat) (hc : c ≠ 0) : convQ (.linear c) (.linear c) x = some x :=
  convQ_self_defined (.linear c) hc x (by rintro ⟨_, h⟩; cases h)

/-- `x ≠ 0`: at 0 the code returns `+∞`, then `c/∞ = 0` -/
theorem reciprocal_self (c x : Rat) (hc : c ≠ 0) (hx : x ≠ 0) :
    convQ (.reciprocal c) (.reciprocal c) x = some x :=
  convQ_self_defined (.reciprocal c) hc x (fun _ => hx)

theorem temperature_self (toK fromK : TempFn) (h : tempPairOk toK fromK = true) (x : Rat) :
    convQ (.temperature toK.evalQ fromK.evalQ) (.temperature toK.evalQ fromK.evalQ) x = some x :=
  convQ_self_defined (.temperature toK.evalQ fromK.evalQ) (tempPairOk_inverse toK fromK h) x
    (by rintro ⟨_, h⟩; cases h)

theorem there_and_back (a b : QConv) (ha : a.WellFormed) (hb : b.WellFormed) (x y : Rat)
    (h : convQ a b x = some y) : convQ b a y = some x :=
  convQ_there_back a b ha hb x y h

theorem linear_there_and_back (a b x : Rat) (ha : a ≠ 0) (hb : b ≠ 0) :
    (convQ (.linear a) (.linear b) x).bind (convQ (.linear b) (.linear a)) = some x := by
  have h : convQ (.linear a) (.linear b) x = some (x * a / b) := rfl
  rw [h]
  exact convQ_there_back (.linear a) (.linear b) ha hb x _ h

theorem reciprocal_linear_there_and_back (a b x : Rat) (ha : a ≠ 0) (hb : b ≠ 0) (hx : x ≠ 0) :
    (convQ (.reciprocal a) (.linear b) x).bind (convQ (.linear b) (.reciprocal a)) = some x := by
  have h : convQ (.reciprocal a) (.linear b) x = some (a / x / b) := by
    simp [convQ, QConv.toBase, QConv.fromBase, hx]
  rw [h]
  exact convQ_there_back (.reciprocal a) (.linear b) ha hb x _ h

theorem triangle (a b c : QConv) (hb : b.WellFormed) (x y : Rat) (h : convQ a b x = some y) :
    convQ b c y = convQ a c x :=
  convQ_triangle a b c hb x y h

theorem linear_triangle (a b c x : Rat) (hb : b ≠ 0) :
    (convQ (.linear a) (.linear b) x).bind (convQ (.linear b) (.linear c)) = convQ (.linear a) (.linear c) x := by
  have h : convQ (.linear a) (.linear b) x = some (x * a / b) := rfl
  rw [h]
  exact convQ_triangle (.linear a) (.linear b) (.linear c) hb x _ h

theorem reciprocal_triangle (a b c x : Rat) (ha : a ≠ 0) (hb : b ≠ 0) (hx : x ≠ 0) :
    (convQ (.linear a) (.reciprocal b) x).bind (convQ (.reciprocal b) (.linear c)) =
      convQ (.linear a) (.linear c) x := by
  have hxa : x * a ≠ 0 := by grind
  have h : convQ (.linear a) (.reciprocal b) x = some (b / (x * a)) := by
    simp [convQ, QConv.toBase, QConv.fromBase, hxa]
  rw [h]
  exact convQ_triangle (.linear a) (.reciprocal b) (.linear c) hb x _ h

theorem celsius_fahrenheit_value (x : Rat) :
    convQ (.temperature TempFn.celsius_to_kelvin.evalQ TempFn.kelvin_to_celsius.evalQ)
          (.temperature TempFn.fahrenheit_to_kelvin.evalQ TempFn.kelvin_to_fahrenheit.evalQ) x
      = some (x * 9 / 5 + 32) := by
  simp only [convQ, QConv.toBase, QConv.fromBase, Option.bind, TempFn.evalQ, Option.some.injEq]
  grind

theorem kelvin_celsius_value (x : Rat) :
    convQ (.temperature TempFn.kelvin_to_kelvin.evalQ TempFn.kelvin_to_kelvin.evalQ)
          (.temperature TempFn.celsius_to_kelvin.evalQ TempFn.kelvin_to_celsius.evalQ) x
      = some (x - 27315 / 100) := by
  simp only [convQ, QConv.toBase, QConv.fromBase, Option.bind, TempFn.evalQ, Option.some.injEq]
  grind

theorem table_well_formed : ∀ u ∈ units, (toQ u.conv).WellFormed :=
  all_wf_of_check units units_all_convOk

theorem coefficients_positive : ∀ u ∈ units, coefPositive u.conv = true := by
  have h : units.all (fun u => coefPositive u.conv) = true := by decide +kernel
  exact fun u hu => List.all_eq_true.mp h u hu

/-- the double each single-literal coefficient is held as is the correctly rounded value of the
    literal's exact rational (ties the double model to the rational model, row by row) -/
theorem coefficient_bits_correctly_rounded : ∀ u ∈ units, coefBitsOk u.conv = true := by
  have h : units.all (fun u => coefBitsOk u.conv) = true := by decide +kernel
  exact fun u hu => List.all_eq_true.mp h u hu

theorem table_self_identity (x y : Rat) (a : List Nat) (h : convertQ x a a = .ok (some y)) : y = x := by
  unfold convertQ convertQIn at h
  obtain ⟨i, j, hi, hj, _, hy⟩ := withPair_ok_inv units a a _ _ h
  rw [hi] at hj
  cases hj
  exact convQ_self _ (resolved_unit_wf a i hi) x y hy.symm

theorem table_there_and_back (x y : Rat) (a b : List Nat) (h : convertQ x a b = .ok (some y)) :
    convertQ y b a = .ok (some x) := by
  unfold convertQ convertQIn at h
  obtain ⟨i, j, hi, hj, hc, hy⟩ := withPair_ok_inv units a b _ _ h
  unfold convertQ convertQIn
  rw [withPair_resolved units b a _ j i hj hi, if_pos hc.symm]
  congr 1
  exact convQ_there_back _ _ (resolved_unit_wf a i hi) (resolved_unit_wf b j hj) x y hy.symm

/-- errors included: an unresolvable or cross-category `c` gives the same error on both sides -/
theorem table_triangle (x y : Rat) (a b c : List Nat) (h : convertQ x a b = .ok (some y)) :
    convertQ y b c = convertQ x a c := by
  unfold convertQ convertQIn at h
  obtain ⟨i, j, hi, hj, hc, hy⟩ := withPair_ok_inv units a b _ _ h
  unfold convertQ convertQIn
  cases hk : resolveIn units c with
  | unknown => simp only [withPair, hi, hj, hk]
  | ambiguous => simp only [withPair, hi, hj, hk]
  | ok k =>
    rw [withPair_resolved units b c _ j k hj hk, withPair_resolved units a c _ i k hi hk, hc]
    by_cases hjk : (units.getD j default).cat = (units.getD k default).cat
    · rw [if_pos hjk, if_pos hjk]
      congr 1
      exact convQ_triangle _ _ _ (resolved_unit_wf b j hj) x y hy.symm
    · rw [if_neg hjk, if_neg hjk]

/-- whenever an identifier of `u` is `<SI prefix><identifier of v>` with `u`, `v` in one category,
    both are linear and `coef u = coef v · 10^(prefix exponent)` exactly, on the literal rationals
    (142 (identifier, prefix, base) instances in the table) -/
theorem prefix_ratio :
    ∀ u ∈ units, ∀ idu ∈ u.ids, ∀ pk ∈ metricPrefixes, ∀ rest, idu = pk.1 ++ rest →
    ∀ v ∈ units, u.cat = v.cat → rest ∈ v.ids →
    ∃ nu du bu pu nv dv bv pv, u.conv = .linear nu du bu pu ∧ v.conv = .linear nv dv bv pv ∧
      coefQ nu du = coefQ nv dv * pow10 pk.2 := by
  have hchk : prefixAllOk units = true := by decide +kernel
  have hok := units_all_convOk
  intro u hu idu hidu pk hpk rest hrest v hv hcat hmem
  obtain ⟨nu, du, bu, pu, nv, dv, bv, pv, hcu, hcv, hr⟩ :=
    prefix_ratio_of_check units hchk u hu idu hidu pk hpk rest hrest v hv hcat hmem
  refine ⟨nu, du, bu, pu, nv, dv, bv, pv, hcu, hcv, ?_⟩
  have h1 := List.all_eq_true.mp hok u hu
  have h2 := List.all_eq_true.mp hok v hv
  simp [hcu, convOk] at h1
  simp [hcv, convOk] at h2
  exact ratioIsPow10_spec nu du nv dv pk.2 hr h1.2 h2.2

/-! The laws for the double implementation, up to rounding.

  `ops` is any arithmetic satisfying the standard model with unit roundoff `u`
  (`RoundingModel ops u`; for temperature, which subtracts, `RoundingModelSub ops u`).
  `ResolvesTo a b ra rb`: the identifiers resolve to the table rows `ra`, `rb` of one category.
  `RangeOk ops ra.conv rb.conv x`: the (two) operations of the conversion at `x` give finite
  results, did not underflow and did not divide by zero.
  `G u k = (1-u)^-k − 1`, written out in the statements. -/

/-- every coefficient double of the table is positive, finite and within relative distance
    `2^-53` of the exact rational value of its source expression -/
theorem table_coefficients_accurate : CoefAccurate u64 := table_coef_accurate

theorem kind_determined_by_category : ∀ r ∈ units, ∀ s ∈ units, r.cat = s.cat →
    isScaling r.conv = isScaling s.conv := kind_of_category

/-- linear and reciprocal units (all four combinations: `(x·ca)/cb`,
    `cb/(x·ca)`, `(ca/x)/cb`, `cb/(ca/x)`): the double result is the exact-rational result
    times a factor made of `k = 4` roundings — two operations, two coefficients -/
theorem convert_error_bound (ops : NumOps) (u : ℚ) (M : RoundingModel ops u) (hC : CoefAccurate u)
    (x : F64) (hx : x.isFinite = true) (a b : List Nat) (ra rb : UnitRow)
    (hr : ResolvesTo a b ra rb) (hk : isScaling ra.conv = true)
    (hR : RangeOk ops ra.conv rb.conv x) :
    ∃ y q, convertF ops x a b = .ok y ∧ convertQ x.toRat a b = .ok (some q) ∧
      y.isFinite = true ∧ |y.toRat - q| ≤ (((1 - u) ^ 4)⁻¹ - 1) * |q| := by
  obtain ⟨hra, hrb, hF, hQ⟩ := hr.spec
  have hcat : ra.cat = rb.cat := by obtain ⟨_, _, _, _, _, _, h⟩ := hr; exact h
  have hkb : isScaling rb.conv = true := by rw [← kind_of_category ra hra rb hrb hcat]; exact hk
  obtain ⟨q, θ, hq, hθ, e, hf⟩ := scaling_factor M ra.conv rb.conv (hC ra hra) (hC rb hrb) hk hkb x hx hR
  exact ⟨_, q, hF ops x, by rw [hQ, hq], hf, hθ.error M.u_nonneg M.u_lt_one e⟩

/-- the factor of the bounds in the textbook form `γₖ = k·u/(1 − k·u)` -/
theorem rounding_factor_le_gamma (u : ℚ) (hu : 0 ≤ u) (hu1 : u < 1) (k : ℕ) (hk : (k : ℚ) * u < 1) :
    ((1 - u) ^ k)⁻¹ - 1 ≤ (k : ℚ) * u / (1 - (k : ℚ) * u) :=
  G_le_gamma hu hu1 k hk

/-- against the `(1+u)^k − 1` of C15: twice the count suffices (`u ≤ 1/2`); the same
    count does not (`1/(1-u) − 1 > u`) -/
theorem rounding_factor_le_pow (u : ℚ) (hu : 0 ≤ u) (hu2 : u ≤ 1 / 2) (k : ℕ) :
    ((1 - u) ^ k)⁻¹ - 1 ≤ (1 + u) ^ (2 * k) - 1 :=
  G_le_E_double hu hu2 k

theorem rounding_factor_not_pow (u : ℚ) (hu : 0 < u) (hu1 : u < 1) :
    (1 + u) ^ 1 - 1 < ((1 - u) ^ 1)⁻¹ - 1 := by
  have hp : 0 < 1 - u := by linarith
  rw [pow_one, pow_one, ← one_div, sub_lt_sub_iff_right, lt_div_iff₀ hp]
  nlinarith [mul_pos hu hu]

/-- binary64 (`u = 2^-53`): `4/(2^53 − 4) < 4.5e-16` -/
theorem convert_error_bound_binary64 (ops : NumOps) (M : RoundingModel ops u64)
    (x : F64) (hx : x.isFinite = true) (a b : List Nat) (ra rb : UnitRow)
    (hr : ResolvesTo a b ra rb) (hk : isScaling ra.conv = true)
    (hR : RangeOk ops ra.conv rb.conv x) :
    ∃ y q, convertF ops x a b = .ok y ∧ convertQ x.toRat a b = .ok (some q) ∧
      |y.toRat - q| ≤ 4 / (2 ^ 53 - 4) * |q| := by
  obtain ⟨y, q, h1, h2, _, h4⟩ :=
    convert_error_bound ops u64 M table_coef_accurate x hx a b ra rb hr hk hR
  refine ⟨y, q, h1, h2, h4.trans (mul_le_mul_of_nonneg_right ?_ (abs_nonneg _))⟩
  have := G_le_gamma u64_nonneg M.u_lt_one 4 (by unfold u64; norm_num)
  refine this.trans (le_of_eq ?_)
  unfold u64; norm_num

/-- only the two operation roundings: the coefficient is the same double in both steps and
    cancels -/
theorem self_identity_up_to_rounding (ops : NumOps) (u : ℚ) (M : RoundingModel ops u)
    (hC : CoefAccurate u) (x : F64) (hx : x.isFinite = true) (a : List Nat) (ra : UnitRow)
    (hr : ResolvesTo a a ra ra) (hk : isScaling ra.conv = true)
    (hR : RangeOk ops ra.conv ra.conv x) :
    ∃ y, convertF ops x a a = .ok y ∧
      |y.toRat - x.toRat| ≤ (((1 - u) ^ 2)⁻¹ - 1) * |x.toRat| := by
  obtain ⟨hra, _, hF, _⟩ := hr.spec
  exact ⟨_, hF ops x, scaling_self M ra.conv (hC ra hra) hk x hx hR⟩

theorem there_and_back_up_to_rounding (ops : NumOps) (u : ℚ) (M : RoundingModel ops u)
    (hC : CoefAccurate u) (x : F64) (hx : x.isFinite = true) (a b : List Nat) (ra rb : UnitRow)
    (hr : ResolvesTo a b ra rb) (hk : isScaling ra.conv = true)
    (hR₁ : RangeOk ops ra.conv rb.conv x) (y : F64) (hy : convertF ops x a b = .ok y)
    (hR₂ : RangeOk ops rb.conv ra.conv y) :
    ∃ z, convertF ops y b a = .ok z ∧
      |z.toRat - x.toRat| ≤ (((1 - u) ^ 8)⁻¹ - 1) * |x.toRat| := by
  obtain ⟨hra, hrb, hF, _⟩ := hr.spec
  obtain ⟨_, _, hF', _⟩ := hr.symm.spec
  have hcat : ra.cat = rb.cat := by obtain ⟨_, _, _, _, _, _, h⟩ := hr; exact h
  have hkb : isScaling rb.conv = true := by rw [← kind_of_category ra hra rb hrb hcat]; exact hk
  have hy' : y = convRowF ops ra.conv rb.conv x := by
    have := (hF ops x).symm.trans hy; cases this; rfl
  subst hy'
  exact ⟨_, hF' ops _, scaling_there_back M ra.conv rb.conv (hC ra hra) (hC rb hrb) hk hkb x hx hR₁ hR₂⟩

/-- `x →(a→b)→ y →(b→c)→ z` against the exact `a→c` conversion `Q` of `x` (eight
    roundings) and against the direct double conversion `w` of `x` (eight plus four) -/
theorem triangle_up_to_rounding (ops : NumOps) (u : ℚ) (M : RoundingModel ops u)
    (hC : CoefAccurate u) (x : F64) (hx : x.isFinite = true) (a b c : List Nat)
    (ra rb rc : UnitRow) (hab : ResolvesTo a b ra rb) (hbc : ResolvesTo b c rb rc)
    (hk : isScaling ra.conv = true)
    (hR₁ : RangeOk ops ra.conv rb.conv x) (y : F64) (hy : convertF ops x a b = .ok y)
    (hR₂ : RangeOk ops rb.conv rc.conv y) (hR₃ : RangeOk ops ra.conv rc.conv x) :
    ∃ z w Q, convertF ops y b c = .ok z ∧ convertF ops x a c = .ok w ∧
      convertQ x.toRat a c = .ok (some Q) ∧
      |z.toRat - Q| ≤ (((1 - u) ^ 8)⁻¹ - 1) * |Q| ∧
      |z.toRat - w.toRat| ≤ ((((1 - u) ^ 8)⁻¹ - 1) + (((1 - u) ^ 4)⁻¹ - 1)) * |Q| := by
  obtain ⟨hra, hrb, hFab, _⟩ := hab.spec
  obtain ⟨_, hrc, hFbc, _⟩ := hbc.spec
  obtain ⟨_, hac⟩ := hab.trans hbc
  obtain ⟨_, _, hFac, hQac⟩ := hac.spec
  have hcat : ra.cat = rb.cat := by obtain ⟨_, _, _, _, _, _, h⟩ := hab; exact h
  have hcat' : rb.cat = rc.cat := by obtain ⟨_, _, _, _, _, _, h⟩ := hbc; exact h
  have hkb : isScaling rb.conv = true := by rw [← kind_of_category ra hra rb hrb hcat]; exact hk
  have hkc : isScaling rc.conv = true := by rw [← kind_of_category rb hrb rc hrc hcat']; exact hkb
  have hy' : y = convRowF ops ra.conv rb.conv x := by
    have := (hFab ops x).symm.trans hy; cases this; rfl
  subst hy'
  obtain ⟨Q, hQ, E1, E2⟩ := scaling_triangle M ra.conv rb.conv rc.conv (hC ra hra) (hC rb hrb)
    (hC rc hrc) hk hkb hkc x hx hR₁ hR₂ hR₃
  exact ⟨_, _, Q, hFbc ops _, hFac ops x, by rw [hQac, hQ], E1, E2⟩

/-- Temperature (additions and subtractions: the error is absolute).  With `k` the number of
    roundings charged to the two functions (`tempCnt`: celsius 2, fahrenheit 4 to / 5 from
    kelvin; the literal `273.15` is itself rounded) and `m` the conversion formula with every
    term in absolute value (`tempMag`, e.g. celsius→fahrenheit: `(|x| + 2·273.15)·9/5 + 32`):
    `|double − exact| ≤ ((1-u)^-k − 1) · m` -/
theorem temperature_error_bound (ops : NumOps) (u : ℚ) (S : RoundingModelSub ops u)
    (hu64 : u64 ≤ u) (x : F64) (hx : x.isFinite = true) (a b : List Nat) (ra rb : UnitRow)
    (hr : ResolvesTo a b ra rb) (ta fa tb fb : TempFn)
    (ha : ra.conv = .temperature ta fa) (hb : rb.conv = .temperature tb fb)
    (hR : RangeOk ops ra.conv rb.conv x) :
    ∃ y, convertF ops x a b = .ok y ∧
      convertQ x.toRat a b = .ok (some (fb.evalQ (ta.evalQ x.toRat))) ∧ y.isFinite = true ∧
      |y.toRat - fb.evalQ (ta.evalQ x.toRat)| ≤
        (((1 - u) ^ (tempCnt ta + tempCnt fb))⁻¹ - 1) * tempMag fb (tempMag ta |x.toRat|) := by
  obtain ⟨_, _, hF, hQ⟩ := hr.spec
  rw [ha, hb] at hR
  obtain ⟨h1, h2, h3⟩ := Units.temperature_error_bound S hu64 ta fa tb fb x hx hR
  refine ⟨_, hF ops x, ?_, ?_, ?_⟩
  · rw [hQ, ha, hb, h1]
  · rw [ha, hb]; exact h2
  · rw [ha, hb]; exact h3

/-! ### non-vacuity: the hypotheses above are met by concrete table entries -/

-- the table is the expected size and the resolution routes are all taken
example : units.length = 201 := by decide +kernel
example : resolveCodes (codesOf "km") = .ok 4 := by decide +kernel            -- exact
example : resolveCodes (codesOf "KM") = .ok 4 := by decide +kernel            -- case-insensitive, unique
example : resolveCodes (codesOf "Kilometres") = .ok 4 := by decide +kernel
example : resolveCodes (codesOf "Mm") = .ok 21 ∧ resolveCodes (codesOf "mm") = .ok 6 := by decide +kernel
example : resolveCodes (codesOf "MM") = .ambiguous := by decide +kernel       -- mm / Mm
example : resolveCodes (codesOf "ma") = .ambiguous := by decide +kernel       -- MA / mA
example : resolveCodes (codesOf "c") = .ok 1 ∧ resolveCodes (codesOf "C") = .ok 140 := by decide +kernel  -- celsius / coulombs
example : resolveCodes (codesOf "foobar") = .unknown := by decide +kernel
example : resolveCodes (codesOf "Ω") = .ok 156 ∧ resolveCodes (codesOf "ω") = .ok 156 := by decide +kernel
example : resolveCodes [8490] = .ok 0 := by decide +kernel                    -- U+212A KELVIN SIGN ↦ k
-- `case_variant_resolves` applies to "KM": owner certificate says unit 4
example : caseOwner (codesOf "KM") = some 4 := by decide +kernel
-- cross-category hypotheses: km (length) vs kg (mass)
example : resolveCodes (codesOf "kg") = .ok 26 ∧
    (units.getD 4 default).cat ≠ (units.getD 26 default).cat := by decide +kernel
-- conversions over ℚ compute what they should
example : convertQ 1 (codesOf "km") (codesOf "m") = .ok (some 1000) := by decide +kernel
example : convertQ 100 (codesOf "celsius") (codesOf "fahrenheit") = .ok (some 212) := by decide +kernel
example : convertQ 0 (codesOf "mpg") (codesOf "l/100km") = .ok none := by decide +kernel
example : convertQ 1 (codesOf "kg") (codesOf "m") = .category := by decide +kernel
example : convertQ 1 (codesOf "MM") (codesOf "f") = .fromAmbiguous := by decide +kernel
-- `prefix_ratio` instance: "kilometers" = "kilo" ++ "meters"
example : codesOf "kilometers" = codesOf "kilo" ++ codesOf "meters" ∧
    (codesOf "kilo", (3 : Int)) ∈ metricPrefixes ∧
    codesOf "kilometers" ∈ (units.getD 4 default).ids ∧ codesOf "meters" ∈ (units.getD 3 default).ids ∧
    (units.getD 4 default).cat = (units.getD 3 default).cat := by decide +kernel
example : coefQ 1000 1 = coefQ 1 1 * pow10 3 := by decide +kernel
example : QConv.WellFormed (.linear (1000 : Rat)) := by simp [QConv.WellFormed]

-- the standard model is satisfiable with the unit roundoff of binary64 (correct rounding by
-- `F64.ofRatio`, guarded)
example : RoundingModel guardedOps (1 / 2 ^ 53) := guardedOps_model
example : RoundingModelSub guardedOpsSub (1 / 2 ^ 53) := guardedOpsSub_model
example : CoefAccurate (1 / 2 ^ 53) := table_coef_accurate
-- km → m → km at x = 0.1: identifiers resolve to rows #4, #3 of one category, both linear,
-- and every side condition of there-and-back holds (decided in the kernel) …
example : ResolvesTo (codesOf "km") (codesOf "m") (units.getD 4 default) (units.getD 3 default) :=
  ⟨4, 3, by decide +kernel, by decide +kernel, rfl, rfl, by decide +kernel⟩
example : isScaling (units.getD 4 default).conv = true ∧ dbl01.isFinite = true ∧
    RangeOk guardedOps (units.getD 4 default).conv (units.getD 3 default).conv dbl01 ∧
    RangeOk guardedOps (units.getD 3 default).conv (units.getD 4 default).conv
      (convRowF guardedOps (units.getD 4 default).conv (units.getD 3 default).conv dbl01) := by
  decide +kernel
-- … so the theorem applies: 0.1 km → m → km is within (1-u)^-8 − 1 of 0.1
example : ∃ y z, convertF guardedOps dbl01 (codesOf "km") (codesOf "m") = .ok y ∧
    convertF guardedOps y (codesOf "m") (codesOf "km") = .ok z ∧
    |z.toRat - dbl01.toRat| ≤ (((1 - u64) ^ 8)⁻¹ - 1) * |dbl01.toRat| := by
  have hr : ResolvesTo (codesOf "km") (codesOf "m") (units.getD 4 default) (units.getD 3 default) :=
    ⟨4, 3, by decide +kernel, by decide +kernel, rfl, rfl, by decide +kernel⟩
  have hy := hr.spec.2.2.1 guardedOps dbl01
  obtain ⟨z, hz, hb⟩ := there_and_back_up_to_rounding guardedOps u64 guardedOps_model
    table_coef_accurate dbl01 (by decide +kernel) _ _ _ _ hr (by decide +kernel)
    (by decide +kernel) _ hy (by decide +kernel)
  exact ⟨_, z, hy, hz, hb⟩
-- reciprocal: mpg (#164, reciprocal) ↔ l/100km (#163, linear) at x = 0.3, both directions
example : ResolvesTo (codesOf "mpg") (codesOf "l/100km") (units.getD 164 default) (units.getD 163 default) :=
  ⟨164, 163, by decide +kernel, by decide +kernel, rfl, rfl, by decide +kernel⟩
example : isScaling (units.getD 164 default).conv = true ∧
    RangeOk guardedOps (units.getD 164 default).conv (units.getD 163 default).conv dbl03 ∧
    RangeOk guardedOps (units.getD 163 default).conv (units.getD 164 default).conv
      (convRowF guardedOps (units.getD 164 default).conv (units.getD 163 default).conv dbl03) ∧
    RangeOk guardedOps (units.getD 164 default).conv (units.getD 164 default).conv dbl03 := by
  decide +kernel
example : ∃ y q, convertF guardedOps dbl03 (codesOf "mpg") (codesOf "l/100km") = .ok y ∧
    convertQ dbl03.toRat (codesOf "mpg") (codesOf "l/100km") = .ok (some q) ∧
    |y.toRat - q| ≤ 4 / (2 ^ 53 - 4) * |q| :=
  convert_error_bound_binary64 guardedOps guardedOps_model dbl03 (by decide +kernel) _ _ _ _
    ⟨164, 163, by decide +kernel, by decide +kernel, rfl, rfl, by decide +kernel⟩
    (by decide +kernel) (by decide +kernel)
-- the side conditions are not decoration: a reciprocal conversion of 0 is outside them
example : ¬ RangeOk guardedOps (units.getD 164 default).conv (units.getD 163 default).conv F64.zero := by
  decide +kernel
-- temperature: celsius (#1) → fahrenheit (#2) at x = 0.5; 2 + 5 roundings at magnitude
-- (0.5 + 2·273.15)·9/5 + 32
example : ResolvesTo (codesOf "celsius") (codesOf "fahrenheit") (units.getD 1 default) (units.getD 2 default) ∧
    RangeOk guardedOpsSub (units.getD 1 default).conv (units.getD 2 default).conv dblHalf :=
  ⟨⟨1, 2, by decide +kernel, by decide +kernel, rfl, rfl, by decide +kernel⟩, by decide +kernel⟩
example : tempCnt .celsius_to_kelvin + tempCnt .kelvin_to_fahrenheit = 7 ∧
    tempMag .kelvin_to_fahrenheit (tempMag .celsius_to_kelvin (1 / 2)) = (1 / 2 + 2 * (5463 / 20)) * 9 / 5 + 32 := by
  constructor
  · rfl
  · simp only [tempMag]; ring
-- `rounding_factor_le_gamma` for k = 8 and binary64
example : (0 : ℚ) ≤ u64 ∧ u64 < 1 ∧ ((8 : ℕ) : ℚ) * u64 < 1 := by unfold u64; norm_num

end Blots.C17
