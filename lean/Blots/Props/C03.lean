import Blots.Lemmas.EvalFresh
/-
  C03 — Bindings are immutable and scoped: a bound name never changes or leaks.

  The model: `eval` & co. (Model/Eval.lean) over a stack of frames `ES.env` (innermost first).
  `TopExt e e'` (Lemmas/EvalEnv.lean): `e'` has the frames of `e`, all frames below the innermost
  one identical, the innermost one extended (every old binding kept with its value; every new
  key is a name a top-level assignment accepts).  `EnvExt e e'`: `TopExt`, and every visible
  binding is still visible with the same value.  `SameBelow e e'`: the frames below the
  innermost one are identical.  `eval` guarantees `TopExt` at every call depth and `EnvExt` at
  depth 0 (top-level statements); inside a function call (depth > 0) a plain assignment only
  looks at the call's own frame (`alreadyDefined`), so there it may add a name that is also
  bound further out — it then shadows that name for the rest of the call, like a do-block
  statement does, and is dropped with the call's frame.

  A session is `runStmts ops fuel s stmts` (= the driver's `Drv.runSession`, the function the
  harness compares with the real interpreter statement by statement): statements evaluated
  in order in one state, continuing after failures.

  What "the value" of a name is: a `Value` tree.  For a function value this includes its `id`
  (the heap cell), parameters, body and captured scope.  The display name of a function cell
  lives in `ES.names` (keyed by `id`); it is the only thing an evaluation can change about an
  existing function, and it is not part of the value (`veq` ignores it; it only selects the
  self-reference name inside calls and the printed form).

  For the display name: `NamesExt s s'` (Lemmas/EvalNames.lean) relates the
  (`nextId`, `names`) of two states: cells are never given back, and `names` only grows at the
  front by entries for cells `≥ s.nextId` that had no name.  All fifteen functions of the
  evaluator satisfy it, whatever the outcome (`names_of_function_cells_only_grow`).  So a name
  once given never changes, and an evaluation started in `s` never names (or renames) a cell
  `< s.nextId`: a function is named once, by the assignment whose right-hand side created it.
  `StateOk s` (Lemmas/EvalIds.lean, preserved by all fifteen functions: Lemmas/EvalFresh.lean):
  every function value reachable from the environment (captured scopes included) lives in a
  cell `< s.nextId`, and so does every named cell.  The root state of a session satisfies it.
  With it, the cells named by an evaluation are exactly among those it created
  (`s.nextId ≤ id < s'.nextId`), and the function cells inside a bound value keep their names.

  Not modelled here: the grammar (PEG).  It refuses `if then else true false null and or not
  do return output` as identifiers, so `not = 1`, `do = 1`, `return = 1`, `output = 1` never
  reach the evaluator as assignments; the evaluator by itself refuses only the words of
  `Gen.assignKeywords` (see `reserved_words_covered`).
-/
namespace Blots.C03

theorem env_extends (ops : NumOps) (fuel : Nat) (e : Expr) (s : ES) :
    EnvExt s.env (eval ops fuel 0 e s).2.env :=
  eval_ext ops fuel e s

theorem env_extends_any_depth (ops : NumOps) (fuel depth : Nat) (e : Expr) (s : ES) :
    TopExt s.env (eval ops fuel depth e s).2.env :=
  eval_topExt ops fuel depth e s

/-- `ExtD` unfolded for a non-empty environment -/
theorem env_extends_frames (ops : NumOps) (fuel depth : Nat) (e : Expr) (s : ES)
    (top : Frame) (below : List Frame) (hs : s.env = top :: below) :
    ∃ top', (eval ops fuel depth e s).2.env = top' :: below ∧
      (∀ k v, lookupAL k top = some v → lookupAL k top' = some v) ∧
      (∀ k, (lookupAL k top').isSome → (lookupAL k top).isSome ∨ Assignable k) ∧
      (depth = 0 → ∀ k v, envGet s.env k = some v → envGet (eval ops fuel depth e s).2.env k = some v) := by
  have h := eval_extD ops fuel depth e s
  rcases h.below with he | ⟨f', he⟩
  · refine ⟨top, by rw [he, hs], fun _ _ h => h, fun _ h => Or.inl h, h.get0⟩
  · refine ⟨f', by rw [he, hs]; rfl, ?_, ?_, h.get0⟩
    · have := h.top; rw [he, hs] at this; exact this
    · have := h.fresh; rw [he, hs] at this; exact this

theorem env_extends_lists (ops : NumOps) (fuel depth : Nat) (s : ES) :
    (∀ es, ExtD depth s.env (evalList ops fuel depth es s).2.env) ∧
    (∀ is, ExtD depth s.env (evalItems ops fuel depth is s).2.env) ∧
    (∀ es acc, ExtD depth s.env (evalEntries ops fuel depth es acc s).2.env) :=
  ⟨fun es => (envStep ops fuel).evalList depth es s,
   fun is => (envStep ops fuel).evalItems depth is s,
   fun es acc => (envStep ops fuel).evalEntries depth es acc s⟩

/-- the direct statements of a do-block may replace a binding (shadowing is allowed there), but
    only in the block's own frame -/
theorem do_statements_touch_only_their_frame (ops : NumOps) (fuel depth : Nat) (s : ES)
    (blockFrame : Frame) (outer : List Frame) (hs : s.env = blockFrame :: outer) :
    (∀ e, ∃ f', (evalDoStmt ops fuel depth e s).2.env = f' :: outer) ∧
    (∀ stmts ret, ∃ f', (evalDo ops fuel depth stmts ret s).2.env = f' :: outer) := by
  have key : ∀ e', SameBelow s.env e' → ∃ f', e' = f' :: outer := by
    rintro e' (he | ⟨f', he⟩)
    · exact ⟨blockFrame, by rw [he, hs]⟩
    · exact ⟨f', by rw [he, hs]; rfl⟩
  exact ⟨fun e => key _ ((envStep ops fuel).evalDoStmt depth e s),
    fun stmts ret => key _ ((envStep ops fuel).evalDo depth stmts ret s)⟩

/-- once `x` is visible with value `v` at some point of a session, it is visible with the same
    value after any further statements, failing or not -/
theorem root_binding_is_permanent (ops : NumOps) (fuel : Nat) (s : ES) (pre post : List Expr)
    (x : String) (v : Value)
    (h : envGet (runStmts ops fuel s pre).2.env x = some v) :
    envGet (runStmts ops fuel s (pre ++ post)).2.env x = some v := by
  rw [runStmts_append]
  exact (runStmts_ext ops fuel post _).get x v h

theorem root_frame_only_grows (ops : NumOps) (fuel : Nat) (s : ES) (stmts : List Expr) (root : Frame)
    (hs : s.env = [root]) :
    ∃ root', (runStmts ops fuel s stmts).2.env = [root'] ∧
      ∀ k v, lookupAL k root = some v → lookupAL k root' = some v := by
  have h := runStmts_ext ops fuel stmts s
  rw [hs] at h
  obtain ⟨f', hf⟩ := h.below.single
  refine ⟨f', hf, ?_⟩
  have := h.top
  rw [hf] at this
  exact this

theorem session_is_driver_session (ops : NumOps) (fuel : Nat) (s : ES) (stmts : List Expr) :
    runStmts ops fuel s stmts = Drv.runSession ops fuel s stmts :=
  runStmts_eq_runSession ops fuel s stmts

/-- `alreadyDefined`: at top level, visible anywhere in the chain; inside a call, bound in the
    call's own frame.  The right-hand side is not evaluated. -/
theorem rebind_is_refused (ops : NumOps) (fuel depth : Nat) (x : String) (e : Expr) (s : ES)
    (hx : alreadyDefined depth s.env x = true) :
    ∃ k, eval ops (fuel + 1) depth (.assign x e) s = (.err k, s) ∧
      (k = .alreadyDefined ∨ k = .builtinName ∨ k = .keyword) := by
  rw [eval]
  split
  · exact ⟨_, rfl, Or.inr (Or.inl rfl)⟩
  split
  · exact ⟨_, rfl, Or.inr (Or.inr rfl)⟩
  exact ⟨_, rfl, Or.inl rfl⟩

theorem rebind_is_refused_top_level (ops : NumOps) (fuel : Nat) (x : String) (e : Expr) (s : ES)
    (hx : envContains s.env x = true) :
    ∃ k, eval ops (fuel + 1) 0 (.assign x e) s = (.err k, s) ∧
      (k = .alreadyDefined ∨ k = .builtinName ∨ k = .keyword) :=
  rebind_is_refused ops fuel 0 x e s (by simpa [alreadyDefined] using hx)

theorem rebind_is_refused_already_defined (ops : NumOps) (fuel depth : Nat) (x : String) (e : Expr)
    (s : ES) (hx : alreadyDefined depth s.env x = true) (ha : Assignable x) :
    eval ops (fuel + 1) depth (.assign x e) s = (.err .alreadyDefined, s) := by
  rw [eval, if_neg (by simp [ha.1]), if_neg (by have := ha.2; simpa using this), if_pos hx]

/-- the right-hand side cannot smuggle the binding in either: if evaluating it binds `x`, the
    assignment fails and the binding made by the right-hand side stays (`x = [x = 1, x]`; the
    check is made again after the right-hand side, fix 3fe21b8) -/
theorem rebind_through_rhs_is_refused (ops : NumOps) (fuel depth : Nat) (x : String) (e : Expr)
    (s s1 : ES) (val : Value) (ha : Assignable x) (hx : alreadyDefined depth s.env x = false)
    (he : eval ops fuel depth e s = (.ok val, s1)) (hx1 : alreadyDefined depth s1.env x = true) :
    eval ops (fuel + 1) depth (.assign x e) s = (.err .alreadyDefined, s1) := by
  rw [eval, if_neg (by simp [ha.1]), if_neg (by have := ha.2; simpa using this), if_neg (by simp [hx]), he]
  simp [hx1]

/-- C03's "keywords, built-in function names, inputs and constants can never be bound": at any
    depth, and the right-hand side is not evaluated -/
theorem reserved_names_unbindable (ops : NumOps) (fuel depth : Nat) (n : String) (e : Expr) (s : ES)
    (hn : isBuiltinIdent n = true ∨ n ∈ Gen.assignKeywords) :
    ∃ k, eval ops (fuel + 1) depth (.assign n e) s = (.err k, s) ∧
      (k = .builtinName ∨ k = .keyword) := by
  rw [eval]
  split
  · exact ⟨_, rfl, Or.inl rfl⟩
  · rename_i hb
    rcases hn with hn | hn
    · exact absurd hn hb
    · rw [if_pos (by simpa using hn)]
      exact ⟨_, rfl, Or.inr rfl⟩

theorem reserved_names_never_bound (ops : NumOps) (fuel : Nat) (s : ES) (stmts : List Expr) (n : String)
    (hn : isBuiltinIdent n = true ∨ n ∈ Gen.assignKeywords)
    (h0 : envGet s.env n = none) :
    envGet (runStmts ops fuel s stmts).2.env n = none :=
  (runStmts_ext ops fuel stmts s).toTopExt.get_none (not_assignable_of_reserved hn) h0

theorem reserved_names_never_bound_eval (ops : NumOps) (fuel depth : Nat) (e : Expr) (s : ES) (n : String)
    (hn : isBuiltinIdent n = true ∨ n ∈ Gen.assignKeywords)
    (h0 : envGet s.env n = none) :
    envGet (eval ops fuel depth e s).2.env n = none :=
  (eval_topExt ops fuel depth e s).get_none (not_assignable_of_reserved hn) h0

theorem inputs_and_constants_reserved :
    "inputs" ∈ Gen.assignKeywords ∧ "constants" ∈ Gen.assignKeywords := by decide

/-- every reserved word of the grammar is refused by the evaluator, except the four the
    evaluator leaves to the grammar (which never produces them as identifiers) -/
theorem reserved_words_covered :
    ∀ w ∈ Gen.grammarReserved, w ∈ Gen.assignKeywords ∨ w ∈ ["not", "do", "return", "output"] := by
  decide

/-- all three identifiers evaluated specially are in `Gen.assignKeywords` (`inf` and `infinity`
    by fix 6ce7ee9: reading them always yields the special value, so a binding would be
    unreadable); the last two disjuncts are never needed -/
theorem special_idents_assignability :
    ∀ w ∈ Gen.specialIdents, w ∈ Gen.assignKeywords ∨ w = "inf" ∨ w = "infinity" := by decide

theorem builtin_names_not_assignable : ∀ r ∈ Gen.fromIdent, ¬ Assignable r.1 := by
  intro r hr ha
  have : isBuiltinIdent r.1 = true := by
    unfold isBuiltinIdent
    rw [List.find?_isSome]
    exact ⟨r, hr, by simp⟩
  rw [ha.1] at this; cases this

/-- neither the direct assignments of a do-block nor assignments nested in its statements
    (`do { [y = 1]; return 2 }`) survive it -/
theorem do_block_does_not_leak (ops : NumOps) (fuel depth : Nat) (stmts : List Item) (ret : Item) (s : ES) :
    (eval ops fuel depth (.doBlock stmts ret) s).2.env = s.env := by
  cases fuel with
  | zero => rw [eval_zero]
  | succ fuel =>
    rw [eval_doBlock]
    exact ((envStep ops fuel).evalDo depth stmts ret { s with env := [] :: s.env }).drop_push

theorem call_does_not_leak (ops : NumOps) (fuel : Nat) (fv this : Value) (args : List Value) (depth : Nat)
    (s : ES) : (callFn ops fuel fv this args depth s).2.env = s.env :=
  callFn_env ops fuel fv this args depth s

/-- `via`, `into`, `where` call functions -/
theorem operator_does_not_leak (ops : NumOps) (fuel depth : Nat) (op : BinOp) (a b : Value) (s : ES) :
    (evalBin ops fuel depth op a b s).2.env = s.env :=
  evalBin_env ops fuel depth op a b s

/-- a call expression: the environment afterwards is the one after evaluating the callee and
    the arguments in the caller's scope (`f(y = 1)` binds `y` for the caller; the call itself
    adds nothing) -/
theorem call_expr_does_not_leak (ops : NumOps) (fuel depth : Nat) (f : Expr) (args : List Expr)
    (s s1 s2 : ES) (fv : Value) (raw : List Value)
    (hf : eval ops fuel depth f s = (.ok fv, s1))
    (ha : evalList ops fuel depth args s1 = (.ok raw, s2)) :
    (eval ops (fuel + 1) depth (.call f args) s).2.env = s2.env := by
  rw [eval, hf]
  simp only [ha]
  split
  · rfl
  · exact callFn_env ..

theorem shadowing_restores_after_do_block (ops : NumOps) (fuel depth : Nat) (stmts : List Item) (ret : Item)
    (s : ES) (x : String) :
    envGet (eval ops fuel depth (.doBlock stmts ret) s).2.env x = envGet s.env x := by
  rw [do_block_does_not_leak]

theorem shadowing_restores_after_call (ops : NumOps) (fuel : Nat) (fv this : Value) (args : List Value)
    (depth : Nat) (s : ES) (x : String) :
    envGet (callFn ops fuel fv this args depth s).2.env x = envGet s.env x := by
  rw [call_does_not_leak]

/-- `env_extends` read for a failing statement; `_hfail` is not used -/
theorem failed_statement_keeps_earlier_bindings (ops : NumOps) (fuel : Nat) (e : Expr) (s s' : ES)
    (r : Outcome Value) (hr : eval ops fuel 0 e s = (r, s')) (_hfail : r.isOk = false)
    (x : String) (v : Value) (hx : envGet s.env x = some v) : envGet s'.env x = some v := by
  have := (eval_ext ops fuel e s).get x v hx
  rw [hr] at this
  exact this

theorem failed_evaluation_keeps_frames (ops : NumOps) (fuel depth : Nat) (e : Expr) (s s' : ES)
    (r : Outcome Value) (hr : eval ops fuel depth e s = (r, s')) (_hfail : r.isOk = false)
    (top : Frame) (below : List Frame) (hs : s.env = top :: below) :
    ∃ top', s'.env = top' :: below ∧ ∀ k v, lookupAL k top = some v → lookupAL k top' = some v := by
  obtain ⟨top', h1, h2, _⟩ := env_extends_frames ops fuel depth e s top below hs
  rw [hr] at h1
  exact ⟨top', h1, h2⟩

/-- `NamesStep`: `NamesExt` for every function of the evaluator, whatever the outcome -/
theorem names_of_function_cells_only_grow (ops : NumOps) (fuel : Nat) : NamesStep ops fuel :=
  names_group ops fuel

theorem next_cell_never_decreases (ops : NumOps) (fuel depth : Nat) (e : Expr) (s : ES) :
    s.nextId ≤ (eval ops fuel depth e s).2.nextId :=
  (eval_names ops fuel depth e s).next

theorem function_names_are_stable (ops : NumOps) (fuel depth : Nat) (e : Expr) (s : ES)
    (id : Nat) (n : String) (h : nameOf s.names id = some n) :
    nameOf (eval ops fuel depth e s).2.names id = some n :=
  (eval_names ops fuel depth e s).keep h

theorem function_names_are_stable_call (ops : NumOps) (fuel : Nat) (fv this : Value) (args : List Value)
    (depth : Nat) (s : ES) (id : Nat) (n : String) (h : nameOf s.names id = some n) :
    nameOf (callFn ops fuel fv this args depth s).2.names id = some n :=
  ((names_group ops fuel).callFn fv this args depth s).keep h

theorem function_names_are_stable_operator (ops : NumOps) (fuel depth : Nat) (op : BinOp) (a b : Value)
    (s : ES) (id : Nat) (n : String) (h : nameOf s.names id = some n) :
    nameOf (evalBin ops fuel depth op a b s).2.names id = some n :=
  ((names_group ops fuel).evalBin depth op a b s).keep h

/-- a cell that existed before keeps its name or its namelessness (before fix bec462f any later
    assignment renamed it) -/
theorem evaluation_never_renames_existing_functions (ops : NumOps) (fuel depth : Nat) (e : Expr) (s : ES)
    (id : Nat) (hid : id < s.nextId) :
    nameOf (eval ops fuel depth e s).2.names id = nameOf s.names id :=
  (eval_names ops fuel depth e s).old hid

theorem call_never_renames_existing_functions (ops : NumOps) (fuel : Nat) (fv this : Value)
    (args : List Value) (depth : Nat) (s : ES) (id : Nat) (hid : id < s.nextId) :
    nameOf (callFn ops fuel fv this args depth s).2.names id = nameOf s.names id :=
  ((names_group ops fuel).callFn fv this args depth s).old hid

/-- in particular an assignment `x = e` whose right-hand side merely returns an existing
    function (`g = f`, `g = fs[0]`, `g = pick(f)`) does not name it -/
theorem assignment_does_not_name_an_existing_function (ops : NumOps) (fuel depth : Nat) (x : String)
    (e : Expr) (s : ES) (id : Nat) (hid : id < s.nextId) (h : nameOf s.names id = none) :
    nameOf (eval ops fuel depth (.assign x e) s).2.names id = none := by
  rw [evaluation_never_renames_existing_functions ops fuel depth _ s id hid]; exact h

theorem new_names_are_for_new_cells (ops : NumOps) (fuel depth : Nat) (e : Expr) (s : ES)
    (p : Nat × String) (hp : p ∈ (eval ops fuel depth e s).2.names) : p ∈ s.names ∨ s.nextId ≤ p.1 :=
  (eval_names ops fuel depth e s).added hp

/-- when the right-hand side of `x = e` (top-level or nested) returns a cell that `e` itself created
    and that has no name yet, the cell is called `x` from then on -/
theorem creating_assignment_names_the_function (ops : NumOps) (fuel depth : Nat) (x : String) (e : Expr)
    (s s1 : ES) (id : Nat) (ps : List LArg) (body : Expr) (sc : Frame) (ha : Assignable x)
    (hx : alreadyDefined depth s.env x = false)
    (he : eval ops fuel depth e s = (.ok (.lambda id ps body sc), s1))
    (hx1 : alreadyDefined depth s1.env x = false)
    (hnew : s.nextId ≤ id) (hnone : nameOf s1.names id = none) :
    nameOf (eval ops (fuel + 1) depth (.assign x e) s).2.names id = some x := by
  rw [eval, if_neg (by simp [ha.1]), if_neg (by have := ha.2; simpa using this), if_neg (by simp [hx]), he]
  simp [hx1, createdSince, hnew, setNameIfLambda, hnone, nameOf_cons]

theorem session_names_only_grow (ops : NumOps) (fuel : Nat) (s : ES) (pre post : List Expr) :
    NamesExt (runStmts ops fuel s pre).2 (runStmts ops fuel s (pre ++ post)).2 := by
  rw [runStmts_append]
  exact runStmts_names ops fuel post _

theorem function_names_are_stable_session (ops : NumOps) (fuel : Nat) (s : ES) (pre post : List Expr)
    (id : Nat) (n : String) (h : nameOf (runStmts ops fuel s pre).2.names id = some n) :
    nameOf (runStmts ops fuel s (pre ++ post)).2.names id = some n :=
  (session_names_only_grow ops fuel s pre post).keep h

theorem session_never_renames_existing_functions (ops : NumOps) (fuel : Nat) (s : ES)
    (pre post : List Expr) (id : Nat) (hid : id < (runStmts ops fuel s pre).2.nextId) :
    nameOf (runStmts ops fuel s (pre ++ post)).2.names id = nameOf (runStmts ops fuel s pre).2.names id :=
  (session_names_only_grow ops fuel s pre post).old hid

/-- binding and names together: the value tree (cell ids included) stays, and so does the display
    name of every cell that existed at that point -/
theorem root_binding_and_function_names_are_permanent (ops : NumOps) (fuel : Nat) (s : ES)
    (pre post : List Expr) (x : String) (v : Value)
    (h : envGet (runStmts ops fuel s pre).2.env x = some v) :
    envGet (runStmts ops fuel s (pre ++ post)).2.env x = some v ∧
    ∀ id, id < (runStmts ops fuel s pre).2.nextId →
      nameOf (runStmts ops fuel s (pre ++ post)).2.names id = nameOf (runStmts ops fuel s pre).2.names id :=
  ⟨root_binding_is_permanent ops fuel s pre post x v h,
   fun id hid => session_never_renames_existing_functions ops fuel s pre post id hid⟩

/-- `FreshStep`: `StateOk` is kept by every function of the evaluator, whatever the outcome, and a
    successful result only contains function cells created so far -/
theorem fresh_state_is_preserved_everywhere (ops : NumOps) (fuel : Nat) : FreshStep ops fuel :=
  fresh_group ops fuel

theorem fresh_state_is_preserved (ops : NumOps) (fuel depth : Nat) (e : Expr) (s : ES) (hs : StateOk s) :
    StateOk (eval ops fuel depth e s).2 :=
  (eval_fresh ops fuel depth e s hs).1

theorem named_cells_exist (ops : NumOps) (fuel depth : Nat) (e : Expr) (s : ES) (hs : StateOk s)
    (p : Nat × String) (hp : p ∈ (eval ops fuel depth e s).2.names) :
    p.1 < (eval ops fuel depth e s).2.nextId :=
  (eval_fresh ops fuel depth e s hs).1.names p hp

theorem result_cells_exist (ops : NumOps) (fuel depth : Nat) (e : Expr) (s s' : ES) (v : Value)
    (hs : StateOk s) (he : eval ops fuel depth e s = (.ok v, s')) (id : Nat) (hid : v.hasId id = true) :
    id < s'.nextId := by
  have := (eval_fresh ops fuel depth e s hs).2
  rw [he] at this
  exact lt_of_hasId v (this v rfl) hid

theorem evaluation_names_only_functions_it_created (ops : NumOps) (fuel depth : Nat) (e : Expr) (s : ES)
    (hs : StateOk s) (p : Nat × String) (hp : p ∈ (eval ops fuel depth e s).2.names) (hnew : p ∉ s.names) :
    s.nextId ≤ p.1 ∧ p.1 < (eval ops fuel depth e s).2.nextId := by
  refine ⟨?_, named_cells_exist ops fuel depth e s hs p hp⟩
  rcases new_names_are_for_new_cells ops fuel depth e s p hp with h | h
  · exact absurd h hnew
  · exact h

theorem session_state_stays_fresh (ops : NumOps) (fuel : Nat) (s : ES) (stmts : List Expr) (hs : StateOk s) :
    StateOk (runStmts ops fuel s stmts).2 :=
  runStmts_stateOk ops fuel stmts s hs

/-- the value observed through a bound name is unchanged by later statements, including the
    display name of every function cell that occurs inside it (directly, in a list or record,
    or in a captured scope) -/
theorem bound_value_keeps_its_function_names (ops : NumOps) (fuel : Nat) (s : ES) (pre post : List Expr)
    (x : String) (v : Value) (hs : StateOk s)
    (h : envGet (runStmts ops fuel s pre).2.env x = some v) :
    envGet (runStmts ops fuel s (pre ++ post)).2.env x = some v ∧
    ∀ id, v.hasId id = true →
      nameOf (runStmts ops fuel s (pre ++ post)).2.names id = nameOf (runStmts ops fuel s pre).2.names id := by
  refine ⟨root_binding_is_permanent ops fuel s pre post x v h, fun id hid => ?_⟩
  have hpre := runStmts_stateOk ops fuel pre s hs
  exact session_never_renames_existing_functions ops fuel s pre post id
    (lt_of_hasId v (idsLt_envGet hpre.env h) hid)

/-- `x = [x = 1, x]` is refused (it would rebind `x` from 1 to [1, 1]); `x` keeps the value the
    right-hand side gave it -/
example : eval toyOps 10 0
      (.assign "x" (.list [it (.assign "x" (.num F64.one)), it (.ident "x")])) root0
    = (.err .alreadyDefined, { root0 with env := [[("x", .num F64.one)]] }) := by
  with_unfolding_all rfl

/-- hypotheses of `rebind_through_rhs_is_refused` -/
example : Assignable "x" ∧ alreadyDefined 0 root0.env "x" = false ∧
    eval toyOps 9 0 (.list [it (.assign "x" (.num F64.one)), it (.ident "x")]) root0
      = (.ok (.list [.num F64.one, .num F64.one]), { root0 with env := [[("x", .num F64.one)]] }) ∧
    alreadyDefined 0 [[("x", Value.num F64.one)]] "x" = true := by
  refine ⟨by decide, by decide, ?_, by decide⟩
  with_unfolding_all rfl

/-- a session with a failing statement in the middle: `x = 1; x = 2 (refused); y = x` -/
example : (runStmts toyOps 10 root0
      [.assign "x" (.num F64.one), .assign "x" (.num F64.zero), .assign "y" (.ident "x")]).2.env
    = [[("x", .num F64.one), ("y", .num F64.one)]] := by
  with_unfolding_all rfl

/-- hypothesis of `rebind_is_refused` (top level: bound in an outer frame; in a call: only the
    call's own frame counts) -/
example : alreadyDefined 0 [[], [("x", Value.num F64.one)]] "x" = true ∧
    alreadyDefined 1 [[], [("x", Value.num F64.one)]] "x" = false ∧
    alreadyDefined 1 [[("x", Value.num F64.one)]] "x" = true := by decide

/-- hypotheses of `reserved_names_unbindable` / `reserved_names_never_bound` -/
example : isBuiltinIdent "map" = true ∧ "inputs" ∈ Gen.assignKeywords ∧
    envGet root0.env "map" = none := by decide

/-- a do-block that shadows `x`, binds `y` directly and `z` inside a list:
    result 0 (the inner `x`), environment exactly as before -/
example : eval toyOps 12 0
      (.doBlock [it (.assign "x" (.num F64.zero)), it (.assign "y" (.list [it (.assign "z" (.num F64.one))]))]
        (it (.ident "x")))
      { root0 with env := [[("x", .num F64.one)]] }
    = (.ok (.num F64.zero), { root0 with env := [[("x", .num F64.one)]] }) := by
  with_unfolding_all rfl

/-- a call whose parameter shadows `x` and whose body assigns `y`: nothing leaks -/
example : callFn toyOps 12 (.lambda 1 [.req "x"] (.assign "y" (.ident "x")) []) .null [.num F64.zero] 0
      { root0 with env := [[("x", .num F64.one)]] }
    = (.ok (.num F64.zero), { root0 with env := [[("x", .num F64.one)]] }) := by
  with_unfolding_all rfl

/-- inside a call a plain assignment may shadow an outer name in the call's own frame (only that
    frame is looked at): body `[t, t = a, t]` with the caller binding t ↦ 1 gives [1, a, a];
    the caller's `t` is untouched afterwards -/
example : callFn toyOps 12 (.lambda 1 [.req "a"]
        (.list [it (.ident "t"), it (.assign "t" (.ident "a")), it (.ident "t")]) []) .null [.num F64.zero] 0
      { root0 with env := [[("t", .num F64.one)]] }
    = (.ok (.list [.num F64.one, .num F64.zero, .num F64.zero]), { root0 with env := [[("t", .num F64.one)]] }) := by
  with_unfolding_all rfl

/-- a failing statement that had already bound something: `[a = 1, nope]` fails on `nope`,
    `a` stays bound (hypotheses of `failed_statement_keeps_earlier_bindings`) -/
example : eval toyOps 10 0 (.list [it (.assign "a" (.num F64.one)), it (.ident "nope")])
      { root0 with env := [[("x", .num F64.one)]] }
    = (.err .unknownIdent, { root0 with env := [[("x", .num F64.one), ("a", .num F64.one)]] }) := by
  with_unfolding_all rfl

/-- the evaluator alone does accept `not` as a name (the grammar never lets it through) -/
example : (eval toyOps 3 0 (.assign "not" (.num F64.one)) root0).1 = .ok (.num F64.one) := by
  with_unfolding_all rfl

/-- `f = x => x; g = f`: one cell, bound to both names, called `f` -/
example : (runStmts toyOps 10 root0 [.assign "f" (.lambda [.req "x"] (.ident "x")), .assign "g" (.ident "f")]).2
    = { env := [[("f", .lambda 1 [.req "x"] (.ident "x") []), ("g", .lambda 1 [.req "x"] (.ident "x") [])]],
        nextId := 2, names := [(1, "f")] } := by
  with_unfolding_all rfl

/-- hypotheses of `function_names_are_stable_session` / `session_never_renames_existing_functions`
    / `root_binding_and_function_names_are_permanent` on that session (pre = `f = x => x`) -/
example : nameOf (runStmts toyOps 10 root0 [.assign "f" (.lambda [.req "x"] (.ident "x"))]).2.names 1 = some "f" ∧
    1 < (runStmts toyOps 10 root0 [.assign "f" (.lambda [.req "x"] (.ident "x"))]).2.nextId ∧
    envGet (runStmts toyOps 10 root0 [.assign "f" (.lambda [.req "x"] (.ident "x"))]).2.env "f"
      = some (.lambda 1 [.req "x"] (.ident "x") []) := by
  have h : (runStmts toyOps 10 root0 [.assign "f" (.lambda [.req "x"] (.ident "x"))]).2
      = { env := [[("f", .lambda 1 [.req "x"] (.ident "x") [])]], nextId := 2, names := [(1, "f")] } := by
    with_unfolding_all rfl
  rw [h]
  with_unfolding_all exact ⟨rfl, Nat.le_refl 2, rfl⟩

/-- a nameless function in a record, then bound through the record: `r = {a: x => x}; g = r.a`
    leaves the cell nameless (hypotheses of `assignment_does_not_name_an_existing_function`:
    cell 1 exists and has no name before `g = r.a`) -/
example : (runStmts toyOps 10 root0
      [.assign "r" (.record [.mk [] (.static "a") (.lambda [.req "x"] (.ident "x")) none]),
       .assign "g" (.dot (.ident "r") "a")]).2
    = { env := [[("r", .record [("a", .lambda 1 [.req "x"] (.ident "x") [])]),
                 ("g", .lambda 1 [.req "x"] (.ident "x") [])]],
        nextId := 2, names := [] } := by
  with_unfolding_all rfl

/-- hypotheses of `creating_assignment_names_the_function` (`f = x => x` in the root state) -/
example : Assignable "f" ∧ alreadyDefined 0 root0.env "f" = false ∧
    eval toyOps 5 0 (.lambda [.req "x"] (.ident "x")) root0
      = (.ok (.lambda 1 [.req "x"] (.ident "x") []), { root0 with nextId := 2 }) ∧
    root0.nextId ≤ 1 ∧ nameOf root0.names 1 = none := by
  refine ⟨by decide, by decide, ?_, by decide, by decide⟩
  with_unfolding_all rfl

/-- a nested assignment inside the right-hand side names its own function; the outer one then
    finds it named: `g = (f = x => x)` gives the cell the name `f`, not `g` -/
example : (eval toyOps 10 0 (.assign "g" (.assign "f" (.lambda [.req "x"] (.ident "x")))) root0).2.names
    = [(1, "f")] := by
  with_unfolding_all rfl

/-- the root state of a session satisfies `StateOk`, and so does a state with a function bound and
    named -/
example : StateOk root0 := root0_stateOk
example : StateOk { env := [[("f", .lambda 1 [.req "x"] (.ident "x") [])]], nextId := 2, names := [(1, "f")] } :=
  ⟨by simp [envLt, Value.idsLtRec, Value.idsLt], fun p hp => by simp at hp; subst hp; decide⟩

/-- a state that is not fresh (a function value in a cell that was never created): there
    `g = f` names cell 100 although the right-hand side created nothing — `StateOk` is needed
    in `evaluation_names_only_functions_it_created` -/
example : (eval toyOps 5 0 (.assign "g" (.ident "f"))
      { env := [[("f", .lambda 100 [.req "x"] (.ident "x") [])]], nextId := 1, names := [] }).2.names
    = [(100, "g")] := by
  with_unfolding_all rfl

/-- hypotheses of `bound_value_keeps_its_function_names`: after `r = {a: x => x}` the name `r`
    is bound to a record in which cell 1 occurs -/
example : envGet (runStmts toyOps 10 root0
      [.assign "r" (.record [.mk [] (.static "a") (.lambda [.req "x"] (.ident "x")) none])]).2.env "r"
      = some (.record [("a", .lambda 1 [.req "x"] (.ident "x") [])]) ∧
    (Value.record [("a", .lambda 1 [.req "x"] (.ident "x") [])]).hasId 1 = true := by
  refine ⟨?_, by simp [Value.hasId, Value.hasIdRec]⟩
  with_unfolding_all rfl

end Blots.C03
