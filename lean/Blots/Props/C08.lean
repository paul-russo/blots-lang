import Blots.Lemmas.FormatLemmas
import Blots.Lemmas.FormatFragment
/-
  C08 — formatting is idempotent: the arithmetic heart of blank-line handling, the structure
  of the joined output, and determinism.

  A formatted program is `join_statements_with_spacing` of the triples
  (formatted statement text, first line, last line) — statement texts are `format_expr` of an
  expression (plus an end-of-line comment) or a standalone comment (blots-wasm `format_blots`,
  `blots --format`).  Formatting the output again sees the same statements at the lines where
  the first pass put them.

  Proved here, for all inputs:
   * `blank_lines_stable`   : the clamp `n = min (gap+1) 3` is a fixed point: n newlines mean
                               a gap of n-1 empty lines, which yields n newlines again;
   * `join_structure`       : the output is  s₁ ++ '\n'^g₁ ++ s₂ ++ … ++ sₙ  — the texts in
                               order, unchanged, separated by newlines only — with
                               gᵢ = min ((startᵢ₊₁ - endᵢ - 1) + 1) 3, 1 ≤ gᵢ ≤ 3;
   * `join_is_stable_under_relayout` : re-joining the statements at the positions they have in
                               the output (`relayout`) gives the same text — blank-line
                               spacing is idempotent, for any statement texts (multi-line too);
   * `program_format_is_idempotent_given_statement_roundtrip` : the lifting to programs;
   * `layout_is_deterministic` : default width, and `idempotent_of_roundtrip` (a formatter
                               that is a function of the tree is idempotent as soon as its
                               output parses back to the tree — the C07 claim).

   * `format_idempotent_fragment` … : end to end on the fragment of C10 (`Frag t`: binary
                               operators, prefix `-` / `!`, postfix `!`, calls, index, field,
                               lists, lambdas, conditionals, strings, records, do-blocks,
                               assignments over
                               names, `true false null`, integers < 10^15; the exact conditions
                               are stated in C10; unbounded depth), with the
                               character-level PEG model of the `expression` rule and the Pratt
                               parser as `parseText` (C10): for every width
                               format ∘ parse ∘ format = format, the parsed tree does not depend
                               on the width, and re-formatting at another width gives what
                               formatting the original tree at that width gives.

  Not proved: that re-parsing the output of a whole program really yields the same trees at
  those lines with the comments attached to the same nodes (the hypothesis of the lifting), and
  the statement round trip outside the fragment `Frag` of C10: this needs the character-level
  grammar of statements, comments and the other term forms.  It is checked on the real code
  by the model-free oracle of `harness/src/props/c08.rs` (format twice, compare strings, all
  three drivers, 0–5 blank lines between statements) and by the C07 reparse oracle.
  `relayout` assumes what pest reports: a statement's span starts on the line of its first
  character and ends on the line of its last one.
-/
namespace Blots.C08
open Blots.FormatL

/-- the blank-line clamp is a fixed point of "emit, then measure again" -/
theorem blank_lines_stable (gap : Nat) :
    let n := min (gap + 1) 3
    min ((n - 1) + 1) 3 = n := by
  intro n; omega

theorem join_nil : joinStatementsWithSpacing [] = "" := FormatL.join_nil
theorem join_single (s : String) (a b : Nat) : joinStatementsWithSpacing [(s, a, b)] = s :=
  FormatL.join_single s a b

theorem gaps_formula (stmts : List (String × Nat × Nat)) :
    gapsOf stmts =
      List.zipWith (fun a b => min ((b.2.1 - a.2.2 - 1) + 1) 3) stmts stmts.tail := rfl

/-- the statement texts in order, unchanged, with `gᵢ` newline
    characters (and nothing else) between statement i and i+1; one gap per consecutive pair;
    every gap is 1, 2 or 3 (at most two empty lines, never two statements on one line). -/
theorem join_structure (stmts : List (String × Nat × Nat)) :
    joinStatementsWithSpacing stmts = weave (stmts.map (·.1)) (gapsOf stmts) ∧
    (gapsOf stmts).length = stmts.length - 1 ∧
    ∀ g ∈ gapsOf stmts, 1 ≤ g ∧ g ≤ 3 :=
  ⟨join_eq_weave stmts, gapsOf_length stmts, gapsOf_bounds stmts⟩

theorem weave_equations :
    (∀ gs, weave [] gs = "") ∧ (∀ s gs, weave [s] gs = s) ∧
    (∀ s t rest g gs, weave (s :: t :: rest) (g :: gs) =
      s ++ String.ofList (List.replicate g '\n') ++ weave (t :: rest) gs) :=
  ⟨fun _ => rfl, fun _ _ => rfl, fun _ _ _ _ _ => rfl⟩

theorem join_step (x y : String × Nat × Nat) (rest : List (String × Nat × Nat)) :
    joinStatementsWithSpacing (x :: y :: rest) =
      x.1 ++ String.ofList (List.replicate (min ((y.2.1 - x.2.2 - 1) + 1) 3) '\n') ++
        joinStatementsWithSpacing (y :: rest) := join_cons_cons x y rest

/-- where `relayout` puts the statements: the first on line `line`; a statement ends
    `countNl text` lines after its start; the next starts `gap` lines after that end -/
theorem relayout_equations (line : Nat) :
    relayout line [] = [] ∧
    (∀ s a b, relayout line [(s, a, b)] = [(s, line, line + countNl s)]) ∧
    (∀ x y rest, relayout line (x :: y :: rest) =
      (x.1, line, line + countNl x.1) ::
        relayout (line + countNl x.1 + gapOf x y) (y :: rest)) :=
  ⟨rfl, fun _ _ _ => rfl, fun x y rest => by
    obtain ⟨s, a, e⟩ := x; obtain ⟨s2, a2, e2⟩ := y; rfl⟩

/-- Idempotence of the spacing.  Joining the statements again, now at the positions they have
    in the joined text, produces the same text (whatever the first line number, whatever
    the statement texts). -/
theorem join_is_stable_under_relayout (stmts : List (String × Nat × Nat)) (line : Nat) :
    joinStatementsWithSpacing (relayout line stmts) = joinStatementsWithSpacing stmts :=
  join_relayout stmts line

/-- Lifting to programs (`formatProgram w prog` = the joiner applied to the triples
    (`formatExpr e w`, first line, last line) of `prog`): if re-parsing the formatted program gives statements `prog'` whose
    formatted texts are those of `prog` (same trees ⇒ same texts, `format_expr` being a
    function of the tree) located where the first pass put them, the second pass returns the
    first pass's text. -/
theorem program_format_is_idempotent_given_statement_roundtrip (w : Option Nat)
    (prog prog' : List (Expr × Nat × Nat))
    (h : prog'.map (fun x => (formatExpr x.1 w, x.2.1, x.2.2)) =
      relayout 1 (prog.map fun x => (formatExpr x.1 w, x.2.1, x.2.2))) :
    formatProgram w prog' = formatProgram w prog := by
  unfold formatProgram
  rw [h, join_relayout]

/-- `format_expr` without a width is `format_expr` at 80 columns; and
    `format_expr_impl` is a function of (width, indent, tree) only — in the model by
    construction (`fmtImpl : Nat → Nat → Expr → String`, the rendering of the total piece
    layout `fmtImplP`), in the Rust code because it reads
    nothing else (no spans, no global state). -/
theorem layout_is_deterministic (e : Expr) :
    formatExpr e none = formatExpr e (some DEFAULT_MAX_COLUMNS) ∧
    ∀ w, formatExpr e w = protectStatementStart (fmtImpl (w.getD DEFAULT_MAX_COLUMNS) 0 e) :=
  ⟨rfl, fun _ => rfl⟩

/-- a formatter that is a function of the tree is idempotent on every text whose formatted
    form parses back to the same tree (`parse` is any function here; for the real parser the
    hypothesis is property C07) -/
theorem idempotent_of_roundtrip (parse : String → Option Expr) (w : Option Nat) (src : String)
    (e : Expr) (h1 : parse src = some e) (h2 : parse (formatExpr e w) = some e) :
    ((parse src).map (formatExpr · w)).bind (fun out => (parse out).map (formatExpr · w)) =
      (parse src).map (formatExpr · w) := by
  simp [h1, h2]

section text
open Blots.ExprPeg Blots.FormatFrag

/-- C08 on the fragment of C10 (`Frag`: operators, calls, index, field, list literals,
    lambdas, conditionals, string literals, record literals, do-blocks, assignments), every
    width: the formatted text of a fragment tree is read
    back (character-level PEG recogniser + Pratt parser) to a tree whose formatted text is the
    same text. -/
theorem format_idempotent_fragment (t : Expr) (h : Frag t) (w : Nat) :
    ∃ t', parseText (formatExpr t (some w)) = some t' ∧
      formatExpr t' (some w) = formatExpr t (some w) :=
  ⟨t, formatExpr_parse t h (some w), rfl⟩

/-- … in the form format ∘ parse ∘ format = format -/
theorem format_parse_format (t : Expr) (h : Frag t) (w : Nat) :
    (parseText (formatExpr t (some w))).map (formatExpr · (some w)) = some (formatExpr t (some w)) := by
  rw [formatExpr_parse t h (some w)]; rfl

/-- … and starting from any source text whose parse is a fragment tree (whatever its layout
    and redundant parentheses): formatting the formatted text again changes nothing. -/
theorem format_idempotent_on_fragment_sources (src : String) (t : Expr) (hp : parseText src = some t)
    (h : Frag t) (w : Nat) :
    ((parseText src).map (formatExpr · (some w))).bind
        (fun out => (parseText out).map (formatExpr · (some w))) =
      (parseText src).map (formatExpr · (some w)) :=
  idempotent_of_roundtrip parseText (some w) src t hp (formatExpr_parse t h (some w))

theorem format_parse_width_independent (t : Expr) (h : Frag t) (w w' : Nat) :
    parseText (formatExpr t (some w)) = parseText (formatExpr t (some w')) := by
  rw [formatExpr_parse t h (some w), formatExpr_parse t h (some w')]

/-- re-formatting at another width gives what formatting the tree at that width gives
    (format at 20 columns, then at 80: the 80-column text) -/
theorem reformat_at_other_width (t : Expr) (h : Frag t) (w w' : Nat) :
    (parseText (formatExpr t (some w))).map (formatExpr · (some w')) =
      some (formatExpr t (some w')) := by
  rw [formatExpr_parse t h (some w)]; rfl

theorem format_idempotent_fragment_default (t : Expr) (h : Frag t) :
    (parseText (formatExpr t none)).map (formatExpr · none) = some (formatExpr t none) := by
  rw [formatExpr_parse t h none]; rfl

end text

section examples
/-- 0, 1, 2, 3 and 7 empty lines between statements ↦ 1, 2, 3, 3, 3 newlines -/
example : [0, 1, 2, 3, 7].map (fun gap => min (gap + 1) 3) = [1, 2, 3, 3, 3] := by decide

/-- three statements, the second spanning two lines; 3 empty lines then none -/
private abbrev ex : List (String × Nat × Nat) := [("a = 1", 1, 1), ("b = [\n]", 5, 6), ("c", 7, 7)]
example : gapsOf ex = [3, 1] := by decide
example : 3 ∈ gapsOf ex := by decide
example : joinStatementsWithSpacing ex = "a = 1\n\n\nb = [\n]\nc" := by decide
example : relayout 1 ex = [("a = 1", 1, 1), ("b = [\n]", 4, 5), ("c", 6, 6)] := by decide
example : joinStatementsWithSpacing (relayout 1 ex) = "a = 1\n\n\nb = [\n]\nc" := by decide

/-- the hypothesis of the lifting is satisfiable: two statements five lines apart come back,
    after the first pass, three lines apart (texts are the opaque `formatExpr …`) -/
example (w : Option Nat) (e1 e2 : Expr) :
    let t1 := formatExpr e1 w
    let prog : List (Expr × Nat × Nat) := [(e1, 2, 2), (e2, 7, 9)]
    let prog' : List (Expr × Nat × Nat) :=
      [(e1, 1, 1 + countNl t1), (e2, 1 + countNl t1 + 3, 1 + countNl t1 + 3 + countNl (formatExpr e2 w))]
    prog'.map (fun x => (formatExpr x.1 w, x.2.1, x.2.2)) =
      relayout 1 (prog.map fun x => (formatExpr x.1 w, x.2.1, x.2.2)) := by
  intro t1 prog prog'
  rfl

/-- the hypotheses of `idempotent_of_roundtrip` are satisfiable -/
example : ∃ (parse : String → Option Expr) (src : String) (e : Expr),
    parse src = some e ∧ parse (formatExpr e none) = some e :=
  ⟨fun _ => some (.bin .add (.ident "a") (.ident "b")), "a+b", _, rfl, rfl⟩
end examples

section text_examples
open Blots.ExprPeg Blots.FormatFrag
private abbrev ia : Expr := .ident "a"
private abbrev ib : Expr := .ident "b"
private abbrev ic : Expr := .ident "c"
private abbrev id4 : Expr := .ident "d"
private abbrev ie : Expr := .ident "e"
private abbrev ig : Expr := .ident "g"
private abbrev two : Expr := .num ⟨0x4000000000000000⟩

/-- `a + b * c - d ^ 2 ?? e and !g! != true` -/
private abbrev x1 : Expr :=
  .bin .nand
    (.bin .sub (.bin .add ia (.bin .mul ib ic)) (.bin .pow id4 (.bin .coalesce two ie)))
    (.bin .ne (.un .not (.fact ig)) (.bool true))
/-- `-(a + (b via c)) * (-d)!` : starts with `-`, gets statement parentheses -/
private abbrev x2 : Expr :=
  .bin .mul (.un .negate (.bin .add ia (.bin .via ib ic))) (.fact (.un .negate id4))

example : Frag x1 ∧ Frag x2 := by decide +kernel
/-- by the theorems -/
example : (parseText (formatExpr x1 (some 10))).map (formatExpr · (some 10)) =
    some (formatExpr x1 (some 10)) := format_parse_format x1 (by decide +kernel) 10
example : parseText (formatExpr x2 (some 1)) = parseText (formatExpr x2 (some 80)) :=
  format_parse_width_independent x2 (by decide +kernel) 1 80
/-- … and by evaluating the model: format, read the text back, format again — at widths 1, 10
    and 80 (three different texts), and across widths -/
example :
    (parseText (formatExpr x1 (some 1))).map (formatExpr · (some 1)) = some (formatExpr x1 (some 1)) ∧
    (parseText (formatExpr x1 (some 10))).map (formatExpr · (some 10)) = some (formatExpr x1 (some 10)) ∧
    (parseText (formatExpr x1 (some 80))).map (formatExpr · (some 80)) = some (formatExpr x1 (some 80)) ∧
    (parseText (formatExpr x1 (some 10))).map (formatExpr · (some 80)) = some (formatExpr x1 (some 80)) ∧
    formatExpr x1 (some 1) ≠ formatExpr x1 (some 10) ∧
    formatExpr x1 (some 10) ≠ formatExpr x1 (some 80) := by decide +kernel
example :
    (parseText (formatExpr x2 (some 6))).map (formatExpr · (some 6)) = some (formatExpr x2 (some 6)) ∧
    formatExpr x2 (some 6) = "(-(a\n  + (b\n    via c))\n  * (-d)!)" ∧
    formatExpr x2 (some 80) = "(-(a + (b via c)) * (-d)!)" := by decide +kernel
/-- from a source text with its own layout and redundant parentheses -/
example : (parseText "((a))+b\n*c   -(d ^ 2??e)\n and\t!g! !=true").map exprToSource =
      some "a + b * c - d ^ 2 ?? e and !g! != true" ∧
    ((parseText "((a))+b\n*c   -(d ^ 2??e)\n and\t!g! !=true").map (formatExpr · (some 10))).bind
        (fun out => (parseText out).map (formatExpr · (some 10))) =
      some (formatExpr x1 (some 10)) := by decide +kernel
/-- string literals (one with a line break inside: multi-line at every width) -/
private abbrev x3 : Expr :=
  .bin .add (.call ig [.str "a b", .str "say \"hi\"\nbye"]) (.str "it's")
example : Frag x3 := by decide +kernel
example : (parseText (formatExpr x3 (some 10))).map (formatExpr · (some 10)) =
    some (formatExpr x3 (some 10)) := format_parse_format x3 (by decide +kernel) 10
example :
    (parseText (formatExpr x3 (some 10))).map (formatExpr · (some 80)) = some (formatExpr x3 (some 80)) ∧
    formatExpr x3 (some 80) = "g(\n  \"a b\",\n  'say \"hi\"\nbye',\n)\n  + \"it's\"" := by
  decide +kernel
private abbrev x4 : Expr :=
  .record [.mk [] (.static "a") (.bin .add ia ib) none, .mk [] (.static "k 2") (.str "v") none,
    .mk [] (.dyn ic) (.record []) none, .mk [] (.short "d") .null none,
    .mk [] (.spread (.spread ie)) .null none]
example : Frag x4 := by decide +kernel
example : (parseText (formatExpr x4 (some 10))).map (formatExpr · (some 10)) =
    some (formatExpr x4 (some 10)) := format_parse_format x4 (by decide +kernel) 10
example :
    (parseText (formatExpr x4 (some 10))).map (formatExpr · (some 80)) = some (formatExpr x4 (some 80)) ∧
    formatExpr x4 (some 80) = "{a: a + b, \"k 2\": \"v\", [c]: {}, d, ...e}" ∧
    formatExpr x4 (some 10) = "{\n  a: a + b,\n  \"k 2\": \"v\",\n  [c]: {},\n  d,\n  ...e,\n}" := by
  decide +kernel
private abbrev x5 : Expr :=
  .lambda [.req "x"] (.doBlock [.mk [] (.call ig [.ident "x"]) none,
    .mk [] (.un .negate (.bin .add (.ident "x") ib)) none] (.mk [] (.bin .mul (.ident "x") ic) none))
example : Frag x5 := by decide +kernel
example : (parseText (formatExpr x5 (some 10))).map (formatExpr · (some 10)) =
    some (formatExpr x5 (some 10)) := format_parse_format x5 (by decide +kernel) 10
example :
    (parseText (formatExpr x5 (some 4))).map (formatExpr · (some 80)) = some (formatExpr x5 (some 80)) ∧
    formatExpr x5 (some 80) = "x => do {\n  g(x)\n  (-(x + b))\n  return x * c\n}" ∧
    formatExpr x5 (some 4) =
      "x => do {\n  g(\n    x,\n  )\n  (-(x\n    + b))\n  return x\n    * c\n}" := by
  decide +kernel
private abbrev x6 : Expr :=
  .assign "f" (.lambda [.req "x"] (.doBlock [.mk [] (.assign "y" (.call ig [.ident "x"])) none]
    (.mk [] (.bin .mul (.ident "y") (.bin .add ib (.assign "z" ic))) none)))
example : Frag x6 := by decide +kernel
example : (parseText (formatExpr x6 (some 10))).map (formatExpr · (some 10)) =
    some (formatExpr x6 (some 10)) := format_parse_format x6 (by decide +kernel) 10
example :
    (parseText (formatExpr x6 (some 4))).map (formatExpr · (some 80)) = some (formatExpr x6 (some 80)) ∧
    formatExpr x6 (some 80) = "f = x => do {\n  y = g(x)\n  return y * (b + z = c)\n}" := by
  decide +kernel
end text_examples

end Blots.C08
