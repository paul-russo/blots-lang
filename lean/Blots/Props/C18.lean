import Blots.Lemmas.DepthLaws
import Blots.Lemmas.ToyOps
/-
  C18 — Runaway recursion ends in a call-depth error.

  * The model is total: `eval` and the fourteen functions it is mutually recursive with recurse
    structurally on `fuel`, so every model evaluation ends with exactly one of
    `ok / err / panic / fuel` by construction.  Non-termination of the object program can
    therefore only show up as `err depth` ("maximum call depth of 1000 exceeded") or, when the
    model's own fuel runs out first, as the artefact `fuel`.
  * The object-level recursion depth is cut by the guard of `callFn` (`FunctionDef::call`):
    a call made at a depth `> MAX_DEPTH = 1000` is refused.  Calls at depths 0 … 1000 run
    (1001 nested activations, bodies at depths 1 … 1001); the next nested call, at depth 1001,
    errs.
  * Not a theorem here: the native-stack half of C18 (bytes per Rust frame versus the 1000
    limit, i.e. that the real interpreter reaches the limit before it overflows its stack).
    That is tested by the harness on the release binary (which runs the interpreter on a thread
    with a large stack: fix 6e64215).

  * `depth_guard_*`: above the limit an accepted call returns `err depth`, body not evaluated,
     state unchanged; with a wrong argument count the arity error wins.
  * `body_runs_one_deeper`, `builtin_hof_runs_one_deeper`, `hof_*`, `*_calls_at_depth`,
     `*_same_depth`: where the counter is incremented (lambda body +1; built-in +1, its
     callbacks +1 again; `via` / `where` / `into` call back at the operator's own depth).
  * `depth_bounded_*`: how the depth is bounded.  (i) `depth_bounded_callFn`: above the limit
     `callFn` evaluates nothing, for every callee; a call that returns a value or panics was
     made at depth ≤ MAX_DEPTH.  (ii) the callback loops above the limit stop at their first
     element with `err depth`.  (iii) `depth_bounded_saturates`: for all depths d, d' above the
     limit every function of the evaluator returns the same result at d and at d' (induction
     on fuel over the whole mutual block), hence the evaluator is the same function as one
     whose counter is clamped to 0 … MAX_DEPTH + 1 (`depth_bounded_clamped`).
     Together: the counter only grows through `callFn`; a body is only evaluated
     by a call at depth ≤ MAX_DEPTH, i.e. at depth ≤ MAX_DEPTH + 1; a callback of a higher-order
     built-in is called at depth ≤ MAX_DEPTH + 2, and the calls at MAX_DEPTH + 1 and
     MAX_DEPTH + 2 are refused (`depth_bounded_map_near_limit`).
  * `runaway_*`: `f = n => f(n + 1); f(0)` and the pair `g = n => h(n); h = n => g(n); g(0)`,
     for every `ops`, every fuel: the outcome is `fuel` or `err depth` — never a value, another
     error or a panic — and the state is the one before the call; from an explicit fuel
     threshold on it is exactly `err depth` (for the self-recursion the threshold is exact:
     below it the outcome is `fuel`).

  Helper lemmas and the definitions used in statements (`callFrame`, `callParent`, `wrapList`,
  `cbArgs`, `AboveLimitOutcome`, `DepthIrrelevant`, `selfDef`, `selfCall`, `selfLam`,
  `pairGDef`, `pairHDef`, `pairCall`, `pairG`, `pairH`) live in `Blots/Lemmas/DepthLaws.lean`.
-/
namespace Blots.C18
open Blots.DepthL

theorem depth_guard_lambda (ops : NumOps) (fuel id : Nat) (ps : List LArg) (body : Expr)
    (sc : Frame) (this : Value) (args : List Value) (depth : Nat) (s : ES)
    (ha : (lambdaArity ps).canAccept args.length = true) (hd : depth > MAX_DEPTH) :
    callFn ops (fuel + 1) (.lambda id ps body sc) this args depth s = (.err .depth, s) := by
  rw [callFn_lambda, checkArity_ok ha, R.bind_ok, if_pos hd]

theorem depth_guard_builtin (ops : NumOps) (fuel : Nat) (name : String) (ar : Gen.Arity)
    (this : Value) (args : List Value) (depth : Nat) (s : ES)
    (hb : builtinArity name = some ar) (ha : ar.canAccept args.length = true)
    (hd : depth > MAX_DEPTH) :
    callFn ops (fuel + 1) (.builtin name) this args depth s = (.err .depth, s) := by
  rw [callFn_builtin_arity ops fuel hb, checkArity_ok ha, R.bind_ok, if_pos hd]

theorem depth_guard (ops : NumOps) (fuel : Nat) (fv this : Value) (args : List Value)
    (ar : Gen.Arity) (depth : Nat) (s : ES) (hf : arityOf fv = some ar)
    (ha : ar.canAccept args.length = true) (hd : depth > MAX_DEPTH) :
    callFn ops (fuel + 1) fv this args depth s = (.err .depth, s) := by
  cases fv with
  | lambda id ps body sc => cases hf; exact depth_guard_lambda ops fuel id ps body sc this args depth s ha hd
  | builtin name => exact depth_guard_builtin ops fuel name ar this args depth s hf ha hd
  | _ => cases hf

theorem arity_error_wins_lambda (ops : NumOps) (fuel id : Nat) (ps : List LArg) (body : Expr)
    (sc : Frame) (this : Value) (args : List Value) (depth : Nat) (s : ES)
    (ha : (lambdaArity ps).canAccept args.length = false) :
    callFn ops (fuel + 1) (.lambda id ps body sc) this args depth s = (.err .arity, s) := by
  rw [callFn_lambda, checkArity_err ha, R.bind_err]

theorem arity_error_wins_builtin (ops : NumOps) (fuel : Nat) (name : String) (ar : Gen.Arity)
    (this : Value) (args : List Value) (depth : Nat) (s : ES)
    (hb : builtinArity name = some ar) (ha : ar.canAccept args.length = false) :
    callFn ops (fuel + 1) (.builtin name) this args depth s = (.err .arity, s) := by
  rw [callFn_builtin_arity ops fuel hb, checkArity_err ha, R.bind_err]

theorem body_runs_one_deeper (ops : NumOps) (fuel id : Nat) (ps : List LArg) (body : Expr)
    (sc : Frame) (this : Value) (args : List Value) (d : Nat) (s : ES) (pf : Frame)
    (ha : (lambdaArity ps).canAccept args.length = true) (hd : d ≤ MAX_DEPTH)
    (hb : bindParams ps args = .ok pf) :
    callFn ops (fuel + 1) (.lambda id ps body sc) this args d s =
      ((eval ops fuel (d + 1) body { s with env := callFrame s id sc this pf :: callParent s sc }).1,
       { (eval ops fuel (d + 1) body { s with env := callFrame s id sc this pf :: callParent s sc }).2
           with env := s.env }) := by
  rw [callFn_lambda, checkArity_ok ha, R.bind_ok, if_neg (Nat.not_lt.mpr hd), hb, R.bind_ok, bodyEnv_eq]

theorem builtin_hof_runs_one_deeper (ops : NumOps) (fuel : Nat) (name : String) (ar : Gen.Arity)
    (this : Value) (args : List Value) (d : Nat) (s : ES)
    (hb : builtinArity name = some ar) (ha : ar.canAccept args.length = true)
    (hh : isHof name = true) (hd : d ≤ MAX_DEPTH) :
    callFn ops (fuel + 1) (.builtin name) this args d s = callHof ops fuel name args (d + 1) s := by
  rw [callFn_builtin_arity ops fuel hb, checkArity_ok ha, R.bind_ok, if_neg (Nat.not_lt.mpr hd), if_pos hh]

theorem builtin_pure_does_not_recurse (ops : NumOps) (fuel : Nat) (name : String)
    (ar : Gen.Arity) (this : Value) (args : List Value) (d : Nat) (s : ES)
    (hb : builtinArity name = some ar) (ha : ar.canAccept args.length = true)
    (hh : isHof name = false) (hd : d ≤ MAX_DEPTH) :
    callFn ops (fuel + 1) (.builtin name) this args d s =
      (match callPure ops name args with
       | some r => (r, s)
       | none => (.err .other, s)) := by
  rw [callFn_builtin_arity ops fuel hb, checkArity_ok ha, R.bind_ok, if_neg (Nat.not_lt.mpr hd), hh]
  rfl

/-- `hof_*`: each higher-order built-in running at `depth` calls its callback at `depth + 1` -/
theorem hof_map (ops : NumOps) (fuel : Nat) (l : List Value) (f : Value) (rest : List Value)
    (ar : Gen.Arity) (depth : Nat) (s : ES) (hf : arityOf f = some ar) :
    callHof ops (fuel + 1) "map" (.list l :: f :: rest) depth s =
      wrapList (mapCalls ops fuel f (ar.canAccept 2) l 0 (depth + 1) s) := by
  rw [callHof_map, hf, wrapList_eq_bind]

theorem hof_filter (ops : NumOps) (fuel : Nat) (l : List Value) (f : Value) (rest : List Value)
    (ar : Gen.Arity) (depth : Nat) (s : ES) (hf : arityOf f = some ar) :
    callHof ops (fuel + 1) "filter" (.list l :: f :: rest) depth s =
      whereCalls ops fuel f (ar.canAccept 2) l 0 (depth + 1) s := by
  rw [callHof_filter, hf]

theorem hof_every (ops : NumOps) (fuel : Nat) (l : List Value) (f : Value) (rest : List Value)
    (ar : Gen.Arity) (depth : Nat) (s : ES) (hf : arityOf f = some ar) :
    callHof ops (fuel + 1) "every" (.list l :: f :: rest) depth s =
      quantCalls ops fuel f (ar.canAccept 2) true l 0 (depth + 1) s := by
  rw [callHof_every, hf]

theorem hof_some (ops : NumOps) (fuel : Nat) (l : List Value) (f : Value) (rest : List Value)
    (ar : Gen.Arity) (depth : Nat) (s : ES) (hf : arityOf f = some ar) :
    callHof ops (fuel + 1) "some" (.list l :: f :: rest) depth s =
      quantCalls ops fuel f (ar.canAccept 2) false l 0 (depth + 1) s := by
  rw [callHof_some, hf]

theorem hof_reduce (ops : NumOps) (fuel : Nat) (l : List Value) (f init : Value)
    (rest : List Value) (ar : Gen.Arity) (depth : Nat) (s : ES) (hf : arityOf f = some ar) :
    callHof ops (fuel + 1) "reduce" (.list l :: f :: init :: rest) depth s =
      foldCalls ops fuel f (ar.canAccept 3) init l 0 (depth + 1) s := by
  rw [callHof_reduce, hf]; rfl

theorem hof_group_by (ops : NumOps) (fuel : Nat) (l : List Value) (f : Value) (rest : List Value)
    (ar : Gen.Arity) (depth : Nat) (s : ES) (hf : arityOf f = some ar) :
    callHof ops (fuel + 1) "group_by" (.list l :: f :: rest) depth s =
      (match mapCalls ops fuel f false l 0 (depth + 1) s with
       | (.ok ks, s1) =>
         (match groupByKeys l ks with
          | some r => (.ok (.record r), s1)
          | none => (.err .type_, s1))
       | (.err k, s1) => (.err k, s1)
       | (.panic p, s1) => (.panic p, s1)
       | (.fuel, s1) => (.fuel, s1)) := by
  rw [callHof_group_by, hf]
  rcases mapCalls ops fuel f false l 0 (depth + 1) s with ⟨_ | _ | _ | _, s1⟩ <;> rfl

theorem hof_count_by (ops : NumOps) (fuel : Nat) (l : List Value) (f : Value) (rest : List Value)
    (ar : Gen.Arity) (depth : Nat) (s : ES) (hf : arityOf f = some ar) :
    callHof ops (fuel + 1) "count_by" (.list l :: f :: rest) depth s =
      (match mapCalls ops fuel f false l 0 (depth + 1) s with
       | (.ok ks, s1) =>
         (match countByKeys ops ks with
          | some r => (.ok (.record r), s1)
          | none => (.err .type_, s1))
       | (.err k, s1) => (.err k, s1)
       | (.panic p, s1) => (.panic p, s1)
       | (.fuel, s1) => (.fuel, s1)) := by
  rw [callHof_count_by, hf]
  rcases mapCalls ops fuel f false l 0 (depth + 1) s with ⟨_ | _ | _ | _, s1⟩ <;> rfl

theorem hof_sort_by (ops : NumOps) (fuel : Nat) (l : List Value) (f : Value) (rest : List Value)
    (depth : Nat) (s : ES) (hf : f.isCallable = true) :
    callHof ops (fuel + 1) "sort_by" (.list l :: f :: rest) depth s =
      (let keyed := (keyCalls ops fuel f l (depth + 1) s).1
       let s1 := (keyCalls ops fuel f l (depth + 1) s).2
       if keyed.any (fun kr => match kr.2 with | .fuel => true | _ => false) then (.fuel, s1)
       else (.ok (.list ((mergeSortBy sortByLt keyed.length keyed).map (·.1))), s1)) := by
  rw [callHof_sort_by]; simp only [hf]; rfl

/-- `*_calls_at_depth`: the callback loops call `callFn` at the depth they are given -/
theorem mapCalls_calls_at_depth (ops : NumOps) (fuel : Nat) (f : Value) (w : Bool) (x : Value)
    (xs : List Value) (start depth : Nat) (s : ES) :
    mapCalls ops (fuel + 1) f w (x :: xs) start depth s =
      (match callFn ops fuel f f (cbArgs w x start) depth s with
       | (.ok v, s1) =>
         (match mapCalls ops fuel f w xs (start + 1) depth s1 with
          | (.ok vs, s2) => (.ok (v :: vs), s2)
          | r => r)
       | (.err k, s1) => (.err k, s1)
       | (.panic p, s1) => (.panic p, s1)
       | (.fuel, s1) => (.fuel, s1)) := by
  rw [mapCalls]; rfl

theorem quantCalls_calls_at_depth (ops : NumOps) (fuel : Nat) (f : Value) (w e : Bool)
    (x : Value) (xs : List Value) (start depth : Nat) (s : ES) :
    quantCalls ops (fuel + 1) f w e (x :: xs) start depth s =
      (match callFn ops fuel f f (cbArgs w x start) depth s with
       | (.ok (.bool b), s1) =>
         if e && !b then (.ok (.bool false), s1)
         else if !e && b then (.ok (.bool true), s1)
         else quantCalls ops fuel f w e xs (start + 1) depth s1
       | (.ok _, s1) => (.err .type_, s1)
       | r => r) := by
  rw [quantCalls]; rfl

theorem foldCalls_calls_at_depth (ops : NumOps) (fuel : Nat) (f : Value) (w : Bool)
    (acc x : Value) (xs : List Value) (start depth : Nat) (s : ES) :
    foldCalls ops (fuel + 1) f w acc (x :: xs) start depth s =
      (match callFn ops fuel f f (if w then [acc, x, .num (F64.ofNat start)] else [acc, x]) depth s with
       | (.ok v, s1) => foldCalls ops fuel f w v xs (start + 1) depth s1
       | r => r) := by
  rw [foldCalls]; rfl

theorem whereCalls_calls_at_depth (ops : NumOps) (fuel : Nat) (f : Value) (w : Bool) (x : Value)
    (xs : List Value) (start depth : Nat) (s : ES) :
    whereCalls ops (fuel + 1) f w (x :: xs) start depth s =
      (match callFn ops fuel f f (cbArgs w x start) depth s with
       | (.ok (.bool b), s1) =>
         (match whereCalls ops fuel f w xs (start + 1) depth s1 with
          | (.ok (.list vs), s2) => (.ok (.list (if b then x :: vs else vs)), s2)
          | r => r)
       | (.ok _, s1) => (.err .type_, s1)
       | r => r) := by
  rw [whereCalls]; rfl

theorem keyCalls_calls_at_depth (ops : NumOps) (fuel : Nat) (f x : Value) (xs : List Value)
    (depth : Nat) (s : ES) :
    keyCalls ops (fuel + 1) f (x :: xs) depth s =
      ((x, (callFn ops fuel f f [x] depth s).1) ::
         (keyCalls ops fuel f xs depth (callFn ops fuel f f [x] depth s).2).1,
       (keyCalls ops fuel f xs depth (callFn ops fuel f f [x] depth s).2).2) :=
  keyCalls_cons ops fuel depth s f x xs

theorem viaPairs_calls_at_depth (ops : NumOps) (fuel : Nat) (x f : Value) (xs fs : List Value)
    (depth : Nat) (s : ES) (hf : f.isCallable = true) :
    viaPairs ops (fuel + 1) (x :: xs) (f :: fs) depth s =
      (match callFn ops fuel f f [x] depth s with
       | (.ok v, s1) =>
         (match viaPairs ops fuel xs fs depth s1 with
          | (.ok (.list vs), s2) => (.ok (.list (v :: vs)), s2)
          | r => r)
       | r => r) := by
  rw [viaPairs, hf]; rfl

theorem map_callbacks_two_deeper (ops : NumOps) (fuel : Nat) (this : Value) (l : List Value)
    (f : Value) (arM ar : Gen.Arity) (d : Nat) (s : ES)
    (hb : builtinArity "map" = some arM) (hm : arM.canAccept 2 = true)
    (hf : arityOf f = some ar) (hd : d ≤ MAX_DEPTH) :
    callFn ops (fuel + 2) (.builtin "map") this [.list l, f] d s =
      wrapList (mapCalls ops fuel f (ar.canAccept 2) l 0 (d + 2) s) := by
  rw [builtin_hof_runs_one_deeper ops (fuel + 1) "map" arM this [.list l, f] d s hb hm (by decide) hd,
    hof_map ops fuel l f [] ar (d + 1) s hf]

/-- `*_same_depth`: `via` / `where` / `into` call back at the operator's own depth -/
theorem via_list_same_depth (ops : NumOps) (fuel depth : Nat) (la : List Value) (f : Value)
    (ar : Gen.Arity) (s : ES) (hc : f.isCallable = true) (hf : arityOf f = some ar) :
    evalBin ops (fuel + 1) depth .via (.list la) f s =
      wrapList (mapCalls ops fuel f (ar.canAccept 2) la 0 depth s) := by
  rw [evalBin_via, wrapList_eq_bind]
  cases f <;> first | (simp only [hf]; rfl) | cases hc

theorem where_list_same_depth (ops : NumOps) (fuel depth : Nat) (la : List Value) (f : Value)
    (ar : Gen.Arity) (s : ES) (hc : f.isCallable = true) (hf : arityOf f = some ar) :
    evalBin ops (fuel + 1) depth .where_ (.list la) f s =
      whereCalls ops fuel f (ar.canAccept 2) la 0 depth s := by
  rw [evalBin_where]
  cases f <;> first | (simp only [hf]; rfl) | cases hc

theorem into_list_same_depth (ops : NumOps) (fuel depth : Nat) (la : List Value) (f : Value)
    (s : ES) (hc : f.isCallable = true) :
    evalBin ops (fuel + 1) depth .into (.list la) f s = callFn ops fuel f f [.list la] depth s :=
  evalBin_into_call ops fuel depth _ s hc

theorem into_scalar_same_depth (ops : NumOps) (fuel depth : Nat) (x f : Value) (s : ES)
    (hx : isListV x = false) (hc : f.isCallable = true) :
    evalBin ops (fuel + 1) depth .into x f s = callFn ops fuel f f [x] depth s :=
  evalBin_into_call ops fuel depth x s hc

theorem via_scalar_same_depth (ops : NumOps) (fuel depth : Nat) (x f : Value) (s : ES)
    (hx : isListV x = false) (hc : f.isCallable = true) :
    evalBin ops (fuel + 1) depth .via x f s = callFn ops fuel f f [x] depth s := by
  rw [evalBin_via]
  cases x <;> cases f <;> first | rfl | contradiction

theorem via_lists_same_depth (ops : NumOps) (fuel depth : Nat) (la lb : List Value) (s : ES)
    (hl : la.length = lb.length) :
    evalBin ops (fuel + 1) depth .via (.list la) (.list lb) s = viaPairs ops fuel la lb depth s := by
  rw [evalBin_via]
  simp only [hl, bne_self_eq_false, Bool.false_eq_true, if_false]

/-- `AboveLimitOutcome`: `fuel` (only when there is no fuel at all) or one of the four errors
    arity / depth / unknown built-in / not callable -/
theorem depth_bounded_callFn (ops : NumOps) (fuel : Nat) (fv this : Value) (args : List Value)
    (depth : Nat) (s : ES) (hd : depth > MAX_DEPTH) :
    (callFn ops fuel fv this args depth s).2 = s ∧
    AboveLimitOutcome fuel (callFn ops fuel fv this args depth s).1 :=
  callFn_above_limit ops fuel fv this args depth s hd

theorem depth_bounded_ok_call (ops : NumOps) (fuel : Nat) (fv this : Value) (args : List Value)
    (depth : Nat) (s : ES) (v : Value) (h : (callFn ops fuel fv this args depth s).1 = .ok v) :
    depth ≤ MAX_DEPTH :=
  callFn_depth_le ops fuel fv this args depth s (by rw [h]; nofun) (by rw [h]; nofun)

theorem depth_bounded_panic_call (ops : NumOps) (fuel : Nat) (fv this : Value)
    (args : List Value) (depth : Nat) (s : ES) (p : String)
    (h : (callFn ops fuel fv this args depth s).1 = .panic p) :
    depth ≤ MAX_DEPTH :=
  callFn_depth_le ops fuel fv this args depth s (by rw [h]; nofun) (by rw [h]; nofun)

theorem depth_bounded_mapCalls (ops : NumOps) (fuel : Nat) (f : Value) (w : Bool) (x : Value)
    (xs : List Value) (ar : Gen.Arity) (start depth : Nat) (s : ES) (hf : arityOf f = some ar)
    (ha : ar.canAccept (if w then 2 else 1) = true) (hd : depth > MAX_DEPTH) :
    mapCalls ops (fuel + 2) f w (x :: xs) start depth s = (.err .depth, s) := by
  rw [mapCalls_cons, depth_guard ops fuel f f _ ar depth s hf ((cbArgs_length w x start).symm ▸ ha) hd,
    R.bind_err]

theorem depth_bounded_whereCalls (ops : NumOps) (fuel : Nat) (f : Value) (w : Bool) (x : Value)
    (xs : List Value) (ar : Gen.Arity) (start depth : Nat) (s : ES) (hf : arityOf f = some ar)
    (ha : ar.canAccept (if w then 2 else 1) = true) (hd : depth > MAX_DEPTH) :
    whereCalls ops (fuel + 2) f w (x :: xs) start depth s = (.err .depth, s) := by
  rw [whereCalls_cons, depth_guard ops fuel f f _ ar depth s hf ((cbArgs_length w x start).symm ▸ ha) hd,
    R.bind_err]

theorem depth_bounded_quantCalls (ops : NumOps) (fuel : Nat) (f : Value) (w e : Bool)
    (x : Value) (xs : List Value) (ar : Gen.Arity) (start depth : Nat) (s : ES)
    (hf : arityOf f = some ar) (ha : ar.canAccept (if w then 2 else 1) = true)
    (hd : depth > MAX_DEPTH) :
    quantCalls ops (fuel + 2) f w e (x :: xs) start depth s = (.err .depth, s) := by
  rw [quantCalls_cons, depth_guard ops fuel f f _ ar depth s hf ((cbArgs_length w x start).symm ▸ ha) hd,
    R.bind_err]

theorem depth_bounded_foldCalls (ops : NumOps) (fuel : Nat) (f : Value) (w : Bool)
    (acc x : Value) (xs : List Value) (ar : Gen.Arity) (start depth : Nat) (s : ES)
    (hf : arityOf f = some ar) (ha : ar.canAccept (if w then 3 else 2) = true)
    (hd : depth > MAX_DEPTH) :
    foldCalls ops (fuel + 2) f w acc (x :: xs) start depth s = (.err .depth, s) := by
  rw [foldCalls_cons, depth_guard ops fuel f f _ ar depth s hf (by cases w <;> exact ha) hd,
    R.bind_err]

theorem depth_bounded_viaPairs (ops : NumOps) (fuel : Nat) (x f : Value) (xs fs : List Value)
    (ar : Gen.Arity) (depth : Nat) (s : ES) (hc : f.isCallable = true)
    (hf : arityOf f = some ar) (ha : ar.canAccept 1 = true) (hd : depth > MAX_DEPTH) :
    viaPairs ops (fuel + 2) (x :: xs) (f :: fs) depth s = (.err .depth, s) := by
  rw [viaPairs_cons, hc, depth_guard ops fuel f f [x] ar depth s hf ha hd, R.bind_err]
  rfl

/-- `sort_by` keeps failed keys: above the limit every key is the depth error, state untouched -/
theorem depth_bounded_keyCalls (ops : NumOps) (f : Value) (ar : Gen.Arity) (depth : Nat)
    (xs : List Value) (fuel : Nat) (s : ES) (hf : arityOf f = some ar)
    (ha : ar.canAccept 1 = true) (hd : depth > MAX_DEPTH) (hl : xs.length < fuel) :
    keyCalls ops (fuel + 1) f xs depth s = (xs.map fun x => (x, .err .depth), s) := by
  induction xs generalizing fuel with
  | nil => rw [keyCalls_nil]; rfl
  | cons x xs ih =>
    obtain ⟨fuel, rfl⟩ : ∃ j, fuel = j + 1 := ⟨fuel - 1, by have := hl; simp at this; omega⟩
    rw [keyCalls_cons, depth_guard ops fuel f f [x] ar depth s hf ha hd, ih fuel (by simpa using hl)]
    rfl

theorem depth_bounded_saturates (ops : NumOps) (fuel d d' : Nat) (hd : d > MAX_DEPTH)
    (hd' : d' > MAX_DEPTH) : DepthIrrelevant ops fuel d d' :=
  depth_saturates ops fuel d d' hd hd'

theorem depth_bounded_clamped (ops : NumOps) (fuel d : Nat) (e : Expr) (fv this : Value)
    (args : List Value) (s : ES) :
    eval ops fuel d e s = eval ops fuel (min d (MAX_DEPTH + 1)) e s ∧
    callFn ops fuel fv this args d s = callFn ops fuel fv this args (min d (MAX_DEPTH + 1)) s :=
  ⟨(depth_clamped ops fuel d).eval e s, (depth_clamped ops fuel d).callFn fv this args s⟩

theorem depth_bounded_map_near_limit (ops : NumOps) (fuel : Nat) (this x f : Value)
    (xs : List Value) (arM ar : Gen.Arity) (d : Nat) (s : ES)
    (hb : builtinArity "map" = some arM) (hm : arM.canAccept 2 = true)
    (hf : arityOf f = some ar) (ha : ar.canAccept 2 = true ∨ ar.canAccept 1 = true)
    (hd : d ≤ MAX_DEPTH) (hd2 : d + 2 > MAX_DEPTH) :
    callFn ops (fuel + 4) (.builtin "map") this [.list (x :: xs), f] d s = (.err .depth, s) := by
  rw [map_callbacks_two_deeper ops (fuel + 2) this (x :: xs) f arM ar d s hb hm hf hd,
    depth_bounded_mapCalls ops fuel f (ar.canAccept 2) x xs ar 0 (d + 2) s hf
      (by cases h2 : ar.canAccept 2 <;> simp_all) hd2]
  rfl

/-- `f = n => f(n + 1)` evaluates to the lambda `selfLam`, which captures nothing, names the
    cell `f` and binds `f` (any fuel ≥ 2, any depth).  `f` bound nowhere in the environment
    chain gives both that the model's `alreadyDefined depth` check passes (at top level it looks
    at the whole chain, inside a call only at the innermost frame) and that the free name `f`
    of the body is not captured from an outer frame. -/
theorem runaway_self_recursion_definition (ops : NumOps) (fuel depth : Nat) (s : ES)
    (h : envContains s.env "f" = false) (hfr : nameOf s.names s.nextId = none) :
    eval ops (fuel + 2) depth selfDef s = (.ok (selfLam s.nextId), afterSelfDef s) := by
  have h' : envGet s.env "f" = none := by simpa [envContains] using h
  have hv : freeVars ["n"] selfBody = ["f"] := by decide
  refine (eval_assign_lambda ops fuel depth s "f" _ _ (by decide) (by decide) (by decide) h hfr).trans ?_
  simp only [List.map, LArg.name, hv, captureScope, List.foldl, h']
  rfl

theorem runaway_self_recursion_call_dichotomy (ops : NumOps) (id fuel : Nat) (x : F64) (d : Nat)
    (s : ES) (hn : nameOf s.names id = some "f") :
    callFn ops fuel (selfLam id) (selfLam id) [.num x] d s = (.fuel, s) ∨
    callFn ops fuel (selfLam id) (selfLam id) [.num x] d s = (.err .depth, s) :=
  (runaway_self ops id).dichotomy (by decide) fuel _ s x d ⟨rfl, hn⟩

theorem runaway_self_recursion_dichotomy (ops : NumOps) (fuel0 fuel depth : Nat) (s : ES)
    (h : envContains s.env "f" = false) (hfr : nameOf s.names s.nextId = none) :
    eval ops fuel depth selfCall (eval ops (fuel0 + 2) 0 selfDef s).2 =
      (.fuel, (eval ops (fuel0 + 2) 0 selfDef s).2) ∨
    eval ops fuel depth selfCall (eval ops (fuel0 + 2) 0 selfDef s).2 =
      (.err .depth, (eval ops (fuel0 + 2) 0 selfDef s).2) := by
  rw [runaway_self_recursion_definition ops fuel0 0 s h hfr, eval_selfCall ops fuel depth s.nextId _ (afterSelfDef_f s)]
  split
  · exact .inl rfl
  · exact (runaway_self ops s.nextId).dichotomy (by decide) _ _ _ _ depth ⟨rfl, afterSelfDef_name s⟩

theorem runaway_self_recursion_hits_limit (ops : NumOps) (fuel0 fuel : Nat) (s : ES)
    (h : envContains s.env "f" = false) (hfr : nameOf s.names s.nextId = none) (hf : fuel ≥ 2006) :
    eval ops fuel 0 selfCall (eval ops (fuel0 + 2) 0 selfDef s).2 =
      (.err .depth, (eval ops (fuel0 + 2) 0 selfDef s).2) := by
  rw [runaway_self_recursion_definition ops fuel0 0 s h hfr, eval_selfCall ops fuel 0 s.nextId _ (afterSelfDef_f s),
    if_neg (by omega)]
  exact (runaway_self ops s.nextId).hits_limit (by decide) (MAX_DEPTH + 1) 0 (by omega) _ _ _ _
    ⟨rfl, afterSelfDef_name s⟩ (by simp only [MAX_DEPTH]; omega)

/-- the threshold 2006 is exact: with less fuel the model gives up first -/
theorem runaway_self_recursion_fuel_artefact (ops : NumOps) (fuel0 fuel : Nat) (s : ES)
    (h : envContains s.env "f" = false) (hfr : nameOf s.names s.nextId = none) (hf : fuel < 2006) :
    eval ops fuel 0 selfCall (eval ops (fuel0 + 2) 0 selfDef s).2 =
      (.fuel, (eval ops (fuel0 + 2) 0 selfDef s).2) := by
  rw [runaway_self_recursion_definition ops fuel0 0 s h hfr, eval_selfCall ops fuel 0 s.nextId _ (afterSelfDef_f s)]
  split
  · rfl
  · exact (runaway_self ops s.nextId).below_threshold (by decide) MAX_DEPTH 0 (by omega) _ _ _ _
      ⟨rfl, afterSelfDef_name s⟩ (by simp only [MAX_DEPTH]; omega)

/-- the pair: `g` is created while `h` is unbound and captures nothing (it finds `h` through
    its caller's environment at call time); `h` captures `g` -/
theorem runaway_mutual_pair_definitions (ops : NumOps) (fuel1 fuel2 depth : Nat) (s : ES)
    (hg : envContains s.env "g" = false) (hh : envContains s.env "h" = false)
    (hfr : nameOf s.names s.nextId = none) (hfr2 : nameOf s.names (s.nextId + 1) = none) :
    (eval ops (fuel1 + 2) depth pairGDef s).1 = .ok (pairG s.nextId) ∧
    eval ops (fuel2 + 2) depth pairHDef (eval ops (fuel1 + 2) depth pairGDef s).2 =
      (.ok (pairH s.nextId (s.nextId + 1)), afterPairDefs s) := by
  have hh' : envGet s.env "h" = none := by simpa [envContains] using hh
  have hv : freeVars ["n"] pairGBody = ["h"] := by decide
  have hv2 : freeVars ["n"] pairHBody = ["g"] := by decide
  have e1 : eval ops (fuel1 + 2) depth pairGDef s =
      (.ok (pairG s.nextId),
        { env := envInsert s.env "g" (pairG s.nextId), nextId := s.nextId + 1,
          names := (s.nextId, "g") :: s.names }) := by
    refine (eval_assign_lambda ops fuel1 depth s "g" _ _ (by decide) (by decide) (by decide) hg hfr).trans ?_
    simp only [List.map, LArg.name, hv, captureScope, List.foldl, hh']
    rfl
  rw [e1]
  refine ⟨rfl, (eval_assign_lambda ops fuel2 depth _ "h" _ _ (by decide) (by decide) (by decide) ?_ ?_).trans ?_⟩
  · simp only [envContains, envGet_envInsert_ne _ _ _ _ (show "h" ≠ "g" by decide), hh', Option.isSome_none]
  · have hne : (s.nextId == s.nextId + 1) = false := by simp
    simpa [nameOf, List.find?, hne] using hfr2
  · simp only [List.map, LArg.name, hv2, captureScope, List.foldl, envGet_envInsert_self]
    rfl

theorem runaway_mutual_pair_call_dichotomy (ops : NumOps) (idg idh fuel : Nat) (x : F64)
    (d : Nat) (s : ES) (hg : nameOf s.names idg = some "g") (hh : nameOf s.names idh = some "h") :
    (envGet s.env "h" = some (pairH idg idh) →
      callFn ops fuel (pairG idg) (pairG idg) [.num x] d s = (.fuel, s) ∨
      callFn ops fuel (pairG idg) (pairG idg) [.num x] d s = (.err .depth, s)) ∧
    (callFn ops fuel (pairH idg idh) (pairH idg idh) [.num x] d s = (.fuel, s) ∨
     callFn ops fuel (pairH idg idh) (pairH idg idh) [.num x] d s = (.err .depth, s)) :=
  ⟨fun he => (runaway_pair ops idg idh).dichotomy (by decide) fuel _ s x d ⟨hg, hh, .inl ⟨rfl, he⟩⟩,
    (runaway_pair ops idg idh).dichotomy (by decide) fuel _ s x d ⟨hg, hh, .inr rfl⟩⟩

theorem runaway_mutual_pair_dichotomy (ops : NumOps) (fuel depth : Nat) (s : ES) :
    eval ops fuel depth pairCall (afterPairDefs s) = (.fuel, afterPairDefs s) ∨
    eval ops fuel depth pairCall (afterPairDefs s) = (.err .depth, afterPairDefs s) := by
  rw [eval_pairCall ops fuel depth s.nextId _ (afterPairDefs_g s)]
  split
  · exact .inl rfl
  · exact (runaway_pair ops s.nextId (s.nextId + 1)).dichotomy (by decide) _ _ _ _ depth
      ⟨(afterPairDefs_names s).1, (afterPairDefs_names s).2, .inl ⟨rfl, afterPairDefs_h s⟩⟩

theorem runaway_mutual_pair_hits_limit (ops : NumOps) (fuel : Nat) (s : ES) (hf : fuel ≥ 2005) :
    eval ops fuel 0 pairCall (afterPairDefs s) = (.err .depth, afterPairDefs s) := by
  rw [eval_pairCall ops fuel 0 s.nextId _ (afterPairDefs_g s), if_neg (by omega)]
  exact (runaway_pair ops s.nextId (s.nextId + 1)).hits_limit (by decide) (MAX_DEPTH + 1) 0 (by omega)
    _ _ _ _ ⟨(afterPairDefs_names s).1, (afterPairDefs_names s).2, .inl ⟨rfl, afterPairDefs_h s⟩⟩
    (by simp only [MAX_DEPTH]; omega)

/-! ### non-vacuity and executable instances (toy arithmetic, kernel evaluation) -/

section examples

/-- the driver's initial state without inputs -/
private abbrev s0 : ES := { env := [[]], nextId := 1, names := [] }
private abbrev idLam : Value := .lambda 7 [.req "x"] (.ident "x") []
private abbrev isDepthErr (r : R Value) : Bool := match r.1 with | .err .depth => true | _ => false
private abbrev isFuel (r : R Value) : Bool := match r.1 with | .fuel => true | _ => false
private abbrev isOkR (r : R Value) : Bool := match r.1 with | .ok _ => true | _ => false

-- hypotheses of the guard theorems
example : (lambdaArity [.req "n"]).canAccept [Value.num int0].length = true ∧ 1001 > MAX_DEPTH := by
  decide
example : builtinArity "sqrt" = some (.exact 1) ∧
    (Gen.Arity.exact 1).canAccept [Value.num int0].length = true := by decide
example : arityOf idLam = some (.exact 1) ∧ idLam.isCallable = true := by decide
example : (lambdaArity [.req "n"]).canAccept [Value.num int0, Value.num int1].length = false := by
  decide
example : (Gen.Arity.exact 1).canAccept [Value.num int0, Value.num int1].length = false := by decide
-- hypotheses of `body_runs_one_deeper`
example : bindParams [.req "n"] [Value.num int0] = .ok [("n", .num int0)] ∧ 1000 ≤ MAX_DEPTH :=
  ⟨rfl, by decide⟩
-- hypotheses about the higher-order built-ins
example : builtinArity "map" = some (.exact 2) ∧ (Gen.Arity.exact 2).canAccept 2 = true ∧
    isHof "map" = true ∧ isHof "sqrt" = false := by decide
example : (Gen.Arity.exact 1).canAccept (if (Gen.Arity.exact 1).canAccept 2 then 2 else 1) = true ∧
    ((Gen.Arity.exact 1).canAccept 2 = true ∨ (Gen.Arity.exact 1).canAccept 1 = true) := by decide
example : isListV (.num int0) = false ∧ [Value.num int0].length = [idLam].length := by decide
example : 999 ≤ MAX_DEPTH ∧ 999 + 2 > MAX_DEPTH ∧ [Value.num int0].length < 2 := by decide
-- hypotheses of the runaway theorems
example : envContains s0.env "f" = false ∧ envContains s0.env "g" = false ∧
    envContains s0.env "h" = false := by decide
example : nameOf (afterSelfDef s0).names 1 = some "f" := by decide
example : nameOf (afterPairDefs s0).names 1 = some "g" ∧
    nameOf (afterPairDefs s0).names 2 = some "h" := by decide
example : envGet (afterPairDefs s0).env "h" = some (pairH 1 2) := afterPairDefs_h s0

-- a lambda called directly at depth 1000 runs, at depth 1001 it is refused
example : isOkR (callFn intOps 5 idLam idLam [.num int2] 1000 s0) = true := by decide +kernel
example : isDepthErr (callFn intOps 5 idLam idLam [.num int2] 1001 s0) = true := by decide +kernel
-- `map` called at depth 998 reaches its callback at depth 1000; called at 999 it does not
example : isOkR (callFn intOps 9 (.builtin "map") (.builtin "map") [.list [.num int2], idLam] 998 s0) = true := by
  decide +kernel
example : isDepthErr (callFn intOps 9 (.builtin "map") (.builtin "map") [.list [.num int2], idLam] 999 s0) = true := by
  decide +kernel
-- `via` at depth 1000 still reaches its callback (same depth), at 1001 it does not
example : isOkR (evalBin intOps 9 1000 .via (.list [.num int2]) idLam s0) = true := by decide +kernel
example : isDepthErr (evalBin intOps 9 1001 .via (.list [.num int2]) idLam s0) = true := by decide +kernel

-- `f = n => f(n + 1); f(0)` with the toy arithmetic: little fuel → `fuel` (run by the kernel);
-- fuel 2006 → all 1001 nested calls are made and the 1002nd is refused (the theorem at `s0`)
example : isOkR (eval intOps 2 0 selfDef s0) = true := by decide +kernel
example : isFuel (eval intOps 50 0 selfCall (eval intOps 2 0 selfDef s0).2) = true := by
  decide +kernel
example : isDepthErr (eval intOps 2006 0 selfCall (eval intOps 2 0 selfDef s0).2) = true := by
  have h : eval intOps 2006 0 selfCall (eval intOps 2 0 selfDef s0).2 = (.err .depth, _) :=
    runaway_self_recursion_hits_limit intOps 0 2006 s0 (by decide) (by decide) (by decide)
  rw [h]
-- the pair, from the driver's initial state
example : isFuel (eval intOps 50 0 pairCall
    (eval intOps 2 0 pairHDef (eval intOps 2 0 pairGDef s0).2).2) = true := by decide +kernel
example : isDepthErr (eval intOps 2005 0 pairCall
    (eval intOps 2 0 pairHDef (eval intOps 2 0 pairGDef s0).2).2) = true := by
  have hd : eval intOps 2 0 pairHDef (eval intOps 2 0 pairGDef s0).2 = (.ok _, afterPairDefs s0) :=
    (runaway_mutual_pair_definitions intOps 0 0 0 s0 (by decide) (by decide) (by decide) (by decide)).2
  have h : eval intOps 2005 0 pairCall (eval intOps 2 0 pairHDef (eval intOps 2 0 pairGDef s0).2).2 =
      (.err .depth, afterPairDefs s0) := by
    rw [hd]; exact runaway_mutual_pair_hits_limit intOps 2005 s0 (by decide)
  rw [h]

end examples

end Blots.C18
