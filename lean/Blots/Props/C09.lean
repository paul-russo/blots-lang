import Blots.Lemmas.FormatLemmas
import Blots.Lemmas.FormatPieces
import Blots.Lemmas.PrintLemmas
/-
  C09 — formatting never loses or reorders comments: the parts that are logic of the model.

  How the formatter keeps comments (formatter.rs): `format_expr_impl` first renders the node
  with `format_single_line` and uses that text only if it has no line break and fits;
  otherwise it goes to the multi-line layouts, which print the leading / trailing comments of
  every list item, record entry and do-block statement.  `format_single_line` itself prints
  no comments — so the whole scheme is sound only if the single-line text of a node that
  carries a comment anywhere inside can never be taken.  That is the *forcing mechanism*:
  such a text always contains a line break.

  Proved here, for all trees (mutual structural induction over Expr / Item / Entry / Key):
   * `comments_force_multiline`   : `containsComments e → hasNewline (fmtSingle e)`;
   * `do_blocks_force_multiline`  : a do-block anywhere in the printed part of the tree has
     the same effect (`contains_comments` does not look at the comments of do-block
     statements; they are safe because a do-block never prints on one line);
   * `any_comment_forces_multiline`: the two combined — if any `Commented` node of the printed
     tree carries a comment, the single-line text has a line break; contrapositive
     `single_line_path_is_comment_free`;
   * `do_block_source_emits_each_comment_once`: the single-line printer's do-block text is
     the concatenation of chunks whose comment chunks are exactly the comments of the
     statements and of the `return`, each once, in source order, leading comments on their
     own line before the statement, the trailing comment after it on the same line.

  Proved for the width-driven layouts (`fmtImplP` and the per-kind layouts of
  `Model/Format.lean`, total functions that return the output as a list of pieces; `render` of
  the pieces is the text of `formatter.rs`, tied to it character for character by the
  correspondence harness), for every tree, width and indent, through every layout branch:
   * `format_preserves_comments`   : the comments in the output (the comment pieces) are
     `printedComments e` — every leading and trailing comment of every `Commented` wrapper of
     the tree except the trailing comment of a do-block's `return` item — one for one, in
     source order, character for character; no hypothesis on the tree or the comments;
   * `format_keeps_every_comment`  : the same with the counting consequences spelled out;
   * `format_preserves_all_comments`: … and are `commentsOf e` (all comments) for trees
     without trailing comment on a `return` item — every tree the parser builds;
   * `every_layout_preserves_comments`: the same for each function of `formatter.rs`
     (`format_lambda`, `format_multiline`, `format_conditional_multiline`,
     `format_binary_op_multiline`, the list / record / call / do-block loops);
   * `format_expr_preserves_comments`, `render_pieces_is_format` : for `format_expr` itself.
  The model is total by structural recursion, there is no fuel; where `formatter.rs` re-enters
  the same node, `fmtImplP` satisfies the same equations (`layouts_are_total_functions`).

  `format_binary_op_multiline` emits the formatted right operand of `via` / `into` / `where`
  as it is (`chain_branch_emits_right_operand_unchanged`).  Sending it through `lines()` and
  `join("\n")`, as the code did before fix 6027914, deletes a `'\r'` in front of a
  `'\n'` inside comments (and string literals), and the statement above is false for such
  code; `carriage_return_is_kept_in_comment` is the regression example.

  Where the formatter (as modelled) does not keep a comment — only shapes the parser never builds:
   * `return_trailing_comment_is_dropped` : a trailing comment on the `return` item of a
     do-block is never printed.  Only trees built by hand have one: the parser sets `None`
     there and the grammar rejects `return x // c` before the closing brace.
   * `format_multiline_on_lambda_loses_comments` : `format_multiline` applied to a lambda falls
     to `expr_to_source`, which drops list / record comments — `format_expr_impl` never does
     that (lambdas go to `format_lambda`), hence the hypothesis of the `format_multiline` part.

  Not proved: that the parser attaches every comment of the source text to some node (it does
  not for comment-only lists / records: known findings `c09.comment-only-list`, `-record`;
  and not for a comment at a line break inside an expression, `z = 1 + // c⏎  2`, which the
  grammar reads as white space: known finding `c09.comment-at-line-break-in-expression`),
  and the statement-level handling of the drivers (main.rs / wasm format loops: standalone and
  end-of-line comments of statements) — there is no model of the driver loop.  Both are covered
  by the model-free oracle of `harness/src/props/c09.rs` (comment sequence of the output =
  comment sequence of the input).

  A shorthand record entry `{k}` prints only its key; its (synthetic) value is not part of
  the "printed tree" in `hasDo` / `anyComment`, exactly as in `contains_comments`.
-/
namespace Blots.C09
open Blots.FormatL Blots.PrintL Blots.FormatP

/-- The forcing mechanism.  An expression that `contains_comments` has no newline-free
    single-line form, so `format_expr_impl` (`if !single.contains('\n') && fits`) never
    returns the comment-dropping single-line text for it. -/
theorem comments_force_multiline (e : Expr) (h : containsComments e = true) :
    hasNewline (fmtSingle e) = true := cfm e h

/-- the list-shaped versions used inside calls, lists and records: some rendered element
    carries the line break (or, for lists / records, an element itself has comments and the
    whole literal is replaced by `[\n]` / `{\n}`) -/
theorem comments_force_multiline_in_sequences :
    (∀ es : List Expr, exprsContainComments es = true →
      ∃ s ∈ fmtSingleList es, hasNewline s = true) ∧
    (∀ is : List Item, itemsHaveComments is = true →
      is.any Item.hasComments = true ∨ ∃ s ∈ fmtSingleItems is, hasNewline s = true) ∧
    (∀ es : List Entry, entriesHaveComments es = true →
      es.any Entry.hasComments = true ∨ ∃ s ∈ fmtSingleEntries es, hasNewline s = true) := by
  refine ⟨cfm_list, fun is h => ?_, fun es h => ?_⟩
  · cases hany : is.any Item.hasComments
    · exact Or.inr (cfm_items is h hany)
    · exact Or.inl rfl
  · cases hany : es.any Entry.hasComments
    · exact Or.inr (cfm_entries es h hany)
    · exact Or.inl rfl

/-- the single-line printer's text of a do-block always has a line break, in any scope … -/
theorem do_block_source_has_newline (sc : Scope) (stmts : List Item) (ret : Item) :
    hasNewline (exprSrc sc (.doBlock stmts ret)) = true := doSrc _ (by simp only [hasDo]) sc

/-- … hence so has the text of every expression with a do-block in its printed part, both
    from the printer and from `format_single_line` -/
theorem do_blocks_force_multiline (e : Expr) (h : hasDo e = true) :
    (∀ sc, hasNewline (exprSrc sc e) = true) ∧ hasNewline (fmtSingle e) = true :=
  ⟨doSrc e h, doFmt e h⟩

/-- every comment of the printed tree is either counted by `contains_comments` or sits on a
    statement of a do-block -/
theorem every_comment_is_counted_or_in_do_block (e : Expr) (h : anyComment e = true) :
    containsComments e = true ∨ hasDo e = true := anyC e h

theorem any_comment_forces_multiline (e : Expr) (h : anyComment e = true) :
    hasNewline (fmtSingle e) = true := anyComment_forces_multiline e h

/-- contrapositive: when `format_expr_impl` does take the single-line text, there was no
    comment to lose -/
theorem single_line_path_is_comment_free (e : Expr) (h : hasNewline (fmtSingle e) = false) :
    anyComment e = false := anyComment_false_of_single h

/-- The printer's do-block text (`expr_to_source` — also what the formatter falls back to for
    nodes it has no layout for) is the concatenation of `doChunks`; the comment chunks among
    them are exactly `doComments stmts ret` = for each statement its leading comments then its
    trailing comment, then the leading comments of the `return` — each once, in order. -/
theorem do_block_source_emits_each_comment_once (sc : Scope) (stmts : List Item) (ret : Item) :
    exprSrc sc (.doBlock stmts ret) = joinChunks (doChunks sc stmts ret) ∧
    (doChunks sc stmts ret).filterMap Chunk.comment? = doComments stmts ret ∧
    doComments stmts ret =
      stmts.flatMap (fun i => i.leading ++ i.trailing.toList) ++ ret.leading := by
  refine ⟨doBlock_chunks sc stmts ret, doChunks_comments sc stmts ret, ?_⟩
  have : stmtComments = fun i => i.leading ++ i.trailing.toList := by funext i; cases i; rfl
  simp only [doComments, this]

/-- the chunks of one statement: leading comments each on their own line, the statement on
    its line, the trailing comment two spaces after it on the same line -/
theorem do_statement_chunks (sc : Scope) (lead : List String) (e : Expr) (tr : Option String) :
    stmtChunks sc (.mk lead e tr) =
      leadChunks lead ++ [.code ("\n  " ++ protectStatementStart (exprSrc sc e))] ++
        trailChunks tr ∧
    (∀ c cs, leadChunks (c :: cs) = .code "\n  " :: .comment c :: leadChunks cs) ∧
    (∀ t, trailChunks (some t) = [.code "  ", .comment t]) ∧ trailChunks none = [] :=
  ⟨rfl, fun _ _ => rfl, fun _ => rfl, rfl⟩

/-- C09 for `format_expr_impl`.  For every tree, width and indent the comments in `format_expr_impl`'s
    output — the comment pieces, in output order — are exactly the comments
    `printedComments e` of the tree in source order: nothing dropped, duplicated, reordered,
    merged into code or altered.  No hypothesis. -/
theorem format_preserves_comments (w indent : Nat) (e : Expr) :
    commentPieces (fmtImplP w indent e) = printedComments e :=
  good_impl e w indent

/-- … spelled out: as many comments in the output as in the tree, the i-th is the i-th, and
    every comment piece of the output is a comment of the tree -/
theorem format_keeps_every_comment (w indent : Nat) (e : Expr) :
    (commentPieces (fmtImplP w indent e)).length = (printedComments e).length ∧
    (∀ i (h1 : i < (commentPieces (fmtImplP w indent e)).length) (h2 : i < (printedComments e).length),
      (commentPieces (fmtImplP w indent e))[i] = (printedComments e)[i]) ∧
    (∀ c, Piece.comment c ∈ fmtImplP w indent e → c ∈ printedComments e) ∧
    (∀ c, c ∈ printedComments e → Piece.comment c ∈ fmtImplP w indent e) := by
  have h := format_preserves_comments w indent e
  refine ⟨by rw [h], fun i h1 h2 => by simp only [h], fun c hc => ?_, fun c hc => ?_⟩
  · rw [← h]
    exact List.mem_filterMap.mpr ⟨_, hc, rfl⟩
  · rw [← h] at hc
    obtain ⟨p, hp, hq⟩ := List.mem_filterMap.mp hc
    cases p with
    | text s => cases hq
    | comment s => cases hq; exact hp

/-- … and these are all comments of the tree when no `return` item carries a trailing comment
    (the parser never produces one) -/
theorem format_preserves_all_comments (w indent : Nat) (e : Expr) (hr : retClean e = true) :
    commentPieces (fmtImplP w indent e) = commentsOf e := by
  have he : commentsOf e = printedComments e := commentsG_retClean e hr
  rw [he]
  exact format_preserves_comments w indent e

theorem printed_comments_are_all_comments (e : Expr) (hr : retClean e = true) :
    printedComments e = commentsOf e := (commentsG_retClean e hr).symm

/-- the same for every function of `formatter.rs`: `format_lambda`,
    `format_conditional_multiline`, `format_binary_op_multiline`, `format_multiline` (on
    everything `format_expr_impl` passes to it), the loops of `format_list_multiline`,
    `format_record_multiline`, `format_call_multiline`, `format_do_block_multiline`, and
    `format_record_entry` -/
theorem every_layout_preserves_comments (w indent : Nat) :
    (∀ args body, Good (fmtLambdaP w indent args body) (printedComments (.lambda args body))) ∧
    (∀ c t e, Good (fmtCondP w indent c t e) (printedComments (.cond c t e))) ∧
    (∀ op l r, Good (fmtBinP w indent op l r) (printedComments (.bin op l r))) ∧
    (∀ e, (∀ args body, e ≠ .lambda args body) → Good (fmtMultiP w indent e) (printedComments e)) ∧
    (∀ items, Good (fmtItemsP w indent items) (itemsCommentsG false items)) ∧
    (∀ es, Good (fmtEntriesP w indent es) (entriesCommentsG false es)) ∧
    (∀ k vs vc, Good vs vc → Good (fmtKeyedP w indent k vs) (keyCommentsG false k vc)) ∧
    (∀ as, Good (fmtArgsP w indent as) (exprsCommentsG false as)) ∧
    (∀ ss, Good (fmtStmtsP w indent ss) (itemsCommentsG false ss)) ∧
    (∀ r, Good (fmtRetP w indent r) (retCommentsG false r)) :=
  ⟨good_lambda w indent, good_cond w indent, good_bin w indent, good_multi w indent,
   fun is => good_items is w indent, fun es => good_entries es w indent,
   fun k vs vc h => good_keyed k w indent vs vc h, fun as => good_args as w indent,
   fun ss => good_stmts ss w indent, fun r => good_ret r w indent⟩

/-- `Good` unfolded -/
theorem good_means (ps : List Piece) (cs : List String) :
    Good ps cs ↔ commentPieces ps = cs := Iff.rfl

/-- source order of `commentsOf`: the leading comments of an item, the comments inside its
    expression, its trailing comment; the statements of a do-block, then its `return` item;
    condition, then-branch, else-branch; function before arguments; key before value -/
theorem comments_in_source_order (rt : Bool) :
    (∀ l e t, itemCommentsG rt (.mk l e t) = l ++ (commentsG rt e ++ t.toList)) ∧
    (∀ ss r, commentsG rt (.doBlock ss r) = itemsCommentsG rt ss ++ retCommentsG rt r) ∧
    (∀ i is, itemsCommentsG rt (i :: is) = itemCommentsG rt i ++ itemsCommentsG rt is) ∧
    (∀ c t e, commentsG rt (.cond c t e) = commentsG rt c ++ (commentsG rt t ++ commentsG rt e)) ∧
    (∀ f as, commentsG rt (.call f as) = commentsG rt f ++ exprsCommentsG rt as) ∧
    (∀ op l r, commentsG rt (.bin op l r) = commentsG rt l ++ commentsG rt r) ∧
    (∀ l k v t, entryCommentsG rt (.mk l (.dyn k) v t) =
      l ++ ((commentsG rt k ++ commentsG rt v) ++ t.toList)) := by
  refine ⟨fun _ _ _ => ?_, fun _ _ => ?_, fun _ _ => ?_, fun _ _ _ => ?_, fun _ _ => ?_,
    fun _ _ _ => ?_, fun _ _ _ _ => ?_⟩ <;> simp only [commentsG, itemCommentsG, itemsCommentsG,
      entryCommentsG, keyCommentsG]

/-- The single-line output has no comment piece, and is taken only when there is no comment:
    consistent with `single_line_path_is_comment_free`. -/
theorem single_line_output_has_no_comment_piece (w indent : Nat) (e : Expr)
    (hl : ∀ args body, e ≠ .lambda args body) (hd : ∀ ss r, e ≠ .doBlock ss r)
    (h1 : hasNewline (fmtSingle e) = false) (h2 : indent + blen (firstLine (fmtSingle e)) ≤ w) :
    fmtImplP w indent e = [.text (fmtSingle e)] ∧
    commentPieces (fmtImplP w indent e) = [] ∧ commentsOf e = [] ∧ anyComment e = false := by
  have hs : fmtImplP w indent e = [.text (fmtSingle e)] := by
    rw [fmtImplP_eq]
    cases e with
    | lambda a b => exact absurd rfl (hl a b)
    | doBlock s r => exact absurd rfl (hd s r)
    | _ => simp [orSingle, h1, h2]
  refine ⟨hs, ?_, commentsG_nil_of_single e true h1, single_line_path_is_comment_free e h1⟩
  rw [hs]; rfl

theorem commented_tree_is_laid_out (w indent : Nat) (e : Expr) (h : anyComment e = true) :
    fmtImplP w indent e = (match e with
      | .lambda args body => fmtLambdaP w indent args body
      | e => fmtMultiP w indent e) := by
  have hn := anyComment_forces_multiline e h
  rw [fmtImplP_eq]
  cases e <;> simp [orSingle, hn]

/-- `format_expr` is the rendering of its pieces; the layouts are total functions of
    (width, indent, tree) — structural recursion, no fuel, so there is no "enough fuel"
    side condition anywhere above -/
theorem render_pieces_is_format (e : Expr) (w : Option Nat) :
    formatExpr e w = render (formatExprP e w) ∧
    formatExpr e w = protectStatementStart (render (fmtImplP (w.getD DEFAULT_MAX_COLUMNS) 0 e)) ∧
    fmtImpl (w.getD DEFAULT_MAX_COLUMNS) 0 e = render (fmtImplP (w.getD DEFAULT_MAX_COLUMNS) 0 e) :=
  ⟨(render_protectP _).symm, rfl, rfl⟩

/-- Five unfolding equations: `fmtImplP` (a total function, no fuel) satisfies the equations of
    `format_expr_impl` / `format_multiline` / `format_conditional_multiline` of `formatter.rs`,
    which re-enter the same node. -/
theorem layouts_are_total_functions (w indent : Nat) :
    (∀ args body, fmtImplP w indent (.lambda args body) = fmtLambdaP w indent args body) ∧
    (∀ ss r, fmtImplP w indent (.doBlock ss r) = fmtMultiP w indent (.doBlock ss r)) ∧
    (∀ e, (∀ args body, e ≠ .lambda args body) → (∀ ss r, e ≠ .doBlock ss r) →
      fmtImplP w indent e =
        if !hasNewline (fmtSingle e) && indent + blen (firstLine (fmtSingle e)) ≤ w
        then [.text (fmtSingle e)] else fmtMultiP w indent e) ∧
    (∀ c t e, fmtMultiP w indent (.cond c t e) = fmtCondP w indent c t e) ∧
    (∀ c t c' t' e', fmtCondP w indent c t (.cond c' t' e') =
      condLayout w indent (fmtImplP w indent c) (fun _ => fmtImplP w (indent + INDENT_SIZE) c)
        (fmtImplP w (indent + INDENT_SIZE) t) (.text "else " :: fmtCondP w indent c' t' e')) := by
  refine ⟨fun _ _ => by rw [fmtImplP_eq], fun _ _ => by rw [fmtImplP_eq], fun e hl hd => ?_,
    fun _ _ _ => rfl, fun _ _ _ _ _ => ?_⟩
  · rw [fmtImplP_eq]
    cases e with
    | lambda a b => exact absurd rfl (hl a b)
    | doBlock s r => exact absurd rfl (hd s r)
    | _ => rfl
  · simp only [fmtCondP, fmtChainP, elseLayout]

theorem format_expr_preserves_comments (e : Expr) (w : Option Nat) :
    commentPieces (formatExprP e w) = printedComments e ∧
    formatExpr e w = render (formatExprP e w) :=
  ⟨Good.protect (good_impl e _ 0), (render_protectP _).symm⟩

/-- The right operand of via / into / where is emitted as it was formatted (not through
    `lines()` and `join("\n")`, fix 6027914): when the first line fits, the
    branch renders to `format!("{} {} {}", left_str, op_str, right_str)`; `firstLine` is used
    for the width test only. -/
theorem chain_branch_emits_right_operand_unchanged :
    ∀ w indent op l r lP rSame rIn,
      (op == .via || op == .into || op == .where_) = true → isLambda r = true →
      indent + blen (render (parenP (needsParens l (.binLeft op)) lP) ++ " " ++ fmtSpelling op ++
        " " ++ firstLine (render (parenP (needsParens r (.binRight op)) (rSame ())))) ≤ w →
      render (binLayout w indent op l r lP rSame rIn) =
        render (parenP (needsParens l (.binLeft op)) lP) ++ " " ++ fmtSpelling op ++ " " ++
          render (parenP (needsParens r (.binRight op)) (rSame ())) :=
  render_binLayout_chain

/-- `y = l via x => [⏎ v, // c␍␍⏎]`: the comment is `// c␍` -/
private abbrev crTree : Expr :=
  .bin .via (.ident "l") (.lambda [.req "x"] (.list [.mk [] (.ident "v") (some "// c\r")]))

/-- The case of fix 6027914: a carriage return at the end of
    a comment inside the function after via / into / where is kept (a `lines()` /
    `join("\n")` round trip deletes it) -/
theorem carriage_return_is_kept_in_comment :
    printedComments crTree = ["// c\r"] ∧
    commentPieces (fmtImplP 80 0 crTree) = ["// c\r"] ∧
    formatExpr crTree (some 80) = "l via x =>\n  [\n    v,  // c\r\n  ]" := by
  decide +kernel

/-- A trailing comment on the `return` item of a do-block is not printed
    (`format_do_block_multiline` reads only `return_expr.leading`).  The parser never builds
    such a tree. -/
theorem return_trailing_comment_is_dropped :
    let e : Expr := .doBlock [] (.mk ["// r"] (.ident "x") (some "// t"))
    commentsOf e = ["// r", "// t"] ∧ printedComments e = ["// r"] ∧
    commentPieces (fmtImplP 80 0 e) = ["// r"] ∧ retClean e = false := by
  decide

/-- `format_multiline` applied to a lambda (which `format_expr_impl` never does) falls to
    `expr_to_source` and loses the comments of lists / records inside -/
theorem format_multiline_on_lambda_loses_comments :
    let e : Expr := .lambda [.req "x"] (.list [.mk ["// c"] (.ident "v") none])
    printedComments e = ["// c"] ∧ commentPieces (fmtMultiP 80 0 e) = [] ∧
    commentPieces (fmtImplP 80 0 e) = ["// c"] := by
  decide

section examples
/-- a list whose only item has a leading comment -/
private abbrev cl : Expr := .list [.mk ["// c"] (.ident "v") none]
private abbrev f : Expr := .ident "f"

example : containsComments cl = true := by decide
example : fmtSingle cl = "[\n]" := by decide
/-- inside a call argument -/
example : containsComments (.call f [.ident "a", cl]) = true := by decide
example : fmtSingle (.call f [.ident "a", cl]) = "f(a, [\n])" := by decide
/-- inside a lambda body -/
example : containsComments (.lambda [.req "x"] cl) = true := by decide
example : fmtSingle (.lambda [.req "x"] cl) = "x => [\n]" := by decide
/-- inside a record value under a dynamic key, and inside the dynamic key itself -/
example : containsComments (.record [.mk [] (.dyn (.ident "k")) cl none]) = true := by decide
example : fmtSingle (.record [.mk [] (.dyn (.ident "k")) cl none]) = "{[k]: [\n]}" := by decide
example : fmtSingle (.record [.mk [] (.dyn cl) (.ident "k") none]) = "{[[\n]]: k}" := by decide
/-- inside an operand -/
example : fmtSingle (.bin .add (.ident "a") cl) = "\n" := by decide
/-- inside a do-block statement -/
example : containsComments (.doBlock [.mk [] cl none] (.mk [] (.ident "x") none)) = true := by
  decide

/-- a do-block whose statement has its own comments: not counted by `contains_comments`,
    but a do-block — in a list it still forces the multi-line path -/
private abbrev db : Expr :=
  .doBlock [.mk ["// a"] (.assign "y" (.ident "z")) (some "// b")] (.mk ["// r"] (.ident "y") none)
example : containsComments (.list [.mk [] db none]) = false := by decide
example : anyComment (.list [.mk [] db none]) = true ∧ hasDo (.list [.mk [] db none]) = true := by
  decide
example : exprSrc [] db = "do {\n  // a\n  y = z  // b\n  // r\n  return y\n}" := by decide +kernel
example : doComments [.mk ["// a"] (.assign "y" (.ident "z")) (some "// b")]
    (.mk ["// r"] (.ident "y") none) = ["// a", "// b", "// r"] := by decide

/-- a comment-free tree on the single-line path -/
example : hasNewline (fmtSingle (.call f [.ident "a", .list [.mk [] (.ident "v") none]])) = false := by
  decide

/-- the layouts on commented trees: every position the property lists, narrow and wide -/
private abbrev big : Expr :=
  .assign "r" (.record [
    .mk ["// lead a"] (.static "a") (.list [.mk [] (.ident "v") (some "// one"),
                                            .mk ["// two"] (.ident "w") none]) (some "// after a"),
    .mk [] (.dyn (.list [.mk [] (.ident "k") (some "// in key")]))
      (.lambda [.req "x"] db) none])

example : commentsOf big =
    ["// lead a", "// one", "// two", "// after a", "// in key", "// a", "// b", "// r"] := by decide
example : retClean big = true := by decide
example : commentPieces (fmtImplP 80 0 big) = commentsOf big := by decide +kernel
example : commentPieces (fmtImplP 10 4 big) = commentsOf big := by decide +kernel
set_option maxRecDepth 8192 in
example : formatExpr big (some 80) =
    "r = {\n  // lead a\n  a: [\n    v,  // one\n    // two\n    w,\n  ],  // after a\n" ++
    "  [[\n    k,  // in key\n  ]]: x => do {\n    // a\n    y = z  // b\n    // r\n    return y\n  },\n}" := by
  decide +kernel
/-- else-if chain, call arguments, operands, via + lambda with a commented list -/
private abbrev chain : Expr :=
  .cond (.call f [cl]) (.bin .add (.ident "a") cl)
    (.cond (.ident "p") (.un .negate cl) (.bin .via cl (.lambda [.req "x"] cl)))
example : commentPieces (fmtImplP 80 0 chain) = ["// c", "// c", "// c", "// c", "// c"] ∧
    commentsOf chain = ["// c", "// c", "// c", "// c", "// c"] := by decide +kernel
example : commentPieces (fmtImplP 0 0 chain) = commentsOf chain := by decide +kernel
/-- hypotheses of `single_line_output_has_no_comment_piece` -/
example : hasNewline (fmtSingle (.call f [.ident "a"])) = false ∧
    0 + blen (firstLine (fmtSingle (.call f [.ident "a"]))) ≤ 80 := by decide
example : fmtImplP 80 0 (.call f [.ident "a"]) = [.text "f(a)"] := by decide
/-- `Good` of a layout whose parts are given -/
example : Good (fmtItemsP 80 2 [.mk ["// l"] (.ident "v") (some "// t")]) ["// l", "// t"] :=
  (every_layout_preserves_comments 80 2).2.2.2.2.1 _

/-- `firstLine` is `lines().next().unwrap_or(s)` -/
example : firstLine "a\r\nb" = "a" ∧ firstLine "a\r" = "a\r" ∧ firstLine "" = "" ∧
    firstLine "\r\n" = "" ∧ firstLine "a\rb\nc" = "a\rb" := by decide
end examples

end Blots.C09
