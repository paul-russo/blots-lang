import Blots.Lemmas.EvalEnvCall
import Blots.Lemmas.EvalEnvFree
import Blots.Lemmas.EvalEnvCoin
import Blots.Lemmas.EvalEnvClosedCoin
/-
  C04 — Closures capture definition-time values; calls are call-site independent.

  Model: `.lambda` arm of `eval` (`freeVars`, `captureScope`), `callFn` on a function value
  (`checkArity (lambdaArity ps)`, `bindParams`, the frames of the call), Model/Eval.lean.
  Helper definitions (Lemmas/EvalEnvCall.lean): `paramValue`, `paramPairs`, `docShape`,
  `callEnv` (the environment the body runs in), `reqCount`, `hasRest`.
-/
namespace Blots.C04

/-- `collect_free_variables` (model: `freeVars bound e`) computes exactly the declarative
    `FreeIn x e` (Lemmas/EvalEnvFree.lean: binders are function parameters and earlier direct
    assignment statements of an enclosing do-block; `inf`, `infinity`, `constants` are not
    variables; the record shorthand `{x}` reads `x`) minus the names already bound.
    Hypothesis `noOutput e`: `output …` does not occur inside `e` — the grammar only produces it
    as a whole statement, and `collect_free_variables` does not look inside it. -/
theorem freeVars_sound (e : Expr) (bound : List String) (x : String) (h : noOutput e = true) :
    x ∈ freeVars bound e ↔ FreeIn x e ∧ x ∉ bound :=
  freeVars_iff e bound x h

/-- hence what a new function captures, declaratively: the names free in its body that are
    not parameters and are visible at that moment — with their values then.  (Names spelled
    like a built-in function included, which can be free only through the record shorthand
    `{sqrt}`: fix c2468c3, see the `{sqrt}` example at the end of the file.) -/
theorem capture_is_free_names_bound_now (env : List Frame) (ps : List LArg) (body : Expr) (x : String)
    (h : noOutput body = true) :
    (FreeIn x body ∧ x ∉ ps.map LArg.name →
      lookupAL x (captureScope env (freeVars (ps.map LArg.name) body)) = envGet env x) ∧
    (¬ (FreeIn x body ∧ x ∉ ps.map LArg.name) →
      lookupAL x (captureScope env (freeVars (ps.map LArg.name) body)) = none) := by
  rw [captureScope_lookup]
  have := freeVars_iff body (ps.map LArg.name) x h
  constructor
  · intro h'
    rw [if_pos (this.mpr ⟨h'.1, h'.2⟩)]
  · intro h'
    rw [if_neg (fun hc => h' ⟨(this.mp hc).1, (this.mp hc).2⟩)]

/-- the hypothesis `noOutput` is needed: on ASTs the grammar cannot produce, the function
    misses reads under `output` -/
example : freeVars [] (.output (.ident "y")) = [] ∧ FreeIn "y" (.output (.ident "y")) :=
  ⟨rfl, .output (.ident (by decide))⟩

/-- sequential scoping in a do-block: in `do { y = x; return y + z }` the names `x` and `z` are
    free, `y` is not -/
example : freeVars [] (.doBlock [it (.assign "y" (.ident "x"))] (it (.bin .add (.ident "y") (.ident "z"))))
    = ["x", "z"] := by decide

/-- the scope of the new function value maps exactly the free names of the body (w.r.t. the
    parameters) that are visible at creation to their values at creation; nothing else of the
    state changes -/
theorem capture_by_value (ops : NumOps) (fuel depth : Nat) (ps : List LArg) (body : Expr) (s : ES)
    (hps : ps.any (fun a => a.name == "inputs") = false) :
    ∃ scope, eval ops (fuel + 1) depth (.lambda ps body) s =
        (.ok (.lambda s.nextId ps body scope), { s with nextId := s.nextId + 1 }) ∧
      (scope.map Prod.fst).Nodup ∧
      ∀ x, lookupAL x scope =
        if x ∈ freeVars (ps.map LArg.name) body then envGet s.env x else none := by
  refine ⟨captureScope s.env (freeVars (ps.map LArg.name) body), ?_, captureScope_nodup _ _, ?_⟩
  · rw [eval, if_neg (by simp [hps])]
  · intro x; exact captureScope_lookup _ _ x

/-- `inputs` always means the program's inputs: a function with a parameter of that name is
    refused when it is created (state unchanged); together with `inputs` being refused as an
    assignment target at top level (`Gen.assignKeywords`) and in do-blocks
    (`Gen.doAssignKeywords`) no frame other than the root frame, the frames of calls (which copy
    it from their caller) and captured scopes ever binds `inputs` -/
theorem inputs_parameter_is_refused (ops : NumOps) (fuel depth : Nat) (ps : List LArg) (body : Expr) (s : ES)
    (hps : ps.any (fun a => a.name == "inputs") = true) :
    eval ops (fuel + 1) depth (.lambda ps body) s = (.err .keyword, s) := by
  rw [eval, if_pos hps]

theorem inputs_is_no_assignment_target :
    "inputs" ∈ Gen.assignKeywords ∧ "inputs" ∈ Gen.doAssignKeywords := by decide

/-- a captured free name resolves, inside any later call from any caller environment, to the value
    captured at definition — unless a parameter or `inputs` hides it (the scope is part of the
    function value; the full resolution order is `params_shadow_everything`) -/
theorem captured_value_is_what_the_body_sees (names : List (Nat × String)) (id : Nat) (scope : Frame)
    (this : Value) (pf : Frame) (caller : List Frame) (x : String) (v : Value)
    (hcap : lookupAL x scope = some v) (hp : lookupAL x pf.reverse = none)
    (hi : x ≠ "inputs") :
    envGet (callEnv names id scope this pf caller) x = some v := by
  rw [envGet_callEnv, hp]
  simp only [hi, false_and, if_false, hcap]
  rw [if_neg (by simp)]

/-- `callEnv`: the first frame holds the parameters (on top of `inputs` and the self name), then
    the captured scope (when non-empty), then the caller's frames -/
theorem call_evaluates_body_in_callEnv (ops : NumOps) (fuel id : Nat) (ps : List LArg) (body : Expr)
    (scope : Frame) (this : Value) (args : List Value) (depth : Nat) (s : ES) (pf : Frame)
    (ha : checkArity (lambdaArity ps) args.length = .ok ()) (hd : ¬ depth > MAX_DEPTH)
    (hb : bindParams ps args = .ok pf) :
    callFn ops (fuel + 1) (.lambda id ps body scope) this args depth s =
      ((eval ops fuel (depth + 1) body { s with env := callEnv s.names id scope this pf s.env }).1,
       { (eval ops fuel (depth + 1) body { s with env := callEnv s.names id scope this pf s.env }).2
          with env := s.env }) :=
  callFn_lambda_eq ops fuel id ps body scope this args depth s pf ha hd hb

/-- name resolution inside the call: parameters first (last parameter of a name wins), then
    `inputs` of the caller, then the function's own name (if named and nothing was captured
    under that name), then the captured scope, then the caller's environment -/
theorem params_shadow_everything (names : List (Nat × String)) (id : Nat) (scope : Frame) (this : Value)
    (pf : Frame) (caller : List Frame) (x : String) :
    envGet (callEnv names id scope this pf caller) x =
      match lookupAL x pf.reverse with
      | some v => some v
      | none =>
        if x = "inputs" ∧ (envGet caller "inputs").isSome then envGet caller "inputs"
        else if nameOf names id = some x ∧ lookupAL x scope = none then some this
        else match lookupAL x scope with
          | some v => some v
          | none => envGet caller x :=
  envGet_callEnv names id scope this pf caller x

theorem parameter_wins (names : List (Nat × String)) (id : Nat) (scope : Frame) (this : Value)
    (ps : List LArg) (args : List Value) (caller : List Frame) (pf : Frame)
    (hb : bindParams ps args = .ok pf) (hnd : (ps.map LArg.name).Nodup)
    (i : Nat) (p : LArg) (hp : ps[i]? = some p) :
    envGet (callEnv names id scope this pf caller) p.name = some (paramValue args i p) := by
  rw [bindParams_eq] at hb
  split at hb
  · cases hb
    rw [envGet_callEnv]
    have hk : ((paramPairs args ps 0).map Prod.fst).Nodup := by rw [paramPairs_keys]; exact hnd
    have hnd' := insertAll_nodup (paramPairs args ps 0) [] (by simp)
    rw [← lookupAL_perm p.name hnd' (List.reverse_perm _).symm, lookup_bound_param args ps hnd i p hp]
  · cases hb

theorem arity_iff (ps : List LArg) (n : Nat) :
    checkArity (lambdaArity ps) n = .ok () ↔ reqCount ps ≤ n ∧ (hasRest ps = true ∨ n ≤ ps.length) :=
  checkArity_lambda_iff ps n

theorem arity_mismatch_is_error (ps : List LArg) (n : Nat)
    (h : ¬ (reqCount ps ≤ n ∧ (hasRest ps = true ∨ n ≤ ps.length))) :
    checkArity (lambdaArity ps) n = .err .arity := by
  have := mt (checkArity_lambda_iff ps n).mp h
  unfold checkArity at this ⊢
  split
  · rename_i hc; simp [hc] at this
  · rfl

theorem call_with_wrong_arity (ops : NumOps) (fuel id : Nat) (ps : List LArg) (body : Expr) (scope : Frame)
    (this : Value) (args : List Value) (depth : Nat) (s : ES)
    (h : ¬ (reqCount ps ≤ args.length ∧ (hasRest ps = true ∨ args.length ≤ ps.length))) :
    callFn ops (fuel + 1) (.lambda id ps body scope) this args depth s = (.err .arity, s) := by
  rw [callFn, arity_mismatch_is_error ps args.length h]

/-- `docShape`: the documented shape required*, optional*, at most one trailing rest -/
theorem arity_iff_documented (reqs opts : List String) (rest : Option String) (n : Nat) :
    checkArity (lambdaArity (docShape reqs opts rest)) n = .ok () ↔
      reqs.length ≤ n ∧ (rest.isSome = true ∨ n ≤ reqs.length + opts.length) := by
  rw [checkArity_lambda_iff, docShape_reqCount, docShape_hasRest, docShape_length]
  cases rest <;> simp

/-- for arbitrary parameter orders: an arity error exactly when some required parameter's position
    is beyond the arguments (where functions.rs indexed `args[idx]` unchecked before fix 853ff5a) -/
theorem bindParams_no_panic (ps : List LArg) (args : List Value) :
    (bindParams ps args = .ok (insertAll [] (paramPairs args ps 0)) ∧
        ∀ j n, ps[j]? = some (.req n) → j < args.length) ∨
    (bindParams ps args = .err .arity ∧ ∃ j n, ps[j]? = some (.req n) ∧ args.length ≤ j) := by
  rw [bindParams_eq]
  cases h : reqsInRange args.length ps 0 with
  | true =>
    left
    refine ⟨by simp, ?_⟩
    intro j n hj
    apply Classical.byContradiction
    intro hlt
    have := (reqsInRange_false_iff args.length ps 0).mpr ⟨j, n, hj, by omega⟩
    rw [h] at this; cases this
  | false =>
    right
    obtain ⟨j, n, h1, h2⟩ := (reqsInRange_false_iff args.length ps 0).mp h
    exact ⟨by simp, j, n, h1, by omega⟩

/-- `paramPairs`: required i ↦ args[i], optional i ↦ args[i] or null, rest at i ↦ args.drop i; under
    each name the last parameter of that name is found -/
theorem bind_frame_lookup (ps : List LArg) (args : List Value) (pf : Frame)
    (hb : bindParams ps args = .ok pf) (k : String) :
    lookupAL k pf = lookupAL k (paramPairs args ps 0).reverse := by
  rw [bindParams_eq] at hb
  split at hb
  · cases hb
    rw [lookupAL_insertAll]
    cases lookupAL k (paramPairs args ps 0).reverse <;> rfl
  · cases hb

/-- C04's "arguments bind positionally", for the documented shape with distinct names -/
theorem bind_positional (reqs opts : List String) (rest : Option String) (args : List Value)
    (hnd : (reqs ++ (opts ++ rest.toList)).Nodup)
    (ha : checkArity (lambdaArity (docShape reqs opts rest)) args.length = .ok ()) :
    ∃ pf, bindParams (docShape reqs opts rest) args = .ok pf ∧
      (∀ i (hi : i < reqs.length), ∃ hi' : i < args.length, lookupAL reqs[i] pf = some args[i]) ∧
      (∀ j (hj : j < opts.length), lookupAL opts[j] pf = some ((args[reqs.length + j]?).getD .null)) ∧
      (∀ r, rest = some r → lookupAL r pf = some (.list (args.drop (reqs.length + opts.length)))) ∧
      (∀ k, k ∉ reqs ++ (opts ++ rest.toList) → lookupAL k pf = none) := by
  have hreq : reqs.length ≤ args.length := ((arity_iff_documented reqs opts rest args.length).mp ha).1
  have hnd' : ((docShape reqs opts rest).map LArg.name).Nodup := by rw [docShape_names]; exact hnd
  refine ⟨insertAll [] (paramPairs args (docShape reqs opts rest) 0), ?_, ?_, ?_, ?_, ?_⟩
  · rw [bindParams_eq, docShape_reqsInRange _ _ _ _ hreq]; rfl
  · intro i hi
    have hi' : i < args.length := by omega
    refine ⟨hi', ?_⟩
    have hp : (docShape reqs opts rest)[i]? = some (.req reqs[i]) := by
      unfold docShape
      rw [List.getElem?_append_left (by simpa using hi)]
      simp [hi]
    have := lookup_bound_param args _ hnd' i _ hp
    simpa [LArg.name, paramValue, List.getElem?_eq_getElem hi'] using this
  · intro j hj
    have hp : (docShape reqs opts rest)[reqs.length + j]? = some (.opt opts[j]) := by
      unfold docShape
      rw [List.getElem?_append_right (by simp), List.getElem?_append_left (by simpa using hj)]
      simp [hj]
    have := lookup_bound_param args _ hnd' _ _ hp
    simpa [LArg.name, paramValue] using this
  · intro r hr
    subst hr
    have hp : (docShape reqs opts (some r))[reqs.length + opts.length]? = some (.rest r) := by
      unfold docShape
      rw [List.getElem?_append_right (by simp), List.getElem?_append_right (by simp)]
      simp
    have := lookup_bound_param args _ hnd' _ _ hp
    simpa [LArg.name, paramValue] using this
  · intro k hk
    exact lookup_not_param args _ k (by rw [docShape_names]; exact hk)

set_option linter.unusedSimpArgs false

/-- `(a, b?, ...r) => …` called with 4 arguments: a ↦ 1st, b ↦ 2nd, r ↦ [3rd, 4th] -/
example : bindParams (docShape ["a"] ["b"] (some "r")) [.num F64.one, .null, .bool true, .bool false]
    = .ok [("a", .num F64.one), ("b", .null), ("r", .list [.bool true, .bool false])] := by
  simp [bindParams, bindParams.go, docShape, insertAL]

/-- hypotheses of `bind_positional` -/
example : (["a"] ++ (["b"] ++ (some "r").toList)).Nodup ∧
    checkArity (lambdaArity (docShape ["a"] ["b"] (some "r"))) 4 = .ok () := ⟨by decide, rfl⟩

/-- a required parameter after an optional one, too few arguments: arity error, no panic
    (the `bindParams_no_panic` right disjunct; `checkArity` passes here: 1 ≤ 1 ≤ 2) -/
example : checkArity (lambdaArity [.opt "a", .req "b"]) 1 = .ok () ∧
    bindParams [.opt "a", .req "b"] [.num F64.one] = .err .arity := by
  refine ⟨rfl, ?_⟩
  simp [bindParams, bindParams.go]

/-- hypothesis of `capture_by_value` / `inputs_parameter_is_refused` -/
example : [LArg.req "x"].any (fun a => a.name == "inputs") = false ∧
    [LArg.req "x", LArg.opt "inputs"].any (fun a => a.name == "inputs") = true := by decide

/-- `y = 1; f = (x) => x + y + z` captures y ↦ 1, not the parameter `x`, not the unbound `z` -/
example : (eval toyOps 1 0 (.lambda [.req "x"] (.bin .add (.ident "x") (.bin .add (.ident "y") (.ident "z"))))
      { root0 with env := [[("y", .num F64.one), ("x", .null)]] }).1
    = .ok (.lambda 1 [.req "x"] (.bin .add (.ident "x") (.bin .add (.ident "y") (.ident "z")))
        [("y", .num F64.one)]) := by
  simp +decide [eval, freeVars, captureScope, LArg.name, root0, envGet, lookupAL, insertAL]

/-- the parameter hides both the captured `x` and the caller's `x`; the captured `y` hides the
    caller's `y`: body `[x, y]` gives [argument, captured] -/
example : (callFn toyOps 9 (.lambda 1 [.req "x"] (.list [it (.ident "x"), it (.ident "y")])
        [("x", .null), ("y", .num F64.one)]) .null [.bool true] 0
      { root0 with env := [[("x", .bool false), ("y", .bool false)]] }).1
    = .ok (.list [.bool true, .num F64.one]) := by
  simp +decide [callFn, eval, evalItems, it, checkArity, lambdaArity, Gen.Arity.canAccept, MAX_DEPTH, nameOf,
    bindParams, bindParams.go, root0, envGet, lookupAL, insertAL, flattenSpreads]

/-- hypotheses of `call_evaluates_body_in_callEnv` -/
example : checkArity (lambdaArity [.req "x"]) [Value.bool true].length = .ok () ∧ ¬ 0 > MAX_DEPTH ∧
    bindParams [.req "x"] [.bool true] = .ok [("x", .bool true)] := by
  refine ⟨rfl, by decide, ?_⟩
  simp [bindParams, bindParams.go, insertAL]

/-- hypothesis of `call_with_wrong_arity` -/
example : ¬ (reqCount [.req "x"] ≤ 0 ∧ (hasRest [.req "x"] = true ∨ 0 ≤ [LArg.req "x"].length)) := by decide

/-- The literal statement.  It is false (`call_site_independent_statement_false`): a
    function whose own free names are all bound at definition (`ClosedFn`) is still call-site
    dependent when a function it captured has an unbound free name (late binding, read from the
    caller's frames).  The true version is `call_site_independent`: closedness must hold
    hereditarily (`ClosedV`).  Under `ClosedFn` alone there is the step at the call for arbitrary
    bodies (`call_site_independent_partial`) and the statement for bodies that never apply a
    function value (`call_site_independent_plain`). -/
def call_site_independent_statement : Prop :=
  ∀ (ops : NumOps) (fuel id : Nat) (ps : List LArg) (body : Expr) (scope : Frame) (this : Value)
    (args : List Value) (depth : Nat) (s s' : ES),
    s.nextId = s'.nextId → s.names = s'.names → envGet s.env "inputs" = envGet s'.env "inputs" →
    ClosedFn s.names id ps body scope →
    (callFn ops fuel (.lambda id ps body scope) this args depth s).1 =
      (callFn ops fuel (.lambda id ps body scope) this args depth s').1

/-- Arbitrary bodies, the step at the call.  The frames a call pushes (parameters, self name,
    `inputs`, captured scope) are determined by the function, the arguments, `this`, the display
    names and `inputs` alone; every name free in a closed function's body is resolved in them,
    before the caller's frames are consulted; so the two bodies run in environments that agree
    on all free names of the body.  That `eval` of the body gives the same outcome in two such
    environments is the explicit hypothesis `Coincidence ops fuel (depth+1) body` here; it does
    not follow from `ClosedFn` (a function the body gets hold of may have unbound names, which
    are read from the caller's frames).  With closedness of every reachable function value
    (`ClosedV`) `call_site_independent` has no such hypothesis (the induction `coin` of
    Lemmas/EvalEnvClosedCoin.lean).  The hypothesis that the two call sites see the same `inputs`
    stays there too: it holds in every state a session can reach (`inputs` is only ever bound
    in the root frame and copied from there), which is not proved. -/
theorem call_site_independent_partial (ops : NumOps) (fuel id : Nat) (ps : List LArg) (body : Expr)
    (scope : Frame) (this : Value) (args : List Value) (depth : Nat) (s s' : ES)
    (hid : s.nextId = s'.nextId) (hnames : s.names = s'.names)
    (hin : envGet s.env "inputs" = envGet s'.env "inputs")
    (hclosed : ClosedFn s.names id ps body scope)
    (hco : Coincidence ops fuel (depth + 1) body) :
    (callFn ops (fuel + 1) (.lambda id ps body scope) this args depth s).1 =
      (callFn ops (fuel + 1) (.lambda id ps body scope) this args depth s').1 := by
  refine callFn_lambda_fst_congr ops fuel id ps body scope this args depth s s' fun pf hb => ?_
  have key : ∀ x, FreeIn x body ∨ x = "inputs" → envGet (callEnv s.names id scope this pf s.env) x =
      envGet (callEnv s'.names id scope this pf s'.env) x := hnames ▸ hclosed.agree this hb hin
  exact hco _ _ hid hnames (key "inputs" (.inr rfl)) fun x hx => key x (.inl hx)

/-- Every body that never runs the body of a function value (`plain`, see
    Lemmas/EvalEnvCoin.lean: no call of a function value — calls of literal pure built-ins such
    as `sqrt(x)` are allowed —, no higher-order built-in, no `via` / `into` / `where`, no
    `output`; everything else: arithmetic, comparisons, conditionals, lists, records, nested
    function creation, assignments, do-blocks): a function closed after capture returns the
    same outcome for the same arguments from any two call sites that agree on the id counter,
    the display names and `inputs`.  The coincidence lemma behind it (`coin_group`) is a mutual
    induction over eval / evalList / evalItems / evalEntries / evalDoStmt / evalDo: at call
    depth > 0 the outcome does not depend on the frames below the ones the call pushed, as
    long as the free names and `inputs` resolve identically.
    Bodies that apply function values (user functions, higher-order built-ins, `via` / `into` /
    `where`) need every function value reachable from the state to be closed:
    `call_site_independent`. -/
theorem call_site_independent_plain (ops : NumOps) (fuel id : Nat) (ps : List LArg) (body : Expr)
    (scope : Frame) (this : Value) (args : List Value) (depth : Nat) (s s' : ES)
    (hid : s.nextId = s'.nextId) (hnames : s.names = s'.names)
    (hin : envGet s.env "inputs" = envGet s'.env "inputs")
    (hclosed : ClosedFn s.names id ps body scope) (hplain : plain body = true) :
    (callFn ops fuel (.lambda id ps body scope) this args depth s).1 =
      (callFn ops fuel (.lambda id ps body scope) this args depth s').1 := by
  cases fuel with
  | zero => rw [callFn_zero, callFn_zero]
  | succ fuel =>
    refine callFn_lambda_fst_congr ops fuel id ps body scope this args depth s s' fun pf hb => ?_
    -- the callee's frames of the second call are those of the first with `s'.env` below
    have hn : 0 < if scope.isEmpty then 1 else 2 := by split <;> decide
    have hS' : ({ s' with env := callEnv s'.names id scope this pf s'.env } : ES) =
        retail (if scope.isEmpty then 1 else 2) s'.env
          { s with env := callEnv s.names id scope this pf s.env } := by
      rw [← hnames, callEnv_retail s.names id scope this pf s.env s'.env hin, ← hid]; rfl
    rw [hS', (coin_group ops s'.env (Nat.succ_pos depth) fuel).1 body _ _ hn hplain
      ⟨by unfold callEnv; cases scope <;> simp, fun x hx => ?_⟩]
    show envGet (retailE _ s'.env (callEnv s.names id scope this pf s.env)) x = _
    rw [← callEnv_retail s.names id scope this pf s.env s'.env hin]
    exact (hclosed.agree this hb hin x hx).symm

/-- the coincidence lemma for one expression; `retail n tl'` replaces the frames below the first
    `n` by `tl'` -/
theorem coincidence_plain (ops : NumOps) (fuel depth : Nat) (e : Expr) (n : Nat) (tl' : List Frame) (s : ES)
    (hd : 0 < depth) (hn : 0 < n) (hk : n ≤ s.env.length) (hp : plain e = true)
    (hA : ∀ x, (FreeIn x e ∨ x = "inputs") → Agree n tl' s.env x) :
    eval ops fuel depth e (retail n tl' s) =
      ((eval ops fuel depth e s).1, retail n tl' (eval ops fuel depth e s).2) :=
  (coin_group ops tl' hd fuel).1 e n s hn hp ⟨hk, hA⟩

/-- hypotheses of `call_site_independent_plain`: `(a) => (t = a) + sqrt(y)` with `y` captured is
    closed and plain -/
example : plain (.bin .add (.assign "t" (.ident "a")) (.call (.builtin "sqrt") [.ident "y"])) = true ∧
    ClosedFn [] 1 [.req "a"]
      (.bin .add (.assign "t" (.ident "a")) (.call (.builtin "sqrt") [.ident "y"])) [("y", .num F64.one)] := by
  refine ⟨by decide, ?_⟩
  intro x hx
  rcases freeIn_bin.mp hx with h | h
  · left; simp [freeIn_ident.mp (freeIn_assign.mp h), LArg.name]
  · rcases freeIn_call.mp h with h | h
    · exact absurd h freeIn_builtin
    · rcases freeInList_cons.mp h with h | h
      · right; left; simp [freeIn_ident.mp h, lookupAL]
      · exact absurd h freeInList_nil

/-- a body that calls a function value is not `plain` -/
example : plain (.call (.ident "g") [.ident "a"]) = false ∧
    plain (.call (.builtin "map") [.ident "xs", .ident "g"]) = false := by decide

/-- the hypothesis `Coincidence` is satisfiable: body `if a then y else null` -/
example : Coincidence toyOps 2 1 (.cond (.ident "a") (.ident "y") .null) := by
  intro s s' _ _ _ hfree
  have ha := hfree "a" (.condC (.ident (by decide)))
  have hy := hfree "y" (.condT (.ident (by decide)))
  simp +decide only [eval]
  rw [ha]
  cases envGet s'.env "a" with
  | none => rfl
  | some v =>
    cases v with
    | bool b =>
      cases b
      · rfl
      · simp only [if_false]; rw [hy]; cases envGet s'.env "y" <;> rfl
    | _ => rfl

/-- and so is `ClosedFn`: for `(a) => if a then y else null` with `y` captured -/
example : ClosedFn [] 1 [.req "a"] (.cond (.ident "a") (.ident "y") .null) [("y", .num F64.one)] := by
  intro x hx
  rcases freeIn_cond.mp hx with h | h | h
  · left; simp [freeIn_ident.mp h, LArg.name]
  · right; left; simp [freeIn_ident.mp h, lookupAL]
  · exact absurd h freeIn_null

/-- An assignment inside a call looks at the call's own frame only (fix 6404b21).
    `f = (a) => (t = a) + 1` has no free names; with an assignment that looked through the
    callee's frames into the caller's, `f(1)` would be 1 + 1 where the caller does not bind `t`
    and fail with "t is already defined" where the caller (or any caller of the caller) does:
      f = (a) => (t = a) + 1 ; g = (t) => f(t) ; f(1) --> 2 ; g(1) --> 2
    Both call sites give the same result (`toyOps.add` returns its first operand). -/
example :
    (callFn toyOps 5 (.lambda 1 [.req "a"] (.bin .add (.assign "t" (.ident "a")) (.num F64.one)) [])
        .null [.num F64.one] 0 root0).1 = .ok (.num F64.one) ∧
    (callFn toyOps 5 (.lambda 1 [.req "a"] (.bin .add (.assign "t" (.ident "a")) (.num F64.one)) [])
        .null [.num F64.one] 0 { root0 with env := [[("t", .num F64.one)]] }).1 = .ok (.num F64.one) := by
  constructor <;>
  simp +decide [callFn, eval, evalBin, scalarOp, asNumber, toyOps, checkArity, lambdaArity, Gen.Arity.canAccept,
    MAX_DEPTH, nameOf, bindParams, bindParams.go, root0, envGet, lookupAL, envInsert, insertAL,
    setNameIfLambda, envContains, alreadyDefined, isDot, isListV, Bind.bind, Outcome.bind, Pure.pure]

/-- the closedness hypothesis of the statement holds for that function: the only free name is `a` -/
example : ClosedFn [] 1 [.req "a"] (.bin .add (.assign "t" (.ident "a")) (.num F64.one)) [] := by
  intro x hx
  rcases freeIn_bin.mp hx with h | h
  · left; simp [freeIn_ident.mp (freeIn_assign.mp h), LArg.name]
  · exact absurd h freeIn_num

/-- `inputs` is not a legal parameter or do-block name (fix a665514).  A call copies the
    nearest `inputs` of the caller's chain into the callee's frame, where it beats even a
    captured `inputs`; if `inputs` could be shadowed, a closed function would depend on its
    caller.  Blots source (inputs {"a": 1}):
      f = () => inputs.a ; g = (inputs) => f() ; f() --> 1 ; g({a: 2}) would be 2
    `g` cannot be created, and `do { inputs = …; … }` is refused. -/
example :
    eval toyOps 3 0 (.lambda [.req "inputs"] (.call (.ident "f") [])) root0 = (.err .keyword, root0) ∧
    (eval toyOps 5 0 (.doBlock [it (.assign "inputs" (.num F64.one))] (it (.call (.ident "f") []))) root0).1
      = .err .keyword := by
  constructor <;>
  simp +decide [eval, evalDo, evalDoStmt, it, root0, LArg.name]

/-- Call-site independence, in full.  `ClosedV N v` (Lemmas/EvalEnvClosed.lean): every function
    value inside `v` — also inside captured scopes, lists, records — is closed after capture
    w.r.t. the display names `N` (`ClosedFn`: each free name of its body is a parameter, a
    captured name, the function's own display name, or `inputs`), its body has no nested
    `output` (`noOutput`, as in `freeVars_sound`: the grammar only produces `output` as a whole
    statement), and its captured values are closed in the same sense.

    A closed function value called with closed arguments from two callers `s`, `s'` that agree
    on the id counter, the display names and the value of `inputs` (closed), at the same fuel
    and call depth, gives the same outcome and the same final state except for the environment,
    which is each caller's own.  Nothing is assumed of the two callers' environments: they may
    rebind the captured names, the parameter names, the function's own name, to any values
    (closed or not), in any number of frames.  Covers every way the body can run other
    functions: calls of parameters / captured / created functions, recursion through the self
    name, `via` / `into` / `where`, `map` / `filter` / `reduce` / `every` / `some` / `sort_by` /
    `group_by` / `count_by`; nested function creation; assignments and do-blocks in the body.
    (`this` is the value bound to the function's own name: the evaluator always passes `fv`.)
    Equal id counters are required because results may contain newly created function values,
    whose ids are drawn from the counter. -/
theorem call_site_independent (ops : NumOps) (fuel : Nat) (fv this : Value) (args : List Value) (depth : Nat)
    (s s' : ES) (hid : s.nextId = s'.nextId) (hnames : s.names = s'.names)
    (hin : envGet s.env "inputs" = envGet s'.env "inputs")
    (hinC : ∀ v, envGet s.env "inputs" = some v → ClosedV s.names v)
    (hf : ClosedV s.names fv) (ht : ClosedV s.names this) (ha : ClosedL s.names args) :
    callFn ops fuel fv this args depth s' =
      ((callFn ops fuel fv this args depth s).1,
       { (callFn ops fuel fv this args depth s).2 with env := s'.env }) :=
  callFn_site_independent ops fuel fv this args depth s s' hid hnames hin hinC hf ht ha

theorem call_site_independent_outcome (ops : NumOps) (fuel : Nat) (fv this : Value) (args : List Value)
    (depth : Nat) (s s' : ES) (hid : s.nextId = s'.nextId) (hnames : s.names = s'.names)
    (hin : envGet s.env "inputs" = envGet s'.env "inputs")
    (hinC : ∀ v, envGet s.env "inputs" = some v → ClosedV s.names v)
    (hf : ClosedV s.names fv) (ht : ClosedV s.names this) (ha : ClosedL s.names args) :
    (callFn ops fuel fv this args depth s).1 = (callFn ops fuel fv this args depth s').1 := by
  rw [callFn_site_independent ops fuel fv this args depth s s' hid hnames hin hinC hf ht ha]

/-- "a function all of whose free names were bound at definition" is closed: evaluating
    `(ps) => body` (no nested `output`) in an environment of closed values gives a closed function value —
    w.r.t. any later display names `N'` — when each free name of the body that is not a
    parameter is bound at that moment, is `inputs`, or is the display name the function gets
    (recursion: `f = (n) => … f(n - 1) …`) -/
theorem created_function_is_closed (ops : NumOps) (fuel depth : Nat) (ps : List LArg) (body : Expr) (s s1 : ES)
    (v : Value) (N' : List (Nat × String)) (hN : NamesLe s.names N') (hw : noOutput body = true)
    (hE : ClosedE s.names s.env)
    (hfree : ∀ x, FreeIn x body → x ∉ ps.map LArg.name →
      x = "inputs" ∨ (envGet s.env x).isSome ∨ nameOf N' s.nextId = some x)
    (h : eval ops fuel depth (.lambda ps body) s = (.ok v, s1)) : ClosedV N' v :=
  created_closed ops fuel depth ps body s s1 v N' hN hw hE hfree h

/-- the coincidence lemma behind `call_site_independent`, for one expression; `InTop n`: bound in
    the first `n` frames -/
theorem coincidence_closed (ops : NumOps) (fuel depth : Nat) (e : Expr) (n : Nat) (tl' : List Frame) (s : ES)
    (hd : 0 < depth) (hn : 0 < n) (hk : n ≤ s.env.length) (hin : Agree n tl' s.env "inputs")
    (hE : ClosedE s.names s.env) (hw : noOutput e = true)
    (hF : ∀ x, FreeIn x e → x = "inputs" ∨ InTop n s.env x) :
    eval ops fuel depth e (retail n tl' s) =
        ((eval ops fuel depth e s).1, retail n tl' (eval ops fuel depth e s).2) ∧
      NamesLe s.names (eval ops fuel depth e s).2.names ∧
      ClosedE (eval ops fuel depth e s).2.names (eval ops fuel depth e s).2.env ∧
      ∀ v, (eval ops fuel depth e s).1 = .ok v → ClosedV (eval ops fuel depth e s).2.names v := by
  obtain ⟨h1, h2⟩ := (coin ops tl' fuel).eval depth e n s hd hn ⟨hk, hin, hE⟩ hw hF
  exact ⟨h1, h2.names, h2.cl, h2.val⟩

/-- `ClosedFn` can be checked by computation: the free names are the list `freeVars [] body` -/
theorem closedFn_checkable (names : List (Nat × String)) (id : Nat) (ps : List LArg) (body : Expr) (scope : Frame)
    (hno : noOutput body = true)
    (hall : ∀ x ∈ freeVars [] body, x ∈ ps.map LArg.name ∨ (lookupAL x scope).isSome ∨ nameOf names id = some x ∨
      x = "inputs") : ClosedFn names id ps body scope :=
  closedFn_of_freeVars hno hall

/-- The literal statement is false: `f = (a) => g(a)` captured `g = (x) => y`, whose `y` was not
    bound when `g` was created (late binding).  Every free name of `f` (`a`, `g`) was bound at
    its definition, yet `f(null)` fails with "unknown identifier" where the caller does not bind
    `y` and returns the caller's `y` where it does.  Blots source:
      g = (x) => y ; f = (a) => g(a) ; f(null) --> error ; h = (y) => f(null) ; h(true) --> true -/
theorem call_site_independent_statement_false : ¬ call_site_independent_statement := by
  intro h
  have h1 := h toyOps 20 1 [.req "a"] (.call (.ident "g") [.ident "a"]) [("g", C04Ex.lateG)] C04Ex.lateF [.null] 0
    root0 { root0 with env := [[("y", .bool true)]] } rfl rfl rfl
    (closedFn_of_freeVars (by decide) (by decide))
  have e1 : (callFn toyOps 20 C04Ex.lateF C04Ex.lateF [.null] 0 root0).1 = .err .unknownIdent := by
    simp +decide [C04Ex.lateF, C04Ex.lateG, callFn, eval, evalItems, evalList, it, checkArity, lambdaArity,
      Gen.Arity.canAccept, MAX_DEPTH, nameOf, bindParams, bindParams.go, root0, envGet, lookupAL, insertAL,
      flattenSpreads, Value.isCallable]
  have e2 : (callFn toyOps 20 C04Ex.lateF C04Ex.lateF [.null] 0 { root0 with env := [[("y", .bool true)]] }).1 =
      .ok (.bool true) := by
    simp +decide [C04Ex.lateF, C04Ex.lateG, callFn, eval, evalItems, evalList, it, checkArity, lambdaArity,
      Gen.Arity.canAccept, MAX_DEPTH, nameOf, bindParams, bindParams.go, root0, envGet, lookupAL, insertAL,
      flattenSpreads, Value.isCallable]
  rw [show (Value.lambda 1 [.req "a"] (.call (.ident "g") [.ident "a"]) [("g", C04Ex.lateG)]) = C04Ex.lateF from rfl,
    e1, e2] at h1
  cases h1

/-- hypotheses of `call_site_independent`: `f = (a) => [g(a), y, map([a], g)]` which captured
    `y ↦ true` and `g = (t) => [t, y]` (which captured `y ↦ 1`) is hereditarily closed; the two
    callers below rebind `y`, `g`, `a` -/
example : ClosedV [] C04Ex.exF ∧ ClosedV [] C04Ex.exG ∧ ClosedL [] [Value.str "arg"] :=
  ⟨C04Ex.exF_closed, C04Ex.exG_closed, by simp [ClosedL]⟩

/-- the conclusion, computed: from a caller that binds `y`, `g`, `a` to other things in one
    frame, and from one that binds `g`, `a` and `y` in two frames, `f("arg")` is
    `[["arg", 1], true, [["arg", 1]]]` -/
example :
    (callFn toyOps 20 C04Ex.exF C04Ex.exF [.str "arg"] 0
      { root0 with env := [[("y", .null), ("g", .null), ("a", .null)]] }).1 =
      .ok (.list [.list [.str "arg", .num F64.one], .bool true, .list [.list [.str "arg", .num F64.one]]]) ∧
    (callFn toyOps 20 C04Ex.exF C04Ex.exF [.str "arg"] 0
      { root0 with env := [[("g", .bool false), ("a", .num F64.one)], [("y", .str "caller")]] }).1 =
      .ok (.list [.list [.str "arg", .num F64.one], .bool true, .list [.list [.str "arg", .num F64.one]]]) := by
  constructor <;>
  simp +decide [C04Ex.exF, C04Ex.exG, C04Ex.exBody, callFn, callHof, mapCalls, eval, evalItems, evalList, it,
    checkArity, lambdaArity, Gen.Arity.canAccept, MAX_DEPTH, nameOf, bindParams, bindParams.go, root0, envGet,
    lookupAL, insertAL, flattenSpreads, Value.isCallable, C04Ex.map_arity, isHof, arityOf]

/-- `call_site_independent_outcome` applied to these two callers -/
example :
    (callFn toyOps 20 C04Ex.exF C04Ex.exF [.str "arg"] 0
      { root0 with env := [[("y", .null), ("g", .null), ("a", .null)]] }).1 =
    (callFn toyOps 20 C04Ex.exF C04Ex.exF [.str "arg"] 0
      { root0 with env := [[("g", .bool false), ("a", .num F64.one)], [("y", .str "caller")]] }).1 :=
  call_site_independent_outcome toyOps 20 C04Ex.exF C04Ex.exF [.str "arg"] 0 _ _ rfl rfl
    (by simp +decide [root0, envGet, lookupAL])
    (by intro v h; simp +decide [root0, envGet, lookupAL] at h) C04Ex.exF_closed C04Ex.exF_closed
    (by simp [ClosedL])

/-- A free name spelled like a built-in is captured like any other (fix c2468c3).  A plain identifier
    `sqrt` parses as the built-in, but the record shorthand `{sqrt}` reads the variable `sqrt`,
    and `collect_free_variables` lists it; a capture loop that skips every name spelled like a
    built-in creates the inner function without its bound free name, which it then reads from
    the caller.  Blots source:
      F = () => (((sqrt) => (() => {sqrt}))(1))()      -- F has no free names at all
      F() --> {sqrt: 1} ;  G = (sqrt) => F() ; G(5) --> {sqrt: 1}   (not {sqrt: 5})
      mk = (sqrt) => (() => {sqrt}) ; g = mk(1) ; g() --> {sqrt: 1}
    Both call sites give `{sqrt: 1}`, and `F` satisfies the hypotheses of
    `call_site_independent`, which has no condition on how names are spelled. -/
example :
    ClosedV [] C04Ex.d3F ∧
    (callFn toyOps 20 C04Ex.d3F C04Ex.d3F [] 0 root0).1 = .ok (.record [("sqrt", .num F64.one)]) ∧
    (callFn toyOps 20 C04Ex.d3F C04Ex.d3F [] 0 { root0 with env := [[("sqrt", .bool true)]] }).1 =
      .ok (.record [("sqrt", .num F64.one)]) := by
  refine ⟨?_, ?_, ?_⟩
  · rw [C04Ex.d3F, closedV_lambda]
    exact ⟨closedFn_of_freeVars (by decide) (by decide), by decide, by simp⟩
  all_goals
    simp +decide [C04Ex.d3F, C04Ex.d3Body, callFn, eval, evalItems, evalList, evalEntries, it, checkArity,
      lambdaArity, Gen.Arity.canAccept, MAX_DEPTH, nameOf, bindParams, bindParams.go, root0, envGet, lookupAL,
      insertAL, flattenSpreads, Value.isCallable, freeVars, freeVarsEntries, freeVarsEntry, freeVarsKey,
      captureScope, LArg.name]

/-- hypotheses of `created_function_is_closed` and `coincidence_closed` are satisfiable:
    `(a) => a + y` created where `y ↦ 1`; `y` at depth 1 with `y` in the first frame -/
example : noOutput (.bin .add (.ident "a") (.ident "y")) = true ∧
    ClosedE [] [[("y", Value.num F64.one)]] ∧ InTop 1 [[("y", Value.num F64.one)], []] "y" ∧
    Agree 1 [[("inputs", Value.null)]] [[("y", Value.num F64.one)], [("inputs", Value.null)]] "inputs" := by
  refine ⟨by decide, ?_, by simp +decide [InTop, envGet, lookupAL],
    by simp +decide [Agree, retailE, envGet, lookupAL]⟩
  intro f hf
  simp only [List.mem_singleton] at hf
  subst hf
  simp [ClosedR]

end Blots.C04
