import Blots.Lemmas.BuiltinLaws
/-
  C14 — Indexing, spreading and the list / string / record built-ins satisfy their laws.

  Statements about `callPure ops name args` (the built-ins without callbacks), `callHof`
  (sort_by / group_by / count_by), `eval` (indexing, field access, list literals with
  spreads) and the helper functions they are made of.  All theorems hold for every
  `ops : NumOps`; helper lemmas live in `Blots/Lemmas/BuiltinLaws.lean`.

  * sort / sort_by: a permutation of the input for every input (`sort_perm`,
    `mergeSortBy_perm` — no assumption on the comparison, so nothing is lost or invented on
    incomparable mixes); non-decreasing and stable whenever the elements (keys) are mutually
    comparable; under that hypothesis the result is the textbook stable insertion sort.
  * indexing: `indexOf` + `listGetD`; spreading: `spreadValues` / `flattenSpreads`.
-/
namespace Blots.C14

/-- `mergeSortBy` models `stable_sort_by` (functions.rs, fix a205b5c); nothing is assumed of `lt`
    or of the fuel -/
theorem mergeSortBy_perm {α} (lt : α → α → Bool) (n : Nat) (xs : List α) :
    (mergeSortBy lt n xs).Perm xs := Blots.mergeSortBy_perm lt n xs

theorem mergeBy_perm {α} (lt : α → α → Bool) (l r : List α) : (mergeBy lt l r).Perm (l ++ r) :=
  Blots.mergeBy_perm lt l r

theorem mergeSortBy_sorted {α} (lt : α → α → Bool) (P : α → Prop) (h : WeakOrderOn lt P)
    (n : Nat) (xs : List α) (hn : xs.length ≤ n) (hP : ∀ x ∈ xs, P x) :
    (mergeSortBy lt n xs).Pairwise (fun a b => lt b a = false) :=
  Blots.mergeSortBy_sorted h n xs hn hP

/-- stability: every class `p` of mutually non-smaller elements keeps its relative order -/
theorem mergeSortBy_stable {α} (lt : α → α → Bool) (P : α → Prop) (h : WeakOrderOn lt P)
    (p : α → Bool) (hp : ∀ x y, p x = true → p y = true → lt x y = false)
    (n : Nat) (xs : List α) (hn : xs.length ≤ n) (hP : ∀ x ∈ xs, P x) :
    (mergeSortBy lt n xs).filter p = xs.filter p :=
  Blots.mergeSortBy_stable h p hp n xs hn hP

/-- `stableRef`: insertion from the right, each element placed before the first one that is not
    strictly smaller -/
theorem mergeSortBy_eq_stableRef {α} (lt : α → α → Bool) (P : α → Prop) (h : WeakOrderOn lt P)
    (n : Nat) (xs : List α) (hn : xs.length ≤ n) (hP : ∀ x ∈ xs, P x) :
    mergeSortBy lt n xs = stableRef lt xs :=
  Blots.mergeSortBy_eq_stableRef h n xs hn hP

/-- the hypotheses are met by `sortLt` on comparable values -/
example : WeakOrderOn sortLt (fun v => v ∈ [Value.num int2, .num int1, .num int3]) :=
  sortLt_weakOrder _ (by
    intro a ha b hb
    simp only [List.mem_cons, List.not_mem_nil, or_false] at ha hb
    rcases ha with rfl | rfl | rfl <;> rcases hb with rfl | rfl | rfl <;>
      simp only [vcmp, ne_eq] <;> decide +kernel)

theorem sort_builtin (ops : NumOps) (l : List Value) :
    callPure ops "sort" [.list l] = some (.ok (.list (mergeSortBy sortLt l.length l))) :=
  callPure_sort ops _

theorem sort_non_list (ops : NumOps) (v : Value) (h : ∀ l, v ≠ .list l) :
    callPure ops "sort" [v] = some (.err .type_) := by
  rw [callPure_sort]
  cases v <;> first | rfl | exact absurd rfl (h _)

theorem sort_perm (ops : NumOps) (l : List Value) :
    ∃ out, callPure ops "sort" [.list l] = some (.ok (.list out)) ∧ out.Perm l :=
  ⟨_, sort_builtin ops l, Blots.mergeSortBy_perm _ _ _⟩

theorem sort_sorted (ops : NumOps) (l : List Value) (hc : Comparable l) :
    ∃ out, callPure ops "sort" [.list l] = some (.ok (.list out)) ∧
      out.Pairwise (fun a b => vcmp a b = some .lt ∨ vcmp a b = some .eq) :=
  ⟨_, sort_builtin ops l, sort_sorted_vcmp l hc⟩

theorem sort_stable (ops : NumOps) (l : List Value) (hc : Comparable l) (v : Value) :
    ∃ out, callPure ops "sort" [.list l] = some (.ok (.list out)) ∧
      out.filter (fun x => vcmp x v == some .eq) = l.filter (fun x => vcmp x v == some .eq) :=
  ⟨_, sort_builtin ops l, Blots.sort_stable l hc v⟩

theorem sort_is_reference_sort (ops : NumOps) (l : List Value) (hc : Comparable l) :
    callPure ops "sort" [.list l] = some (.ok (.list (stableRef sortLt l))) := by
  rw [sort_builtin, Blots.mergeSortBy_eq_stableRef (sortLt_weakOrder l hc) _ _ (Nat.le_refl _) (fun _ h => h)]

theorem sort_fixes_sorted (ops : NumOps) (l : List Value) (hc : Comparable l)
    (hs : l.Pairwise (fun a b => vcmp a b = some .lt ∨ vcmp a b = some .eq)) :
    callPure ops "sort" [.list l] = some (.ok (.list l)) := by
  rw [sort_is_reference_sort ops l hc, stableRef_of_sorted]
  refine List.Pairwise.imp ?_ hs
  intro a b h
  rcases h with h | h
  · simp [sortLt, vcmp_lt_gt h]
  · simp [sortLt, vcmp_eq_symm h]

theorem sort_idempotent (ops : NumOps) (l : List Value) (hc : Comparable l) :
    ∃ out, callPure ops "sort" [.list l] = some (.ok (.list out)) ∧
      callPure ops "sort" [.list out] = some (.ok (.list out)) := by
  refine ⟨_, sort_builtin ops l, ?_⟩
  have hmem := mem_mergeSortBy sortLt l.length l
  apply sort_fixes_sorted
  · intro a ha b hb
    exact hc a ((hmem a).mp ha) b ((hmem b).mp hb)
  · exact sort_sorted_vcmp l hc

/-- `Comparable` holds e.g. for numbers without NaN; a string next to a number breaks it -/
example : Comparable [.num int2, .num int1] := by
  intro a ha b hb
  simp only [List.mem_cons, List.not_mem_nil, or_false] at ha hb
  rcases ha with rfl | rfl <;> rcases hb with rfl | rfl <;> simp only [vcmp, ne_eq] <;> decide +kernel

example : callPure intOps "sort" [.list [.num int2, .str "a", .num int1]] =
    some (.ok (.list [.num int2, .str "a", .num int1])) := by
  -- (2 and 1 are never compared with each other: the string between them is "equal" to both)
  rw [sort_builtin]
  simp [mergeSortBy, mergeBy, sortLt, vcmp]

/-- the `fuel` outcome is a model artefact: a key call ran out of model fuel -/
theorem sort_by_builtin (ops : NumOps) (fuel : Nat) (l : List Value) (f : Value) (depth : Nat) (s : ES) :
    callHof ops (fuel + 1) "sort_by" [.list l, f] depth s =
      if !f.isCallable then (.ok (.list l), s)
      else if anyKeyFuel (keyCalls ops fuel f l (depth + 1) s).1 then
        (.fuel, (keyCalls ops fuel f l (depth + 1) s).2)
      else
        (.ok (.list ((mergeSortBy sortByLt (keyCalls ops fuel f l (depth + 1) s).1.length
            (keyCalls ops fuel f l (depth + 1) s).1).map (·.1))),
          (keyCalls ops fuel f l (depth + 1) s).2) := callHof_sort_by ops fuel l f depth s

theorem sort_by_perm (ops : NumOps) (fuel : Nat) (l : List Value) (f : Value) (depth : Nat) (s : ES) :
    ∃ s1, callHof ops (fuel + 1) "sort_by" [.list l, f] depth s = (.fuel, s1) ∨
      ∃ out, callHof ops (fuel + 1) "sort_by" [.list l, f] depth s = (.ok (.list out), s1) ∧
        out.Perm l := by
  rw [sort_by_builtin]
  cases f.isCallable with
  | false => exact ⟨s, Or.inr ⟨l, rfl, List.Perm.refl _⟩⟩
  | true =>
    cases hf : anyKeyFuel (keyCalls ops fuel f l (depth + 1) s).1 with
    | true => exact ⟨_, Or.inl rfl⟩
    | false =>
      refine ⟨_, Or.inr ⟨_, rfl, ?_⟩⟩
      have h := (Blots.mergeSortBy_perm sortByLt (keyCalls ops fuel f l (depth + 1) s).1.length
        (keyCalls ops fuel f l (depth + 1) s).1).map (·.1)
      rw [keyCalls_fst] at h
      exact h

theorem sort_by_sorted_stable (ops : NumOps) (fuel : Nat) (l : List Value) (f : Value) (depth : Nat)
    (s : ES) (hf : f.isCallable = true)
    (hok : KeysOk (keyCalls ops fuel f l (depth + 1) s).1)
    (hc : Comparable ((keyCalls ops fuel f l (depth + 1) s).1.map keyOf)) :
    ∃ sorted s1, callHof ops (fuel + 1) "sort_by" [.list l, f] depth s =
        (.ok (.list (sorted.map (·.1))), s1) ∧
      sorted.Perm (keyCalls ops fuel f l (depth + 1) s).1 ∧
      sorted.Pairwise (fun a b => sortLt (keyOf b) (keyOf a) = false) ∧
      sorted = stableRef sortByLt (keyCalls ops fuel f l (depth + 1) s).1 := by
  rw [sort_by_builtin, hf, anyKeyFuel_of_keysOk _ hok]
  have hw := sortByLt_weakOrder _ hok hc
  refine ⟨_, _, rfl, Blots.mergeSortBy_perm _ _ _, ?_,
    Blots.mergeSortBy_eq_stableRef hw _ _ (Nat.le_refl _) (fun _ h => h)⟩
  have hs := Blots.mergeSortBy_sorted hw _ _ (Nat.le_refl _) (fun _ h => h)
  have hmem := mem_mergeSortBy sortByLt (keyCalls ops fuel f l (depth + 1) s).1.length
    (keyCalls ops fuel f l (depth + 1) s).1
  refine List.Pairwise.imp_of_mem ?_ hs
  intro a b ha hb hba
  rw [← sortByLt_eq b a (hok b ((hmem b).mp hb)) (hok a ((hmem a).mp ha))]
  exact hba

theorem unique_builtin (ops : NumOps) (l : List Value) :
    callPure ops "unique" [.list l] = some (.ok (.list (uniqueBy l))) := callPure_unique ops _

theorem unique_sublist (l : List Value) : (uniqueBy l).Sublist l := by
  have := uniqFold_sublist l []
  simpa [uniqueBy_eq] using this

/-- an element that is not `.==` to itself (NaN, functions) is kept -/
theorem unique_covers (l : List Value) (x : Value) (hx : x ∈ l) :
    x ∈ uniqueBy l ∨ ∃ y ∈ uniqueBy l, veq x y = true := uniqFold_covers l [] x hx

theorem unique_no_two_equal (l : List Value) :
    (uniqueBy l).Pairwise (fun a b => veq b a = false) := uniqFold_pairwise l [] List.Pairwise.nil

theorem unique_first_of_class (l : List Value) (y : Value) (hy : y ∈ uniqueBy l) (hd : isData y = true) :
    ∃ pre post, l = pre ++ y :: post ∧ ∀ z ∈ pre, veq y z = false := by
  rcases uniqFold_first l [] y hy with h | ⟨pre, post, hl, hany⟩
  · cases h
  · refine ⟨pre, post, hl, ?_⟩
    intro z hz
    cases hyz : veq y z with
    | false => rfl
    | true =>
      have hnone : ∀ w ∈ pre.foldl uniqStep [], veq y w = false := by
        intro w hw
        cases hv : veq y w with
        | false => rfl
        | true =>
          have := List.any_eq_true.mpr ⟨w, hw, hv⟩
          rw [hany] at this; cases this
      rcases uniqFold_covers pre [] z hz with hz' | ⟨w, hw, hzw⟩
      · rw [hnone z hz'] at hyz; cases hyz
      · have := veq_trans y z w hd hyz hzw
        rw [hnone w hw] at this; cases this

example : uniqueBy [.num int1, .str "a", .num int1, .str "a", .null] = [.num int1, .str "a", .null] := by
  rfl

theorem reverse_builtin (ops : NumOps) (l : List Value) :
    callPure ops "reverse" [.list l] = some (.ok (.list l.reverse)) := callPure_reverse ops _

theorem reverse_involution (ops : NumOps) (l r : List Value)
    (h : callPure ops "reverse" [.list l] = some (.ok (.list r))) :
    callPure ops "reverse" [.list r] = some (.ok (.list l)) := by
  cases (reverse_builtin ops l).symm.trans h
  rw [reverse_builtin, List.reverse_reverse]

theorem chunk_builtin (ops : NumOps) (l : List Value) (n : F64) :
    callPure ops "chunk" [.list l, .num n] =
      some (if n.toU64 == 0 then .err .domain else .ok (.list (chunkList n.toU64 (l.length + 1) l))) :=
  callPure_chunk ops _ _

theorem flatten_builtin (ops : NumOps) (l : List Value) :
    callPure ops "flatten" [.list l] = some (.ok (.list (l.flatMap flattenOne))) :=
  callPure_flatten ops _

theorem flatten_chunk (ops : NumOps) (l : List Value) (n : F64) (hn : n.toU64 ≠ 0) :
    ∃ cs, callPure ops "chunk" [.list l, .num n] = some (.ok (.list cs)) ∧
      callPure ops "flatten" [.list cs] = some (.ok (.list l)) := by
  refine ⟨chunkList n.toU64 (l.length + 1) l, ?_, ?_⟩
  · rw [chunk_builtin]; simp [hn]
  · rw [flatten_builtin, chunkList_flatten n.toU64 (by omega) _ _ (by omega)]

theorem chunk_contents (ops : NumOps) (l : List Value) (n : F64) (hn : n.toU64 ≠ 0) :
    ∃ cs, callPure ops "chunk" [.list l, .num n] = some (.ok (.list cs)) ∧
      (∀ c ∈ cs, ∃ xs, c = .list xs ∧ 0 < xs.length ∧ xs.length ≤ n.toU64) ∧
      (∀ i, i * n.toU64 < l.length → cs[i]? = some (.list ((l.drop (i * n.toU64)).take n.toU64))) := by
  refine ⟨chunkList n.toU64 (l.length + 1) l, ?_, ?_, ?_⟩
  · rw [chunk_builtin]; simp [hn]
  · exact chunkList_sizes _ (by omega) _ _
  · intro i hi; exact chunkList_getElem? _ (by omega) _ _ _ (by omega) hi

theorem chunk_zero_is_error (ops : NumOps) (l : List Value) (n : F64) (hn : n.toU64 = 0) :
    callPure ops "chunk" [.list l, .num n] = some (.err .domain) := by
  rw [chunk_builtin]; simp [hn]

example : int2.toU64 ≠ 0 := by decide +kernel

theorem head_list (ops : NumOps) (l : List Value) :
    callPure ops "head" [.list l] = some (.ok (l.headD .null)) := callPure_head ops _
theorem tail_list (ops : NumOps) (l : List Value) :
    callPure ops "tail" [.list l] = some (.ok (.list (l.drop 1))) := callPure_tail ops _
theorem head_str (ops : NumOps) (s : String) :
    callPure ops "head" [.str s] = some (.ok (.str (strOfChars ((chars s).take 1)))) := callPure_head ops _
theorem tail_str (ops : NumOps) (s : String) :
    callPure ops "tail" [.str s] = some (.ok (.str (strOfChars ((chars s).drop 1)))) := callPure_tail ops _

theorem head_tail_rebuild (ops : NumOps) (l : List Value) (hne : l ≠ []) :
    ∃ h t, callPure ops "head" [.list l] = some (.ok h) ∧
      callPure ops "tail" [.list l] = some (.ok (.list t)) ∧ h :: t = l := by
  cases l with
  | nil => exact absurd rfl hne
  | cons a r => exact ⟨a, r, head_list ops _, tail_list ops _, rfl⟩

theorem head_tail_rebuild_str (ops : NumOps) (s : String) :
    ∃ h t, callPure ops "head" [.str s] = some (.ok (.str h)) ∧
      callPure ops "tail" [.str s] = some (.ok (.str t)) ∧ h ++ t = s ∧
      h.toList = s.toList.take 1 ∧ t.toList = s.toList.drop 1 := by
  refine ⟨_, _, head_str ops s, tail_str ops s, ?_, ?_, ?_⟩
  · simp only [strOfChars, chars]
    rw [← String.ofList_append, List.take_append_drop, String.ofList_toList]
  · simp [strOfChars, chars]
  · simp [strOfChars, chars]

theorem head_tail_empty (ops : NumOps) :
    callPure ops "head" [.list []] = some (.ok .null) ∧
    callPure ops "tail" [.list []] = some (.ok (.list [])) ∧
    callPure ops "head" [.str ""] = some (.ok (.str "")) ∧
    callPure ops "tail" [.str ""] = some (.ok (.str "")) :=
  ⟨head_list ops [], tail_list ops [], head_str ops "", tail_str ops ""⟩

theorem range_exact (ops : NumOps) (a b : F64) :
    callPure ops "range" [.num a, .num b] = some (
      if F64.flt b a then .err .domain
      else if !a.isFinite || !b.isFinite then .err .domain
      else if b.toI64 - a.toI64 > u32Max ∨ b.toI64 - a.toI64 < -(2 ^ 63) then .err .domain
      else .ok (.list ((List.range (b.toI64 - a.toI64).toNat).map fun i =>
        .num (F64.ofInt (a.toI64 + Int.ofNat i))))) := by
  rw [callPure_range, ← rangeOf_exact]; rfl

theorem range_spec (ops : NumOps) (a b : F64) (hab : F64.flt b a = false)
    (ha : a.isFinite = true) (hb : b.isFinite = true)
    (hle : a.toI64 ≤ b.toI64) (hlen : b.toI64 - a.toI64 ≤ u32Max) :
    ∃ out, callPure ops "range" [.num a, .num b] = some (.ok (.list out)) ∧
      out.length = (b.toI64 - a.toI64).toNat ∧
      ∀ i, i < (b.toI64 - a.toI64).toNat → out[i]? = some (.num (F64.ofInt (a.toI64 + Int.ofNat i))) := by
  refine ⟨(List.range (b.toI64 - a.toI64).toNat).map fun i =>
    .num (F64.ofInt (a.toI64 + Int.ofNat i)), ?_, ?_, ?_⟩
  · rw [range_exact]
    have h3 : ¬ (b.toI64 - a.toI64 > u32Max ∨ b.toI64 - a.toI64 < -(2 ^ 63)) := by omega
    simp only [hab, ha, hb, h3]
    simp
  · simp
  · intro i hi
    simp [List.getElem?_map, List.getElem?_range hi]

theorem range_one_arg (ops : NumOps) (n : F64) :
    callPure ops "range" [.num n] = callPure ops "range" [.num F64.zero, .num n] := by
  rw [callPure_range, callPure_range]

theorem range_errors (ops : NumOps) (a b : F64) :
    (F64.flt b a = true → callPure ops "range" [.num a, .num b] = some (.err .domain)) ∧
    (a.isFinite = false ∨ b.isFinite = false → callPure ops "range" [.num a, .num b] = some (.err .domain)) ∧
    (b.toI64 - a.toI64 > u32Max → callPure ops "range" [.num a, .num b] = some (.err .domain)) := by
  refine ⟨?_, ?_, ?_⟩
  · intro h; rw [range_exact]; simp [h]
  · intro h; rw [range_exact]; rcases h with h | h <;> simp [h]
  · intro h; rw [range_exact]
    have : b.toI64 - a.toI64 > u32Max ∨ b.toI64 - a.toI64 < -(2 ^ 63) := Or.inl h
    simp only [this, if_true]
    congr 1
    split
    · rfl
    · split <;> rfl

theorem range_non_number (ops : NumOps) (v w : Value) (h : (∀ x, v ≠ .num x) ∨ (∀ x, w ≠ .num x)) :
    callPure ops "range" [v, w] = some (.err .type_) := by
  rw [callPure_range]
  rcases h with h | h
  · cases v <;> first | rfl | exact absurd rfl (h _)
  · cases v <;> cases w <;> first | rfl | exact absurd rfl (h _)

/-- hypotheses of `range_spec` on range(1, 3) -/
example : F64.flt int3 int1 = false ∧ int1.isFinite = true ∧ int3.isFinite = true ∧
    int1.toI64 = 1 ∧ int3.toI64 = 3 ∧ F64.ofInt 1 = int1 ∧ F64.ofInt 2 = int2 := by decide +kernel

theorem slice_list (ops : NumOps) (l : List Value) (a b : F64) :
    callPure ops "slice" [.list l, .num a, .num b] = some (
      if a.toU64 ≤ b.toU64 ∧ b.toU64 ≤ l.length then .ok (.list ((l.take b.toU64).drop a.toU64))
      else .err .domain) := by
  rw [callPure_slice]
  simp only [asNumber, Outcome.bind, Bool.and_eq_true, decide_eq_true_eq]

theorem slice_spec (ops : NumOps) (l : List Value) (a b : F64)
    (h1 : a.toU64 ≤ b.toU64) (h2 : b.toU64 ≤ l.length) :
    ∃ out, callPure ops "slice" [.list l, .num a, .num b] = some (.ok (.list out)) ∧
      out.length = b.toU64 - a.toU64 ∧
      ∀ k, k < b.toU64 - a.toU64 → out[k]? = l[a.toU64 + k]? := by
  refine ⟨(l.take b.toU64).drop a.toU64, ?_, ?_, ?_⟩
  · rw [slice_list]; simp [h1, h2]
  · simp [List.length_take]; omega
  · intro k hk
    rw [List.getElem?_drop, List.getElem?_take]
    simp; omega

example : int1.toU64 ≤ int3.toU64 ∧ int3.toU64 ≤ [Value.null, .null, .null].length := by
  decide +kernel

theorem concat_builtin (ops : NumOps) (args : List Value) :
    callPure ops "concat" args = some (.ok (.list (args.flatMap concatPiece))) :=
  callPure_concat ops args

theorem concat_spec (ops : NumOps) (ls : List (List Value)) :
    callPure ops "concat" (ls.map .list) = some (.ok (.list ls.flatten)) := by
  rw [concat_builtin]
  congr 3
  induction ls with
  | nil => rfl
  | cons a r ih => simp [concatPiece, ih]

theorem concat_two (ops : NumOps) (a b : List Value) :
    callPure ops "concat" [.list a, .list b] = some (.ok (.list (a ++ b))) := by
  rw [concat_builtin]; simp [concatPiece]

theorem concat_non_list (ops : NumOps) (a : List Value) (v : Value)
    (h1 : ∀ l, v ≠ .list l) (h2 : ∀ w, v ≠ .spread w) :
    callPure ops "concat" [.list a, v] = some (.ok (.list (a ++ [v]))) := by
  rw [concat_builtin]
  have : concatPiece v = [v] := by
    cases v <;> first | rfl | exact absurd rfl (h1 _) | exact absurd rfl (h2 _)
  rw [List.flatMap_cons, List.flatMap_cons, List.flatMap_nil, this]
  simp [concatPiece]

theorem zip_builtin (ops : NumOps) (ls : List (List Value)) :
    callPure ops "zip" (ls.map .list) =
      some (.ok (.list (zipRows ls (ls.foldl (fun m l => max m l.length) 0)))) := by
  rw [callPure_zip, mapM_lists _ (fun _ => rfl)]

theorem zip_spec (ops : NumOps) (ls : List (List Value)) :
    ∃ rows, callPure ops "zip" (ls.map .list) = some (.ok (.list rows)) ∧
      (∀ l ∈ ls, l.length ≤ rows.length) ∧
      (rows.length = 0 ∨ ∃ l ∈ ls, rows.length = l.length) ∧
      ∀ i, i < rows.length → rows[i]? = some (.list (ls.map fun l => (l[i]?).getD .null)) := by
  refine ⟨_, zip_builtin ops ls, ?_, ?_, ?_⟩
  · intro l hl; rw [zipRows_length]; exact (foldl_max_ge ls 0).2 l hl
  · rw [zipRows_length]; exact foldl_max_attained ls 0
  · intro i hi; rw [zipRows_length] at hi; exact zipRows_getElem? ls _ i hi

theorem zip_non_list (ops : NumOps) (a : List Value) (v : Value) (h : ∀ l, v ≠ .list l) :
    callPure ops "zip" [.list a, v] = some (.err .type_) := by
  rw [callPure_zip]
  cases v <;> first | exact absurd rfl (h _) | rfl

theorem keys_builtin (ops : NumOps) (r : List (String × Value)) :
    callPure ops "keys" [.record r] = some (.ok (.list (r.map fun kv => .str kv.1))) := callPure_keys ops _
theorem values_builtin (ops : NumOps) (r : List (String × Value)) :
    callPure ops "values" [.record r] = some (.ok (.list (r.map fun kv => kv.2))) := callPure_values ops _
theorem entries_builtin (ops : NumOps) (r : List (String × Value)) :
    callPure ops "entries" [.record r] = some (.ok (.list (r.map fun kv => .list [.str kv.1, kv.2]))) :=
  callPure_entries ops _

/-- `keysNodup` holds of every record of the interpreter (an `IndexMap`) -/
theorem keys_values_entries (ops : NumOps) (r : List (String × Value)) :
    ∃ ks vs es, callPure ops "keys" [.record r] = some (.ok (.list ks)) ∧
      callPure ops "values" [.record r] = some (.ok (.list vs)) ∧
      callPure ops "entries" [.record r] = some (.ok (.list es)) ∧
      ks.length = r.length ∧ vs.length = r.length ∧ es.length = r.length ∧
      (∀ (i : Nat) (k v : Value), ks[i]? = some k → vs[i]? = some v → es[i]? = some (.list [k, v])) ∧
      (keysNodup r = true → ∀ (i : Nat) (k : String) (v : Value),
        ks[i]? = some (.str k) → vs[i]? = some v → lookupAL k r = some v) ∧
      (∀ k : String, (∀ i : Nat, ks[i]? ≠ some (.str k)) → lookupAL k r = none) := by
  refine ⟨_, _, _, keys_builtin ops r, values_builtin ops r, entries_builtin ops r,
    by simp, by simp, by simp, ?_, ?_, ?_⟩
  · intro i k v hk hv
    simp only [List.getElem?_map] at hk hv ⊢
    cases hr : r[i]? with
    | none => simp [hr] at hk
    | some kv =>
      simp only [hr, Option.map_some, Option.some.injEq] at hk hv ⊢
      simp [← hk, ← hv]
  · intro hn i k v hk hv
    simp only [List.getElem?_map] at hk hv
    cases hr : r[i]? with
    | none => simp [hr] at hk
    | some kv =>
      simp only [hr, Option.map_some, Option.some.injEq, Value.str.injEq] at hk hv
      refine mem_lookupAL hn ?_
      have := List.mem_of_getElem? hr
      rw [← hk, ← hv]; exact this
  · intro k hk
    rw [lookupAL_eq_none_iff]
    intro hmem
    obtain ⟨kv, hkv, hfst⟩ := List.mem_map.mp hmem
    obtain ⟨i, hi⟩ := List.getElem?_of_mem hkv
    exact hk i (by simp [List.getElem?_map, hi, hfst])

theorem field_access (ops : NumOps) (fuel depth : Nat) (e i : Expr) (field : String) (s s1 s2 : ES)
    (r : List (String × Value)) (h : eval ops fuel depth e s = (.ok (.record r), s1))
    (hi : eval ops fuel depth i s1 = (.ok (.str field), s2)) :
    eval ops (fuel + 1) depth (.dot e field) s = (.ok ((lookupAL field r).getD .null), s1) ∧
    eval ops (fuel + 1) depth (.access e i) s = (.ok ((lookupAL field r).getD .null), s2) := by
  constructor
  · simp [eval, h]
  · simp [eval, h, hi]


/-- `ks` = the keys the callback returned, element by element -/
theorem group_by_builtin (ops : NumOps) (fuel : Nat) (l ks : List Value) (f : Value) (ar : Gen.Arity)
    (depth : Nat) (s s1 : ES) (har : arityOf f = some ar)
    (hk : mapCalls ops fuel f false l 0 (depth + 1) s = (.ok ks, s1)) :
    callHof ops (fuel + 1) "group_by" [.list l, f] depth s =
      (match groupByKeys l ks with
       | some r => .ok (.record r)
       | none => .err .type_, s1) := by
  rw [callHof_keyed (.inl ⟨rfl, rfl⟩), har]
  simp only [hk]
  cases groupByKeys l ks <;> rfl

theorem count_by_builtin (ops : NumOps) (fuel : Nat) (l ks : List Value) (f : Value) (ar : Gen.Arity)
    (depth : Nat) (s s1 : ES) (har : arityOf f = some ar)
    (hk : mapCalls ops fuel f false l 0 (depth + 1) s = (.ok ks, s1)) :
    callHof ops (fuel + 1) "count_by" [.list l, f] depth s =
      (match countByKeys ops ks with
       | some r => .ok (.record r)
       | none => .err .type_, s1) := by
  rw [callHof_keyed (.inr ⟨rfl, rfl⟩), har]
  simp only [hk]
  cases countByKeys ops ks <;> rfl

theorem group_by_partitions (l ks : List Value) (r : Frame) (h : groupByKeys l ks = some r) :
    (r.map Prod.fst).Nodup ∧
    ∀ k, lookupAL k r = (if groupOf k l ks = [] then none else some (.list (groupOf k l ks))) :=
  groupByKeys_spec l ks r h

theorem group_by_succeeds_iff (l ks : List Value) :
    (groupByKeys l ks).isSome = true ↔ (l.length = ks.length ∧ ∀ v ∈ ks, ∃ k, v = .str k) :=
  groupByKeys_isSome l ks

/-- the count is computed as 1 + 1 + … + 1 with `ops.add` (`countF`) -/
theorem count_by_counts (ops : NumOps) (ks : List Value) (r : Frame) (h : countByKeys ops ks = some r) :
    ∀ k, lookupAL k r = (if countOf k ks = 0 then none else some (.num (countF ops (countOf k ks)))) :=
  countByKeys_lookup ops ks r h

example : groupByKeys [.num int1, .num int2, .num int3] [.str "a", .str "b", .str "a"] =
    some [("a", .list [.num int1, .num int3]), ("b", .list [.num int2])] := by
  rfl

theorem index_list_eval (ops : NumOps) (fuel depth : Nat) (e i : Expr) (s s1 s2 : ES) (l : List Value)
    (x : F64) (h : eval ops fuel depth e s = (.ok (.list l), s1))
    (hi : eval ops fuel depth i s1 = (.ok (.num x), s2)) :
    eval ops (fuel + 1) depth (.access e i) s = (.ok (indexValue l x), s2) := by
  simp only [eval, h, hi, indexValue]
  cases indexOf l.length x <;> rfl

/-- the index is first truncated toward zero (`as i64`) -/
theorem index_spec (l : List Value) (x : F64) :
    (0 ≤ x.toI64 → ∀ (h : x.toI64.toNat < l.length), indexValue l x = l[x.toI64.toNat]) ∧
    (0 ≤ x.toI64 → l.length ≤ x.toI64.toNat → indexValue l x = .null) ∧
    (∀ (h0 : x.toI64 < 0) (h : (l.length : Int) + x.toI64 ≥ 0),
      indexValue l x = l[((l.length : Int) + x.toI64).toNat]'(by omega)) ∧
    ((l.length : Int) + x.toI64 < 0 → indexValue l x = .null) := by
  refine ⟨?_, ?_, ?_, ?_⟩
  · intro h0 h; simp [indexValue, indexOf_nonneg _ _ h0, listGetD_lt _ _ h]
  · intro h0 h; simp [indexValue, indexOf_nonneg _ _ h0, listGetD_ge _ _ h]
  · intro h0 h
    have hlt : ((l.length : Int) + x.toI64).toNat < l.length := by omega
    simp [indexValue, indexOf_neg_in _ _ h0 h, listGetD_lt _ _ hlt]
  · intro h; simp [indexValue, indexOf_neg_out _ _ h]

theorem index_minus_one (l : List Value) (x : F64) (hx : x.toI64 = -1) (hne : l ≠ []) :
    indexValue l x = l.getLast hne := by
  have hpos : 0 < l.length := List.length_pos_iff.mpr hne
  have h := (index_spec l x).2.2.1 (by omega) (by omega)
  rw [h, List.getLast_eq_getElem]
  congr 1
  omega

/-- fractional indices truncate toward zero: 1.5 ↦ 1, -0.5 ↦ 0, -1.5 ↦ -1 -/
example : (F64.ofNatBits 0x3FF8000000000000).toI64 = 1 ∧ (F64.ofNatBits 0xBFE0000000000000).toI64 = 0 ∧
    (F64.ofNatBits 0xBFF8000000000000).toI64 = -1 := by decide +kernel

theorem index_str_eval (ops : NumOps) (fuel depth : Nat) (e i : Expr) (s s1 s2 : ES) (str : String)
    (x : F64) (h : eval ops fuel depth e s = (.ok (.str str), s1))
    (hi : eval ops fuel depth i s1 = (.ok (.num x), s2)) :
    eval ops (fuel + 1) depth (.access e i) s = (.ok (indexValue (spreadValues (.str str)) x), s2) := by
  simp only [eval, h, hi, indexValue, spreadValues, List.length_map]
  congr 2
  cases indexOf (chars str).length x with
  | none => rfl
  | some k =>
    simp only [listGetD, List.getElem?_map]
    cases (chars str)[k]? <;> rfl

/-- for every delimiter, also the empty one (where Rust's `split("")` yields "", every
    character, "") -/
theorem join_split_chars (d s : List Char) : d.intercalate (splitOnL d s) = s := by
  rw [intercalate_eq_joinL]; exact join_splitOnL d s

theorem join_split (ops : NumOps) (s d : String) :
    ∃ parts, callPure ops "split" [.str s, .str d] = some (.ok (.list parts)) ∧
      callPure ops "join" [.list parts, .str d] = some (.ok (.str s)) :=
  ⟨_, callPure_split ops _ _,
    (callPure_join ops _ _).trans
      (congrArg (fun r => some (Outcome.ok (Value.str r))) (join_split_strings ops s d))⟩

example : splitOnL ['-'] ['a', '-', 'b', '-'] = [['a'], ['b'], []] := by decide
example : splitOnL [] ['a', 'b'] = [[], ['a'], ['b'], []] := by decide

theorem spread_str (s : String) :
    spreadValues (.str s) = s.toList.map fun c => .str (String.singleton c) := rfl

/-- len / head / tail / slice of a string act on the very sequence of one-character strings that
    spreading (and indexing, `index_str_eval`) expose (the pinned tree counted bytes; fix 42657c2) -/
theorem string_functions_use_chars (ops : NumOps) (s : String) :
    callPure ops "len" [.str s] = some (.ok (.num (F64.ofNat (spreadValues (.str s)).length))) ∧
    (∃ h, callPure ops "head" [.str s] = some (.ok (.str h)) ∧
      spreadValues (.str h) = (spreadValues (.str s)).take 1) ∧
    (∃ t, callPure ops "tail" [.str s] = some (.ok (.str t)) ∧
      spreadValues (.str t) = (spreadValues (.str s)).drop 1) ∧
    (∀ a b : F64, a.toU64 ≤ b.toU64 → b.toU64 ≤ (spreadValues (.str s)).length →
      ∃ r, callPure ops "slice" [.str s, .num a, .num b] = some (.ok (.str r)) ∧
        spreadValues (.str r) = ((spreadValues (.str s)).take b.toU64).drop a.toU64) := by
  have hlen : (spreadValues (.str s)).length = (chars s).length := List.length_map _
  refine ⟨?_, ⟨_, head_str ops s, ?_⟩, ⟨_, tail_str ops s, ?_⟩, ?_⟩
  · rw [hlen]; exact callPure_len ops _
  · rw [spread_strOfChars]; exact List.map_take
  · rw [spread_strOfChars]; exact List.map_drop
  · intro a b h1 h2
    rw [hlen] at h2
    refine ⟨strOfChars (((chars s).take b.toU64).drop a.toU64), ?_, ?_⟩
    · rw [callPure_slice]; simp [asNumber, Outcome.bind, h1, h2]
    · rw [spread_strOfChars, List.map_drop, List.map_take]; rfl

theorem slice_str_out_of_range (ops : NumOps) (s : String) (a b : F64)
    (h : ¬ (a.toU64 ≤ b.toU64 ∧ b.toU64 ≤ s.toList.length)) :
    callPure ops "slice" [.str s, .num a, .num b] = some (.err .domain) := by
  rw [callPure_slice]
  have : decide (a.toU64 ≤ b.toU64 ∧ b.toU64 ≤ (chars s).length) = false := decide_eq_false h
  simp only [asNumber, Outcome.bind, ← Bool.decide_and, this]; rfl

theorem spread_values (l : List Value) (s : String) (r : List (String × Value)) :
    spreadValues (.list l) = l ∧
    spreadValues (.str s) = s.toList.map (fun c => .str (String.singleton c)) ∧
    spreadValues (.record r) = r.map (fun kv => .list [.str kv.1, kv.2]) := ⟨rfl, rfl, rfl⟩

theorem spread_record_eq_entries (ops : NumOps) (r : List (String × Value)) :
    callPure ops "entries" [.record r] = some (.ok (.list (spreadValues (.record r)))) :=
  callPure_entries ops _

theorem list_literal (ops : NumOps) (fuel depth : Nat) (items : List Item) (s s1 : ES) (vs : List Value)
    (h : evalItems ops fuel depth items s = (.ok vs, s1)) :
    eval ops (fuel + 1) depth (.list items) s = (.ok (.list (flattenSpreads vs)), s1) := by
  simp only [eval, h]

theorem spread_expr (ops : NumOps) (fuel depth : Nat) (e : Expr) (s s1 : ES) (l : List Value)
    (h : eval ops fuel depth e s = (.ok (.list l), s1)) :
    eval ops (fuel + 1) depth (.spread e) s = (.ok (.spread (.list l)), s1) := by
  simp only [eval, h]

theorem spread_eq_concat (ops : NumOps) (a b : List Value) :
    flattenSpreads [.spread (.list a), .spread (.list b)] = a ++ b ∧
    callPure ops "concat" [.list a, .list b] = some (.ok (.list (a ++ b))) := by
  refine ⟨flattenSpreads_two_lists a b, ?_⟩
  exact concat_two ops a b

theorem flattenSpreads_laws (xs ys : List Value) :
    flattenSpreads (xs ++ ys) = flattenSpreads xs ++ flattenSpreads ys ∧
    ((∀ v ∈ xs, ∀ w, v ≠ .spread w) → flattenSpreads xs = xs) :=
  ⟨flattenSpreads_append xs ys, flattenSpreads_plain xs⟩

/-- arguments of a call are flattened the same way: f(...a, ...b) receives a ++ b -/
example (a b : List Value) : flattenSpreads [.spread (.list a), .num int1, .spread (.list b)] =
    a ++ [.num int1] ++ b := by
  simp [flattenSpreads, spreadValues]



/-- `sort_by_sorted_stable`: keys computed and comparable -/
example : KeysOk [(Value.str "b", Outcome.ok (.num int2)), (.str "a", .ok (.num int1))] ∧
    Comparable ([(Value.str "b", Outcome.ok (.num int2)), (.str "a", .ok (.num int1))].map keyOf) := by
  refine ⟨?_, ?_⟩
  · intro kv hkv
    simp only [List.mem_cons, List.not_mem_nil, or_false] at hkv
    rcases hkv with rfl | rfl <;> exact ⟨_, rfl⟩
  · intro a ha b hb
    simp only [List.map_cons, List.map_nil, keyOf, List.mem_cons, List.not_mem_nil, or_false] at ha hb
    rcases ha with rfl | rfl <;> rcases hb with rfl | rfl <;> simp only [vcmp, ne_eq] <;> decide +kernel

/-- `unique_first_of_class`: a kept data value -/
example : Value.str "a" ∈ uniqueBy [.str "a", .null, .str "a"] ∧ isData (.str "a") = true := by
  refine ⟨?_, rfl⟩
  show _ ∈ [Value.str "a", .null]
  exact List.mem_cons_self

/-- `index_list_eval` / `list_literal` / `spread_expr`: the evaluator on `[1, 2][-1]` -/
example : eval intOps 5 0 (.access (.list [.mk [] (.num int1) none, .mk [] (.num int2) none])
      (.un .negate (.num int1))) default =
    (.ok (.num int2), default) := by
  have h : (int1.negate).toI64 = -1 := by decide +kernel
  simp [eval, evalItems, flattenSpreads, indexOf, h, listGetD]

/-- `field_access`: `{a: 1}.a` and a missing key -/
example : eval intOps 5 0 (.dot (.record [.mk [] (.static "a") (.num int1) none]) "a") default =
      (.ok (.num int1), default) ∧
    eval intOps 5 0 (.dot (.record [.mk [] (.static "a") (.num int1) none]) "b") default =
      (.ok .null, default) := by
  constructor <;> simp [eval, evalEntries, insertAL, lookupAL]

/-- `group_by_builtin` / `count_by_counts` -/
example : countByKeys intOps [.str "a", .str "b", .str "a"] =
    some [("a", .num (intOps.add F64.one F64.one)), ("b", .num F64.one)] := by
  rfl

example : keysNodup [("a", Value.null), ("b", .null)] = true := by decide


end Blots.C14
