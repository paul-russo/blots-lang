import Blots.Lemmas.Emit
import Blots.Lemmas.EmitParse
/-
  C05 — function outputs are portable: emitted source reloads to an equivalent function.

  The emitter (`exprSrc sc` = `expr_to_source_with_scope`, `svToSource` =
  `serializable_value_to_source`, `valueToSV` / `capturedToSV` = `SerializableValue::from_value`
  / `from_captured_value`) produces text.  Parts (A)–(E) are organised at the AST level
  (definitions and lemmas in `Lemmas/Emit.lean`) with an explicit, small interface to text:

    `pf : ParseFn`   (`parse_function_source`: text ↦ parameters and `expr_to_source` of the body)
    `pb : ParseBody` (text of a body ↦ its tree),

  and every use of the interface is a visible hypothesis of the form "the parser reads the
  printed form of this tree back to this tree" — the C07 / C10 parse-back property, validated
  on the real parser by the harness (`props/c05.rs`, `props/c07.rs`, `props/c10.rs`).  Part (F)
  puts the character-level model parser of C10 behind the interface and proves the hypotheses
  for a class of functions.

  Proved here, for all inputs (no bound):
   (A) `svToExpr` = the expression a literal denotes; `substExpr` = inlining at the AST level;
       `emit_is_substitution_partial`: the emitted text is the plain print of the substituted
       tree, for scopes whose literals carry no protective parentheses (`ScopeBare`); the
       unrestricted textual equality is false (`emit_is_substitution_statement_false`: the two
       texts differ by redundant parentheses for negative numbers, NaN, two-quote strings,
       functions).
   (B) every literal evaluates to the captured value, in every state
       (`literal_evaluates_to_value`): negative numbers incl. `-0.0`, `-inf` (bit-level),
       `+inf`, NaN (to whatever NaN `0/0` gives), strings with both quote kinds, nested lists
       and records (static and computed keys), built-in names.
   (C) scope bookkeeping: parameters and do-block locals are never inlined
       (`subst_respects_parameters`, `subst_respects_do_locals`; `examples` has a do-block whose
       second statement rebinds the captured name).
   (D) the substitution lemma (`subst_lemma_partial`) on the fragment `Emit.frag`, and the
       counterexample that shows why an assignment that is not a direct do-block statement
       must be excluded (`nested_assignment_breaks_reload` — a genuine defect of the emitter,
       confirmed on the real binary: `x = 5; f = () => [x = 1, x]`).
   (E) reload: structure of the reloaded function (`reload_structure`), `extend_lambda_body`
       (`extendLambdaBody_graft`), equivalence of calls (`reload_equiv_partial`), fixed point
       of re-emission (`re_emit_fixed_point`, `re_emit_same_text`).

   (F) end to end, no parser parameter (`Lemmas/EmitParse.lean`): the interface instantiated by
       the model parser (`pfModel` / `pbModel` over `ExprPeg.parseText`, the character-level PEG
       model of C10) and both interface equations proved for the class `Portable` — bodies
       inside both `Emit.frag` and the PEG fragment (`EmitParse.bodyOk`), literal captures whose
       text is in the PEG fragment, negative integers (emitted `(-n)`, redundant parentheses)
       included:
       `model_parser_meets_interface`, `emitted_text_parses_as_function`,
       `reload_equiv_fragment` (closed after capture) / `reload_equiv_fragment_open`.

  Not proved: the full statements `subst_lemma_statement` / `reload_equiv_statement` (bodies
  with calls, lambda expressions, `output`; captured closures): they need a logical relation
  between closures ("equal up to inlining of their captured scopes") instead of equality of
  values; and the character-level parse-back outside the class of (F): strings, records and
  do-blocks (in the PEG model, not in `bodyOk`), `#field`, non-integer numbers (not in the PEG
  model); there the interface hypotheses of (E) remain.
-/
namespace Blots.C05
open Blots.Emit Blots.PrintL

/-- `expr_to_source` is `expr_to_source_with_scope` with nothing to inline -/
theorem exprToSource_is_empty_scope (e : Expr) : exprToSource e = exprSrc [] e := rfl

theorem subst_empty_scope_ident (pb : String → Option Expr) (n : String) :
    substExpr pb [] (.ident n) = .ident n := rfl

/-- `bare`: no protective parentheses at any nesting level -/
theorem literal_text_is_printed_literal (pb : String → Option Expr) (v : SV) (h : bare v = true) :
    svToSource v = exprSrc [] (svToExpr pb v) := svToSource_bare pb v h

/-- the negative-number, NaN and two-quote literals are the parenthesised prints of what they
    denote (`(-a)`, `(a + b + …)`), NaN up to blanks (`(0/0)` against `0 / 0`) -/
theorem protected_literal_texts (pb : String → Option Expr) (x : F64) (s : String) :
    (x.isNaN = false → x.neg = true →
      svToSource (.num x) = "(" ++ exprSrc [] (svToExpr pb (.num x)) ++ ")") ∧
    (x.isNaN = true → svToSource (.num x) = "(0/0)" ∧
      svToExpr pb (.num x) = .bin .div (.num F64.zero) (.num F64.zero)) ∧
    (bothQuotes s = true →
      svToSource (.str s) = "(" ++ " + ".intercalate ((quotedPieces s.toList).map litOf) ++ ")" ∧
      svToExpr pb (.str s) = strChain (pieces s.toList)) := by
  refine ⟨fun h1 h2 => ?_, fun h => ?_, fun h => ?_⟩
  · have hnp := (atomHead_shape (.num x.negate) rfl).1 .prefix_
    simp [svToSource, svToExpr, numToExpr, h1, h2, exprSrc, unaryOpToSource, parenIf, hnp,
      String.append_assoc]
    rw [show ("(-" : String) = "(" ++ "-" by decide, String.append_assoc]
  · simp [svToSource, svToExpr, numToExpr, h]
  · simp only [bothQuotes, Bool.and_eq_true, List.contains_iff_mem] at h
    refine ⟨by simp only [svToSource]; exact stringToSource_both s h.1 h.2, ?_⟩
    simp [svToExpr, strToExpr, bothQuotes, h.1, h.2]

/-- For scopes of bare literals bound to identifier names `expr_to_source_with_scope(e, sc)` is
    character for character `expr_to_source(substExpr sc e)`.  This reduces "the emitted text parses back to …" to the
    parse-back of printed trees (C07 / C10). -/
theorem emit_is_substitution_partial (pb : String → Option Expr) (e : Expr) (sc : Scope)
    (h : ScopeBare sc) : exprSrc sc e = exprSrc [] (substExpr pb sc e) := emit_expr pb e sc h

/-- the unrestricted statement -/
def emit_is_substitution_statement : Prop :=
  ∀ (pb : String → Option Expr) (e : Expr) (sc : Scope), exprSrc sc e = exprSrc [] (substExpr pb sc e)

/-- … is false: a captured negative number is printed `(-a)` by the emitter and `-a` by the
    plain printer (harmless: both parse to the same tree; the side condition `ScopeBare` of the
    partial theorem is exactly "no protective parentheses") -/
theorem emit_is_substitution_statement_false : ¬ emit_is_substitution_statement := by
  intro h
  have := h (fun _ => none) (.ident "x") [("x", .num F64.negZero)]
  have hn : F64.negZero.isNaN = false := by decide +kernel
  have hs : F64.negZero.neg = true := by decide +kernel
  have hnp := (atomHead_shape (.num F64.negZero.negate) rfl).1 .prefix_
  simp only [exprSrc, substExpr, lookupAL, if_true, svToSource, svToExpr, numToExpr, hn, hs,
    Bool.false_eq_true, if_false, unaryOpToSource, parenIf, hnp] at this
  have h2 := congrArg (fun s => s.toList.head?) this
  simp at h2

/-- the text of an emitted function (`to_json`: `"(args) => " ++ body text`) is the print of
    the lambda expression over the substituted body, when the body is not a
    via / into / where chain (else the print has parentheses around the body that the emitted
    text lacks: see `extendLambdaBody_graft`) -/
theorem emitted_function_source_is_printed_lambda (pb : String → Option Expr) (args : List LArg)
    (body : Expr) (sc : Scope) (h : ScopeBare sc) (hb : lambdaBodyNeedsParens body = false) :
    lambdaSource args (exprSrc sc body) = exprSrc [] (.lambda args (substExpr pb sc body)) := by
  have hp := lbnp_subst pb body sc (h.litClosed pb)
  simp only [lambdaSource, exprSrc]
  rw [foldl_scopeRemove_nil, hp, hb, emit_expr pb body sc h]
  rfl

/-- bit level: for every pattern with the sign bit — negative numbers, `-0.0`, `-inf` (and
    negative NaNs) — the unary minus of the sign-cleared magnitude is the pattern itself, and
    the operand printed after the `-` has no sign bit (so it prints without a minus) -/
theorem negate_of_magnitude_is_identity (x : F64) (h : x.neg = true) :
    x.negate.negate = x ∧ x.negate.neg = false :=
  ⟨F64.negate_negate_of_neg x h, F64.negate_of_neg_not_neg x h⟩

/-- Literals evaluate to the captured value: for every function-free captured value `v`
    (numbers of every kind, strings, booleans, null, nested lists and records, built-in
    names), every state, depth and fuel ≥ `litFuel v` (a bound on the size of the literal):
    the expression its text denotes evaluates to `v` and leaves the state alone.  NaN: the
    literal is `0/0`, which evaluates to `ops.div 0 0` — `svToValueN q` is `v` with every NaN
    replaced by `q`. -/
theorem literal_evaluates_to_value (ops : NumOps) (pb : String → Option Expr) (v : SV)
    (h : noLambda v = true) (f : Nat) (hf : litFuel v ≤ f) (d : Nat) (st : ES) :
    eval ops f d (svToExpr pb v) st = (.ok (svToValueN (ops.div F64.zero F64.zero) v), st) :=
  lit_eval ops pb v h f hf d st

/-- … and for data as an evaluation produces it (no NaN, record keys distinct) that is the
    value itself, tree for tree, records in their order -/
theorem literal_evaluates_to_value_exact (ops : NumOps) (pb : String → Option Expr) (v : SV)
    (h : isLit v = true) (f : Nat) (hf : litFuel v ≤ f) (d : Nat) (st : ES) :
    eval ops f d (svToExpr pb v) st = (.ok (svToValue v), st) := by
  rw [lit_eval ops pb v (isLit_noLambda v h) f hf d st, svToValueN_lit _ v h]

/-- NaN: `(0/0)` evaluates to a NaN provided the division of the platform does (assumption on
    `ops`, validated by the harness for the native operations: `0.0 / 0.0` is NaN) -/
theorem nan_literal_evaluates_to_nan (ops : NumOps) (pb : String → Option Expr) (x : F64)
    (hx : x.isNaN = true) (hops : (ops.div F64.zero F64.zero).isNaN = true) (f : Nat) (hf : 2 ≤ f)
    (d : Nat) (st : ES) :
    ∃ y, y.isNaN = true ∧ eval ops f d (svToExpr pb (.num x)) st = (.ok (.num y), st) := by
  refine ⟨ops.div F64.zero F64.zero, hops, ?_⟩
  rw [lit_eval ops pb (.num x) rfl f hf d st]
  simp [svToValueN, hx]

/-- negative numbers, `-0.0`, `-inf`: `-(magnitude)` evaluates to the number, bit for bit;
    `+inf` (`1e999`) and every other number are their own literal -/
theorem number_literal_evaluates_to_number (ops : NumOps) (pb : String → Option Expr) (x : F64)
    (hx : x.isNaN = false) (f : Nat) (hf : 2 ≤ f) (d : Nat) (st : ES) :
    eval ops f d (svToExpr pb (.num x)) st = (.ok (.num x), st) := by
  rw [lit_eval ops pb (.num x) rfl f hf d st]
  simp [svToValueN, hx]

/-- strings with both quote kinds: the `+` chain of the pieces evaluates to the string -/
theorem string_literal_evaluates_to_string (ops : NumOps) (s : String) (f : Nat)
    (hf : 1 + (pieces s.toList).length ≤ f) (d : Nat) (st : ES) :
    eval ops f d (strToExpr s) st = (.ok (.str s), st) :=
  eval_strToExpr ops s f hf d st

theorem scopeRemove_lookup (sc : Scope) (n m : String) :
    lookupAL m (scopeRemove sc n) = if m = n then none else lookupAL m sc :=
  lookupAL_scopeRemove sc n m

theorem subst_respects_parameters (pb : String → Option Expr) (sc : Scope) (args : List LArg)
    (body : Expr) (x : String) (hx : x ∈ args.map LArg.name) :
    substExpr pb sc (.lambda args body) = .lambda args (substExpr pb (scopeMinusArgs sc args) body) ∧
    lookupAL x (scopeMinusArgs sc args) = none ∧
    substExpr pb (scopeMinusArgs sc args) (.ident x) = .ident x := by
  have h : lookupAL x (scopeMinusArgs sc args) = none := by
    rw [lookupAL_scopeMinusArgs]; simp [hx]
  exact ⟨by simp only [substExpr], h, substExpr_ident_none pb _ x h⟩

theorem subst_respects_do_locals (pb : String → Option Expr) (sc : Scope) (stmts : List Item)
    (ret : Item) (x : String) (hx : x ∈ boundAfterStmts [] stmts) :
    substExpr pb sc (.doBlock stmts ret) =
      .doBlock (substStmts pb sc stmts) (substItem pb (scopeAfterStmts sc stmts) ret) ∧
    lookupAL x (scopeAfterStmts sc stmts) = none ∧
    substExpr pb (scopeAfterStmts sc stmts) (.ident x) = .ident x := by
  have h : lookupAL x (scopeAfterStmts sc stmts) = none := by
    rw [lookupAL_scopeAfterStmts]; simp [hx]
  exact ⟨by simp only [substExpr], h, substExpr_ident_none pb _ x h⟩

/-- what follows an assignment `x = …` is substituted without `x` (fix ed27e95) -/
theorem subst_statement_by_statement (pb : String → Option Expr) (sc : Scope) (l : List String)
    (x : String) (v : Expr) (t : Option String) (rest : List Item) :
    substStmts pb sc (.mk l (.assign x v) t :: rest) =
      .mk l (.assign x (substExpr pb sc v)) t :: substStmts pb (scopeRemove sc x) rest := by
  simp only [substStmts, substItem, substExpr, scopeAfterStmt]

theorem subst_inlines_captured (pb : String → Option Expr) (sc : Scope) (x : String) (v : SV)
    (h : lookupAL x sc = some v) : substExpr pb sc (.ident x) = svToExpr pb v := by
  simp only [substExpr, h]

/-- The substitution lemma, proved part.  Fragment `frag`: literals, identifiers, `#field`,
    built-in names, lists, records (static, computed, shorthand and spread entries),
    conditionals, index and field access, unary operators, factorial, spread, all binary
    operators except `via` / `into` / `where`, and do-blocks whose direct statements are such
    expressions or assignments of such expressions (any nesting).  Not covered: calls and the
    three calling operators, lambda expressions, `output`, assignments that are not direct
    do-block statements.

    `Rel q K N sc A B`: environment `A` binds every name of the scope `sc` to the value its
    literal denotes (a function-free value whose literal needs at most `K` fuel; the name is
    not `inf` / `infinity` / `constants`), `B` need not bind them at all; every other name of
    `N` (a set containing the names free in `e`) and `inputs` are resolved alike by `A` and `B`.

    Then: whenever evaluating `e` in `A` gives an answer (value or error) with fuel `f`,
    evaluating the substituted expression in `B` gives the same answer with fuel `f + K`. -/
theorem subst_lemma_partial (ops : NumOps) (pb : String → Option Expr) (K f d : Nat) (e : Expr)
    (sc : Scope) (N : String → Prop) (sA sB : ES) (he : frag e = true)
    (hN : ∀ n, FreeIn n e → N n)
    (hrel : Rel (ops.div F64.zero F64.zero) K N sc sA.env sB.env)
    (hf : (eval ops f d e sA).1 ≠ .fuel) :
    (eval ops (f + K) d (substExpr pb sc e) sB).1 = (eval ops f d e sA).1 :=
  subst_eval ops pb K f d e sc N sA sB he hN hrel hf

/-- … and neither evaluation changes its environment (the fragment writes only do-block
    frames, which are dropped) -/
theorem subst_lemma_partial_env (ops : NumOps) (pb : String → Option Expr) (K f d : Nat) (e : Expr)
    (sc : Scope) (N : String → Prop) (sA sB : ES) (he : frag e = true)
    (hN : ∀ n, FreeIn n e → N n)
    (hrel : Rel (ops.div F64.zero F64.zero) K N sc sA.env sB.env)
    (hf : (eval ops f d e sA).1 ≠ .fuel) :
    (eval ops f d e sA).2.env = sA.env ∧ (eval ops (f + K) d (substExpr pb sc e) sB).2.env = sB.env := by
  obtain ⟨h1, h2⟩ := (simStep ops pb K f).eval N d e sc sA sB he hN hrel
  rcases h2 with h2 | h2
  · exact absurd h2 hf
  · exact ⟨h1, h2.2⟩

/-- The full statement (not proved): every body without an assignment outside the direct
    statements of do-blocks (`noNestedAssign`), calls and function expressions included;
    because the closures the two evaluations create differ (one captures, the other has the
    literals inlined) the conclusion is about data results and about failing alike.  Proving
    it needs a logical relation on closures instead of equality of values. -/
def subst_lemma_statement : Prop :=
  ∀ (ops : NumOps) (pb : String → Option Expr) (K f d : Nat) (e : Expr) (sc : Scope)
    (N : String → Prop) (sA sB : ES),
    noNestedAssign e = true → (∀ n, FreeIn n e → N n) →
    (∀ t, pb (exprSrc [] t) = some t) →
    Rel (ops.div F64.zero F64.zero) K N sc sA.env sB.env →
    sA.names = sB.names → sA.nextId = sB.nextId →
    (∀ v, (eval ops f d e sA).1 = .ok v → isData v = true →
      ∃ f', (eval ops f' d (substExpr pb sc e) sB).1 = .ok v) ∧
    (∀ k, (eval ops f d e sA).1 = .err k →
      ∃ f' k', (eval ops f' d (substExpr pb sc e) sB).1 = .err k')

/-- `extend_lambda_body` undoes what the parser does to the text `(args) => <body>` when the
    body is a via / into / where chain: whatever part of the left spine of binary operators
    the lambda was pushed under (`graft`: all of it; `graftChain`: as far as
    `lambdaBodyNeedsParens` says the body is exposed, which is what the parser builds), the
    result is the function with the whole body (fix 7b15ff3) -/
theorem extendLambdaBody_graft (args : List LArg) (b : Expr) :
    extendLambdaBody (graft args b) = .lambda args b ∧
    extendLambdaBody (graftChain args b) = .lambda args b ∧
    parseFunctionSource [graft args b] = some (args, exprToSource b) ∧
    parseFunctionSource [graftChain args b] = some (args, exprToSource b) :=
  ⟨Emit.extendLambdaBody_graft args b, extendLambdaBody_graftChain args b,
   parseFunctionSource_graft args b [], parseFunctionSource_graftChain args b []⟩

/-- `from_value` of a function value is its parameter list
    and the text `exprSrc sc body` (`sc` = `from_captured_value` of the captured scope);
    `to_json` makes it the one-member object `{"__blots_function": "(args) => text"}`; that
    text is never mistaken for a built-in name; if `parse_function_source` reads it as
    `(args', body')` and the body text `body'` parses to `b`, the value loaded from the JSON is
    a function with parameters `args'`, body `b` and an empty captured scope. -/
theorem reload_structure (pf : ParseFn) (pb : ParseBody) (id : Nat) (args : List LArg) (body : Expr)
    (scope : Frame) (sc : Scope) (hsc : capturedRecToSV scope = some sc)
    (args' : List LArg) (body' : String) (b : Expr)
    (hpf : pf (lambdaSource args (exprSrc sc body)) = some (args', body')) (hpb : pb body' = some b) :
    valueToSV (.lambda id args body scope) = some (.lambda args (exprSrc sc body)) ∧
    toJson (.lambda args (exprSrc sc body)) =
      .obj [("__blots_function", .str (lambdaSource args (exprSrc sc body)))] ∧
    isBuiltinName (lambdaSource args (exprSrc sc body)) = false ∧
    readJson pf pb (toJson (.lambda args (exprSrc sc body))) = .ok (.lambda 0 args' b []) := by
  refine ⟨by simp [valueToSV, hsc], by simp [toJson], lambdaSource_not_builtin _ _, ?_⟩
  simp [readJson, toJson, Json.norm, Json.normMembers, collectSorted, insertSorted, fromJson, fnObject,
    lookupAL, lambdaSource_not_builtin, hpf, toValue, hpb]

/-- Reload gives an equivalent function, proved part.  Original: `.lambda idA ps body scope`
    in a program state `sA`.  Hypotheses:
    * the body is in the fragment `frag` (see `subst_lemma_partial`);
    * captured values are data as evaluation produces it (`isLit`: no NaN — for NaN see
      `literal_evaluates_to_value` —, no function, distinct record keys) or built-ins, bound to
      names that are not special identifiers, parameters or `inputs` (what `captureScope`
      produces);
    * closed after capture: every name free in the body is a parameter, captured, or resolved
      alike by the two programs (built-ins) and not the display name of either function;
    * interface to text (C07 / C10 parse-back, validated by the harness): the emitted text is
      read by `parse_function_source` as the parameters `ps` and the print of `b`, and that
      print parses to `b`, where `b = substExpr sc body` is the substituted body.
    Then the JSON output loads as `.lambda 0 ps b []` and, for every argument tuple, depth and
    caller, whenever the original call gives an answer (value or error, including arity and
    depth errors) the reloaded one gives the same answer. -/
theorem reload_equiv_partial (ops : NumOps) (pf : ParseFn) (pb : ParseBody) (K idA : Nat)
    (ps : List LArg) (body : Expr) (scope : Frame) (sc : Scope) (sA sB : ES)
    (hfrag : frag body = true)
    (hsc : capturedRecToSV scope = some sc)
    (hv : ∀ n sv, lookupAL n sc = some sv →
      isLit sv = true ∧ litFuel sv ≤ K ∧ n ∉ Gen.specialIdents ∧ n ∉ ps.map LArg.name ∧ n ≠ "inputs")
    (hfree : ∀ n, FreeIn n body → n ∉ ps.map LArg.name → lookupAL n sc = none →
      envGet sA.env n = envGet sB.env n ∧ nameOf sA.names idA ≠ some n ∧ nameOf sB.names 0 ≠ some n)
    (hin : envGet sA.env "inputs" = envGet sB.env "inputs" ∧
      nameOf sA.names idA ≠ some "inputs" ∧ nameOf sB.names 0 ≠ some "inputs")
    (hpf : pf (lambdaSource ps (exprSrc sc body)) = some (ps, exprSrc [] (substExpr pb sc body)))
    (hpb : pb (exprSrc [] (substExpr pb sc body)) = some (substExpr pb sc body)) :
    readJson pf pb (toJson (.lambda ps (exprSrc sc body))) = .ok (.lambda 0 ps (substExpr pb sc body) []) ∧
    ∀ (thisA thisB : Value) (args : List Value) (depth f : Nat),
      (callFn ops (f + 1) (.lambda idA ps body scope) thisA args depth sA).1 ≠ .fuel →
      (callFn ops (f + K + 1) (.lambda 0 ps (substExpr pb sc body) []) thisB args depth sB).1 =
        (callFn ops (f + 1) (.lambda idA ps body scope) thisA args depth sA).1 := by
  refine ⟨(reload_structure pf pb idA ps body scope sc hsc ps _ _ hpf hpb).2.2.2, ?_⟩
  intro thisA thisB args depth f hf
  have himg := scopeImage_of_captured (ops.div F64.zero F64.zero) K ps sc scope hsc hv
  exact reload_call ops pb K f idA 0 ps body scope sc thisA thisB args depth sA sB hfrag
    (fun pfr hb => rel_of_closed _ K ps body sc scope idA 0 thisA thisB args pfr sA sB himg hfree hin hb) hf

/-- The full statement (not proved): any body without nested assignment, captured values of
    every kind; conclusion for data results and failures.  Missing: `subst_lemma_statement`. -/
def reload_equiv_statement : Prop :=
  ∀ (ops : NumOps) (pf : ParseFn) (pb : ParseBody) (idA : Nat) (ps : List LArg) (body : Expr)
    (scope : Frame) (sc : Scope) (sA sB : ES),
    noNestedAssign body = true →
    capturedRecToSV scope = some sc →
    (∀ n, FreeIn n body → n ∉ ps.map LArg.name → lookupAL n sc = none →
      envGet sA.env n = envGet sB.env n ∧ nameOf sA.names idA ≠ some n ∧ nameOf sB.names 0 ≠ some n) →
    (envGet sA.env "inputs" = envGet sB.env "inputs" ∧
      nameOf sA.names idA ≠ some "inputs" ∧ nameOf sB.names 0 ≠ some "inputs") →
    (∀ t, pb (exprSrc [] t) = some t) →
    pf (lambdaSource ps (exprSrc sc body)) = some (ps, exprSrc [] (substExpr pb sc body)) →
    ∀ (thisA thisB : Value) (args : List Value) (depth f : Nat),
      (∀ v, (callFn ops f (.lambda idA ps body scope) thisA args depth sA).1 = .ok v → isData v = true →
        ∃ f', (callFn ops f' (.lambda 0 ps (substExpr pb sc body) []) thisB args depth sB).1 = .ok v) ∧
      (∀ k, (callFn ops f (.lambda idA ps body scope) thisA args depth sA).1 = .err k →
        ∃ f' k', (callFn ops f' (.lambda 0 ps (substExpr pb sc body) []) thisB args depth sB).1 = .err k')

/-- A reloaded function has an empty scope, so its
    emitted text is the plain print of its body; if the parser reads that print back to the
    body (parse-back), loading it again gives the very same function value: from the first
    reload on, emit ∘ reload is the identity — for captured values of every kind. -/
theorem re_emit_fixed_point (pf : ParseFn) (pb : ParseBody) (ps : List LArg) (b : Expr)
    (hpf : pf (lambdaSource ps (exprSrc [] b)) = some (ps, exprSrc [] b))
    (hpb : pb (exprSrc [] b) = some b) :
    valueToSV (.lambda 0 ps b []) = some (.lambda ps (exprSrc [] b)) ∧
    readJson pf pb (toJson (.lambda ps (exprSrc [] b))) = .ok (.lambda 0 ps b []) := by
  have h := reload_structure pf pb 0 ps b [] [] rfl ps _ b hpf hpb
  exact ⟨h.1, h.2.2.2⟩

/-- … and for scopes of bare literals the second-generation text is character for character
    the first-generation text: `from_value (reloaded) = from_value (original)` -/
theorem re_emit_same_text (pb : ParseBody) (idA : Nat) (ps : List LArg) (body : Expr) (scope : Frame)
    (sc : Scope) (hsc : capturedRecToSV scope = some sc) (hbare : ScopeBare sc) :
    valueToSV (.lambda 0 ps (substExpr pb sc body) []) = valueToSV (.lambda idA ps body scope) := by
  simp only [valueToSV, capturedRecToSV, hsc, emit_expr pb body sc hbare]

/-- Other closures as captured values: `from_captured_value` of a closure (own captured scope
    `sc'` of bare literals) is written into the enclosing function's source as the
    parenthesised print of the lambda expression over its substituted body — the body in
    parentheses of its own when it is a via / into / where chain (fix 9164548) — and, given the parse-back
    of that body text, the literal denotes that lambda expression -/
theorem captured_closure_literal (pb : ParseBody) (id : Nat) (args : List LArg) (body : Expr)
    (scope' : Frame) (sc' : Scope) (hsc : capturedRecToSV scope' = some sc') (hbare : ScopeBare sc')
    (hpb : pb (parenIf (lambdaBodyNeedsParens body) (exprSrc sc' body)) = some (substExpr pb sc' body)) :
    ∃ sv, capturedToSV (.lambda id args body scope') = some sv ∧
      svToSource sv = "(" ++ exprSrc [] (.lambda args (substExpr pb sc' body)) ++ ")" ∧
      svToExpr pb sv = .lambda args (substExpr pb sc' body) := by
  refine ⟨.lambda args (parenIf (lambdaBodyNeedsParens body) (exprSrc sc' body)),
    by simp [capturedToSV, hsc], ?_, by simp [svToExpr, hpb]⟩
  simp only [svToSource, exprSrc]
  rw [foldl_scopeRemove_nil, lbnp_subst pb body sc' (hbare.litClosed pb), emit_expr pb body sc' hbare]
  simp only [String.append_assoc]
  rw [show ("((" : String) = "(" ++ "(" by decide, String.append_assoc]

section endToEnd
open Blots.EmitParse

/-- The class `Portable ps body sc` (decidable: `portable ps body sc = true`) is inside both
    fragments: the body is in the C05 fragment `frag` of the substitution lemma and, with its
    substituted form, in the PEG fragment `ExprPeg.Frag` of the C10 round trip, and it is no
    `via` / `into` / `where` chain — so the emitter's unparenthesised top-level body is the
    simple case and `extend_lambda_body` (`extendLambdaBody_graft`) has nothing to repair.
    (`frag` excludes `via` / `into` / `where` anyway: they call.) -/
theorem portable_in_both_fragments (pb : ParseBody) (ps : List LArg) (body : Expr) (sc : Scope)
    (h : Portable ps body sc) :
    frag body = true ∧ ExprPeg.Frag body ∧ ExprPeg.Frag (substExpr pb sc body) ∧
      lambdaBodyNeedsParens body = false :=
  ⟨bodyOkB_emitFrag false body h.body, bodyOkB_pegFrag false body h.body,
    subst_fragB pb sc h.scope false body h.body, bodyOk_lbnp false body h.body⟩

/-- For every function of the class, the two parse-back
    hypotheses of `reload_structure` / `reload_equiv_partial` hold with `pf := pfModel`
    (`parse_function_source` over the model parser) and `pb := pbModel` (the model parser):
    the emitted `__blots_function` text is read as the parameters and the print of the
    substituted body, and that print is read as the substituted body.  The emitted text is in
    general not the print of the substituted tree (a captured `-4` is written `(-4)` everywhere,
    see `emitted_text_is_not_the_plain_print`); the proof goes through the concrete syntax tree
    of the emitted text (`EmitParse.emitCst`) and `ExprPeg.cst_roundtrip`. -/
theorem model_parser_meets_interface (ps : List LArg) (body : Expr) (sc : Scope)
    (h : Portable ps body sc) :
    pfModel (lambdaSource ps (exprSrc sc body)) = some (ps, exprSrc [] (substExpr pbModel sc body)) ∧
    pbModel (exprSrc [] (substExpr pbModel sc body)) = some (substExpr pbModel sc body) :=
  ⟨pfModel_emitted pbModel sc h.scope ps body h.params h.body,
    subst_body_reparses pbModel sc h.scope body h.body⟩

/-- The first clause of the property: for every function
    of the class the text stored under `__blots_function` is read by the model parser, as a
    whole, to a lambda expression with the same parameter list, whose body is the original body
    with the captured literals inlined; it is never mistaken for a built-in name; and
    `parse_function_source` answers that parameter list. -/
theorem emitted_text_parses_as_function (ps : List LArg) (body : Expr) (sc : Scope)
    (h : Portable ps body sc) :
    ExprPeg.parseText (lambdaSource ps (exprSrc sc body)) =
      some (.lambda ps (substExpr pbModel sc body)) ∧
    isBuiltinName (lambdaSource ps (exprSrc sc body)) = false ∧
    (pfModel (lambdaSource ps (exprSrc sc body))).map Prod.fst = some ps := by
  refine ⟨emitted_text_parses pbModel sc h.scope ps body h.params h.body,
    lambdaSource_not_builtin _ _, ?_⟩
  rw [pfModel_emitted pbModel sc h.scope ps body h.params h.body]; rfl

/-- Why the proof cannot go through `emit_is_substitution_partial`: inside the class the emitted
    text differs from the plain print of the substituted tree — witness `(x) => x - n` with
    `n = -4` captured: emitted body `x - (-4)`, plain print `x - -4` (both read back to the same
    tree, which is what `model_parser_meets_interface` says). -/
theorem emitted_text_is_not_the_plain_print :
    ∃ (ps : List LArg) (body : Expr) (sc : Scope), Portable ps body sc ∧
      exprSrc sc body ≠ exprSrc [] (substExpr pbModel sc body) := by
  refine ⟨[.req "x"], .bin .sub (.ident "x") (.ident "n"),
    [("n", .num (F64.ofNatBits 0xC010000000000000))], (portable_iff _ _ _).mp (by decide +kernel), ?_⟩
  intro h
  have := congrArg String.toList h
  revert this
  decide +kernel

/-- Reload gives an equivalent function, end to end (no hypothesis about any parser), for
    functions that may still read names from the environment.  Original: `.lambda idA ps body
    scope` in a state `sA`; `sc` = `from_captured_value` of its captured scope; the function is
    in the class `Portable`.  The value written by `to_json` and loaded again through
    emit → text → model parser → `to_value` is `.lambda 0 ps (substExpr sc body) []`, and for
    every argument tuple, depth, caller and fuel, whenever the original call gives an answer
    (value or error, including arity and depth errors) the reloaded one gives the same answer
    (with `scopeFuel sc` more fuel: the literals have to be evaluated).  `hfree` / `hin`: names
    the body reads that are neither parameters nor captured, and `inputs`, are resolved alike by
    the two programs (see `reload_equiv_partial`; vacuous for closed functions:
    `reload_equiv_fragment`). -/
theorem reload_equiv_fragment_open (ops : NumOps) (idA : Nat) (ps : List LArg) (body : Expr)
    (scope : Frame) (sc : Scope) (sA sB : ES)
    (hsc : capturedRecToSV scope = some sc)
    (hport : Portable ps body sc)
    (hfree : ∀ n, FreeIn n body → n ∉ ps.map LArg.name → lookupAL n sc = none →
      envGet sA.env n = envGet sB.env n ∧ nameOf sA.names idA ≠ some n ∧ nameOf sB.names 0 ≠ some n)
    (hin : envGet sA.env "inputs" = envGet sB.env "inputs" ∧
      nameOf sA.names idA ≠ some "inputs" ∧ nameOf sB.names 0 ≠ some "inputs") :
    valueToSV (.lambda idA ps body scope) = some (.lambda ps (exprSrc sc body)) ∧
    readJson pfModel pbModel (toJson (.lambda ps (exprSrc sc body))) =
      .ok (.lambda 0 ps (substExpr pbModel sc body) []) ∧
    ∀ (thisA thisB : Value) (args : List Value) (depth f : Nat),
      (callFn ops (f + 1) (.lambda idA ps body scope) thisA args depth sA).1 ≠ .fuel →
      (callFn ops (f + scopeFuel sc + 1) (.lambda 0 ps (substExpr pbModel sc body) []) thisB args
          depth sB).1 =
        (callFn ops (f + 1) (.lambda idA ps body scope) thisA args depth sA).1 := by
  obtain ⟨hpf, hpb⟩ := model_parser_meets_interface ps body sc hport
  have h := reload_equiv_partial ops pfModel pbModel (scopeFuel sc) idA ps body scope sc sA sB
    (bodyOkB_emitFrag false body hport.body) hsc (fun n sv hl => hport.captured n sv hl) hfree hin
    hpf hpb
  exact ⟨by simp [valueToSV, hsc], h.1, h.2⟩

/-- Reload gives an equivalent function, end to end, for functions that are closed after capture
    (`closedAfterCapture`: every name the body reads is a parameter or captured — decidable):
    no hypothesis about any parser, none about free names.  Class covered: `Portable ps body sc`
    (decidable, `portable`) =
      * parameter names that are identifiers (not reserved words);
      * body (`bodyOk`): binary operators except `via` / `into` / `where`, prefix `-` / `!`,
        postfix `!`, index, field access (identifier field names), list literals (items
        possibly spread, no comments), conditionals, parentheses as the printer places them;
        atoms: identifiers that are neither reserved words nor built-in names, built-in names,
        `true` / `false` / `null`, integers `0 ≤ n < 10^15`;
      * captured values (`litOk`): integers `|n| < 10^15` of either sign (`-0.0` included;
        negative ones are emitted as `(-n)`), booleans, `null`, built-in functions, nested
        lists of these; bound to names other than `inf` / `infinity` / `constants` /
        `inputs` / a parameter.
    Excluded: calls, `via` / `into` / `where`, lambda expressions and captured closures,
    `output`, nested assignments (no logical relation between closures yet:
    `subst_lemma_statement`; the last is a genuine defect: `nested_assignment_breaks_reload`);
    strings, records, do-blocks (the character-level grammar model has them, `bodyOk` does not);
    `#field`, non-integer and huge numbers, NaN / ±inf captures (not in the character-level
    grammar model).  For all of these `reload_equiv_partial` with its explicit interface
    hypotheses remains. -/
theorem reload_equiv_fragment (ops : NumOps) (idA : Nat) (ps : List LArg) (body : Expr)
    (scope : Frame) (sc : Scope) (sA sB : ES)
    (hsc : capturedRecToSV scope = some sc)
    (hport : Portable ps body sc)
    (hclosed : closedAfterCapture ps body sc = true)
    (hin : envGet sA.env "inputs" = envGet sB.env "inputs" ∧
      nameOf sA.names idA ≠ some "inputs" ∧ nameOf sB.names 0 ≠ some "inputs") :
    valueToSV (.lambda idA ps body scope) = some (.lambda ps (exprSrc sc body)) ∧
    readJson pfModel pbModel (toJson (.lambda ps (exprSrc sc body))) =
      .ok (.lambda 0 ps (substExpr pbModel sc body) []) ∧
    ∀ (thisA thisB : Value) (args : List Value) (depth f : Nat),
      (callFn ops (f + 1) (.lambda idA ps body scope) thisA args depth sA).1 ≠ .fuel →
      (callFn ops (f + scopeFuel sc + 1) (.lambda 0 ps (substExpr pbModel sc body) []) thisB args
          depth sB).1 =
        (callFn ops (f + 1) (.lambda idA ps body scope) thisA args depth sA).1 :=
  reload_equiv_fragment_open ops idA ps body scope sc sA sB hsc hport
    (fun n hf hp hl => (closed_no_free hport.body hclosed n hf hp hl).elim) hin

/-- … and the reloaded function is a fixed point of emit ∘ reload under the model parser: its
    own emitted text (empty scope: the plain print) loads to the very same function value. -/
theorem re_emit_fixed_point_fragment (ps : List LArg) (body : Expr) (sc : Scope)
    (h : Portable ps body sc) :
    readJson pfModel pbModel (toJson (.lambda ps (exprSrc [] (substExpr pbModel sc body)))) =
      .ok (.lambda 0 ps (substExpr pbModel sc body) []) := by
  have hf : ExprPeg.Frag (substExpr pbModel sc body) := subst_fragB pbModel sc h.scope false body h.body
  have hl : ExprPeg.Frag (.lambda ps (substExpr pbModel sc body)) := by
    simp only [ExprPeg.Frag, ExprPeg.frag_lambda_eq, h.params, Bool.true_and]; exact hf
  have hb := subst_body_reparses pbModel sc h.scope body h.body
  have h1 := ExprPeg.print_reparses _ hl
  have hlb : lambdaBodyNeedsParens (substExpr pbModel sc body) = false := by
    rw [lbnp_subst pbModel body sc (scopeOk_litClosed pbModel sc h.scope)]
    exact bodyOk_lbnp false body h.body
  have h2 : exprToSource (.lambda ps (substExpr pbModel sc body)) =
      lambdaSource ps (exprSrc [] (substExpr pbModel sc body)) := by
    simp only [lambdaSource, exprToSource, exprSrc, foldl_scopeRemove_nil, hlb, parenIf,
      Bool.false_eq_true, if_false]
  refine (re_emit_fixed_point pfModel pbModel ps _ ?_ hb).2
  show (ExprPeg.parseText (lambdaSource ps (exprSrc [] (substExpr pbModel sc body)))).bind
    (fun e => parseFunctionSource [e]) = _
  rw [← h2, h1]; rfl

end endToEnd

section defect
private abbrev bodyNA : Expr := .list [Item.plain (.assign "x" (.num int1)), Item.plain (.ident "x")]
private abbrev bodyNA' : Expr := .list [Item.plain (.assign "x" (.num int1)), Item.plain (.num int3)]
private abbrev st0 : ES := { env := [[]], nextId := 8, names := [] }

/-- `x = 3; f = () => [x = 1, x]` (the model of the witness confirmed on the real binary with
    `x = 5`): inside a call an assignment only checks the innermost frame, so `x = 1` binds `x`
    in the call frame and the following `x` reads 1: `f() = [1, 1]`.  The emitter removes a
    name from the inlining scope only for parameters and direct do-block assignments, so it
    emits `() => [x = 1, 3]`, and the reloaded function returns `[1, 3]`.  The function is
    closed after capture, its captured value is a plain number, the body has no call:
    the hypothesis `frag` / `noNestedAssign` of the theorems above cannot be dropped, and
    property C05 as stated is violated by the code. -/
theorem nested_assignment_breaks_reload (pb : ParseBody) :
    capturedRecToSV [("x", .num int3)] = some [("x", .num int3)] ∧
    substExpr pb [("x", .num int3)] bodyNA = bodyNA' ∧
    noNestedAssign bodyNA = false ∧
    (callFn intOps 10 (.lambda 7 [] bodyNA [("x", .num int3)]) (.lambda 7 [] bodyNA [("x", .num int3)])
        [] 0 st0).1 = .ok (.list [.num int1, .num int1]) ∧
    (callFn intOps 10 (.lambda 0 [] bodyNA' []) (.lambda 0 [] bodyNA' []) [] 0 st0).1 =
      .ok (.list [.num int1, .num int3]) := by
  refine ⟨rfl, ?_, rfl, ?_, ?_⟩
  · simp +decide [substExpr, substItems, substItem, Item.plain, lookupAL, svToExpr, numToExpr]
  · simp +decide [callFn, eval, evalItems, checkArity, bindParams, bindParams.go, envGet,
      lookupAL, insertAL, Item.plain, setNameIfLambda, envInsert, flattenSpreads, nameOf,
      createdSince]
  · simp +decide [callFn, eval, evalItems, checkArity, bindParams, bindParams.go, envGet,
      lookupAL, insertAL, Item.plain, setNameIfLambda, envInsert, flattenSpreads, nameOf,
      createdSince]
end defect

section examples
private abbrev negThree : F64 := F64.ofNatBits 0xC008000000000000
private abbrev pb0 : ParseBody := fun _ => none

/-- a bare literal: nested list / record with a quoted key, one-quote strings, +inf -/
private abbrev bareV : SV :=
  .record [("a b", .list [.str "it's", .bool true, .num F64.inf]), ("k", .null), ("f", .builtin "sum")]
example : bare bareV = true := by decide +kernel
/-- not bare: a negative number, NaN, a two-quote string, a two-quote key -/
example : bare (.num negThree) = false ∧ bare (.num F64.nan) = false ∧ bare (.str "a'\"") = false ∧
    bare (.record [("a'\"", .null)]) = false := by decide +kernel
example : negThree.isNaN = false ∧ negThree.neg = true ∧ F64.negZero.neg = true ∧
    F64.negInf.neg = true ∧ F64.nan.isNaN = true ∧ bothQuotes "it's \"x\"" = true := by decide +kernel
/-- a scope of bare literals bound to identifier names -/
private abbrev scBare : Scope := [("lim", .num int3), ("tag", .str "it's"), ("cfg", bareV)]
example : ScopeBare scBare := by
  intro kv h
  simp only [List.mem_cons, List.not_mem_nil, or_false] at h
  rcases h with rfl | rfl | rfl <;> exact ⟨by decide +kernel, by decide +kernel⟩
/-- `x => x > lim && cfg.k == tag` -/
example : exprSrc scBare (.lambda [.req "x"] (.bin .and (.bin .gt (.ident "x") (.ident "lim"))
      (.bin .eq (.dot (.ident "cfg") "k") (.ident "tag")))) =
    exprSrc [] (substExpr pb0 scBare (.lambda [.req "x"] (.bin .and (.bin .gt (.ident "x") (.ident "lim"))
      (.bin .eq (.dot (.ident "cfg") "k") (.ident "tag"))))) :=
  emit_is_substitution_partial pb0 _ scBare (by
    intro kv h
    simp only [List.mem_cons, List.not_mem_nil, or_false] at h
    rcases h with rfl | rfl | rfl <;> exact ⟨by decide +kernel, by decide +kernel⟩)

/-- a captured value of every data kind: negative, -0.0, -inf, +inf, NaN, both quote
    kinds (value and key), nesting, a built-in -/
private abbrev dataV : SV :=
  .list [.num negThree, .num F64.negZero, .num F64.negInf, .num F64.inf, .num F64.nan,
    .str "it's \"x\"", .record [("a'\"", .list [.null]), ("k", .bool false)], .builtin "sum"]
example : noLambda dataV = true := by decide
example : litFuel dataV ≤ 40 := by decide
example (st : ES) : eval intOps 40 0 (svToExpr pb0 dataV) st =
    (.ok (svToValueN (intOps.div F64.zero F64.zero) dataV), st) :=
  literal_evaluates_to_value intOps pb0 dataV (by decide) 40 (by decide) 0 st
/-- data as evaluation produces it (no NaN, distinct keys) evaluates to itself -/
private abbrev litV : SV :=
  .record [("n", .num negThree), ("s", .str "it's \"x\""), ("a'\"", .list [.num F64.negInf, .null])]
example : isLit litV = true := by decide +kernel
example (st : ES) : eval intOps 40 3 (svToExpr pb0 litV) st = (.ok (svToValue litV), st) :=
  literal_evaluates_to_value_exact intOps pb0 litV (by decide +kernel) 40 (by decide) 3 st
example : svToValue litV = .record [("n", .num negThree), ("s", .str "it's \"x\""),
    ("a'\"", .list [.num F64.negInf, .null])] := rfl
/-- the toy division gives NaN for 0/0 (for the native operations the harness checks it) -/
example : (intOps.div F64.zero F64.zero).isNaN = true := by decide +kernel

/-- `y => do { z = x; x = y; return x + z }` with `x ↦ 3` captured:
    `z = x` inlines, `x = y` stops the inlining, the `return` keeps `x` -/
example : substExpr pb0 [("x", .num int3)]
      (.lambda [.req "y"] (.doBlock
        [.mk [] (.assign "z" (.ident "x")) none, .mk [] (.assign "x" (.ident "y")) none]
        (.mk [] (.bin .add (.ident "x") (.ident "z")) none))) =
    .lambda [.req "y"] (.doBlock
        [.mk [] (.assign "z" (.num int3)) none, .mk [] (.assign "x" (.ident "y")) none]
        (.mk [] (.bin .add (.ident "x") (.ident "z")) none)) := by
  simp +decide [substExpr, substStmts, substItem, scopeMinusArgs, scopeRemove, scopeAfterStmt,
    scopeAfterStmts, lookupAL, svToExpr, numToExpr, LArg.name]
example : "x" ∈ boundAfterStmts []
    [.mk [] (.assign "z" (.ident "x")) none, .mk [] (.assign "x" (.ident "y")) none] := by decide
example : "y" ∈ [LArg.req "y", .opt "b"].map LArg.name := by decide

/-- in the fragment `frag`: `do { z = x + 1; x = y; return [x, z, {x}, if y > 0 then -x else l[0]] }` -/
private abbrev fragBody : Expr :=
  .doBlock [.mk [] (.assign "z" (.bin .add (.ident "x") (.num int1))) none,
            .mk [] (.assign "x" (.ident "y")) none]
    (.mk [] (.list [Item.plain (.ident "x"), Item.plain (.ident "z"),
        Item.plain (.record [.mk [] (.short "x") .null none]),
        Item.plain (.cond (.bin .gt (.ident "y") (.num int0)) (.un .negate (.ident "x"))
          (.access (.ident "l") (.num int0)))]) none)
example : frag fragBody = true := by decide
example : noNestedAssign fragBody = true := by decide
/-- the two environments of the lemma: `A` has the captured `x` below the parameter frame -/
example : Rel (intOps.div F64.zero F64.zero) 2 (fun n => n = "x" ∨ n = "y") [("x", .num int3)]
    [[("y", .num int1)], [("x", .num int3)]] [[("y", .num int1)]] := by
  refine ⟨fun n sv h => ?_, fun n hN h => ?_, ⟨by decide, rfl⟩⟩
  · by_cases hn : "x" = n
    · subst hn
      simp only [lookupAL, if_true, Option.some.injEq] at h
      subst h
      exact ⟨rfl, by decide, by simp +decide [envGet, lookupAL, svToValueN], by decide⟩
    · simp [lookupAL, hn] at h
  · rcases hN with rfl | rfl
    · simp [lookupAL] at h
    · rfl

/-- a closed function `y => [x + y, tag]` over data captures, reloaded; the text
    interface instantiated by the (constant) answers the parser gives for this text -/
private abbrev eBody : Expr := .list [Item.plain (.bin .add (.ident "x") (.ident "y")), Item.plain (.ident "tag")]
private abbrev eScope : Frame := [("x", .num negThree), ("tag", .str "it's \"x\"")]
private abbrev eSc : Scope := [("x", .num negThree), ("tag", .str "it's \"x\"")]
private abbrev eB : Expr := substExpr pb0 eSc eBody
private abbrev pbE : ParseBody := fun _ => some eB
private abbrev pfE : ParseFn := fun _ => some ([.req "y"], exprSrc [] eB)
private abbrev stE : ES := { env := [[]], nextId := 8, names := [] }
example : substExpr pbE eSc eBody = eB := by
  simp +decide [substExpr, substItems, substItem, Item.plain, lookupAL, svToExpr]
example : capturedRecToSV eScope = some eSc := rfl
example : frag eBody = true := by decide
example (thisA thisB : Value) (args : List Value) (depth f : Nat)
    (h : (callFn intOps (f + 1) (.lambda 7 [.req "y"] eBody eScope) thisA args depth stE).1 ≠ .fuel) :
    (callFn intOps (f + 20 + 1) (.lambda 0 [.req "y"] (substExpr pbE eSc eBody) []) thisB args depth stE).1 =
      (callFn intOps (f + 1) (.lambda 7 [.req "y"] eBody eScope) thisA args depth stE).1 := by
  have hb : substExpr pbE eSc eBody = eB := by
    simp +decide [substExpr, substItems, substItem, Item.plain, lookupAL, svToExpr]
  refine (reload_equiv_partial intOps pfE pbE 20 7 [.req "y"] eBody eScope eSc stE stE (by decide) rfl
    ?_ ?_ ⟨rfl, by simp [nameOf], by simp [nameOf]⟩ (by rw [hb]) (by rw [hb])).2 thisA thisB args depth f h
  · intro n sv hl
    by_cases h1 : "x" = n
    · subst h1
      simp only [lookupAL, if_true, Option.some.injEq] at hl
      subst hl
      exact ⟨by decide +kernel, by decide, by decide, by decide, by decide⟩
    · by_cases h2 : "tag" = n
      · subst h2
        simp only [lookupAL, h1, if_false, if_true, Option.some.injEq] at hl
        subst hl
        exact ⟨by decide +kernel, by decide, by decide, by decide, by decide⟩
      · simp [lookupAL, h1, h2] at hl
  · intro n _ _ _
    exact ⟨rfl, by simp [nameOf], by simp [nameOf]⟩
/-- re-emission: the reloaded function's text read back -/
example : readJson pfE pbE (toJson (.lambda [.req "y"] (exprSrc [] eB))) = .ok (.lambda 0 [.req "y"] eB []) :=
  (re_emit_fixed_point pfE pbE [.req "y"] eB rfl rfl).2
/-- a captured closure `t => t via g` (own scope empty): its literal -/
example : ∃ sv, capturedToSV (.lambda 3 [.req "t"] (.bin .via (.ident "t") (.ident "g")) []) = some sv ∧
    svToSource sv = "(" ++ exprSrc [] (.lambda [.req "t"] (.bin .via (.ident "t") (.ident "g"))) ++ ")" ∧
    svToExpr (fun _ => some (.bin .via (.ident "t") (.ident "g"))) sv =
      .lambda [.req "t"] (.bin .via (.ident "t") (.ident "g")) :=
  captured_closure_literal (fun _ => some (.bin .via (.ident "t") (.ident "g"))) 3 [.req "t"]
    (.bin .via (.ident "t") (.ident "g")) [] [] rfl ScopeBare.nil rfl
/-- `(x) => a via f` as the parser builds it, and `extend_lambda_body` of it -/
example : graftChain [.req "x"] (.bin .via (.ident "a") (.ident "f")) =
    .bin .via (.lambda [.req "x"] (.ident "a")) (.ident "f") := by
  simp +decide [graftChain]
example : extendLambdaBody (.bin .via (.lambda [.req "x"] (.ident "a")) (.ident "f")) =
    .lambda [.req "x"] (.bin .via (.ident "a") (.ident "f")) := rfl
/- End to end with the model parser.  The closure
   `(a, b?) => [a + k * 2, if a > k then -a else n!, [a, k][0], a - n]` with captured `k = 3`,
   `n = -4`: every hypothesis of `reload_equiv_fragment` by `decide` -/
section endToEndExample
open Blots.EmitParse
private abbrev negFour : F64 := F64.ofNatBits 0xC010000000000000
private abbrev two : F64 := F64.ofNatBits 0x4000000000000000
private abbrev xa : Expr := .ident "a"
private abbrev xk : Expr := .ident "k"
private abbrev xn : Expr := .ident "n"
private abbrev fBody : Expr :=
  .list [Item.plain (.bin .add xa (.bin .mul xk (.num two))),
    Item.plain (.cond (.bin .gt xa xk) (.un .negate xa) (.fact xn)),
    Item.plain (.access (.list [Item.plain xa, Item.plain xk]) (.num int0)),
    Item.plain (.bin .sub xa xn)]
private abbrev fPs : List LArg := [.req "a", .opt "b"]
private abbrev fScope : Frame := [("k", .num int3), ("n", .num negFour)]
private abbrev fSc : Scope := [("k", .num int3), ("n", .num negFour)]
private abbrev stF : ES := { env := [[]], nextId := 8, names := [] }

example : capturedRecToSV fScope = some fSc := rfl
private theorem fPortable : portable fPs fBody fSc = true := by decide +kernel
example : portable fPs fBody fSc = true := fPortable
example : closedAfterCapture fPs fBody fSc = true := by decide +kernel
example : scopeFuel fSc = 2 := by decide +kernel
/-- the emitted text: the captured `-4` is written `(-4)` at both occurrences … -/
example : (lambdaSource fPs (exprSrc fSc fBody)).toList =
    "(a, b?) => [a + 3 * 2, if a > 3 then -a else (-4)!, [a, 3][0], a - (-4)]".toList := by
  decide +kernel
/-- … the plain print of the substituted body needs the parentheses only under `!` -/
example : (exprSrc [] (substExpr pbModel fSc fBody)).toList =
    "[a + 3 * 2, if a > 3 then -a else (-4)!, [a, 3][0], a - -4]".toList := by decide +kernel
/-- … and the model parser, run on the emitted text (no theorem involved), answers the
    parameters and that plain print -/
example : (pfModel "(a, b?) => [a + 3 * 2, if a > 3 then -a else (-4)!, [a, 3][0], a - (-4)]").map
      (fun r => (r.1.map lambdaArgToSource, r.2)) =
    some (["a", "b?"], "[a + 3 * 2, if a > 3 then -a else (-4)!, [a, 3][0], a - -4]") := by
  decide +kernel
example : Portable fPs fBody fSc := (portable_iff _ _ _).mp fPortable
/-- parses as a function with the same parameters -/
example : ExprPeg.parseText (lambdaSource fPs (exprSrc fSc fBody)) =
    some (.lambda fPs (substExpr pbModel fSc fBody)) :=
  (emitted_text_parses_as_function fPs fBody fSc ((portable_iff _ _ _).mp fPortable)).1
/-- reload ≡ original for every argument tuple, caller, depth and fuel -/
example (thisA thisB : Value) (args : List Value) (depth f : Nat)
    (h : (callFn intOps (f + 1) (.lambda 7 fPs fBody fScope) thisA args depth stF).1 ≠ .fuel) :
    readJson pfModel pbModel (toJson (.lambda fPs (exprSrc fSc fBody))) =
      .ok (.lambda 0 fPs (substExpr pbModel fSc fBody) []) ∧
    (callFn intOps (f + 2 + 1) (.lambda 0 fPs (substExpr pbModel fSc fBody) []) thisB args depth stF).1 =
      (callFn intOps (f + 1) (.lambda 7 fPs fBody fScope) thisA args depth stF).1 := by
  have H := reload_equiv_fragment intOps 7 fPs fBody fScope fSc stF stF rfl
    ((portable_iff _ _ _).mp fPortable) (by decide +kernel)
    ⟨rfl, by simp [nameOf], by simp [nameOf]⟩
  exact ⟨H.2.1, H.2.2 thisA thisB args depth f h⟩
/-- outside the class: a call in the body, a string capture, a reserved parameter name -/
example : bodyOk (.call xa [xk]) = false ∧ bodyOk (.bin .via xa xk) = false ∧
    litOk (.str "s") = false ∧ litOk (.num F64.nan) = false ∧ litOk (.num F64.negZero) = true ∧
    portable [.req "if"] xa [] = false := by decide +kernel
end endToEndExample
end examples

end Blots.C05
