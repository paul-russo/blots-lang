import Blots.Lemmas.EvalEnvCall
import Blots.Lemmas.EvalEnvWeak
import Blots.Lemmas.EvalWeakClosed
/-
  C02 — Evaluation is deterministic and free of side effects on values.

  Determinism itself is by construction: the model `eval` is a (total) function of
  (ops, fuel, depth, expression, state), see `eval_is_a_function`.  The parts with content:

  (1) the real environment frames are HashMaps, the model's are association lists: every
      lookup the evaluator makes (`lookupAL`, `envGet`, `captureScope`) is independent of the
      order of the entries of a frame with distinct keys, and of the order in which the free
      variables are listed;
  (2) evaluation never changes the value bound to a name (C03's invariant, re-exported);
  (3) the pure built-ins (everything except the eight higher-order ones) are functions of
      their arguments: the result does not depend on the state, and the state is returned
      unchanged — `random(seed)` included;
  (4) weakening (the easy half of the let-abstraction law): binding an unused fresh name
      does not change evaluation — proved for expressions without function application
      (`weakening_partial`), and for arbitrary expressions (function application included:
      call expressions, `via` / `into` / `where`, the higher-order built-ins) evaluated in an
      environment of hereditarily closed values (`weakening_closed`); full statement kept as
      `weakening_statement`;
  (5) evaluating twice: an evaluation that allocates no function cell and makes no frame-level
      assignment returns the state exactly as it was, so a second evaluation is the same
      evaluation (`eval_twice`); the two conditions are needed (examples);
  (6) let-abstraction of the subexpression that is evaluated first (`let_abstraction_leftmost`).
-/
namespace Blots.C02

theorem eval_is_a_function (ops : NumOps) (fuel depth : Nat) (e : Expr) (s : ES) (r1 r2 : R Value)
    (h1 : eval ops fuel depth e s = r1) (h2 : eval ops fuel depth e s = r2) : r1 = r2 :=
  h1.symm.trans h2

theorem frame_lookup_perm (f f' : Frame) (k : String) (hnd : (f.map Prod.fst).Nodup) (hp : f.Perm f') :
    lookupAL k f = lookupAL k f' :=
  lookupAL_perm k hnd hp

/-- `FramesPerm`: frame by frame a permutation, with distinct keys -/
theorem env_lookup_perm (k : String) (env env' : List Frame) (h : FramesPerm env env') :
    envGet env k = envGet env' k :=
  envGet_framesPerm k h

theorem captureScope_lookup (env : List Frame) (vars : List String) (x : String) :
    lookupAL x (captureScope env vars) = if x ∈ vars then envGet env x else none :=
  Blots.captureScope_lookup env vars x

theorem captureScope_keys_distinct (env : List Frame) (vars : List String) :
    ((captureScope env vars).map Prod.fst).Nodup :=
  captureScope_nodup env vars

theorem captureScope_order_independent (env env' : List Frame) (vars vars' : List String) (x : String)
    (henv : FramesPerm env env')
    (hvars : vars.Perm vars') :
    lookupAL x (captureScope env vars) = lookupAL x (captureScope env' vars') := by
  rw [Blots.captureScope_lookup, Blots.captureScope_lookup, env_lookup_perm x env env' henv]
  have : x ∈ vars ↔ x ∈ vars' := hvars.mem_iff
  simp only [this]

/-- the frames the evaluator builds (by `insertAL` from the empty frame) have distinct keys: the
    hypothesis of `frame_lookup_perm` and `env_lookup_perm` is met -/
theorem built_frames_have_distinct_keys (kvs : List (String × Value)) :
    ((insertAll [] kvs).map Prod.fst).Nodup :=
  insertAll_nodup kvs [] (by simp)

theorem insert_keeps_keys_distinct (k : String) (v : Value) (f : Frame) (h : (f.map Prod.fst).Nodup) :
    ((insertAL k v f).map Prod.fst).Nodup :=
  insertAL_nodup k v f h

/-- a top-level statement (depth 0), whatever its outcome, leaves every visible name bound to the
    same value -/
theorem values_are_immutable (ops : NumOps) (fuel : Nat) (e : Expr) (s : ES) (x : String) (v : Value)
    (hx : envGet s.env x = some v) : envGet (eval ops fuel 0 e s).2.env x = some v :=
  (eval_ext ops fuel e s).get x v hx

/-- at any call depth.  Inside a call a plain assignment may add a name to the call's own frame
    that is also bound further out: this is why `values_are_immutable` is stated at depth 0. -/
theorem frame_values_are_immutable (ops : NumOps) (fuel depth : Nat) (e : Expr) (s : ES) (top : Frame)
    (below : List Frame) (hs : s.env = top :: below) :
    ∃ top', (eval ops fuel depth e s).2.env = top' :: below ∧
      ∀ x v, lookupAL x top = some v → lookupAL x top' = some v := by
  have h := eval_topExt ops fuel depth e s
  rcases h.below with he | ⟨f', he⟩
  · exact ⟨top, by rw [he, hs], fun _ _ h => h⟩
  · refine ⟨f', by rw [he, hs]; rfl, ?_⟩
    have := h.top; rw [he, hs] at this; exact this

theorem calls_do_not_touch_the_environment (ops : NumOps) (fuel : Nat) (fv this : Value) (args : List Value)
    (depth : Nat) (s : ES) : (callFn ops fuel fv this args depth s).2.env = s.env :=
  callFn_env ops fuel fv this args depth s

theorem builtin_results_depend_only_on_args (ops : NumOps) (name : String) (args : List Value) (depth : Nat)
    (hn : isHof name = false) :
    ∃ r : Outcome Value, ∀ (fuel : Nat) (this : Value) (s : ES),
      callFn ops (fuel + 1) (.builtin name) this args depth s = (r, s) := by
  cases ha : builtinArity name with
  | none => exact ⟨.err .other, fun fuel this s => by rw [callFn, ha]⟩
  | some ar =>
    cases hc : checkArity ar args.length with
    | ok u =>
      by_cases hd : depth > MAX_DEPTH
      · exact ⟨.err .depth, fun fuel this s => by rw [callFn, ha]; simp only [hc, hd, if_true]⟩
      · cases hp : callPure ops name args with
        | none =>
          exact ⟨.err .other, fun fuel this s => by
            rw [callFn, ha]; simp only [hc, hd, if_false, hn, Bool.false_eq_true, hp]⟩
        | some r =>
          exact ⟨r, fun fuel this s => by
            rw [callFn, ha]; simp only [hc, hd, if_false, hn, Bool.false_eq_true, hp]⟩
    | err k => exact ⟨.err k, fun fuel this s => by rw [callFn, ha]; simp only [hc]⟩
    | panic p => exact ⟨.panic p, fun fuel this s => by rw [callFn, ha]; simp only [hc]⟩
    | fuel => exact ⟨.fuel, fun fuel this s => by rw [callFn, ha]; simp only [hc]⟩

theorem builtin_call_site_independent (ops : NumOps) (name : String) (args : List Value) (depth : Nat)
    (hn : isHof name = false) (fuel fuel' : Nat) (this this' : Value) (s s' : ES) :
    (callFn ops (fuel + 1) (.builtin name) this args depth s).1 =
      (callFn ops (fuel' + 1) (.builtin name) this' args depth s').1 := by
  obtain ⟨r, hr⟩ := builtin_results_depend_only_on_args ops name args depth hn
  rw [hr, hr]

/-- `random(seed)` is one of the pure built-ins -/
theorem random_is_a_function_of_its_seed (ops : NumOps) (seed : Value) (depth : Nat)
    (fuel fuel' : Nat) (this this' : Value) (s s' : ES) :
    (callFn ops (fuel + 1) (.builtin "random") this [seed] depth s).1 =
      (callFn ops (fuel' + 1) (.builtin "random") this' [seed] depth s').1 :=
  builtin_call_site_independent ops "random" [seed] depth (by decide) fuel fuel' this this' s s'

/-- every built-in name is either one of the eight higher-order ones or covered by
    `builtin_results_depend_only_on_args` (whole generated table) -/
theorem builtins_are_pure_or_hof :
    ∀ r ∈ Gen.builtins, isHof r.2.1 = false ∨
      r.2.1 ∈ ["map", "filter", "reduce", "every", "some", "sort_by", "group_by", "count_by"] := by
  decide

/-- The full statement (not proved in this generality; `weakening_closed` proves it for
    environments of hereditarily closed values): `t` is not `inputs`, is not mentioned by `e` (`mentions`: as
    identifier, assignment target, parameter, shorthand key; `#field` mentions `inputs`), by
    any function value stored in the environment (`valueMentions`), nor is it a display name;
    then evaluating `e` in the state with the extra binding `(t, w)` at the head of the frame
    at depth `k` gives the same outcome, and the same resulting state with that extra binding. -/
def weakening_statement : Prop :=
  ∀ (ops : NumOps) (fuel depth : Nat) (e : Expr) (k : Nat) (s : ES) (t : String) (w : Value),
    t ≠ "inputs" → k < s.env.length → mentions t e = false →
    (∀ f ∈ s.env, ∀ kv ∈ f, valueMentions t kv.2 = false) → (∀ p ∈ s.names, p.2 ≠ t) →
    eval ops fuel depth e (addT t w k s) =
      ((eval ops fuel depth e s).1, addT t w k (eval ops fuel depth e s).2)

/-- The statement for every expression without function application (`callFree`:
    no call expression, no `via` / `into` / `where`; everything else, including function
    creation, do-blocks, assignments, records, conditionals) — then no condition on the values
    in the environment or the display names is needed.  Expressions that apply functions:
    see `weakening_closed` (closed environments).  For `weakening_statement` as written one
    would need the invariant "no function value reachable from the state mentions `t`" carried
    through the whole call group, in particular its preservation by each of the 60
    callback-free built-ins (`callPure`). -/
theorem weakening_partial (ops : NumOps) (fuel depth : Nat) (e : Expr) (k : Nat) (s : ES) (t : String)
    (w : Value) (ht : t ≠ "inputs") (hk : k < s.env.length) (hm : mentions t e = false)
    (hc : callFree e = true) :
    eval ops fuel depth e (addT t w k s) =
      ((eval ops fuel depth e s).1, addT t w k (eval ops fuel depth e s).2) :=
  (weak_group ops t w ht fuel).1 depth e k s hm hc hk

/-- `weakening_partial` at `k = 0` with `addT` unfolded -/
theorem weakening_partial_top (ops : NumOps) (fuel depth : Nat) (e : Expr) (s : ES) (f : Frame)
    (r : List Frame) (t : String) (w : Value) (hs : s.env = f :: r) (ht : t ≠ "inputs")
    (hm : mentions t e = false) (hc : callFree e = true) :
    ∃ f', (eval ops fuel depth e s).2.env = f' :: r ∧
      eval ops fuel depth e { s with env := ((t, w) :: f) :: r } =
        ((eval ops fuel depth e s).1,
         { (eval ops fuel depth e s).2 with env := ((t, w) :: f') :: r }) :=
  addT_zero_top hs (weakening_partial ops fuel depth e 0 s t w ht (by rw [hs]; simp) hm hc)

theorem weakening_partial_lists (ops : NumOps) (fuel depth : Nat) (k : Nat) (s : ES) (t : String) (w : Value)
    (ht : t ≠ "inputs") (hk : k < s.env.length) :
    (∀ is, mentionsItems t is = false → callFreeItems is = true →
      evalItems ops fuel depth is (addT t w k s) =
        ((evalItems ops fuel depth is s).1, addT t w k (evalItems ops fuel depth is s).2)) ∧
    (∀ es acc, mentionsEntries t es = false → callFreeEntries es = true →
      evalEntries ops fuel depth es acc (addT t w k s) =
        ((evalEntries ops fuel depth es acc s).1, addT t w k (evalEntries ops fuel depth es acc s).2)) ∧
    (∀ stmts ret, mentionsItems t stmts = false → mentionsItem t ret = false →
      callFreeItems stmts = true → callFreeItem ret = true →
      evalDo ops fuel depth stmts ret (addT t w k s) =
        ((evalDo ops fuel depth stmts ret s).1, addT t w k (evalDo ops fuel depth stmts ret s).2)) :=
  ⟨fun is hm hc => (weak_group ops t w ht fuel).2.1 depth is k s hm hc hk,
   fun es acc hm hc => (weak_group ops t w ht fuel).2.2.1 depth es acc k s hm hc hk,
   fun stmts ret h1 h2 h3 h4 => (weak_group ops t w ht fuel).2.2.2.2 depth stmts ret k s h1 h2 h3 h4 hk⟩

/-- Weakening for arbitrary expressions.  `ClosedE N E` (Lemmas/EvalEnvClosed.lean): every
    function value bound anywhere in the environment — also inside lists, records, captured
    scopes — is closed after capture (each free name of its body is a parameter, captured, its
    own display name, or `inputs`), has no nested `output`, and captured only such values.  The
    value of `inputs` is one of the bound values.

    Then for every expression `e` (no nested `output`) that does not touch `t` — `touches t e`
    (Lemmas/EvalEnvClosedCoin.lean): `t` is read as an identifier / shorthand key, assigned, or
    free in a function `e` creates; a name that `e` does not mention at all is not touched
    (`not_mentioned_not_touched`), and `t` may be a parameter or local of functions in `e` —
    and whose free names are bound (or `inputs`), at every fuel and call depth (0 = a top-level
    statement included), with the extra binding `(t, w)` put in front of any frame `k` of the chain:
    same outcome, and the same final state with the same extra binding.  Nothing is assumed of
    the new value `w` (it may be a non-closed function value) and nothing of how the functions
    reachable from the environment spell their own parameters and locals: they may well use the
    name `t` themselves (see the example: the callee's parameter is called `t`).
    Covers every way `e` can run functions: calling bound / captured / just-created functions,
    `via` / `into` / `where`, `map` / `filter` / `reduce` / `every` / `some` / `sort_by` /
    `group_by` / `count_by` with lambda callbacks, nested function creation, assignments,
    do-blocks.

    Why "free names bound": an unbound free name of a lambda inside `e` is resolved late, in
    whatever chain the lambda is later called from (C04 `call_site_independent_statement_false`),
    so the value is not closed; weakening is still expected to hold then, but it is not covered
    by the closedness invariant.  The one everyday case of an unbound free name, the recursive
    definition `f = (n) => … f(n - 1) …`, is covered by `weakening_definition` below. -/
theorem weakening_closed (ops : NumOps) (fuel depth : Nat) (e : Expr) (k : Nat) (s : ES) (t : String)
    (w : Value) (ht : t ≠ "inputs") (hk : k < s.env.length) (hm : touches t e = false)
    (hw : noOutput e = true) (hE : ClosedE s.names s.env)
    (hfree : ∀ x, FreeIn x e → x = "inputs" ∨ (envGet s.env x).isSome) :
    eval ops fuel depth e (addT t w k s) =
      ((eval ops fuel depth e s).1, addT t w k (eval ops fuel depth e s).2) :=
  ((weak ops w ht fuel).eval depth e s.env.length k s (by omega) ⟨hk, hE⟩ hw hm (fok_of_bound hfree)).1

/-- the condition of `weakening_partial` implies the one of `weakening_closed` -/
theorem not_mentioned_not_touched (t : String) (e : Expr) (h : mentions t e = false) : touches t e = false :=
  touches_of_mentions t e h

/-- `noOutput` excludes a nested `output`; the statement forms `output x = e`, `output e` are the
    only place the grammar puts it -/
theorem weakening_closed_output (ops : NumOps) (fuel depth : Nat) (e : Expr) (k : Nat) (s : ES) (t : String)
    (w : Value) (ht : t ≠ "inputs") (hk : k < s.env.length) (hm : touches t e = false)
    (hw : noOutput e = true) (hE : ClosedE s.names s.env)
    (hfree : ∀ x, FreeIn x e → x = "inputs" ∨ (envGet s.env x).isSome) :
    eval ops fuel depth (.output e) (addT t w k s) =
      ((eval ops fuel depth (.output e) s).1, addT t w k (eval ops fuel depth (.output e) s).2) := by
  cases fuel with
  | zero => rw [eval_zero, eval_zero]
  | succ fuel =>
    rw [eval_output, eval_output]
    exact weakening_closed ops fuel depth e k s t w ht hk hm hw hE hfree

/-- the invariant is kept, so `weakening_closed` applies statement after statement with the same
    fresh name -/
theorem weakening_closed_keeps_closed (ops : NumOps) (fuel depth : Nat) (e : Expr) (s : ES) (t : String)
    (ht : t ≠ "inputs") (hne : s.env ≠ []) (hm : touches t e = false) (hw : noOutput e = true)
    (hE : ClosedE s.names s.env)
    (hfree : ∀ x, FreeIn x e → x = "inputs" ∨ (envGet s.env x).isSome) :
    NamesLe s.names (eval ops fuel depth e s).2.names ∧
      ClosedE (eval ops fuel depth e s).2.names (eval ops fuel depth e s).2.env ∧
      ∀ v, (eval ops fuel depth e s).1 = .ok v → ClosedV (eval ops fuel depth e s).2.names v := by
  have hk : 0 < s.env.length := List.length_pos_iff.mpr hne
  have h := ((weak ops .null ht fuel).eval depth e s.env.length 0 s hk ⟨hk, hE⟩ hw hm (fok_of_bound hfree)).2
  exact ⟨h.names, h.cl, h.val⟩

/-- `weakening_closed` at `k = 0` with `addT` unfolded -/
theorem weakening_closed_top (ops : NumOps) (fuel depth : Nat) (e : Expr) (s : ES) (f : Frame)
    (r : List Frame) (t : String) (w : Value) (hs : s.env = f :: r) (ht : t ≠ "inputs")
    (hm : touches t e = false) (hw : noOutput e = true) (hE : ClosedE s.names s.env)
    (hfree : ∀ x, FreeIn x e → x = "inputs" ∨ (envGet s.env x).isSome) :
    ∃ f', (eval ops fuel depth e s).2.env = f' :: r ∧
      eval ops fuel depth e { s with env := ((t, w) :: f) :: r } =
        ((eval ops fuel depth e s).1,
         { (eval ops fuel depth e s).2 with env := ((t, w) :: f') :: r }) :=
  addT_zero_top hs (weakening_closed ops fuel depth e 0 s t w ht (by rw [hs]; simp) hm hw hE hfree)

theorem weakening_closed_lists (ops : NumOps) (fuel depth : Nat) (k : Nat) (s : ES) (t : String) (w : Value)
    (ht : t ≠ "inputs") (hk : k < s.env.length) (hE : ClosedE s.names s.env) :
    (∀ es, touchesList t es = false → noOutputList es = true →
      (∀ x, FreeInList x es → x = "inputs" ∨ (envGet s.env x).isSome) →
      evalList ops fuel depth es (addT t w k s) =
        ((evalList ops fuel depth es s).1, addT t w k (evalList ops fuel depth es s).2)) ∧
    (∀ is, touchesItems t is = false → noOutputItems is = true →
      (∀ x, FreeInItems x is → x = "inputs" ∨ (envGet s.env x).isSome) →
      evalItems ops fuel depth is (addT t w k s) =
        ((evalItems ops fuel depth is s).1, addT t w k (evalItems ops fuel depth is s).2)) ∧
    (∀ es acc, touchesEntries t es = false → noOutputEntries es = true → ClosedR s.names acc →
      (∀ x, FreeInEntries x es → x = "inputs" ∨ (envGet s.env x).isSome) →
      evalEntries ops fuel depth es acc (addT t w k s) =
        ((evalEntries ops fuel depth es acc s).1, addT t w k (evalEntries ops fuel depth es acc s).2)) ∧
    (∀ stmts ret, touchesItems t stmts = false → touchesItem t ret = false →
      noOutputItems stmts = true → noOutputItem ret = true →
      (∀ x, FreeInDo x stmts ret → x = "inputs" ∨ (envGet s.env x).isSome) →
      evalDo ops fuel depth stmts ret (addT t w k s) =
        ((evalDo ops fuel depth stmts ret s).1, addT t w k (evalDo ops fuel depth stmts ret s).2)) :=
  have hn : 0 < s.env.length := by omega
  ⟨fun es hm hw hf => ((weak ops w ht fuel).evalList depth es _ k s hn ⟨hk, hE⟩ hw hm (fok_of_bound hf)).1,
   fun is hm hw hf => ((weak ops w ht fuel).evalItems depth is _ k s hn ⟨hk, hE⟩ hw hm (fok_of_bound hf)).1,
   fun es acc hm hw ha hf =>
     ((weak ops w ht fuel).evalEntries depth es acc _ k s hn ⟨hk, hE⟩ hw hm (fok_of_bound hf) ha).1,
   fun stmts ret h1 h2 h3 h4 hf =>
     ((weak ops w ht fuel).evalDo depth stmts ret _ k s hn ⟨hk, hE⟩ h3 h4 h1 h2 (fok_of_bound hf)).1⟩

/-- the step `weakening_closed` delegates to C04's closed-coincidence invariant -/
theorem weakening_call (ops : NumOps) (fuel : Nat) (fv this : Value) (args : List Value) (depth k : Nat)
    (s : ES) (t : String) (w : Value) (ht : t ≠ "inputs") (hE : ClosedE s.names s.env)
    (hf : ClosedV s.names fv) (hth : ClosedV s.names this) (ha : ClosedL s.names args) :
    callFn ops fuel fv this args depth (addT t w k s) =
      ((callFn ops fuel fv this args depth s).1, addT t w k (callFn ops fuel fv this args depth s).2) :=
  (callFn_addT ops w ht fuel fv this args depth k s hE hf hth ha).1

/-- the hypothesis "free names bound" can be checked by computation: the free names are the
    list `freeVars [] e` -/
theorem free_names_checkable (e : Expr) (P : String → Prop) (hw : noOutput e = true)
    (hall : ∀ x ∈ freeVars [] e, P x) : ∀ x, FreeIn x e → P x :=
  fun x hx => hall x ((freeVars_iff e [] x hw).mpr ⟨hx, by simp⟩)

/-- Definitions `f = (ps) => body` (recursive ones included: `f` itself may be free in `body`
    and unbound): creating a function evaluates nothing, so no condition on the environment or
    on the free names is needed, only that `t` is not the defined name and not free in the
    function -/
theorem weakening_definition (ops : NumOps) (fuel depth : Nat) (nm : String) (ps : List LArg) (body : Expr)
    (k : Nat) (s : ES) (t : String) (w : Value) (hk : k < s.env.length)
    (hm : touches t (.assign nm (.lambda ps body)) = false) :
    eval ops fuel depth (.assign nm (.lambda ps body)) (addT t w k s) =
      ((eval ops fuel depth (.assign nm (.lambda ps body)) s).1,
       addT t w k (eval ops fuel depth (.assign nm (.lambda ps body)) s).2) :=
  weak_definition ops w fuel depth nm ps body k s hk hm

/-- `assignFree`: `.assign` only inside function bodies or do-blocks, whose frames are dropped -/
theorem eval_twice_same_environment (ops : NumOps) (fuel depth : Nat) (e : Expr) (s : ES)
    (ha : assignFree e = true) : (eval ops fuel depth e s).2.env = s.env :=
  eval_env_same ops fuel depth e s ha

/-- Evaluating twice.  In a well-formed state (`StateOk`, C03: every function cell in use and
    every named cell is below the cell counter — kept by evaluation, true initially), an
    expression without frame-level assignment whose evaluation allocates no function cell
    (`nextId` unchanged; in particular its value contains no newly created function) returns
    the state exactly as it was, so evaluating it again is the same evaluation: same outcome,
    same state.  Any outcome, any fuel and call depth, calls of any kind included.

    Not proved: the general case where cells are allocated.
    Then the second evaluation draws different cell ids, so the two values are equal only up to
    the renaming `id ↦ id + (s1.nextId - s.nextId)` of the new cells; proving that needs a
    simulation "evaluation commutes with a monotone renaming of cell ids" through all fifteen
    functions of the evaluator and each of the 60 built-ins in `callPure` (`veq` / `vcmp` /
    sorting / `unique` on values that contain function cells).  The two hypotheses below are
    needed for the literal statement, see the examples. -/
theorem eval_twice (ops : NumOps) (fuel depth : Nat) (e : Expr) (s : ES) (hs : StateOk s)
    (ha : assignFree e = true) (hid : (eval ops fuel depth e s).2.nextId = s.nextId) :
    (eval ops fuel depth e s).2 = s ∧
      eval ops fuel depth e (eval ops fuel depth e s).2 = eval ops fuel depth e s := by
  have h := eval_state_same ops fuel depth e s hs ha hid
  exact ⟨h, by rw [h]⟩

/-- `eval_twice` in the form of the property text -/
theorem eval_twice_outcome (ops : NumOps) (fuel depth : Nat) (e : Expr) (s s1 : ES) (r : Outcome Value)
    (hs : StateOk s) (ha : assignFree e = true) (h : eval ops fuel depth e s = (r, s1))
    (hid : s1.nextId = s.nextId) : eval ops fuel depth e s1 = (r, s1) := by
  have h2 := eval_twice ops fuel depth e s hs ha (by rw [h]; exact hid)
  rw [h] at h2
  exact h2.2

/-- Let-abstraction of the subexpression that is evaluated first.  `c : LCtx`
    (Lemmas/EvalWeakClosed.lean) is an expression with a hole that is evaluated first, exactly
    once and unconditionally: `□`, `op □`, `□!`, `□.f`, `□ op r`, `□[i]`, `if □ then a else b`,
    `x = □`, `□(args…)`, `fn(□, rest…)` with `fn` a built-in / identifier / literal
    (`simpleHeads`), `[□, rest…]`, nested in any way.  `c.plug e` fills the hole.

    In an environment of closed values, if the subexpression `e'` evaluates to `v` and leaves the
    state as it was (no assignment, no function cell: see `eval_twice`), and `t` is a fresh name
    (`C[e']` does not touch it, it is not `inputs` / `inf` / `infinity` / `constants`), then
    `C[t]` evaluated with `t ↦ v` bound in the innermost frame gives the same outcome as
    `C[e']`, and the same final state plus that binding.  `c.depth` is the fuel the context
    uses above the hole.

    Relation to the program `t = e'; C[t]`: the statement `t = e'` binds `t ↦ v` in the innermost
    frame and gives no display name (`e'` allocated no cell); the model keeps a frame as an
    association list and the statement puts the new pair at its end where `addT` puts it at the
    head — the real frame is a hash map, and no lookup depends on the position
    (`frame_lookup_perm`), but the two model states are not literally equal, which is why the
    theorem is stated with `addT`.

    Not proved: holes in other positions (evaluated later, conditionally, or repeatedly).  There
    the subexpression is evaluated in a state that the rest of `C` has already changed, so one
    needs "the value of `e'` is stable under growth of the state", which is the simulation
    described at `eval_twice`. -/
theorem let_abstraction_leftmost (ops : NumOps) (fuel0 depth : Nat) (c : LCtx) (e' : Expr) (s : ES) (t : String)
    (v : Value) (ht : t ≠ "inputs") (hsp : t ∉ Gen.specialIdents) (hne : s.env ≠ [])
    (hE : ClosedE s.names s.env) (hc : c.simpleHeads = true) (hw : noOutput (c.plug e') = true)
    (hm : touches t (c.plug e') = false)
    (hfree : ∀ x, FreeIn x (c.plug e') → x = "inputs" ∨ (envGet s.env x).isSome)
    (h0 : eval ops fuel0 depth e' s = (.ok v, s)) :
    eval ops (fuel0 + c.depth) depth (c.plug (.ident t)) (addT t v 0 s) =
      ((eval ops (fuel0 + c.depth) depth (c.plug e') s).1,
       addT t v 0 (eval ops (fuel0 + c.depth) depth (c.plug e') s).2) :=
  have hk : 0 < s.env.length := List.length_pos_iff.mpr hne
  (let_abstraction_ctx ops ht hsp hk ⟨hk, hE⟩ h0 c hc hw hm (fok_of_bound hfree)).1

/-- so a name the body does not mention is never captured -/
theorem free_names_are_mentioned (e : Expr) (bound : List String) (x : String)
    (h : x ∈ freeVars bound e) : mentions x e = true :=
  freeVars_mentions e bound x h

/-- hypotheses of `frame_lookup_perm` / `env_lookup_perm` -/
example : ([("a", Value.null), ("b", Value.bool true)].map Prod.fst).Nodup ∧
    [("a", Value.null), ("b", Value.bool true)].Perm [("b", Value.bool true), ("a", Value.null)] :=
  ⟨by decide, List.Perm.swap _ _ _⟩

/-- distinct keys are needed: with a duplicate key the order matters -/
example : lookupAL "a" [("a", Value.null), ("a", Value.bool true)] ≠
    lookupAL "a" [("a", Value.bool true), ("a", Value.null)] := by
  simp [lookupAL]

/-- hypothesis of `builtin_results_depend_only_on_args` -/
example : isHof "random" = false ∧ isHof "sqrt" = false ∧ isHof "map" = true := by decide

/-- hypotheses of `weakening_partial`: `y = do { u = x; return {u, v: (a) => a} }`, fresh name `z` -/
example : "z" ≠ "inputs" ∧ 0 < root0.env.length ∧
    mentions "z" (.assign "y" (.doBlock [it (.assign "u" (.ident "x"))]
      (it (.record [.mk [] (.short "u") (.ident "u") none,
                    .mk [] (.static "v") (.lambda [.req "a"] (.ident "a")) none])))) = false ∧
    callFree (.assign "y" (.doBlock [it (.assign "u" (.ident "x"))]
      (it (.record [.mk [] (.short "u") (.ident "u") none,
                    .mk [] (.static "v") (.lambda [.req "a"] (.ident "a")) none])))) = true := by
  decide

/- `C02Ex.exS` (Lemmas/EvalWeakClosed.lean): the environment `g = (t) => [t, y]` which captured
   `y ↦ 1` (C04's closed example function; its parameter is called `t`), and `a ↦ "arg"`.
   `C02Ex.exE`: `[g(a), map([a], (x) => g(x))]` — calls a captured closure, and the higher-order
   built-in `map` with a lambda callback that calls the closure again. -/

/-- hypotheses of `weakening_closed` for the fresh name `t` (the callee's own parameter name) -/
example : "t" ≠ "inputs" ∧ 0 < C02Ex.exS.env.length ∧ touches "t" C02Ex.exE = false ∧
    noOutput C02Ex.exE = true ∧ ClosedE C02Ex.exS.names C02Ex.exS.env ∧
    (∀ x, FreeIn x C02Ex.exE → x = "inputs" ∨ (envGet C02Ex.exS.env x).isSome) := by
  refine ⟨by decide, by decide, by decide, by decide, ?_,
    free_names_checkable C02Ex.exE _ (by decide) (by decide)⟩
  intro f hf
  simp only [C02Ex.exS, List.mem_singleton] at hf
  subst hf
  simp [ClosedR, C02Ex.exS, C04Ex.exG_closed]

/-- both sides computed: with `t ↦ false` added to the frame the result is still
    `[["arg", 1], [["arg", 1]]]` — inside `g` the name `t` is the parameter -/
example :
    (eval toyOps 20 0 C02Ex.exE C02Ex.exS).1 =
      .ok (.list [.list [.str "arg", .num F64.one], .list [.list [.str "arg", .num F64.one]]]) ∧
    (eval toyOps 20 0 C02Ex.exE (addT "t" (.bool false) 0 C02Ex.exS)).1 =
      .ok (.list [.list [.str "arg", .num F64.one], .list [.list [.str "arg", .num F64.one]]]) := by
  set_option linter.unusedSimpArgs false in
  constructor <;>
  simp +decide [C02Ex.exE, C02Ex.exS, addT, addAt, C04Ex.exG, callFn, callHof, mapCalls, eval, evalItems,
    evalList, it,
    checkArity, lambdaArity, Gen.Arity.canAccept, MAX_DEPTH, nameOf, bindParams, bindParams.go, envGet,
    lookupAL, insertAL, flattenSpreads, Value.isCallable, C04Ex.map_arity, isHof, arityOf, freeVars,
    freeVarsList, captureScope, LArg.name]

/-- `weakening_closed` applied to it -/
example : eval toyOps 20 0 C02Ex.exE (addT "t" (.bool false) 0 C02Ex.exS) =
    ((eval toyOps 20 0 C02Ex.exE C02Ex.exS).1,
     addT "t" (.bool false) 0 (eval toyOps 20 0 C02Ex.exE C02Ex.exS).2) :=
  weakening_closed toyOps 20 0 C02Ex.exE 0 C02Ex.exS "t" (.bool false) (by decide) (by decide) (by decide)
    (by decide)
    (by intro f hf
        simp only [C02Ex.exS, List.mem_singleton] at hf
        subst hf
        simp [ClosedR, C02Ex.exS, C04Ex.exG_closed])
    (free_names_checkable C02Ex.exE _ (by decide) (by decide))

/-- "free names bound" is needed for the closedness invariant: `(x) => y` created where `y` is
    unbound is not a closed value -/
example : ¬ ClosedV [] (.lambda 1 [.req "x"] (.ident "y") []) := by
  rw [closedV_lambda]
  intro h
  have := h.1 "y" (.ident (by decide))
  simp +decide at this

/-- hypotheses of `weakening_definition`: `f = (n) => f(n)`, fresh name `z` -/
example : touches "z" (.assign "f" (.lambda [.req "n"] (.call (.ident "f") [.ident "n"]))) = false ∧
    0 < root0.env.length := by decide

/-- `touches` is weaker than `mentions`: `map([a], (t) => g(t))` mentions `t` (a parameter) but
    does not touch it, so `weakening_closed` applies to the fresh name `t` -/
example : mentions "t" (.call (.builtin "map") [.list [it (.ident "a")],
      .lambda [.req "t"] (.call (.ident "g") [.ident "t"])]) = true ∧
    touches "t" (.call (.builtin "map") [.list [it (.ident "a")],
      .lambda [.req "t"] (.call (.ident "g") [.ident "t"])]) = false := by decide

/-- hypotheses of `eval_twice`: `g(a)` in the state of the example above allocates no cell -/
example : StateOk C02Ex.exS ∧ assignFree (.call (.ident "g") [.ident "a"]) = true ∧
    (eval toyOps 20 0 (.call (.ident "g") [.ident "a"]) C02Ex.exS).2.nextId = C02Ex.exS.nextId := by
  refine ⟨⟨by decide, by intro p hp; simp [C02Ex.exS] at hp⟩, by decide, ?_⟩
  simp +decide [C02Ex.exS, C04Ex.exG, callFn, eval, evalItems, evalList, it, checkArity, nameOf, bindParams,
    bindParams.go, envGet, lookupAL, insertAL, flattenSpreads]

/-- "no assignment" is needed: `x = 1` succeeds the first time and fails the second time -/
example : (eval toyOps 5 0 (.assign "x" (.num F64.one)) root0).1 = .ok (.num F64.one) ∧
    (eval toyOps 5 0 (.assign "x" (.num F64.one)) (eval toyOps 5 0 (.assign "x" (.num F64.one)) root0).2).1 =
      .err .alreadyDefined := by
  set_option linter.unusedSimpArgs false in
  constructor <;>
  simp +decide [eval, root0, alreadyDefined, envContains, envGet, lookupAL, insertAL, envInsert,
    setNameIfLambda, createdSince, isBuiltinIdent, Gen.assignKeywords]

/-- "allocates no cell" is needed for literal equality: `(a) => a` evaluated twice gives two
    function values that differ in their cell id -/
example : (eval toyOps 5 0 (.lambda [.req "a"] (.ident "a")) root0).1 =
      .ok (.lambda 1 [.req "a"] (.ident "a") []) ∧
    (eval toyOps 5 0 (.lambda [.req "a"] (.ident "a"))
      (eval toyOps 5 0 (.lambda [.req "a"] (.ident "a")) root0).2).1 =
      .ok (.lambda 2 [.req "a"] (.ident "a") []) := by
  constructor <;> simp +decide [eval, root0, freeVars, captureScope]

/-- `map(□, (x) => g(x))` with `□ := [a]`, abstracted as `t`: hypotheses of
    `let_abstraction_leftmost` in the example state (`g` is the closed function above) -/
example :
    let c : LCtx := .callArg (.builtin "map") .hole [.lambda [.req "x"] (.call (.ident "g") [.ident "x"])]
    let e' : Expr := .list [it (.ident "a")]
    c.plug e' = .call (.builtin "map") [.list [it (.ident "a")],
        .lambda [.req "x"] (.call (.ident "g") [.ident "x"])] ∧
      c.plug (.ident "t") = .call (.builtin "map") [.ident "t",
        .lambda [.req "x"] (.call (.ident "g") [.ident "x"])] ∧
      c.depth = 2 ∧ c.simpleHeads = true ∧ "t" ∉ Gen.specialIdents ∧
      noOutput (c.plug e') = true ∧ touches "t" (c.plug e') = false ∧
      (∀ x, FreeIn x (c.plug e') → x = "inputs" ∨ (envGet C02Ex.exS.env x).isSome) ∧
      eval toyOps 5 0 e' C02Ex.exS = (.ok (.list [.str "arg"]), C02Ex.exS) := by
  refine ⟨rfl, rfl, rfl, by decide, by decide, by decide, by decide,
    free_names_checkable _ _ (by decide) (by decide), ?_⟩
  simp +decide [C02Ex.exS, eval, evalItems, it, envGet, lookupAL, flattenSpreads]

/-- both sides computed: `[["arg", 1]]` -/
example :
    (eval toyOps 20 0 (.call (.builtin "map") [.list [it (.ident "a")],
        .lambda [.req "x"] (.call (.ident "g") [.ident "x"])]) C02Ex.exS).1 =
      .ok (.list [.list [.str "arg", .num F64.one]]) ∧
    (eval toyOps 20 0 (.call (.builtin "map") [.ident "t",
        .lambda [.req "x"] (.call (.ident "g") [.ident "x"])])
      (addT "t" (.list [.str "arg"]) 0 C02Ex.exS)).1 = .ok (.list [.list [.str "arg", .num F64.one]]) := by
  set_option linter.unusedSimpArgs false in
  constructor <;>
  simp +decide [C02Ex.exS, addT, addAt, C04Ex.exG, callFn, callHof, mapCalls, eval, evalItems, evalList, it,
    checkArity, lambdaArity, Gen.Arity.canAccept, MAX_DEPTH, nameOf, bindParams, bindParams.go, envGet,
    lookupAL, insertAL, flattenSpreads, Value.isCallable, C04Ex.map_arity, isHof, arityOf, freeVars,
    freeVarsList, captureScope, LArg.name]

/-- the condition "not mentioned" matters: binding the name `x` that `e` reads changes the outcome -/
example : (eval toyOps 2 0 (.ident "x") root0).1 = .err .unknownIdent ∧
    (eval toyOps 2 0 (.ident "x") (addT "x" .null 0 root0)).1 = .ok .null := by
  constructor <;> simp +decide [eval, root0, addT, addAt, envGet, lookupAL]

end Blots.C02
