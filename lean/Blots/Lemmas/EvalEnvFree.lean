import Blots.Model.Eval
/-
  `collect_free_variables` (model: `freeVars`) against a declarative definition of free
  occurrence (`FreeIn`), C04 item 1.
-/
namespace Blots

mutual
/-- `FreeIn x e`: the name `x` is read by `e` from the enclosing scope.  Binders: the parameters
    of a function (for its body) and a direct assignment statement of a do-block (for the
    statements after it and the `return`).  `inf`, `infinity`, `constants` as identifiers are
    not variables; the record shorthand `{x}` reads the variable `x` (whatever its name). -/
inductive FreeIn : String → Expr → Prop
  | ident {x} : x ∉ Gen.specialIdents → FreeIn x (.ident x)
  | lambda {x args body} : FreeIn x body → x ∉ args.map LArg.name → FreeIn x (.lambda args body)
  | binL {x op l r} : FreeIn x l → FreeIn x (.bin op l r)
  | binR {x op l r} : FreeIn x r → FreeIn x (.bin op l r)
  | un {x op e} : FreeIn x e → FreeIn x (.un op e)
  | fact {x e} : FreeIn x e → FreeIn x (.fact e)
  | spread {x e} : FreeIn x e → FreeIn x (.spread e)
  | callF {x f args} : FreeIn x f → FreeIn x (.call f args)
  | callA {x f args} : FreeInList x args → FreeIn x (.call f args)
  | accessE {x e i} : FreeIn x e → FreeIn x (.access e i)
  | accessI {x e i} : FreeIn x i → FreeIn x (.access e i)
  | dot {x e f} : FreeIn x e → FreeIn x (.dot e f)
  | condC {x c t e} : FreeIn x c → FreeIn x (.cond c t e)
  | condT {x c t e} : FreeIn x t → FreeIn x (.cond c t e)
  | condE {x c t e} : FreeIn x e → FreeIn x (.cond c t e)
  | assign {x n v} : FreeIn x v → FreeIn x (.assign n v)
  | output {x e} : FreeIn x e → FreeIn x (.output e)
  | list {x items} : FreeInItems x items → FreeIn x (.list items)
  | record {x es} : FreeInEntries x es → FreeIn x (.record es)
  | doBlock {x stmts ret} : FreeInDo x stmts ret → FreeIn x (.doBlock stmts ret)
inductive FreeInList : String → List Expr → Prop
  | head {x e es} : FreeIn x e → FreeInList x (e :: es)
  | tail {x e es} : FreeInList x es → FreeInList x (e :: es)
inductive FreeInItems : String → List Item → Prop
  | head {x l e t is} : FreeIn x e → FreeInItems x (.mk l e t :: is)
  | tail {x i is} : FreeInItems x is → FreeInItems x (i :: is)
/-- sequential scoping of a do-block: free in a statement, or free further on and not bound by
    this statement -/
inductive FreeInDo : String → List Item → Item → Prop
  | ret {x l e t} : FreeIn x e → FreeInDo x [] (.mk l e t)
  | here {x l e t rest ret} : FreeIn x e → FreeInDo x (.mk l e t :: rest) ret
  | later {x l e t rest ret} : FreeInDo x rest ret → (∀ v, e ≠ .assign x v) →
      FreeInDo x (.mk l e t :: rest) ret
inductive FreeInEntries : String → List Entry → Prop
  | head {x e es} : FreeInEntry x e → FreeInEntries x (e :: es)
  | tail {x e es} : FreeInEntries x es → FreeInEntries x (e :: es)
inductive FreeInEntry : String → Entry → Prop
  | static {x l k v t} : FreeIn x v → FreeInEntry x (.mk l (.static k) v t)
  | dynK {x l ke v t} : FreeIn x ke → FreeInEntry x (.mk l (.dyn ke) v t)
  | dynV {x l ke v t} : FreeIn x v → FreeInEntry x (.mk l (.dyn ke) v t)
  | short {x l v t} : FreeInEntry x (.mk l (.short x) v t)
  | spread {x l se v t} : FreeIn x se → FreeInEntry x (.mk l (.spread se) v t)
end

section inv
variable {x : String}

theorem freeIn_ident {n} : FreeIn x (.ident n) ↔ x = n ∧ n ∉ Gen.specialIdents :=
  ⟨fun h => by cases h; exact ⟨rfl, ‹_›⟩, fun ⟨h1, h2⟩ => by subst h1; exact .ident h2⟩
theorem freeIn_lambda {args body} : FreeIn x (.lambda args body) ↔ FreeIn x body ∧ x ∉ args.map LArg.name :=
  ⟨fun h => by cases h; exact ⟨‹_›, ‹_›⟩, fun ⟨h1, h2⟩ => .lambda h1 h2⟩
theorem freeIn_bin {op l r} : FreeIn x (.bin op l r) ↔ FreeIn x l ∨ FreeIn x r :=
  ⟨fun h => by cases h <;> simp [*], fun h => h.elim .binL .binR⟩
theorem freeIn_un {op e} : FreeIn x (.un op e) ↔ FreeIn x e :=
  ⟨fun h => by cases h; assumption, .un⟩
theorem freeIn_fact {e} : FreeIn x (.fact e) ↔ FreeIn x e :=
  ⟨fun h => by cases h; assumption, .fact⟩
theorem freeIn_spread {e} : FreeIn x (.spread e) ↔ FreeIn x e :=
  ⟨fun h => by cases h; assumption, .spread⟩
theorem freeIn_call {f args} : FreeIn x (.call f args) ↔ FreeIn x f ∨ FreeInList x args :=
  ⟨fun h => by cases h <;> simp [*], fun h => h.elim .callF .callA⟩
theorem freeIn_access {e i} : FreeIn x (.access e i) ↔ FreeIn x e ∨ FreeIn x i :=
  ⟨fun h => by cases h <;> simp [*], fun h => h.elim .accessE .accessI⟩
theorem freeIn_dot {e f} : FreeIn x (.dot e f) ↔ FreeIn x e :=
  ⟨fun h => by cases h; assumption, .dot⟩
theorem freeIn_cond {c t e} : FreeIn x (.cond c t e) ↔ FreeIn x c ∨ FreeIn x t ∨ FreeIn x e :=
  ⟨fun h => by cases h <;> simp [*], fun h => h.elim .condC (fun h => h.elim .condT .condE)⟩
theorem freeIn_assign {n v} : FreeIn x (.assign n v) ↔ FreeIn x v :=
  ⟨fun h => by cases h; assumption, .assign⟩
theorem freeIn_output {e} : FreeIn x (.output e) ↔ FreeIn x e :=
  ⟨fun h => by cases h; assumption, .output⟩
theorem freeIn_list {items} : FreeIn x (.list items) ↔ FreeInItems x items :=
  ⟨fun h => by cases h; assumption, .list⟩
theorem freeIn_record {es} : FreeIn x (.record es) ↔ FreeInEntries x es :=
  ⟨fun h => by cases h; assumption, .record⟩
theorem freeIn_doBlock {stmts ret} : FreeIn x (.doBlock stmts ret) ↔ FreeInDo x stmts ret :=
  ⟨fun h => by cases h; assumption, .doBlock⟩
theorem freeIn_num {a} : ¬ FreeIn x (.num a) := fun h => by cases h
theorem freeIn_str {a} : ¬ FreeIn x (.str a) := fun h => by cases h
theorem freeIn_bool {a} : ¬ FreeIn x (.bool a) := fun h => by cases h
theorem freeIn_null : ¬ FreeIn x .null := fun h => by cases h
theorem freeIn_inref {a} : ¬ FreeIn x (.inref a) := fun h => by cases h
theorem freeIn_builtin {a} : ¬ FreeIn x (.builtin a) := fun h => by cases h

theorem freeInList_nil : ¬ FreeInList x [] := fun h => by cases h
theorem freeInList_cons {e es} : FreeInList x (e :: es) ↔ FreeIn x e ∨ FreeInList x es :=
  ⟨fun h => by cases h <;> simp [*], fun h => h.elim .head .tail⟩
theorem freeInItems_nil : ¬ FreeInItems x [] := fun h => by cases h
theorem freeInItems_cons {l e t is} : FreeInItems x (.mk l e t :: is) ↔ FreeIn x e ∨ FreeInItems x is :=
  ⟨fun h => by cases h <;> simp [*], fun h => h.elim .head .tail⟩
theorem freeInDo_nil {l e t} : FreeInDo x [] (.mk l e t) ↔ FreeIn x e :=
  ⟨fun h => by cases h; assumption, .ret⟩
theorem freeInDo_cons {l e t rest ret} : FreeInDo x (.mk l e t :: rest) ret ↔
    FreeIn x e ∨ (FreeInDo x rest ret ∧ ∀ v, e ≠ .assign x v) :=
  ⟨fun h => by cases h <;> simp [*], fun h => h.elim .here (fun h => .later h.1 h.2)⟩
theorem freeInEntries_nil : ¬ FreeInEntries x [] := fun h => by cases h
theorem freeInEntries_cons {e es} : FreeInEntries x (e :: es) ↔ FreeInEntry x e ∨ FreeInEntries x es :=
  ⟨fun h => by cases h <;> simp [*], fun h => h.elim .head .tail⟩
theorem freeInEntry_static {l k v t} : FreeInEntry x (.mk l (.static k) v t) ↔ FreeIn x v :=
  ⟨fun h => by cases h; assumption, .static⟩
theorem freeInEntry_dyn {l ke v t} : FreeInEntry x (.mk l (.dyn ke) v t) ↔ FreeIn x ke ∨ FreeIn x v :=
  ⟨fun h => by cases h <;> simp [*], fun h => h.elim .dynK .dynV⟩
theorem freeInEntry_short {l n v t} : FreeInEntry x (.mk l (.short n) v t) ↔ x = n :=
  ⟨fun h => by cases h; rfl, fun h => by subst h; exact .short⟩
theorem freeInEntry_spread {l se v t} : FreeInEntry x (.mk l (.spread se) v t) ↔ FreeIn x se :=
  ⟨fun h => by cases h; assumption, .spread⟩
end inv

mutual
/-- `output` is a statement-level annotation: the grammar (`statement = output_declaration |
    expression`) never nests it inside an expression, and `collect_free_variables` does not
    look inside it -/
def noOutput : Expr → Bool
  | .output _ => false
  | .lambda _ body => noOutput body
  | .bin _ l r => noOutput l && noOutput r
  | .un _ e => noOutput e
  | .fact e => noOutput e
  | .spread e => noOutput e
  | .call f args => noOutput f && noOutputList args
  | .access e i => noOutput e && noOutput i
  | .dot e _ => noOutput e
  | .cond c t e => noOutput c && noOutput t && noOutput e
  | .assign _ v => noOutput v
  | .list items => noOutputItems items
  | .record es => noOutputEntries es
  | .doBlock stmts ret => noOutputItems stmts && noOutputItem ret
  | _ => true
def noOutputList : List Expr → Bool
  | [] => true
  | e :: es => noOutput e && noOutputList es
def noOutputItem : Item → Bool
  | .mk _ e _ => noOutput e
def noOutputItems : List Item → Bool
  | [] => true
  | i :: is => noOutputItem i && noOutputItems is
def noOutputEntry : Entry → Bool
  | .mk _ k v _ => noOutputKey k && noOutput v
def noOutputEntries : List Entry → Bool
  | [] => true
  | e :: es => noOutputEntry e && noOutputEntries es
def noOutputKey : Key → Bool
  | .dyn e => noOutput e
  | .spread e => noOutput e
  | _ => true
end

theorem not_mem_boundAfterStmt {x : String} {bound : List String} {l e t} :
    x ∉ boundAfterStmt bound (.mk l e t) ↔ x ∉ bound ∧ ∀ v, e ≠ .assign x v := by
  by_cases he : ∃ n v, e = .assign n v
  · obtain ⟨n, v, rfl⟩ := he
    simp only [boundAfterStmt, List.mem_cons, not_or]
    exact ⟨fun ⟨h1, h2⟩ => ⟨h2, fun v' hv => h1 (by cases hv; rfl)⟩,
      fun ⟨h1, h2⟩ => ⟨fun hx => h2 v (hx ▸ rfl), h1⟩⟩
  · rw [boundAfterStmt]
    · exact ⟨fun h => ⟨h, fun v hv => he ⟨x, v, hv⟩⟩, fun h => h.1⟩
    · exact fun _ n v _ h => he ⟨n, v, (Item.mk.inj h).2.1⟩

theorem freeVars_doBlock_cons (bound : List String) (i : Item) (rest : List Item) (ret : Item) :
    freeVarsStmts bound (i :: rest) ++ freeVarsItem (boundAfterStmts bound (i :: rest)) ret =
      freeVarsItem bound i ++
        (freeVarsStmts (boundAfterStmt bound i) rest ++
          freeVarsItem (boundAfterStmts (boundAfterStmt bound i) rest) ret) := by
  simp only [freeVarsStmts, boundAfterStmts, List.foldl_cons, List.append_assoc]

mutual
theorem freeVars_iff : ∀ (e : Expr) (bound : List String) (x : String), noOutput e = true →
    (x ∈ freeVars bound e ↔ FreeIn x e ∧ x ∉ bound)
  | .num _, bound, x, _ | .str _, bound, x, _ | .bool _, bound, x, _ | .null, bound, x, _
  | .inref _, bound, x, _ | .builtin _, bound, x, _ => by
    simp [freeVars, freeIn_num, freeIn_str, freeIn_bool, freeIn_null, freeIn_inref, freeIn_builtin]
  | .output _, _, _, h => by simp [noOutput] at h
  | .ident n, bound, x, _ => by
    simp only [freeVars, freeIn_ident, Bool.or_eq_true, List.contains_eq_mem, decide_eq_true_eq]
    split
    · rename_i h
      simp only [List.not_mem_nil, false_iff]
      rintro ⟨⟨rfl, h2⟩, h3⟩
      exact h.elim h3 h2
    · rename_i h
      simp only [List.mem_singleton]
      exact ⟨by rintro rfl; exact ⟨⟨rfl, fun h2 => h (.inr h2)⟩, fun h3 => h (.inl h3)⟩, fun h => h.1.1⟩
  | .lambda args body, bound, x, h => by
    simp only [noOutput] at h
    simp only [freeVars, freeIn_lambda, freeVars_iff body _ x h, List.mem_append, not_or, and_assoc]
  | .bin _ l r, bound, x, h => by
    simp only [noOutput, Bool.and_eq_true] at h
    simp only [freeVars, freeIn_bin, List.mem_append, freeVars_iff l bound x h.1,
      freeVars_iff r bound x h.2, or_and_right]
  | .un _ e, bound, x, h => by
    simp only [noOutput] at h
    simp only [freeVars, freeIn_un, freeVars_iff e bound x h]
  | .fact e, bound, x, h => by
    simp only [noOutput] at h
    simp only [freeVars, freeIn_fact, freeVars_iff e bound x h]
  | .spread e, bound, x, h => by
    simp only [noOutput] at h
    simp only [freeVars, freeIn_spread, freeVars_iff e bound x h]
  | .call f args, bound, x, h => by
    simp only [noOutput, Bool.and_eq_true] at h
    simp only [freeVars, freeIn_call, List.mem_append, freeVars_iff f bound x h.1,
      freeVarsList_iff args bound x h.2, or_and_right]
  | .access e i, bound, x, h => by
    simp only [noOutput, Bool.and_eq_true] at h
    simp only [freeVars, freeIn_access, List.mem_append, freeVars_iff e bound x h.1,
      freeVars_iff i bound x h.2, or_and_right]
  | .dot e _, bound, x, h => by
    simp only [noOutput] at h
    simp only [freeVars, freeIn_dot, freeVars_iff e bound x h]
  | .cond c t e, bound, x, h => by
    simp only [noOutput, Bool.and_eq_true] at h
    simp only [freeVars, freeIn_cond, List.mem_append, freeVars_iff c bound x h.1.1,
      freeVars_iff t bound x h.1.2, freeVars_iff e bound x h.2, or_and_right, or_assoc]
  | .assign _ v, bound, x, h => by
    simp only [noOutput] at h
    simp only [freeVars, freeIn_assign, freeVars_iff v bound x h]
  | .list items, bound, x, h => by
    simp only [noOutput] at h
    simp only [freeVars, freeIn_list, freeVarsItems_iff items bound x h]
  | .record es, bound, x, h => by
    simp only [noOutput] at h
    simp only [freeVars, freeIn_record, freeVarsEntries_iff es bound x h]
  | .doBlock stmts (.mk rl re rt), bound, x, h => by
    simp only [noOutput, noOutputItem, Bool.and_eq_true] at h
    simp only [freeVars, freeIn_doBlock]
    exact freeVarsDo_iff stmts rl re rt bound x h.1 (fun b => freeVars_iff re b x h.2)
theorem freeVarsList_iff : ∀ (es : List Expr) (bound : List String) (x : String), noOutputList es = true →
    (x ∈ freeVarsList bound es ↔ FreeInList x es ∧ x ∉ bound)
  | [], bound, x, _ => by simp [freeVarsList, freeInList_nil]
  | e :: es, bound, x, h => by
    simp only [noOutputList, Bool.and_eq_true] at h
    simp only [freeVarsList, freeInList_cons, List.mem_append, freeVars_iff e bound x h.1,
      freeVarsList_iff es bound x h.2, or_and_right]
theorem freeVarsItems_iff : ∀ (is : List Item) (bound : List String) (x : String), noOutputItems is = true →
    (x ∈ freeVarsItems bound is ↔ FreeInItems x is ∧ x ∉ bound)
  | [], bound, x, _ => by simp [freeVarsItems, freeInItems_nil]
  | .mk _ e _ :: is, bound, x, h => by
    simp only [noOutputItems, noOutputItem, Bool.and_eq_true] at h
    simp only [freeVarsItems, freeVarsItem, freeInItems_cons, List.mem_append, freeVars_iff e bound x h.1,
      freeVarsItems_iff is bound x h.2, or_and_right]
theorem freeVarsDo_iff : ∀ (stmts : List Item) (rl : List String) (re : Expr) (rt : Option String)
    (bound : List String) (x : String),
    noOutputItems stmts = true → (∀ b, x ∈ freeVars b re ↔ FreeIn x re ∧ x ∉ b) →
    (x ∈ freeVarsStmts bound stmts ++ freeVarsItem (boundAfterStmts bound stmts) (.mk rl re rt) ↔
      FreeInDo x stmts (.mk rl re rt) ∧ x ∉ bound)
  | [], rl, re, rt, bound, x, _, h2 => by
    simp only [freeVarsStmts, boundAfterStmts, List.foldl_nil, List.nil_append, freeVarsItem, freeInDo_nil,
      h2 bound]
  | .mk l e t :: rest, rl, re, rt, bound, x, h1, h2 => by
    simp only [noOutputItems, noOutputItem, Bool.and_eq_true] at h1
    rw [freeVars_doBlock_cons, List.mem_append, freeVarsDo_iff rest rl re rt _ x h1.2 h2, freeVarsItem,
      freeVars_iff e bound x h1.1, freeInDo_cons, not_mem_boundAfterStmt, or_and_right, and_right_comm, and_assoc]
theorem freeVarsEntries_iff : ∀ (es : List Entry) (bound : List String) (x : String),
    noOutputEntries es = true →
    (x ∈ freeVarsEntries bound es ↔ FreeInEntries x es ∧ x ∉ bound)
  | [], bound, x, _ => by simp [freeVarsEntries, freeInEntries_nil]
  | .mk l k v t :: es, bound, x, h => by
    simp only [noOutputEntries, noOutputEntry, Bool.and_eq_true] at h
    have hv := freeVars_iff v bound x h.1.2
    have key : x ∈ freeVarsKey bound k (freeVars bound v) ↔ FreeInEntry x (.mk l k v t) ∧ x ∉ bound := by
      cases k with
      | static k => simp only [freeVarsKey, freeInEntry_static, hv]
      | dyn ke =>
        simp only [freeVarsKey, freeInEntry_dyn, List.mem_append, hv, freeVars_iff ke bound x h.1.1,
          or_and_right]
      | short n =>
        simp only [freeVarsKey, freeInEntry_short, List.contains_eq_mem, decide_eq_true_eq]
        split
        · rename_i hb
          simp only [List.not_mem_nil, false_iff]
          rintro ⟨rfl, h3⟩; exact h3 hb
        · rename_i hb
          simp only [List.mem_singleton]
          exact ⟨by rintro rfl; exact ⟨rfl, hb⟩, fun h => h.1⟩
      | spread se => simp only [freeVarsKey, freeInEntry_spread, freeVars_iff se bound x h.1.1]
    simp only [freeVarsEntries, freeVarsEntry, freeInEntries_cons, List.mem_append, key,
      freeVarsEntries_iff es bound x h.2, or_and_right]
end

end Blots
