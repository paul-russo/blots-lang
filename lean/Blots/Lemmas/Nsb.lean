import Blots.Lemmas.ValueAll
/-
  The call depth only matters through the guard `depth > MAX_DEPTH`: a run that does not end
  in the depth error is the same run when started at any smaller call depth — EXCEPT through
  `sort_by`, which swallows every error of its key function, the depth error included
  (functions.rs `(Ok a, Ok b) => … , _ => Ordering::Equal`): `sort_by([3,1,2], abs)` called at
  depth 999 returns `[3,1,2]`, at depth 998 `[1,2,3]`.  So the statement is proved for runs in
  which no `sort_by` built-in value is reachable (`nsb`: "no sort_by"): not in the expression,
  the function, the arguments, or the environment.
-/
namespace Blots

mutual
def Expr.nsb : Expr → Bool
  | .builtin n => n != "sort_by"
  | .list items => Item.nsbList items
  | .record es => Entry.nsbList es
  | .lambda _ body => body.nsb
  | .cond c t e => c.nsb && t.nsb && e.nsb
  | .doBlock stmts ret => Item.nsbList stmts && ret.nsb
  | .assign _ v => v.nsb
  | .output e => e.nsb
  | .call f args => f.nsb && Expr.nsbList args
  | .access e i => e.nsb && i.nsb
  | .dot e _ => e.nsb
  | .bin _ l r => l.nsb && r.nsb
  | .un _ e => e.nsb
  | .fact e => e.nsb
  | .spread e => e.nsb
  | .num _ => true
  | .str _ => true
  | .bool _ => true
  | .null => true
  | .ident _ => true
  | .inref _ => true
def Expr.nsbList : List Expr → Bool
  | [] => true
  | e :: es => e.nsb && Expr.nsbList es
def Item.nsb : Item → Bool
  | .mk _ e _ => e.nsb
def Item.nsbList : List Item → Bool
  | [] => true
  | i :: is => i.nsb && Item.nsbList is
def Entry.nsb : Entry → Bool
  | .mk _ k v _ => k.nsb && v.nsb
def Entry.nsbList : List Entry → Bool
  | [] => true
  | e :: es => e.nsb && Entry.nsbList es
def Key.nsb : Key → Bool
  | .dyn e => e.nsb
  | .spread e => e.nsb
  | .static _ => true
  | .short _ => true
end

mutual
def Value.nsb : Value → Bool
  | .builtin n => n != "sort_by"
  | .list xs => Value.nsbList xs
  | .record r => Value.nsbRec r
  | .lambda _ _ body scope => body.nsb && Value.nsbRec scope
  | .spread v => v.nsb
  | .num _ => true
  | .bool _ => true
  | .null => true
  | .str _ => true
def Value.nsbList : List Value → Bool
  | [] => true
  | x :: xs => x.nsb && Value.nsbList xs
def Value.nsbRec : List (String × Value) → Bool
  | [] => true
  | (_, v) :: r => v.nsb && Value.nsbRec r
end

def nsbEnv : List Frame → Bool
  | [] => true
  | f :: fs => Value.nsbRec f && nsbEnv fs

def ES.nsb (s : ES) : Bool := nsbEnv s.env

/-- `Value.nsb` is `All nsbLeaf` -/
def nsbLeaf : Leaf := ⟨fun _ _ body _ => body.nsb = true, fun n => n ≠ "sort_by"⟩

mutual
theorem nsb_all : ∀ {v : Value}, v.nsb = true ↔ All nsbLeaf v
  | .builtin n => by simp only [Value.nsb, all_builtin, nsbLeaf, bne_iff_ne]
  | .list xs => by rw [Value.nsb, all_list]; exact nsbList_all
  | .record r => by rw [Value.nsb, all_record]; exact nsbRec_all
  | .lambda _ _ _ scope => by rw [Value.nsb, all_lambda, Bool.and_eq_true, nsbRec_all]; rfl
  | .spread v => by rw [Value.nsb, all_spread]; exact nsb_all
  | .num _ => by simp only [Value.nsb, all_num]
  | .bool _ => by simp only [Value.nsb, all_bool]
  | .null => by simp only [Value.nsb, all_null]
  | .str _ => by simp only [Value.nsb, all_str]
theorem nsbList_all : ∀ {xs : List Value}, Value.nsbList xs = true ↔ AllL nsbLeaf xs
  | [] => by simp only [Value.nsbList, allL_nil]
  | x :: xs => by rw [Value.nsbList, Bool.and_eq_true, allL_cons, nsb_all, nsbList_all]
theorem nsbRec_all : ∀ {r : List (String × Value)}, Value.nsbRec r = true ↔ AllR nsbLeaf r
  | [] => by simp only [Value.nsbRec, allR_nil]
  | (_, v) :: r => by rw [Value.nsbRec, Bool.and_eq_true, allR_cons, nsb_all, nsbRec_all]
end

theorem nsbEnv_all : ∀ {e : List Frame}, nsbEnv e = true ↔ AllE nsbLeaf e
  | [] => by simp only [nsbEnv, allE_nil]
  | f :: fs => by rw [nsbEnv, Bool.and_eq_true, allE_cons, nsbRec_all, nsbEnv_all]

theorem nsbList_iff (xs : List Value) : Value.nsbList xs = true ↔ ∀ x ∈ xs, x.nsb = true := by
  simp only [nsbList_all, allL_iff, nsb_all]

theorem nsbRec_iff (r : List (String × Value)) : Value.nsbRec r = true ↔ ∀ kv ∈ r, kv.2.nsb = true := by
  simp only [nsbRec_all, allR_iff, nsb_all]

theorem nsbEnv_iff (e : List Frame) : nsbEnv e = true ↔ ∀ f ∈ e, Value.nsbRec f = true := by
  simp only [nsbEnv_all, AllE, nsbRec_all]

theorem nsbList_cons {x : Value} {xs : List Value} (hx : x.nsb = true)
    (hxs : Value.nsbList xs = true) : Value.nsbList (x :: xs) = true := by
  rw [Value.nsbList, hx, hxs]; rfl

theorem nsbList_one {x : Value} (hx : x.nsb = true) : Value.nsbList [x] = true :=
  nsbList_cons hx rfl

theorem Outcome.Sat.nsb {o : Outcome Value} (h : o.Sat (All nsbLeaf)) (a : Value) (e : o = .ok a) :
    a.nsb = true := nsb_all.2 (h a e)

theorem nsb_getElem? {xs : List Value} {i : Nat} {x : Value} (h : Value.nsbList xs = true)
    (hx : xs[i]? = some x) : x.nsb = true :=
  nsb_all.2 ((nsbList_all.1 h).getElem? hx)

theorem nsb_lookupAL {k : String} {v : Value} {r : List (String × Value)}
    (hr : Value.nsbRec r = true) (h : lookupAL k r = some v) : v.nsb = true :=
  nsb_all.2 ((nsbRec_all.1 hr).lookup h)

theorem nsb_insertAL {k : String} {v : Value} (hv : v.nsb = true) {r : List (String × Value)}
    (hr : Value.nsbRec r = true) : Value.nsbRec (insertAL k v r) = true :=
  nsbRec_all.2 ((nsbRec_all.1 hr).insert (nsb_all.1 hv))

theorem nsb_envGet {k : String} {v : Value} {env : List Frame}
    (he : nsbEnv env = true) (h : envGet env k = some v) : v.nsb = true :=
  nsb_all.2 ((nsbEnv_all.1 he).get h)

theorem nsbEnv_drop {env : List Frame} (he : nsbEnv env = true) (k : Nat) :
    nsbEnv (env.drop k) = true :=
  nsbEnv_all.2 ((nsbEnv_all.1 he).drop k)

theorem nsb_captureScope {env : List Frame} (he : nsbEnv env = true) (vars : List String) :
    Value.nsbRec (captureScope env vars) = true :=
  nsbRec_all.2 ((nsbEnv_all.1 he).capture vars)

theorem nsb_flattenSpreads {vs : List Value} (h : Value.nsbList vs = true) :
    Value.nsbList (flattenSpreads vs) = true :=
  nsbList_all.2 (allL_flattenSpreads (nsbList_all.1 h))

theorem nsb_spreadIntoRecord {rec : Frame} {v : Value} (hr : Value.nsbRec rec = true)
    (hv : v.nsb = true) : Value.nsbRec (spreadIntoRecord rec v) = true :=
  nsbRec_all.2 (allR_spreadIntoRecord (nsbRec_all.1 hr) (nsb_all.1 hv))

theorem nsb_bindParams {params : List LArg} {args : List Value} {pf : Frame}
    (ha : Value.nsbList args = true) (h : bindParams params args = .ok pf) :
    Value.nsbRec pf = true :=
  nsbRec_all.2 (sat_bindParams (nsbList_all.1 ha) pf h)

theorem nsb_groupByKeys {xs ks : List Value} {r : Frame} (hx : Value.nsbList xs = true)
    (h : groupByKeys xs ks = some r) : Value.nsbRec r = true :=
  nsbRec_all.2 (allR_groupByKeys (nsbList_all.1 hx) h)

theorem nsb_countByKeys {ops : NumOps} {ks : List Value} {r : Frame}
    (h : countByKeys ops ks = some r) : Value.nsbRec r = true :=
  nsbRec_all.2 (allR_countByKeys h)

theorem callPure_keeps_nsb (ops : NumOps) {name : String} {args : List Value} {v : Value}
    (h : callPure ops name args = some (.ok v)) (ha : Value.nsbList args = true) : v.nsb = true :=
  nsb_all.2 (callPure_all ops h (nsbList_all.1 ha))

theorem nsb_constants : Value.nsb (.record constantsRecord) = true := by decide

end Blots
