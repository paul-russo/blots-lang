import Blots.Lemmas.OfRatio
import Blots.Lemmas.Num
/-
  `F64.parseDec` (model of Rust `str::parse::<f64>`) on well-formed decimal literals.

  `parseDec_eq` cuts the definition into named stages (by `rfl`), so that each stage is
  stepped through separately.  `parseDec_decimal_literal`: the text
  `[sign] digits [. digits] [(e|E) [sign] digits]` parses to the correct rounding (`ofRatio`)
  of its exact value, packaged as `decVal`.  From it: `{:.0}` of an integral double reads back
  as the same double (`parseDec_toFixed_zero`), and the three layouts of `positional` read back
  as the rounding of `d × 10 ^ e` (`parseDec_positional`, the bridge for
  `parseDec (toDisplay x) = x`).
-/
namespace Blots.F64

theorem zeros_toList (n : Nat) : (zeros n).toList = List.replicate n '0' := by
  simp only [zeros, String.toList_ofList]

theorem digitsVal_zeros (n : Nat) : digitsVal (zeros n).toList = 0 := by
  rw [zeros_toList, digitsVal_replicate_zero]

/-- the sign split of `parseDec` (also used for the exponent's sign) -/
def splitSign (cs : List Char) : Bool × List Char :=
  match cs with
  | '-' :: r => (true, r)
  | '+' :: r => (false, r)
  | r => (false, r)

/-- the exponent part `expo` of `parseDec`; `ipl`, `fpl` are the mantissa digit counts -/
def parseExpo (ipl fpl : Nat) (r2 : List Char) : Option Int :=
  match r2 with
  | [] => some 0
  | c :: r =>
    if c = 'e' || c = 'E' then
      let p := splitSign r
      if p.2.isEmpty || !p.2.all isDigit then none
      else
        let v := digitsVal p.2
        let bound := 400 + ipl + fpl
        let v := if v > bound then bound else v
        some (if p.1 then - Int.ofNat v else Int.ofNat v)
    else none

/-- correct rounding of `± mant × 10 ^ e10` -/
def decVal (negative : Bool) (mant : Nat) (e10 : Int) : F64 :=
  if e10 ≥ 0 then ofRatio negative (mant * 10 ^ e10.toNat) 1
  else ofRatio negative mant (10 ^ (-e10).toNat)

/-- the final `match expo with` of `parseDec` -/
def parseFinish (negative : Bool) (ip fp : List Char) (expo : Option Int) : Option F64 :=
  match expo with
  | none => none
  | some ex =>
    let mant := digitsVal (ip ++ fp)
    let e10 : Int := ex - Int.ofNat fp.length
    if e10 ≥ 0 then some (ofRatio negative (mant * 10 ^ e10.toNat) 1)
    else some (ofRatio negative mant (10 ^ (-e10).toNat))

/-- the `(fp, r2, hadDot)` split of `parseDec` -/
def splitFrac (r1 : List Char) : List Char × List Char × Bool :=
  match r1 with
  | '.' :: r => (r.takeWhile isDigit, r.dropWhile isDigit, true)
  | r => ([], r, false)

/-- `parseDec` after the sign and the special words -/
def parseMant (negative : Bool) (cs : List Char) : Option F64 :=
  let ip := cs.takeWhile isDigit
  let r1 := cs.dropWhile isDigit
  let fr := splitFrac r1
  if ip.isEmpty && fr.1.isEmpty then none
  else parseFinish negative ip fr.1 (parseExpo ip.length fr.1.length fr.2.1)

/-- `parseDec` after the sign split -/
def parseUnsigned (negative : Bool) (cs : List Char) : Option F64 :=
  let low := String.ofList (cs.map lowerAscii)
  if low = "inf" || low = "infinity" then some (if negative then negInf else inf)
  else if low = "nan" then some (if negative then ofNatBits 0xFFF8000000000000 else nan)
  else parseMant negative cs

theorem parseDec_eq (s : String) :
    parseDec s = parseUnsigned (splitSign s.toList).1 (splitSign s.toList).2 := by
  unfold parseDec parseUnsigned parseMant parseFinish parseExpo splitFrac splitSign
  rfl

/-- a property of the first character of a text, true of the empty text -/
def HeadSat (p : Char → Prop) : List Char → Prop
  | [] => True
  | c :: _ => p c

theorem HeadSat.imp {p q : Char → Prop} (hpq : ∀ c, p c → q c) :
    ∀ {r : List Char}, HeadSat p r → HeadSat q r
  | [], _ => trivial
  | c :: _, h => hpq c h

/-- `sg` is an optional sign and `neg` tells whether it is a minus -/
def IsSign (sg : List Char) (neg : Bool) : Prop :=
  (sg = [] ∧ neg = false) ∨ (sg = ['+'] ∧ neg = false) ∨ (sg = ['-'] ∧ neg = true)

theorem splitSign_of_head (cs : List Char) (h : HeadSat (fun c => c ≠ '-' ∧ c ≠ '+') cs) :
    splitSign cs = (false, cs) := by
  unfold splitSign
  split
  · exact absurd rfl h.1
  · exact absurd rfl h.2
  · rfl

theorem splitSign_sign (sg : List Char) (neg : Bool) (cs : List Char) (hs : IsSign sg neg)
    (h : HeadSat (fun c => c ≠ '-' ∧ c ≠ '+') cs) : splitSign (sg ++ cs) = (neg, cs) := by
  rcases hs with ⟨rfl, rfl⟩ | ⟨rfl, rfl⟩ | ⟨rfl, rfl⟩
  · exact splitSign_of_head cs h
  · rfl
  · rfl

theorem takeWhile_of_head (p : Char → Bool) (r : List Char) (h : HeadSat (fun c => p c = false) r) :
    r.takeWhile p = [] ∧ r.dropWhile p = r := by
  cases r with
  | nil => exact ⟨rfl, rfl⟩
  | cons c t =>
    have hc : p c = false := h
    simp [hc]

theorem span_digits (ds r : List Char) (hd : ∀ c ∈ ds, isDigit c = true)
    (hr : HeadSat (fun c => isDigit c = false) r) :
    (ds ++ r).takeWhile isDigit = ds ∧ (ds ++ r).dropWhile isDigit = r := by
  rw [List.takeWhile_append_of_pos hd, List.dropWhile_append_of_pos hd,
    (takeWhile_of_head isDigit r hr).1, (takeWhile_of_head isDigit r hr).2, List.append_nil]
  exact ⟨rfl, rfl⟩

theorem lowerAscii_of_lt (c : Char) (h : c.toNat < 65) : lowerAscii c = c := by
  have : ¬ ('A' ≤ c) := by
    rw [Char.le_def, UInt32.le_iff_toNat_le]
    have : c.val.toNat = c.toNat := rfl
    have : 'A'.val.toNat = 65 := rfl
    omega
  simp [lowerAscii, this]

theorem parseUnsigned_of_head (neg : Bool) (c : Char) (t : List Char)
    (h1 : lowerAscii c ≠ 'i') (h2 : lowerAscii c ≠ 'n') :
    parseUnsigned neg (c :: t) = parseMant neg (c :: t) := by
  -- a word with another first letter is not matched
  have key : ∀ (w : String) (d : Char) (r : List Char), w.toList = d :: r → lowerAscii c ≠ d →
      ¬ (String.ofList ((c :: t).map lowerAscii) = w) := by
    intro w d r hw hd h
    have := congrArg String.toList h
    rw [String.toList_ofList, hw, List.map_cons] at this
    exact hd (List.cons.inj this).1
  have e1 := key "inf" 'i' _ rfl h1
  have e2 := key "infinity" 'i' _ rfl h1
  have e3 := key "nan" 'n' _ rfl h2
  simp only [parseUnsigned, e1, e2, e3, decide_false, Bool.or_false, if_false, Bool.false_eq_true]

/-- the first character of a mantissa: a digit or the point -/
def MantHead (c : Char) : Prop := isDigit c = true ∨ c = '.'

theorem MantHead.lower {c : Char} (h : MantHead c) : lowerAscii c ≠ 'i' ∧ lowerAscii c ≠ 'n' := by
  have hl : c.toNat < 65 := by
    rcases h with h | rfl
    · have := (isDigit_iff c).1 h; omega
    · decide
  rw [lowerAscii_of_lt c hl]
  constructor
  · rintro rfl; revert hl; decide
  · rintro rfl; revert hl; decide

theorem MantHead.notSign {c : Char} (h : MantHead c) : c ≠ '-' ∧ c ≠ '+' :=
  ⟨by rintro rfl; exact absurd h (by unfold MantHead; decide),
   by rintro rfl; exact absurd h (by unfold MantHead; decide)⟩

/-- head of the text after the mantissa: neither a digit nor a point -/
def TailHead (c : Char) : Prop := isDigit c = false ∧ c ≠ '.'

def fracText (dot : Bool) (fp : List Char) : List Char := if dot then '.' :: fp else []

theorem splitFrac_of_head (r : List Char) (h : HeadSat (fun c => c ≠ '.') r) :
    splitFrac r = ([], r, false) := by
  unfold splitFrac
  split
  · exact absurd rfl h
  · rfl

theorem parseMant_lit (neg : Bool) (ip fp : List Char) (dot : Bool) (r : List Char)
    (hip : ∀ c ∈ ip, isDigit c = true) (hfp : ∀ c ∈ fp, isDigit c = true)
    (hne : ip ++ fp ≠ []) (hdot : dot = false → fp = []) (hr : HeadSat TailHead r) :
    parseMant neg (ip ++ fracText dot fp ++ r) =
      parseFinish neg ip fp (parseExpo ip.length fp.length r) := by
  have hr1 : HeadSat (fun c => isDigit c = false) r := hr.imp fun _ h => h.1
  have hr2 : HeadSat (fun c => c ≠ '.') r := hr.imp fun _ h => h.2
  cases dot with
  | false =>
    have hfp0 : fp = [] := hdot rfl
    subst hfp0
    have hip0 : ip ≠ [] := by simpa using hne
    have hsp := span_digits ip r hip hr1
    have hcs : ip ++ fracText false [] ++ r = ip ++ r := by simp [fracText]
    have he : (ip.isEmpty && ([] : List Char).isEmpty) = false := by
      cases ip with
      | nil => exact absurd rfl hip0
      | cons a t => rfl
    rw [hcs]
    unfold parseMant
    simp only [hsp.1, hsp.2, splitFrac_of_head r hr2, he, Bool.false_eq_true, if_false]
  | true =>
    have hdotnd : HeadSat (fun c => isDigit c = false) ('.' :: (fp ++ r)) := by
      show isDigit '.' = false
      decide
    have hsp := span_digits ip ('.' :: (fp ++ r)) hip hdotnd
    have hsp2 := span_digits fp r hfp hr1
    have hcs : ip ++ fracText true fp ++ r = ip ++ '.' :: (fp ++ r) := by simp [fracText]
    have hsf : splitFrac ('.' :: (fp ++ r)) = (fp, r, true) := by
      show ((fp ++ r).takeWhile isDigit, (fp ++ r).dropWhile isDigit, true) = _
      rw [hsp2.1, hsp2.2]
    have he : (ip.isEmpty && fp.isEmpty) = false := by
      cases ip with
      | nil =>
        cases fp with
        | nil => exact absurd rfl hne
        | cons a t => rfl
      | cons a t => rfl
    rw [hcs]
    unfold parseMant
    simp only [hsp.1, hsp.2, hsf, he, Bool.false_eq_true, if_false]

/-- `ex` is a well-formed (possibly absent) exponent part denoting `ev`; the digits' value is
    at most `bound` (the model clamps larger exponents). -/
inductive IsExpText (bound : Nat) : List Char → Int → Prop
  | absent : IsExpText bound [] 0
  | present (c : Char) (sg : List Char) (eneg : Bool) (es : List Char) :
      (c = 'e' ∨ c = 'E') → IsSign sg eneg → es ≠ [] → (∀ d ∈ es, isDigit d = true) →
      digitsVal es ≤ bound →
      IsExpText bound (c :: (sg ++ es))
        (if eneg then - Int.ofNat (digitsVal es) else Int.ofNat (digitsVal es))

theorem isDigit_headSat_notSign (es : List Char) (h : ∀ d ∈ es, isDigit d = true) :
    HeadSat (fun c => c ≠ '-' ∧ c ≠ '+') es := by
  cases es with
  | nil => trivial
  | cons c t =>
    exact MantHead.notSign (Or.inl (h c (List.mem_cons_self)))

theorem parseExpo_of_isExpText (ipl fpl : Nat) (ex : List Char) (ev : Int)
    (h : IsExpText (400 + ipl + fpl) ex ev) : parseExpo ipl fpl ex = some ev := by
  cases h with
  | absent => rfl
  | present c sg eneg es hc hsg hne hes hb =>
    have hce : (decide (c = 'e') || decide (c = 'E')) = true := by
      rcases hc with rfl | rfl <;> decide
    have hss := splitSign_sign sg eneg es hsg (isDigit_headSat_notSign es hes)
    have hall : es.all isDigit = true := List.all_eq_true.2 hes
    have hemp : es.isEmpty = false := by
      cases es with
      | nil => exact absurd rfl hne
      | cons a t => rfl
    have hb' : ¬ (digitsVal es > 400 + ipl + fpl) := by omega
    unfold parseExpo
    simp only [hce, if_true, hss, hall, hemp, Bool.not_true, Bool.or_false, Bool.false_eq_true,
      if_false, if_neg hb']

theorem IsExpText.headSat {bound : Nat} {ex : List Char} {ev : Int} (h : IsExpText bound ex ev) :
    HeadSat TailHead ex := by
  cases h with
  | absent => trivial
  | present c sg eneg es hc hsg hne hes hb =>
    show TailHead c
    rcases hc with rfl | rfl <;> exact ⟨by decide, by decide⟩

theorem parseFinish_some (neg : Bool) (ip fp : List Char) (ev : Int) :
    parseFinish neg ip fp (some ev) =
      some (decVal neg (digitsVal (ip ++ fp)) (ev - Int.ofNat fp.length)) := by
  unfold parseFinish decVal
  simp only []
  split <;> rfl

/-- `parseDec` of a well-formed decimal literal
    `[sign] digits [. digits] [(e|E) [sign] digits]` (at least one mantissa digit) is the
    correct rounding of its exact value `± mantissa × 10 ^ (exponent - #fraction digits)`. -/
theorem parseDec_decimal_literal (sg : List Char) (neg : Bool) (ip fp : List Char) (dot : Bool)
    (ex : List Char) (ev : Int)
    (hsg : IsSign sg neg)
    (hip : ∀ c ∈ ip, isDigit c = true) (hfp : ∀ c ∈ fp, isDigit c = true)
    (hne : ip ++ fp ≠ []) (hdot : dot = false → fp = [])
    (hex : IsExpText (400 + ip.length + fp.length) ex ev) :
    parseDec (String.ofList (sg ++ (ip ++ fracText dot fp ++ ex))) =
      some (decVal neg (digitsVal (ip ++ fp)) (ev - Int.ofNat fp.length)) := by
  obtain ⟨c, t, hct, hc⟩ : ∃ c t, ip ++ fracText dot fp ++ ex = c :: t ∧ MantHead c := by
    cases ip with
    | nil =>
      cases dot with
      | false => exact absurd (by simp [hdot rfl]) hne
      | true => exact ⟨'.', fp ++ ex, by simp [fracText], Or.inr rfl⟩
    | cons a t =>
      exact ⟨a, t ++ fracText dot fp ++ ex, by simp, Or.inl (hip a List.mem_cons_self)⟩
  have hss : splitSign (sg ++ (ip ++ fracText dot fp ++ ex)) = (neg, ip ++ fracText dot fp ++ ex) := by
    apply splitSign_sign _ _ _ hsg
    rw [hct]; exact hc.notSign
  rw [parseDec_eq, String.toList_ofList, hss]
  show parseUnsigned neg (ip ++ fracText dot fp ++ ex) = _
  rw [hct, parseUnsigned_of_head neg c t hc.lower.1 hc.lower.2, ← hct,
    parseMant_lit neg ip fp dot ex hip hfp hne hdot hex.headSat,
    parseExpo_of_isExpText _ _ _ _ hex, parseFinish_some]


theorem parseDec_of_toList (s : String) (sg : List Char) (neg : Bool) (ip fp : List Char)
    (dot : Bool) (ex : List Char) (ev : Int)
    (hs : s.toList = sg ++ (ip ++ fracText dot fp ++ ex))
    (hsg : IsSign sg neg)
    (hip : ∀ c ∈ ip, isDigit c = true) (hfp : ∀ c ∈ fp, isDigit c = true)
    (hne : ip ++ fp ≠ []) (hdot : dot = false → fp = [])
    (hex : IsExpText (400 + ip.length + fp.length) ex ev) :
    parseDec s = some (decVal neg (digitsVal (ip ++ fp)) (ev - Int.ofNat fp.length)) := by
  rw [← String.ofList_toList (s := s), hs]
  exact parseDec_decimal_literal sg neg ip fp dot ex ev hsg hip hfp hne hdot hex

theorem decVal_nonneg (neg : Bool) (m k : Nat) :
    decVal neg m (Int.ofNat k) = ofRatio neg (m * 10 ^ k) 1 := by
  have h : (Int.ofNat k) ≥ 0 := Int.natCast_nonneg k
  have h2 : (Int.ofNat k).toNat = k := Int.toNat_natCast k
  simp only [decVal, if_pos h, h2]

theorem decVal_zero (neg : Bool) (m : Nat) : decVal neg m 0 = ofRatio neg m 1 := by
  have := decVal_nonneg neg m 0
  rw [Nat.pow_zero, Nat.mul_one] at this
  exact this

theorem decVal_neg (neg : Bool) (m k : Nat) (hk : 0 < k) :
    decVal neg m (- Int.ofNat k) = ofRatio neg m (10 ^ k) := by
  have h : ¬ (- Int.ofNat k ≥ 0) := by simp only [Int.ofNat_eq_natCast]; omega
  have h2 : (- - Int.ofNat k).toNat = k := by simp only [Int.ofNat_eq_natCast]; omega
  simp only [decVal, if_neg h, h2]

theorem isSign_ite (neg : Bool) : IsSign (if neg then ['-'] else []) neg := by
  cases neg with
  | false => exact Or.inl ⟨rfl, rfl⟩
  | true => exact Or.inr (Or.inr ⟨rfl, rfl⟩)

theorem parseDec_digits (neg : Bool) (ds : List Char) (hds : ∀ c ∈ ds, isDigit c = true)
    (hne : ds ≠ []) :
    parseDec (String.ofList ((if neg then ['-'] else []) ++ ds)) =
      some (ofRatio neg (digitsVal ds) 1) := by
  have h := parseDec_decimal_literal (if neg then ['-'] else []) neg ds [] false [] 0
    (isSign_ite neg) hds (by simp) (by simpa using hne) (fun _ => rfl) IsExpText.absent
  simp only [fracText, List.append_nil, Bool.false_eq_true, if_false, List.length_nil] at h
  rw [h]
  exact congrArg some (decVal_zero neg _)

/-- either side of the point may be empty (`5.`, `.5`), not both -/
theorem parseDec_fraction (neg : Bool) (ip fp : List Char)
    (hip : ∀ c ∈ ip, isDigit c = true) (hfp : ∀ c ∈ fp, isDigit c = true) (hne : ip ++ fp ≠ []) :
    parseDec (String.ofList ((if neg then ['-'] else []) ++ (ip ++ '.' :: fp))) =
      some (if fp = [] then ofRatio neg (digitsVal ip) 1
            else ofRatio neg (digitsVal (ip ++ fp)) (10 ^ fp.length)) := by
  have h := parseDec_decimal_literal (if neg then ['-'] else []) neg ip fp true [] 0
    (isSign_ite neg) hip hfp hne (fun h => by cases h) IsExpText.absent
  simp only [fracText, List.append_nil, if_true] at h
  rw [h]
  refine congrArg some ?_
  by_cases hfp0 : fp = []
  · subst hfp0
    simp only [if_true, List.append_nil, List.length_nil]
    exact decVal_zero neg _
  · have hl : 0 < fp.length := List.length_pos_iff.2 hfp0
    rw [if_neg hfp0, Int.zero_sub]
    exact decVal_neg neg _ _ hl

theorem parseDec_exponent (neg : Bool) (ip fp : List Char) (dot : Bool) (c : Char)
    (esg : List Char) (eneg : Bool) (es : List Char)
    (hip : ∀ c ∈ ip, isDigit c = true) (hfp : ∀ c ∈ fp, isDigit c = true) (hne : ip ++ fp ≠ [])
    (hdot : dot = false → fp = []) (hc : c = 'e' ∨ c = 'E') (hesg : IsSign esg eneg)
    (hes : ∀ c ∈ es, isDigit c = true) (hes0 : es ≠ [])
    (hb : digitsVal es ≤ 400 + ip.length + fp.length) :
    parseDec (String.ofList ((if neg then ['-'] else []) ++
        (ip ++ (if dot then '.' :: fp else []) ++ c :: (esg ++ es)))) =
      some (
        let e10 : Int := (if eneg then - Int.ofNat (digitsVal es) else Int.ofNat (digitsVal es))
          - Int.ofNat fp.length
        if e10 ≥ 0 then ofRatio neg (digitsVal (ip ++ fp) * 10 ^ e10.toNat) 1
        else ofRatio neg (digitsVal (ip ++ fp)) (10 ^ (-e10).toNat)) :=
  parseDec_decimal_literal (if neg then ['-'] else []) neg ip fp dot _ _
    (isSign_ite neg) hip hfp hne hdot (IsExpText.present c esg eneg es hc hesg hes0 hes hb)

example : parseDec "123" = some (ofRatio false 123 1) :=
  parseDec_digits false ['1', '2', '3'] (by decide) (by decide)
example : parseDec "-007" = some (ofRatio true 7 1) :=
  parseDec_digits true ['0', '0', '7'] (by decide) (by decide)
example : parseDec "12.5" = some (ofRatio false 125 10) :=
  parseDec_fraction false ['1', '2'] ['5'] (by decide) (by decide) (by decide)
example : parseDec "-.5" = some (ofRatio true 5 10) :=
  parseDec_fraction true [] ['5'] (by decide) (by decide) (by decide)
example : parseDec "5." = some (ofRatio false 5 1) :=
  parseDec_fraction false ['5'] [] (by decide) (by decide) (by decide)
example : parseDec "-1.25E+3" = some (ofRatio true (125 * 10 ^ 1) 1) :=
  parseDec_exponent true ['1'] ['2', '5'] true 'E' ['+'] false ['3'] (by decide) (by decide)
    (by decide) (by decide) (by decide) (Or.inr (Or.inl ⟨rfl, rfl⟩)) (by decide) (by decide)
    (by decide)
example : parseDec "1e-7" = some (ofRatio false 1 (10 ^ 7)) :=
  parseDec_exponent false ['1'] [] false 'e' ['-'] true ['7'] (by decide) (by decide)
    (by decide) (by decide) (by decide) (Or.inr (Or.inr ⟨rfl, rfl⟩)) (by decide) (by decide)
    (by decide)
example : parseDec "+3" = some (decVal false 3 0) :=
  parseDec_decimal_literal ['+'] false ['3'] [] false [] 0 (Or.inr (Or.inl ⟨rfl, rfl⟩)) (by decide)
    (by decide) (by decide) (by decide) IsExpText.absent


theorem roundHalfEven_of_dvd (n d : Nat) (h : n % d = 0) : roundHalfEven n d = n / d := by
  rcases Nat.eq_zero_or_pos d with rfl | hd
  · rw [Nat.mod_zero] at h; subst h; rfl
  · have e := roundHalfEven_exact (n / d) d hd
    rwa [Nat.div_mul_cancel (Nat.dvd_of_mod_eq_zero h)] at e

theorem natDigits_length_pos (n : Nat) : 0 < (natDigits n).length := by
  rw [← String.length_toList]
  exact List.length_pos_iff.2 (natDigits_toList_ne_nil n)

theorem toFixed_zero_of_integral (x : F64) (hf : x.isFinite = true)
    (hi : x.ratio.1 % x.ratio.2 = 0) :
    toFixed x 0 = (if x.neg then "-" else "") ++ natDigits (x.ratio.1 / x.ratio.2) := by
  have hr : roundHalfEven (x.ratio.1 * 10 ^ 0) x.ratio.2 = x.ratio.1 / x.ratio.2 := by
    rw [Nat.pow_zero, Nat.mul_one]; exact roundHalfEven_of_dvd _ _ hi
  have hl : ¬ ((natDigits (x.ratio.1 / x.ratio.2)).length ≤ 0) := by
    have := natDigits_length_pos (x.ratio.1 / x.ratio.2); omega
  unfold toFixed
  simp only [isNaN_of_isFinite x hf, isInf_of_isFinite x hf, Bool.false_eq_true, if_false, hr,
    if_neg hl, if_true]

theorem signStr_append (neg : Bool) (s : String) :
    ((if neg then "-" else "") ++ s).toList = (if neg then ['-'] else []) ++ s.toList := by
  cases neg with
  | false => simp
  | true => simp

theorem ratio_integral_of_isIntegral (x : F64) (hi : x.isIntegral = true) :
    x.ratio.1 % x.ratio.2 = 0 := by
  unfold isIntegral at hi
  simp only [Bool.and_eq_true, decide_eq_true_eq] at hi
  exact hi.2

theorem parseDec_toFixed_zero (x : F64) (hf : x.isFinite = true) (hi : x.isIntegral = true) :
    parseDec (toFixed x 0) = some x := by
  have hint := ratio_integral_of_isIntegral x hi
  rw [toFixed_zero_of_integral x hf hint, ← String.ofList_toList (s := _ ++ _), signStr_append,
    parseDec_digits x.neg _ (natDigits_all_isDigit _) (natDigits_toList_ne_nil _),
    digitsVal_natDigits, ofRatio_integral x hf hint]


theorem parseDec_positional_digits (neg : Bool) (ds : List Char)
    (hds : ∀ c ∈ ds, isDigit c = true) (hne : ds ≠ []) (e : Int) :
    parseDec ((if neg then "-" else "") ++ positional (String.ofList ds) e) =
      some (decVal neg (digitsVal ds) e) := by
  have hlen : 0 < ds.length := List.length_pos_iff.2 hne
  by_cases he : e ≥ 0
  · -- digits followed by zeros
    have hs : ((if neg then "-" else "") ++ positional (String.ofList ds) e).toList =
        (if neg then ['-'] else []) ++
          ((ds ++ List.replicate e.toNat '0') ++ fracText false [] ++ []) := by
      rw [signStr_append]
      simp only [positional, if_pos he, String.toList_append, String.toList_ofList, zeros_toList,
        fracText, Bool.false_eq_true, if_false, List.append_nil]
    have h := parseDec_of_toList _ _ neg (ds ++ List.replicate e.toNat '0') [] false [] 0 hs
      (isSign_ite neg)
      (by
        intro c hc
        rcases List.mem_append.1 hc with h | h
        · exact hds c h
        · exact all_isDigit_replicate_zero _ c h)
      (by simp)
      (fun h => hne (List.append_eq_nil_iff.1 (List.append_eq_nil_iff.1 h).1).1)
      (fun _ => rfl) IsExpText.absent
    rw [h, List.append_nil, digitsVal_append_zeros]
    simp only [List.length_nil]
    have h0 : (0 : Int) - Int.ofNat 0 = 0 := rfl
    rw [h0, decVal_zero]
    have he' : e = Int.ofNat e.toNat := by simp only [Int.ofNat_eq_natCast]; omega
    rw [he', decVal_nonneg]
    simp only [Int.ofNat_eq_natCast, Int.toNat_natCast]
  · have hf : 0 < (-e).toNat := by omega
    have he' : e = - Int.ofNat (-e).toNat := by simp only [Int.ofNat_eq_natCast]; omega
    by_cases hlt : ds.length > (-e).toNat
    · -- digits split by the point
      have hs : ((if neg then "-" else "") ++ positional (String.ofList ds) e).toList =
          (if neg then ['-'] else []) ++
            (ds.take (ds.length - (-e).toNat) ++
              fracText true (ds.drop (ds.length - (-e).toNat)) ++ []) := by
        rw [signStr_append]
        have hpt : ".".toList = ['.'] := rfl
        simp only [positional, if_neg he, String.length_ofList, if_pos hlt, String.toList_append,
          String.toList_ofList, fracText, if_true, List.append_nil, hpt, List.append_assoc,
          List.singleton_append]
      have h := parseDec_of_toList _ _ neg (ds.take (ds.length - (-e).toNat))
        (ds.drop (ds.length - (-e).toNat)) true [] 0 hs (isSign_ite neg)
        (fun c hc => hds c (List.mem_of_mem_take hc))
        (fun c hc => hds c (List.mem_of_mem_drop hc))
        (by rw [List.take_append_drop]; exact hne) (fun h => by cases h)
        IsExpText.absent
      rw [h, List.take_append_drop, List.length_drop]
      have hl : ds.length - (ds.length - (-e).toNat) = (-e).toNat := by omega
      rw [hl, Int.zero_sub, ← he']
    · -- "0." zeros digits
      have hs : ((if neg then "-" else "") ++ positional (String.ofList ds) e).toList =
          (if neg then ['-'] else []) ++
            (['0'] ++ fracText true (List.replicate ((-e).toNat - ds.length) '0' ++ ds) ++ []) := by
        rw [signStr_append]
        have hpt : "0.".toList = ['0', '.'] := rfl
        simp only [positional, if_neg he, String.length_ofList, if_neg hlt, String.toList_append,
          String.toList_ofList, fracText, if_true, List.append_nil, hpt, zeros_toList,
          List.cons_append, List.nil_append]
      have h := parseDec_of_toList _ _ neg ['0']
        (List.replicate ((-e).toNat - ds.length) '0' ++ ds) true [] 0 hs (isSign_ite neg)
        (by decide)
        (by
          intro c hc
          rcases List.mem_append.1 hc with h | h
          · exact all_isDigit_replicate_zero _ c h
          · exact hds c h)
        (by simp) (fun h => by cases h) IsExpText.absent
      rw [h, List.length_append, List.length_replicate]
      have hl : (-e).toNat - ds.length + ds.length = (-e).toNat := by omega
      have hv : digitsVal (['0'] ++ (List.replicate ((-e).toNat - ds.length) '0' ++ ds)) =
          digitsVal ds := by
        rw [digitsVal_append, digitsVal_zeros_append, show digitsVal ['0'] = 0 from rfl,
          Nat.zero_mul, Nat.zero_add]
      rw [hl, hv, Int.zero_sub, ← he']

theorem parseDec_positional (neg : Bool) (d : Nat) (e : Int) :
    parseDec ((if neg then "-" else "") ++ positional (natDigits d) e) =
      some (if e ≥ 0 then ofRatio neg (d * 10 ^ e.toNat) 1
            else ofRatio neg d (10 ^ (-e).toNat)) := by
  have h := parseDec_positional_digits neg (natDigits d).toList (natDigits_all_isDigit d)
    (natDigits_toList_ne_nil d) e
  rw [String.ofList_toList, digitsVal_natDigits] at h
  exact h

example : parseDec ((if true then "-" else "") ++ positional (natDigits 125) 2) =
    some (ofRatio true (125 * 10 ^ 2) 1) := by
  rw [parseDec_positional]; rfl
example : parseDec ((if false then "-" else "") ++ positional (natDigits 125) (-2)) =
    some (ofRatio false 125 (10 ^ 2)) := by
  rw [parseDec_positional]; rfl
example : parseDec ((if false then "-" else "") ++ positional (natDigits 125) (-5)) =
    some (ofRatio false 125 (10 ^ 5)) := by
  rw [parseDec_positional]; rfl


example : positional "125" 2 = "12500" ∧ positional "125" (-2) = "1.25" ∧
    positional "125" (-5) = "0.00125" ∧ positional "125" (-3) = "0.125" := by decide
example : toFixed (ofNatBits 0xC008000000000000) 0 = "-3" := by decide
example : parseDec (toFixed (ofNatBits 0xC008000000000000) 0) = some (ofNatBits 0xC008000000000000) :=
  parseDec_toFixed_zero _ (by decide) (by decide)
example : natDigits 1203 = "1203" := by decide
end Blots.F64
