import Blots.Lemmas.Separators
import Blots.Lemmas.DisplayInt
import Blots.Lemmas.ParseDec
/-
  The integer path of `format_display_number` writes exactly the integer it was given.
-/
open Blots Blots.Display Blots.NumSpec

namespace Blots.Display

theorem integer_path_text (ops : NumOps) (x : F64) (h : path x = .integer) :
    formatDisplayNumber ops x =
      (if x.neg then ['-'] else []) ++ withCommas (F64.natDigits (x.ratio.1 / x.ratio.2)).toList ∧
    x.ratio.1 % x.ratio.2 = 0 ∧ 0 < x.ratio.1 / x.ratio.2 ∧ x.ratio.1 / x.ratio.2 < 2 ^ 53 := by
  obtain ⟨hn, hi, hz, hint, hlt⟩ := path_integer_facts x h
  have hmod : x.ratio.1 % x.ratio.2 = 0 := F64.ratio_integral_of_isIntegral x hint
  have hq53 := intPart_lt_of_mag_lt x (mag_lt_of_flt_twoPow53 x hlt)
  have hpos := intPart_pos x hz hn hmod
  refine ⟨?_, hmod, hpos, hq53⟩
  rw [formatDisplayNumber_integer ops x h, formatIntegerWithSeparators_eq,
    toI64_eq_truncInt x hn hi (by omega), truncInt_eq]
  generalize x.ratio.1 / x.ratio.2 = q at *
  cases x.neg
  · simp
  · simp [hpos]

theorem integer_path_exact (ops : NumOps) (x : F64) (h : path x = .integer) :
    denotesExactly (formatDisplayNumber ops x) x := by
  obtain ⟨htext, hmod, _, _⟩ := integer_path_text ops x h
  refine ⟨withCommas (F64.natDigits (x.ratio.1 / x.ratio.2)).toList, htext, ?_, ?_⟩
  · apply withCommas_no_minus
    intro hmem
    have := F64.natDigits_all_isDigit _ _ hmem
    revert this
    decide
  · unfold denotesMagnitude
    rw [withCommas_strip _ (not_comma_of_isDigit _ (F64.natDigits_all_isDigit _)),
      decValue_no_dot _ (fun hmem => absurd (F64.natDigits_all_isDigit _ _ hmem) (by decide))]
    unfold ratEq NumSpec.digitsVal
    rw [F64.digitsVal_natDigits]
    simp only [Nat.mul_one]
    have := Nat.div_add_mod x.ratio.1 x.ratio.2
    rw [hmod] at this
    rw [Nat.mul_comm]
    omega

theorem integral_takes_integer_path (x : F64) (hn : x.isNaN = false) (hi : x.isInf = false)
    (hz : F64.feq x F64.zero = false) (hint : x.isIntegral = true)
    (hlt : F64.flt x.abs twoPow53 = true) (hstd : path x ≠ .scientific) : path x = .integer := by
  unfold path at *
  simp only [hn, hi, hz, Bool.false_eq_true, ↓reduceIte] at *
  split
  · rename_i h; simp [h] at hstd
  · simp [hint, hlt]

theorem natDigits_noLeadingZero (q : Nat) (hq : 0 < q) : noLeadingZero (F64.natDigits q).toList = true := by
  rw [F64.natDigits_toList]
  exact noLeadingZero_of_head_ne _ (F64.toDigits_head_ne_zero q hq)

end Blots.Display
