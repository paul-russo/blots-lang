import Blots.Lemmas.Separators
import Blots.Lemmas.DisplayExact
import Blots.Lemmas.DisplayRounding
import Blots.Lemmas.Shortest17
/-
  The text-level step of the `fraction` path of `format_display_number` (C20).  `{:.dp}` of a
  finite double is

      sign ++ ip ++ (dp = 0 ? "" : "." ++ fp),  ip non-empty digits without leading zero,
      fp exactly dp digits, digitsVal (ip ++ fp) = roundHalfEven (num·10^dp) den

  (`toFixed_shape`); trimming trailing zeros and grouping the integer part give a well-formed
  numeral whose value is `m/10^dp`, within `½/10^dp` of the double (`fixed_rendering`).
-/
namespace Blots.Display

open Blots Blots.NumSpec

theorem roundHalfEven_bounds (N D : Nat) (hD : 0 < D) :
    2 * (D * F64.roundHalfEven N D) ≤ 2 * N + D ∧
      2 * N ≤ 2 * (D * F64.roundHalfEven N D) + D := by
  have h1 := Nat.div_add_mod N D
  have h2 := Nat.mod_lt N hD
  unfold F64.roundHalfEven
  simp only
  split
  · next h =>
    simp only [Bool.or_eq_true, decide_eq_true_eq, Bool.and_eq_true] at h
    rw [Nat.mul_succ]
    generalize D * (N / D) = p at *
    omega
  · next h =>
    simp only [Bool.or_eq_true, decide_eq_true_eq, Bool.and_eq_true, not_or, not_and] at h
    generalize D * (N / D) = p at *
    omega

theorem roundHalfEven_rat (n d P : Nat) (hd : 0 < d) (hP : 0 < P) :
    |((F64.roundHalfEven (n * P) d : Nat) : ℚ) / (P : ℚ) - (n : ℚ) / (d : ℚ)| ≤ 1 / 2 / (P : ℚ) := by
  obtain ⟨h1, h2⟩ := roundHalfEven_bounds (n * P) d hd
  generalize F64.roundHalfEven (n * P) d = S at *
  have h1' : (2 : ℚ) * (d * S) ≤ 2 * (n * P) + d := by exact_mod_cast h1
  have h2' : (2 : ℚ) * (n * P) ≤ 2 * (d * S) + d := by exact_mod_cast h2
  have hd' : (0 : ℚ) < d := by exact_mod_cast hd
  have hP' : (0 : ℚ) < P := by exact_mod_cast hP
  -- `|S/P − n/d| = |d·S − n·P| / (P·d)` and `|d·S − n·P| ≤ d/2`
  rw [div_sub_div _ _ hP'.ne' hd'.ne', abs_div, abs_of_pos (mul_pos hP' hd'),
    div_le_div_iff₀ (mul_pos hP' hd') hP']
  have ha : |(S : ℚ) * d - P * n| ≤ d / 2 := abs_le.mpr ⟨by linarith, by linarith⟩
  calc _ ≤ (d : ℚ) / 2 * P := mul_le_mul_of_nonneg_right ha hP'.le
    _ = _ := by ring

theorem abs_signed_sub (s : Bool) (a b : ℚ) :
    |(if s then -1 else 1) * a - (if s then -1 else 1) * b| = |a - b| := by
  cases s
  · simp only [Bool.false_eq_true, if_false, one_mul]
  · simp only [if_true, neg_one_mul, ← neg_sub', abs_neg]

/-- zero padding of the digit string to at least `dp + 1` digits -/
def padDigits (dp : Nat) (nd : List Char) : List Char :=
  if nd.length ≤ dp then List.replicate (dp + 1 - nd.length) '0' ++ nd else nd

theorem toFixed_toList (x : F64) (hf : x.isFinite = true) (dp : Nat) :
    (F64.toFixed x dp).toList = (if x.neg then ['-'] else []) ++
      (if dp = 0 then
        padDigits dp (F64.natDigits (F64.roundHalfEven (x.ratio.1 * 10 ^ dp) x.ratio.2)).toList
       else
        (padDigits dp (F64.natDigits (F64.roundHalfEven (x.ratio.1 * 10 ^ dp) x.ratio.2)).toList).take
          ((padDigits dp (F64.natDigits (F64.roundHalfEven (x.ratio.1 * 10 ^ dp) x.ratio.2)).toList).length - dp)
        ++ '.' ::
        (padDigits dp (F64.natDigits (F64.roundHalfEven (x.ratio.1 * 10 ^ dp) x.ratio.2)).toList).drop
          ((padDigits dp (F64.natDigits (F64.roundHalfEven (x.ratio.1 * 10 ^ dp) x.ratio.2)).toList).length - dp)) := by
  unfold F64.toFixed padDigits
  simp only [F64.isNaN_of_isFinite x hf, F64.isInf_of_isFinite x hf, Bool.false_eq_true, if_false]
  generalize F64.natDigits (F64.roundHalfEven (x.ratio.1 * 10 ^ dp) x.ratio.2) = s
  have hsign : (if x.neg = true then "-" else "").toList = if x.neg = true then ['-'] else [] := by
    cases x.neg <;> rfl
  have hlen : s.length = s.toList.length := String.length_toList.symm
  simp only [hlen]
  -- the padding test first: with `dp = 0` substituted it would read `s = ""`
  by_cases hl : s.toList.length ≤ dp
  · simp only [if_pos hl]
    by_cases h0 : dp = 0 <;> simp [h0, hsign, F64.zeros, String.toList_append, hlen]
  · simp only [if_neg hl]
    by_cases h0 : dp = 0 <;> simp [h0, hsign, String.toList_append, hlen]

theorem padDigits_spec (dp S : Nat) :
    (∀ c ∈ padDigits dp (F64.natDigits S).toList, isDigit c = true) ∧
    dp + 1 ≤ (padDigits dp (F64.natDigits S).toList).length ∧
    digitsVal (padDigits dp (F64.natDigits S).toList) = S ∧
    noLeadingZero ((padDigits dp (F64.natDigits S).toList).take
      ((padDigits dp (F64.natDigits S).toList).length - dp)) = true := by
  have hdig := F64.natDigits_all_isDigit S
  have hne := F64.natDigits_toList_ne_nil S
  have hval : digitsVal (F64.natDigits S).toList = S := F64.digitsVal_natDigits S
  have hpos : 0 < (F64.natDigits S).toList.length := List.length_pos_iff.2 hne
  unfold padDigits
  by_cases hl : (F64.natDigits S).toList.length ≤ dp
  · simp only [if_pos hl]
    refine ⟨?_, ?_, ?_, ?_⟩
    · intro c hc
      rcases List.mem_append.1 hc with h | h
      · rw [(List.mem_replicate.1 h).2]; decide
      · exact hdig c h
    · rw [List.length_append, List.length_replicate]; omega
    · rw [digitsVal_append, digitsVal_replicate_zero, hval]; omega
    · have hlen : (List.replicate (dp + 1 - (F64.natDigits S).toList.length) '0' ++
          (F64.natDigits S).toList).length - dp = 1 := by
        rw [List.length_append, List.length_replicate]; omega
      rw [hlen]
      obtain ⟨j, hj⟩ : ∃ j, dp + 1 - (F64.natDigits S).toList.length = j + 1 := ⟨dp - (F64.natDigits S).toList.length, by omega⟩
      rw [hj, List.replicate_succ]
      rfl
  · simp only [if_neg hl]
    refine ⟨hdig, by omega, hval, ?_⟩
    by_cases hS : S = 0
    · subst hS
      have h0 : (F64.natDigits 0).toList = ['0'] := by decide
      rw [h0] at hl ⊢
      have : dp = 0 := by simp at hl; omega
      subst this
      rfl
    · have hh := F64.toDigits_head_ne_zero S (Nat.pos_of_ne_zero hS)
      rw [← F64.natDigits_toList] at hh
      apply noLeadingZero_of_head_ne
      generalize (F64.natDigits S).toList = l at *
      cases l with
      | nil => exact absurd rfl hne
      | cons a t =>
        have : (a :: t).length - dp = ((a :: t).length - dp - 1) + 1 := by
          simp only [List.length_cons] at hl ⊢; omega
        rw [this, List.take_succ_cons]
        simpa using hh

theorem toFixed_shape (x : F64) (hf : x.isFinite = true) (dp : Nat) :
    ∃ ip fp : List Char,
      (F64.toFixed x dp).toList =
        (if x.neg then ['-'] else []) ++ ip ++ (if dp = 0 then [] else '.' :: fp) ∧
      ip ≠ [] ∧ (∀ c ∈ ip, isDigit c = true) ∧ (∀ c ∈ fp, isDigit c = true) ∧ fp.length = dp ∧
      noLeadingZero ip = true ∧
      digitsVal (ip ++ fp) = F64.roundHalfEven (x.ratio.1 * 10 ^ dp) x.ratio.2 := by
  obtain ⟨h1, h2, h3, h4⟩ :=
    padDigits_spec dp (F64.roundHalfEven (x.ratio.1 * 10 ^ dp) x.ratio.2)
  have ht := toFixed_toList x hf dp
  generalize padDigits dp
    (F64.natDigits (F64.roundHalfEven (x.ratio.1 * 10 ^ dp) x.ratio.2)).toList = pd at *
  refine ⟨pd.take (pd.length - dp), pd.drop (pd.length - dp), ?_, ?_, ?_, ?_, ?_, h4, ?_⟩
  · rw [ht, List.append_assoc]
    congr 1
    by_cases h0 : dp = 0
    · subst h0; simp
    · simp only [if_neg h0]
  · intro h
    have := congrArg List.length h
    rw [List.length_take] at this
    simp at this; omega
  · intro c hc; exact h1 c (List.mem_of_mem_take hc)
  · intro c hc; exact h1 c (List.mem_of_mem_drop hc)
  · rw [List.length_drop]; omega
  · rw [List.take_append_drop]; exact h3

theorem fixed_rendering (x : F64) (hf : x.isFinite = true) (dp : Nat) :
    ∃ (neg : Bool) (ip fp : List Char) (m : Int),
      addThousandSeparators (trimFraction (F64.toFixed x dp).toList) =
        (if neg then ['-'] else []) ++ ip ++ (if fp = [] then [] else '.' :: fp) ∧
      isGrouped ip = true ∧ noLeadingZero ip = true ∧ (∀ c ∈ fp, isDigit c = true) ∧
      (if neg then -1 else 1) * ((digitsVal (stripCommas ip ++ fp) : ℚ) / (10 : ℚ) ^ fp.length) =
        (m : ℚ) / (10 : ℚ) ^ dp ∧
      |(m : ℚ) / (10 : ℚ) ^ dp - x.toRat| ≤ 1 / 2 / (10 : ℚ) ^ dp := by
  obtain ⟨ip0, fp0, htext, hne, hip, hfp, hlen, hnlz, hval⟩ := toFixed_shape x hf dp
  have hdot_ip : ∀ c ∈ ip0, c ≠ '.' := fun c hc he => absurd (hip c hc) (by rw [he]; decide)
  have hdot_fp : '.' ∉ fp0 := not_dot_of_isDigit fp0 hfp
  obtain ⟨n, hn⟩ := trimEnd_replicate '0' fp0
  have hfp' : ∀ c ∈ trimEnd '0' fp0, isDigit c = true :=
    fun c hc => hfp c (mem_of_mem_trimEnd '0' fp0 c hc)
  have htrim : trimFraction (F64.toFixed x dp).toList =
      (if x.neg then ['-'] else []) ++ ip0 ++
        (if trimEnd '0' fp0 = [] then [] else '.' :: trimEnd '0' fp0) := by
    rw [htext]
    by_cases h0 : dp = 0
    · have hfp0 : fp0 = [] := List.eq_nil_of_length_eq_zero (by omega)
      rw [if_pos h0, hfp0, trimEnd_nil, if_pos rfl]
      apply trimFraction_no_dot
      intro hm
      rw [List.append_nil, List.mem_append] at hm
      rcases hm with hm | hm
      · cases hx : x.neg <;> simp [hx] at hm
      · exact hdot_ip _ hm rfl
    · rw [if_neg h0, trimFraction_of_dot _ (by simp)]
      have hsig : '.' ∉ (if x.neg then ['-'] else []) ++ ip0 := by
        intro hm
        rcases List.mem_append.1 hm with hm | hm
        · cases hx : x.neg <;> simp [hx] at hm
        · exact hdot_ip _ hm rfl
      rw [trim2_dot _ fp0 hsig hdot_fp]
      by_cases he : trimEnd '0' fp0 = []
      · rw [if_pos he, if_pos he, List.append_nil]
      · rw [if_neg he, if_neg he]
  have hrest : (if trimEnd '0' fp0 = [] then [] else '.' :: trimEnd '0' fp0) = [] ∨
      (if trimEnd '0' fp0 = [] then [] else '.' :: trimEnd '0' fp0).head? = some '.' := by
    by_cases he : trimEnd '0' fp0 = []
    · left; rw [if_pos he]
    · right; rw [if_neg he]; rfl
  have hhead : ip0.head? ≠ some '-' := by
    intro hh
    have := hip '-' (List.mem_of_mem_head? hh)
    exact absurd this (by decide)
  have hsep : addThousandSeparators (trimFraction (F64.toFixed x dp).toList) =
      (if x.neg then ['-'] else []) ++ withCommas ip0 ++
        (if trimEnd '0' fp0 = [] then [] else '.' :: trimEnd '0' fp0) := by
    rw [htrim]
    cases x.neg with
    | false =>
      simp only [Bool.false_eq_true, if_false, List.nil_append]
      exact addThousandSeparators_unsigned ip0 _ hdot_ip hhead hrest
    | true =>
      simp only [if_true, List.singleton_append]
      exact addThousandSeparators_signed ip0 _ hdot_ip hrest
  have hden_pos : 0 < x.ratio.2 := F64.ratio_snd_pos x
  have hS : digitsVal (ip0 ++ trimEnd '0' fp0) * 10 ^ n =
      F64.roundHalfEven (x.ratio.1 * 10 ^ dp) x.ratio.2 := by
    rw [← hval, ← digitsVal_append_zeros, List.append_assoc, ← hn]
  have hdp : dp = (trimEnd '0' fp0).length + n := by
    have := congrArg List.length hn
    rw [List.length_append, List.length_replicate] at this
    omega
  have hround := roundHalfEven_rat x.ratio.1 x.ratio.2 (10 ^ dp) hden_pos (Nat.pow_pos (by decide))
  rw [← hS] at hround
  generalize trimEnd '0' fp0 = fp' at *
  refine ⟨x.neg, withCommas ip0, fp',
    (if x.neg then -1 else 1) * ((digitsVal (ip0 ++ fp') * 10 ^ n : Nat) : Int), hsep,
    withCommas_grouped ip0 hne hip, withCommas_noLeadingZero ip0 hnlz, hfp', ?_, ?_⟩
  · rw [withCommas_strip ip0 (not_comma_of_isDigit ip0 hip), hdp, pow_add]
    have h10 : (10 : ℚ) ^ n ≠ 0 := pow_ne_zero _ (by norm_num)
    have h10' : (10 : ℚ) ^ fp'.length ≠ 0 := pow_ne_zero _ (by norm_num)
    cases x.neg <;> (push_cast; field_simp)
  · unfold F64.toRat
    rw [Int.cast_mul, mul_div_assoc, Int.cast_ite, Int.cast_neg, Int.cast_one, abs_signed_sub]
    push_cast at hround ⊢
    exact hround

end Blots.Display
