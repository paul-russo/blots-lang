import Blots.Model.Data
import Blots.Lemmas.Num
import Blots.Lemmas.AssocList
/-
  `Value::equals` is an equivalence on data values that ignores record key order.
-/
namespace Blots

section ind
variable {P : Value → Prop}
  (hnum : ∀ x, P (.num x)) (hbool : ∀ b, P (.bool b)) (hnull : P .null) (hstr : ∀ s, P (.str s))
  (hlist : ∀ xs, (∀ x ∈ xs, P x) → P (.list xs))
  (hrecord : ∀ r, (∀ kv ∈ r, P kv.2) → P (.record r))
  (hlambda : ∀ id as b sc, (∀ kv ∈ sc, P kv.2) → P (.lambda id as b sc))
  (hbuiltin : ∀ n, P (.builtin n))
  (hspread : ∀ v, P v → P (.spread v))
include hnum hbool hnull hstr hlist hrecord hlambda hbuiltin hspread

mutual
theorem Value.ind : ∀ v, P v
  | .num x => hnum x
  | .bool b => hbool b
  | .null => hnull
  | .str s => hstr s
  | .list xs => hlist xs (Value.ind_list xs)
  | .record r => hrecord r (Value.ind_rec r)
  | .lambda id as b sc => hlambda id as b sc (Value.ind_rec sc)
  | .builtin n => hbuiltin n
  | .spread v => hspread v (Value.ind v)
theorem Value.ind_list : ∀ (xs : List Value), ∀ x ∈ xs, P x
  | [] => by intro x h; cases h
  | y :: ys => by
    have h1 := Value.ind y
    have h2 := Value.ind_list ys
    intro x h
    rcases List.mem_cons.mp h with h | h
    · exact h ▸ h1
    · exact h2 x h
theorem Value.ind_rec : ∀ (r : List (String × Value)), ∀ kv ∈ r, P kv.2
  | [] => by intro x h; cases h
  | (k, v) :: r => by
    have h1 := Value.ind v
    have h2 := Value.ind_rec r
    intro kv h
    rcases List.mem_cons.mp h with h | h
    · exact h ▸ h1
    · exact h2 kv h
end
end ind

theorem keysNodup_iff : ∀ (r : List (String × Value)), keysNodup r = true ↔ (r.map Prod.fst).Nodup
  | [] => by simp [keysNodup]
  | (k, v) :: r => by
    rw [keysNodup, Bool.and_eq_true, List.map_cons, List.nodup_cons, keysNodup_iff r,
      Option.isNone_iff_eq_none, lookupAL_eq_none_iff]

theorem mem_lookupAL {k : String} {v : Value} {r : List (String × Value)}
    (hn : keysNodup r = true) (h : (k, v) ∈ r) : lookupAL k r = some v :=
  (lookupAL_eq_some_iff ((keysNodup_iff r).mp hn)).mpr h

theorem veqRec_iff (rb : List (String × Value)) : ∀ (ra : List (String × Value)),
    veqRec ra rb = true ↔ ∀ kv ∈ ra, ∃ w, lookupAL kv.1 rb = some w ∧ veq kv.2 w = true
  | [] => by simp [veqRec]
  | (k, v) :: ra => by
    simp only [veqRec, Bool.and_eq_true, List.mem_cons, forall_eq_or_imp]
    rw [veqRec_iff rb ra]
    constructor
    · rintro ⟨h1, h2⟩
      refine ⟨?_, h2⟩
      cases hl : lookupAL k rb with
      | none => simp [hl] at h1
      | some w => simp [hl] at h1; exact ⟨w, rfl, h1⟩
    · rintro ⟨⟨w, hw, hv⟩, h2⟩
      exact ⟨by simp [hw, hv], h2⟩

/-- pigeonhole: a duplicate-free list contained in a list that is no longer contains it -/
theorem subset_of_subset_of_length_le {α} [DecidableEq α] : ∀ (a b : List α),
    a.Nodup → a ⊆ b → b.length ≤ a.length → b ⊆ a
  | [], b, _, _, hl => by
    have : b = [] := List.eq_nil_of_length_eq_zero (by simpa using hl)
    subst this; exact fun _ h => h
  | x :: a, b, hn, hs, hl => by
    have hx : x ∈ b := hs List.mem_cons_self
    have hn' := List.nodup_cons.mp hn
    have hs' : a ⊆ b.erase x := by
      intro y hy
      have hyb : y ∈ b := hs (List.mem_cons_of_mem _ hy)
      have hne : y ≠ x := by intro h; subst h; exact hn'.1 hy
      exact (List.mem_erase_of_ne hne).mpr hyb
    have hl' : (b.erase x).length ≤ a.length := by
      rw [List.length_erase_of_mem hx]; simp at hl; omega
    have ih := subset_of_subset_of_length_le a (b.erase x) hn'.2 hs' hl'
    intro z hz
    by_cases hzx : z = x
    · subst hzx; exact List.mem_cons_self
    · exact List.mem_cons_of_mem _ (ih ((List.mem_erase_of_ne hzx).mpr hz))

theorem veqList_iff : ∀ (xs ys : List Value),
    veqList xs ys = true ↔ xs.length = ys.length ∧ ∀ p ∈ xs.zip ys, veq p.1 p.2 = true
  | [], [] => by simp [veqList]
  | [], _ :: _ => by simp [veqList]
  | _ :: _, [] => by simp [veqList]
  | x :: xs, y :: ys => by
    simp only [veqList, Bool.and_eq_true, List.length_cons, List.zip_cons_cons, List.mem_cons,
      forall_eq_or_imp, veqList_iff xs ys]
    constructor
    · rintro ⟨h1, h2, h3⟩; exact ⟨by omega, h1, h3⟩
    · rintro ⟨h1, h2, h3⟩; exact ⟨h2, by omega, h3⟩

theorem isDataList_mem : ∀ {xs : List Value}, isDataList xs = true → ∀ x ∈ xs, isData x = true
  | [], _, _, h => by cases h
  | y :: ys, hd, x, h => by
    simp only [isDataList, Bool.and_eq_true] at hd
    rcases List.mem_cons.mp h with h | h
    · subst h; exact hd.1
    · exact isDataList_mem hd.2 x h

theorem isDataRec_mem : ∀ {r : List (String × Value)}, isDataRec r = true → ∀ kv ∈ r, isData kv.2 = true
  | [], _, _, h => by cases h
  | (k, v) :: r, hd, kv, h => by
    simp only [isDataRec, Bool.and_eq_true] at hd
    rcases List.mem_cons.mp h with h | h
    · subst h; exact hd.1
    · exact isDataRec_mem hd.2 kv h

theorem veqList_refl_of : ∀ (xs : List Value), (∀ x ∈ xs, veq x x = true) → veqList xs xs = true
  | [], _ => rfl
  | x :: xs, h => by
    simp only [veqList, Bool.and_eq_true]
    exact ⟨h x List.mem_cons_self, veqList_refl_of xs (fun y hy => h y (List.mem_cons_of_mem _ hy))⟩

theorem veq_refl : ∀ (v : Value), isData v = true → veq v v = true := by
  intro v
  induction v using Value.ind with
  | hnum x => intro h; exact F64.feq_refl ((Bool.not_eq_true' _).mp h)
  | hbool b => intro _; exact beq_self_eq_true b
  | hnull => intro _; rfl
  | hstr s => intro _; exact beq_self_eq_true s
  | hlist xs ih =>
    intro h; simp only [isData] at h; simp only [veq]
    exact veqList_refl_of xs (fun x hx => ih x hx (isDataList_mem h x hx))
  | hrecord r ih =>
    intro h; simp only [isData, Bool.and_eq_true] at h
    simp only [veq, beq_self_eq_true, Bool.true_and]
    rw [veqRec_iff]
    intro kv hkv
    exact ⟨kv.2, mem_lookupAL h.2 hkv, ih kv hkv (isDataRec_mem h.1 kv hkv)⟩
  | hlambda | hbuiltin | hspread => intro h; cases h

theorem veqList_symm_of : ∀ (xs ys : List Value),
    (∀ x ∈ xs, ∀ b, isData x = true → isData b = true → veq x b = true → veq b x = true) →
    isDataList xs = true → isDataList ys = true → veqList xs ys = true → veqList ys xs = true
  | [], [], _, _, _, _ => rfl
  | [], _ :: _, _, _, _, h => by simp [veqList] at h
  | _ :: _, [], _, _, _, h => by simp [veqList] at h
  | x :: xs, y :: ys, ih, hx, hy, h => by
    simp only [veqList, Bool.and_eq_true, isDataList] at *
    exact ⟨ih x List.mem_cons_self y hx.1 hy.1 h.1,
      veqList_symm_of xs ys (fun z hz => ih z (List.mem_cons_of_mem _ hz)) hx.2 hy.2 h.2⟩

theorem veq_symm_imp : ∀ (a b : Value), isData a = true → isData b = true → veq a b = true → veq b a = true := by
  intro a
  induction a using Value.ind with
  | hnum x => intro b _ _ h; cases b <;> first | cases h | exact (F64.feq_comm _ _).trans h
  | hbool x => intro b _ _ h; cases b <;> first | cases h | exact (BEq.comm ..).trans h
  | hnull => intro b _ _ h; cases b <;> first | rfl | cases h
  | hstr s => intro b _ _ h; cases b <;> first | cases h | exact (BEq.comm ..).trans h
  | hlist xs ih =>
    intro b ha hb h
    cases b with
    | list ys => exact veqList_symm_of xs ys ih ha hb h
    | _ => cases h
  | hrecord ra ih =>
    intro b ha hb h
    cases b with
    | record rb =>
      rw [veq, Bool.and_eq_true, beq_iff_eq] at h ⊢
      rw [isData, Bool.and_eq_true] at ha hb
      refine ⟨h.1.symm, ?_⟩
      have hab := (veqRec_iff rb ra).mp h.2
      rw [veqRec_iff]
      -- keys of ra ⊆ keys of rb, same length, no duplicates ⇒ keys of rb ⊆ keys of ra
      have hsub : ra.map Prod.fst ⊆ rb.map Prod.fst := by
        intro k hk
        obtain ⟨kv, hkv, rfl⟩ := List.mem_map.mp hk
        obtain ⟨w, hw, _⟩ := hab kv hkv
        exact (lookupAL_isSome_iff _ rb).mp (by simp [hw])
      have hsub' := subset_of_subset_of_length_le _ _ ((keysNodup_iff ra).mp ha.2) hsub
        (by simp [h.1])
      intro kw hkw
      have hk : kw.1 ∈ ra.map Prod.fst := hsub' (List.mem_map.mpr ⟨kw, hkw, rfl⟩)
      obtain ⟨kv, hkv, hkeq⟩ := List.mem_map.mp hk
      obtain ⟨w, hw, hvw⟩ := hab kv hkv
      have hw' : lookupAL kw.1 rb = some kw.2 := mem_lookupAL hb.2 (by cases kw; exact hkw)
      rw [hkeq] at hw
      have : w = kw.2 := by rw [hw] at hw'; exact Option.some.inj hw'
      subst this
      refine ⟨kv.2, ?_, ?_⟩
      · rw [← hkeq]; exact mem_lookupAL ha.2 (by cases kv; exact hkv)
      · exact ih kv hkv _ (isDataRec_mem ha.1 kv hkv) (isDataRec_mem hb.1 kw hkw) hvw
    | _ => cases h
  | hlambda | hbuiltin | hspread => intro b h; cases h

theorem veq_symm (a b : Value) (ha : isData a = true) (hb : isData b = true) : veq a b = veq b a := by
  cases h1 : veq a b <;> cases h2 : veq b a <;> try rfl
  · have := veq_symm_imp b a hb ha h2; rw [h1] at this; cases this
  · have := veq_symm_imp a b ha hb h1; rw [h2] at this; cases this

theorem veqList_trans_of : ∀ (xs ys zs : List Value),
    (∀ x ∈ xs, ∀ b c, veq x b = true → veq b c = true → veq x c = true) →
    veqList xs ys = true → veqList ys zs = true → veqList xs zs = true
  | [], [], [], _, _, _ => rfl
  | [], [], _ :: _, _, _, h => by simp [veqList] at h
  | [], _ :: _, _, _, h, _ => by simp [veqList] at h
  | _ :: _, [], _, _, h, _ => by simp [veqList] at h
  | _ :: _, _ :: _, [], _, _, h => by simp [veqList] at h
  | x :: xs, y :: ys, z :: zs, ih, h1, h2 => by
    simp only [veqList, Bool.and_eq_true] at *
    exact ⟨ih x List.mem_cons_self y z h1.1 h2.1,
      veqList_trans_of xs ys zs (fun w hw => ih w (List.mem_cons_of_mem _ hw)) h1.2 h2.2⟩

theorem veq_trans : ∀ (a b c : Value), isData a = true → veq a b = true → veq b c = true → veq a c = true := by
  intro a
  induction a using Value.ind with
  | hnum x =>
    intro b c _ h1 h2
    cases b <;> first | cases h1 | (cases c <;> first | cases h2 | exact F64.feq_trans h1 h2)
  | hbool x =>
    intro b c _ h1 h2
    cases b <;> first | cases h1 | (cases eq_of_beq h1; exact h2)
  | hnull =>
    intro b c _ h1 h2
    cases b <;> first | exact h2 | cases h1
  | hstr s =>
    intro b c _ h1 h2
    cases b <;> first | cases h1 | (cases eq_of_beq h1; exact h2)
  | hlist xs ih =>
    intro b c ha h1 h2
    cases b <;> first | cases h1 | skip
    cases c <;> first | cases h2 | skip
    exact veqList_trans_of xs _ _
      (fun x hx b c hb hc => ih x hx b c (isDataList_mem ha x hx) hb hc) h1 h2
  | hrecord ra ih =>
    intro b c ha h1 h2
    cases b <;> first | cases h1 | skip
    cases c <;> first | cases h2 | skip
    rename_i rb rc
    rw [veq, Bool.and_eq_true, beq_iff_eq] at h1 h2 ⊢
    rw [isData, Bool.and_eq_true] at ha
    refine ⟨h1.1.trans h2.1, ?_⟩
    have hab := (veqRec_iff rb ra).mp h1.2
    have hbc := (veqRec_iff rc rb).mp h2.2
    rw [veqRec_iff]
    intro kv hkv
    obtain ⟨w, hw, hvw⟩ := hab kv hkv
    obtain ⟨u, hu, hwu⟩ := hbc (kv.1, w) (lookupAL_mem hw)
    exact ⟨u, hu, ih kv hkv w u (isDataRec_mem ha.1 kv hkv) hvw hwu⟩
  | hlambda | hbuiltin | hspread => intro b c h; cases h

theorem veq_record_perm (ra rb : List (String × Value)) (hd : isData (.record ra) = true)
    (hp : ra.Perm rb) : veq (.record ra) (.record rb) = true := by
  simp only [isData, Bool.and_eq_true] at hd
  simp only [veq, Bool.and_eq_true, beq_iff_eq]
  refine ⟨hp.length_eq, ?_⟩
  rw [veqRec_iff]
  have hnb : keysNodup rb = true :=
    (keysNodup_iff rb).mpr ((hp.map Prod.fst).nodup_iff.mp ((keysNodup_iff ra).mp hd.2))
  intro kv hkv
  exact ⟨kv.2, mem_lookupAL hnb (by cases kv; exact hp.subset hkv),
    veq_refl kv.2 (isDataRec_mem hd.1 kv hkv)⟩

theorem veq_type_mismatch (a b : Value) (h : a.typeName ≠ b.typeName) : veq a b = false := by
  cases a <;> cases b <;> first | rfl | exact absurd rfl h

end Blots
