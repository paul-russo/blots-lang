import Blots.Lemmas.EvalEnvCoin
import Blots.Lemmas.ValueAll
/-
  C04, call-site independence through arbitrary nested calls: definitions and data lemmas.

  * `ClosedV N v` : every function value inside `v` (also inside captured scopes, lists, records)
                    is closed after capture w.r.t. the display names `N`: every free name of its
                    body is a parameter, captured, its own display name, or `inputs`; its body has no nested
                    `output` (`noOutput`: the grammar only produces `output` as a whole statement).
  * `NamesLe`     : display names only grow (a cell is named once).
  * data lemmas   : every value operation of the evaluator and every callback-free built-in keeps
                    `ClosedV` (they only rearrange the function values they are given): `ClosedV N` is
                    the hereditary predicate `All (closedLeaf N)` of `Lemmas/ValueAll.lean`.
-/
namespace Blots

def NamesLe (N N' : List (Nat × String)) : Prop := ∀ id x, nameOf N id = some x → nameOf N' id = some x

theorem NamesLe.refl (N : List (Nat × String)) : NamesLe N N := fun _ _ h => h
theorem NamesLe.trans {A B C : List (Nat × String)} (h1 : NamesLe A B) (h2 : NamesLe B C) : NamesLe A C :=
  fun id x h => h2 id x (h1 id x h)

theorem setNameIfLambda_namesLe (s : ES) (n : String) (v : Value) :
    NamesLe s.names (setNameIfLambda s n v).names := by
  unfold setNameIfLambda
  split
  · rename_i id _ _ _
    split
    · rename_i hnone
      intro id' x hx
      have hne : (id == id') = false := by
        cases hid : id == id' with
        | false => rfl
        | true =>
          have : id = id' := by simpa using hid
          subst this; rw [hnone] at hx; cases hx
      simp only [nameOf, List.find?_cons, hne] at hx ⊢
      exact hx
    · exact NamesLe.refl _
  · exact NamesLe.refl _

mutual
/-- every function value inside the value is closed after capture (`ClosedFn`: each free name
    of its body is a parameter, captured, its own display name, or `inputs`), has a body
    without nested `output`,
    and captured only values that are closed in the same sense -/
def ClosedV (N : List (Nat × String)) : Value → Prop
  | .list xs => ClosedL N xs
  | .record r => ClosedR N r
  | .lambda id ps body scope => ClosedFn N id ps body scope ∧ noOutput body = true ∧ ClosedR N scope
  | .spread v => ClosedV N v
  | _ => True
def ClosedL (N : List (Nat × String)) : List Value → Prop
  | [] => True
  | x :: xs => ClosedV N x ∧ ClosedL N xs
def ClosedR (N : List (Nat × String)) : List (String × Value) → Prop
  | [] => True
  | (_, v) :: r => ClosedV N v ∧ ClosedR N r
end

def ClosedE (N : List (Nat × String)) (E : List Frame) : Prop := ∀ f ∈ E, ClosedR N f

section
variable {N : List (Nat × String)}

@[simp] theorem closedV_num (x : F64) : ClosedV N (.num x) := by simp [ClosedV]
@[simp] theorem closedV_bool (x : Bool) : ClosedV N (.bool x) := by simp [ClosedV]
@[simp] theorem closedV_null : ClosedV N .null := by simp [ClosedV]
@[simp] theorem closedV_str (x : String) : ClosedV N (.str x) := by simp [ClosedV]
@[simp] theorem closedV_builtin (x : String) : ClosedV N (.builtin x) := by simp [ClosedV]
@[simp] theorem closedV_list (xs : List Value) : ClosedV N (.list xs) ↔ ClosedL N xs := by simp [ClosedV]
@[simp] theorem closedV_record (r : List (String × Value)) : ClosedV N (.record r) ↔ ClosedR N r := by
  simp [ClosedV]
@[simp] theorem closedV_spread (v : Value) : ClosedV N (.spread v) ↔ ClosedV N v := by simp [ClosedV]
theorem closedV_lambda (id : Nat) (ps : List LArg) (body : Expr) (scope : List (String × Value)) :
    ClosedV N (.lambda id ps body scope) ↔
      ClosedFn N id ps body scope ∧ noOutput body = true ∧ ClosedR N scope := by simp [ClosedV]
@[simp] theorem closedL_nil : ClosedL N [] := by simp [ClosedL]
@[simp] theorem closedR_nil : ClosedR N [] := by simp [ClosedR]
@[simp] theorem closedE_nil : ClosedE N [] := by simp [ClosedE]

theorem closedL_cons {x : Value} {xs : List Value} : ClosedL N (x :: xs) ↔ ClosedV N x ∧ ClosedL N xs := by
  simp [ClosedL]

theorem closedE_cons {f : Frame} {E : List Frame} : ClosedE N (f :: E) ↔ ClosedR N f ∧ ClosedE N E := by
  simp [ClosedE]

/-- `ClosedV N` is `All (closedLeaf N)` -/
def closedLeaf (N : List (Nat × String)) : Leaf :=
  ⟨fun id ps body scope => ClosedFn N id ps body scope ∧ noOutput body = true, fun _ => True⟩

mutual
theorem closedV_all : ∀ {v : Value}, ClosedV N v ↔ All (closedLeaf N) v
  | .list xs => by rw [closedV_list, all_list]; exact closedL_all
  | .record r => by rw [closedV_record, all_record]; exact closedR_all
  | .lambda _ _ _ scope => by rw [closedV_lambda, all_lambda, closedR_all, ← and_assoc]; rfl
  | .spread v => by rw [closedV_spread, all_spread]; exact closedV_all
  | .builtin _ => by simp only [closedV_builtin, all_builtin, closedLeaf]
  | .num _ => by simp only [closedV_num, all_num]
  | .bool _ => by simp only [closedV_bool, all_bool]
  | .null => by simp only [closedV_null, all_null]
  | .str _ => by simp only [closedV_str, all_str]
theorem closedL_all : ∀ {xs : List Value}, ClosedL N xs ↔ AllL (closedLeaf N) xs
  | [] => by simp only [closedL_nil, allL_nil]
  | x :: xs => by rw [closedL_cons, allL_cons, closedV_all, closedL_all]
theorem closedR_all : ∀ {r : List (String × Value)}, ClosedR N r ↔ AllR (closedLeaf N) r
  | [] => by simp only [closedR_nil, allR_nil]
  | (_, v) :: r => by rw [ClosedR, allR_cons, closedV_all, closedR_all]
end

theorem closedE_all {E : List Frame} : ClosedE N E ↔ AllE (closedLeaf N) E := by
  simp only [ClosedE, AllE, closedR_all]

theorem closedL_iff (xs : List Value) : ClosedL N xs ↔ ∀ x ∈ xs, ClosedV N x := by
  simp only [closedL_all, allL_iff, closedV_all]

theorem closedR_iff (r : List (String × Value)) : ClosedR N r ↔ ∀ kv ∈ r, ClosedV N kv.2 := by
  simp only [closedR_all, allR_iff, closedV_all]

/-- a result of one of the value-level operations (`Lemmas/ValueAllOps.lean`) -/
theorem Outcome.Sat.closed {o : Outcome Value} (h : o.Sat (All (closedLeaf N))) (v : Value) (e : o = .ok v) :
    ClosedV N v := closedV_all.2 (h v e)

theorem ClosedL.mem {xs : List Value} {x : Value} (h : ClosedL N xs) (hx : x ∈ xs) : ClosedV N x :=
  (closedL_iff xs).mp h x hx

theorem ClosedL.getElem? {xs : List Value} {i : Nat} {x : Value} (h : ClosedL N xs) (hx : xs[i]? = some x) :
    ClosedV N x := h.mem (List.mem_of_getElem? hx)

theorem ClosedL.append {xs ys : List Value} (h1 : ClosedL N xs) (h2 : ClosedL N ys) : ClosedL N (xs ++ ys) :=
  (closedL_iff _).mpr fun _ hx => (List.mem_append.mp hx).elim h1.mem h2.mem

end

theorem ClosedFn.mono {N N' : List (Nat × String)} (h : NamesLe N N') {id : Nat} {ps : List LArg} {body : Expr}
    {scope : Frame} (hc : ClosedFn N id ps body scope) : ClosedFn N' id ps body scope := by
  intro x hx
  rcases hc x hx with h1 | h1 | h1 | h1
  · exact Or.inl h1
  · exact Or.inr (Or.inl h1)
  · exact Or.inr (Or.inr (Or.inl (h id x h1)))
  · exact Or.inr (Or.inr (Or.inr h1))

theorem closedLeaf_mono {N N' : List (Nat × String)} (h : NamesLe N N') (id : Nat) (ps : List LArg) (body : Expr)
    (scope : Frame) (hc : (closedLeaf N).lam id ps body scope) : (closedLeaf N').lam id ps body scope :=
  ⟨hc.1.mono h, hc.2⟩

theorem ClosedV.mono {N N' : List (Nat × String)} (h : NamesLe N N') (v : Value) (hv : ClosedV N v) : ClosedV N' v :=
  closedV_all.2 (All.imp (closedLeaf_mono h) (fun _ => id) v (closedV_all.1 hv))

theorem ClosedL.mono {N N' : List (Nat × String)} (h : NamesLe N N') (xs : List Value) (hv : ClosedL N xs) :
    ClosedL N' xs :=
  closedL_all.2 (AllL.imp (closedLeaf_mono h) (fun _ => id) xs (closedL_all.1 hv))

theorem ClosedR.mono {N N' : List (Nat × String)} (h : NamesLe N N') (r : List (String × Value))
    (hv : ClosedR N r) : ClosedR N' r :=
  closedR_all.2 (AllR.imp (closedLeaf_mono h) (fun _ => id) r (closedR_all.1 hv))

theorem ClosedE.mono {N N' : List (Nat × String)} (h : NamesLe N N') {E : List Frame} (hE : ClosedE N E) :
    ClosedE N' E := fun f hf => ClosedR.mono h f (hE f hf)

section data
variable {N : List (Nat × String)}

theorem closedR_insertAL {k : String} {v : Value} {r : List (String × Value)} (hv : ClosedV N v)
    (hr : ClosedR N r) : ClosedR N (insertAL k v r) :=
  closedR_all.2 ((closedR_all.1 hr).insert (closedV_all.1 hv))

theorem closed_envGet {k : String} {v : Value} {E : List Frame} (he : ClosedE N E) (h : envGet E k = some v) :
    ClosedV N v :=
  closedV_all.2 ((closedE_all.1 he).get h)

theorem closedE_envInsert {k : String} {v : Value} {E : List Frame} (he : ClosedE N E) (hv : ClosedV N v) :
    ClosedE N (envInsert E k v) :=
  closedE_all.2 ((closedE_all.1 he).insert (closedV_all.1 hv))

theorem closedE_drop {E : List Frame} (he : ClosedE N E) (k : Nat) : ClosedE N (E.drop k) :=
  fun f hf => he f (List.mem_of_mem_drop hf)

theorem closedR_insertAll (kvs : List (String × Value)) (f : Frame) (hk : ClosedR N kvs) (h : ClosedR N f) :
    ClosedR N (insertAll f kvs) :=
  closedR_all.2 ((closedR_all.1 hk).foldl_insert (closedR_all.1 h))

theorem closedR_captureScope {E : List Frame} (he : ClosedE N E) (vars : List String) :
    ClosedR N (captureScope E vars) :=
  closedR_all.2 ((closedE_all.1 he).capture vars)

theorem closedL_flattenSpreads {vs : List Value} (h : ClosedL N vs) : ClosedL N (flattenSpreads vs) :=
  closedL_all.2 (allL_flattenSpreads (closedL_all.1 h))

theorem closedR_spreadIntoRecord {rec : Frame} {v : Value} (hr : ClosedR N rec) (hv : ClosedV N v) :
    ClosedR N (spreadIntoRecord rec v) :=
  closedR_all.2 (allR_spreadIntoRecord (closedR_all.1 hr) (closedV_all.1 hv))

theorem closedR_bindParams {params : List LArg} {args : List Value} {pf : Frame}
    (ha : ClosedL N args) (h : bindParams params args = .ok pf) : ClosedR N pf :=
  closedR_all.2 (sat_bindParams (closedL_all.1 ha) pf h)

theorem closedR_groupByKeys {xs ks : List Value} {r : Frame} (hx : ClosedL N xs)
    (h : groupByKeys xs ks = some r) : ClosedR N r :=
  closedR_all.2 (allR_groupByKeys (closedL_all.1 hx) h)

theorem closedR_countByKeys {ops : NumOps} {ks : List Value} {r : Frame}
    (h : countByKeys ops ks = some r) : ClosedR N r :=
  closedR_all.2 (allR_countByKeys h)

theorem arg_some' {args : List Value} {i : Nat} {msg : String} {x : Value}
    (h : (match args[i]? with
          | some v => Outcome.ok v
          | none => Outcome.panic msg) = Outcome.ok x) : args[i]? = some x := by
  split at h
  · rename_i v hv; injection h with h; subst h; exact hv
  · simp at h

theorem arg_closed {args : List Value} {i : Nat} {msg : String} {x : Value}
    (h : (match args[i]? with
          | some v => Outcome.ok v
          | none => Outcome.panic msg) = Outcome.ok x) (ha : ClosedL N args) : ClosedV N x :=
  ha.getElem? (arg_some' h)

end data

/-- the callback-free built-ins do not conjure function values: a result only contains
    function values taken from the arguments, so closed arguments give a closed result -/
theorem callPure_closed (ops : NumOps) {N : List (Nat × String)} {name : String} {args : List Value} {v : Value}
    (h : callPure ops name args = some (.ok v)) (ha : ClosedL N args) : ClosedV N v :=
  closedV_all.2 (callPure_all ops h (closedL_all.1 ha))

def InTop (n : Nat) (E : List Frame) (x : String) : Prop := (envGet (E.take n) x).isSome

theorem InTop.agree {n : Nat} {tl' E : List Frame} {x : String} (h : InTop n E x) : Agree n tl' E x := by
  unfold Agree retailE
  rw [envGet_append]
  conv => rhs; rw [← List.take_append_drop n E, envGet_append]
  unfold InTop at h
  cases hg : envGet (E.take n) x with
  | none => rw [hg] at h; cases h
  | some v => rfl

theorem InTop.get {n : Nat} {E : List Frame} {x : String} (h : InTop n E x) : (envGet E x).isSome := by
  rw [← List.take_append_drop n E, envGet_append]
  unfold InTop at h
  cases hg : envGet (E.take n) x with
  | none => rw [hg] at h; cases h
  | some v => rfl

theorem InTop.push {n : Nat} {E : List Frame} {x : String} (g : Frame) (h : InTop n E x) :
    InTop (n + 1) (g :: E) x := by
  unfold InTop at h ⊢
  simp only [List.take_succ_cons, envGet]
  cases lookupAL x g with
  | some v => rfl
  | none => exact h

theorem InTop.of_top {n : Nat} {f : Frame} {R : List Frame} {x : String} (h : (lookupAL x f).isSome) :
    InTop (n + 1) (f :: R) x := by
  unfold InTop
  simp only [List.take_succ_cons, envGet]
  cases hl : lookupAL x f with
  | none => rw [hl] at h; cases h
  | some v => rfl

theorem InTop.mono {n : Nat} {E E1 : List Frame} {x : String} (hn : 0 < n) (hE : E ≠ [])
    (hk : KeysExt E E1) (h : InTop n E x) : InTop n E1 x := by
  obtain ⟨n, rfl⟩ : ∃ m, n = m + 1 := ⟨n - 1, by omega⟩
  rcases hk.cases hE with rfl | ⟨f, f1, R, rfl, rfl, hnone⟩
  · exact h
  · unfold InTop at h ⊢
    simp only [List.take_succ_cons, envGet] at h ⊢
    cases h1 : lookupAL x f1 with
    | some v1 => rfl
    | none => rw [hnone x h1] at h; exact h

/-- "free names are OK": the names with property `P` are `inputs` or resolved in the first `n`
    frames -/
def FOK (n : Nat) (E : List Frame) (P : String → Prop) : Prop := ∀ x, P x → x = "inputs" ∨ InTop n E x

theorem FOK.imp {n : Nat} {E : List Frame} {P Q : String → Prop} (h : FOK n E P) (hq : ∀ x, Q x → P x) :
    FOK n E Q := fun x hx => h x (hq x hx)

theorem FOK.step {n : Nat} {E E1 : List Frame} {P : String → Prop} (h : FOK n E P) (hn : 0 < n) (hE : E ≠ [])
    (hk : KeysExt E E1) : FOK n E1 P := fun x hx => (h x hx).imp_right (InTop.mono hn hE hk)

theorem FOK.push {n : Nat} {E : List Frame} {P : String → Prop} (g : Frame) (h : FOK n E P) :
    FOK (n + 1) (g :: E) P := fun x hx => (h x hx).imp_right (InTop.push g)

/-- "the state is OK": what is assumed of a state: the prefix exists, `inputs` is resolved
    identically with the replaced lower frames, every value bound in the environment is closed -/
structure SOK (n : Nat) (tl' : List Frame) (s : ES) : Prop where
  len : n ≤ s.env.length
  inp : Agree n tl' s.env "inputs"
  cl : ClosedE s.names s.env

/-- what an evaluation step guarantees of its result `p` from state `s`: innermost frame keeps
    its keys and the frames below are the same, names only grow, the environment is closed, a
    successful result is closed -/
structure Post {α} (C : List (Nat × String) → α → Prop) (s : ES) (p : R α) : Prop where
  keys : KeysExt s.env p.2.env
  names : NamesLe s.names p.2.names
  cl : ClosedE p.2.names p.2.env
  val : ∀ v, p.1 = .ok v → C p.2.names v

/-- the same for the call group, which returns the caller's environment exactly -/
structure PostC {α} (C : List (Nat × String) → α → Prop) (s : ES) (p : R α) : Prop where
  env : p.2.env = s.env
  names : NamesLe s.names p.2.names
  cl : ClosedE p.2.names p.2.env
  val : ∀ v, p.1 = .ok v → C p.2.names v

theorem PostC.toPost {α} {C : List (Nat × String) → α → Prop} {s : ES} {p : R α} (h : PostC C s p) : Post C s p :=
  ⟨by rw [h.env]; exact KeysExt.refl _, h.names, h.cl, h.val⟩

theorem Post.same {α} {C : List (Nat × String) → α → Prop} {s : ES} {r : Outcome α} (hc : ClosedE s.names s.env)
    (hv : ∀ v, r = .ok v → C s.names v) : Post C s (r, s) :=
  ⟨KeysExt.refl _, NamesLe.refl _, hc, hv⟩

theorem PostC.same {α} {C : List (Nat × String) → α → Prop} {s : ES} {r : Outcome α} (hc : ClosedE s.names s.env)
    (hv : ∀ v, r = .ok v → C s.names v) : PostC C s (r, s) :=
  ⟨rfl, NamesLe.refl _, hc, hv⟩

/-- same state, another outcome ("re-tag") -/
theorem Post.re {α β} {C : List (Nat × String) → α → Prop} {C' : List (Nat × String) → β → Prop} {s s1 : ES}
    {r : Outcome α} {r' : Outcome β} (h : Post C s (r, s1)) (hv : ∀ v, r' = .ok v → C' s1.names v) :
    Post C' s (r', s1) := ⟨h.keys, h.names, h.cl, hv⟩

theorem PostC.re {α β} {C : List (Nat × String) → α → Prop} {C' : List (Nat × String) → β → Prop} {s s1 : ES}
    {r : Outcome α} {r' : Outcome β} (h : PostC C s (r, s1)) (hv : ∀ v, r' = .ok v → C' s1.names v) :
    PostC C' s (r', s1) := ⟨h.env, h.names, h.cl, hv⟩

theorem Post.trans {α β} {C : List (Nat × String) → α → Prop} {C' : List (Nat × String) → β → Prop} {s : ES}
    {p : R α} {q : R β} (h1 : Post C s p) (h2 : Post C' p.2 q) : Post C' s q :=
  ⟨h1.keys.trans h2.keys, h1.names.trans h2.names, h2.cl, h2.val⟩

theorem PostC.trans {α β} {C : List (Nat × String) → α → Prop} {C' : List (Nat × String) → β → Prop} {s : ES}
    {p : R α} {q : R β} (h1 : PostC C s p) (h2 : PostC C' p.2 q) : PostC C' s q :=
  ⟨h2.env.trans h1.env, h1.names.trans h2.names, h2.cl, h2.val⟩

theorem SOK.ne {n : Nat} {tl' : List Frame} {s : ES} (h : SOK n tl' s) (hn : 0 < n) : s.env ≠ [] :=
  ne_nil_of_le hn h.len

theorem SOK.next {α} {C : List (Nat × String) → α → Prop} {n : Nat} {tl' : List Frame} {s : ES} {p : R α}
    (h : SOK n tl' s) (hn : 0 < n) (hp : Post C s p) : SOK n tl' p.2 :=
  ⟨by rw [hp.keys.below.length (h.ne hn)]; exact h.len, h.inp.mono hn (h.ne hn) hp.keys, hp.cl⟩

theorem SOK.nextC {α} {C : List (Nat × String) → α → Prop} {n : Nat} {tl' : List Frame} {s : ES} {p : R α}
    (h : SOK n tl' s) (hp : PostC C s p) : SOK n tl' p.2 :=
  ⟨by rw [hp.env]; exact h.len, by rw [hp.env]; exact h.inp, hp.cl⟩

/-- the statement proved of each function of the evaluator: the run with the lower frames
    replaced is the same run, and the result keeps the invariant -/
abbrev Sim {α} (n : Nat) (tl' : List Frame) (C : List (Nat × String) → α → Prop) (s : ES) (p p' : R α) : Prop :=
  p' = (p.1, retail n tl' p.2) ∧ Post C s p

abbrev SimC {α} (n : Nat) (tl' : List Frame) (C : List (Nat × String) → α → Prop) (s : ES) (p p' : R α) : Prop :=
  p' = (p.1, retail n tl' p.2) ∧ PostC C s p

theorem callEnv_length (names : List (Nat × String)) (id : Nat) (scope : Frame) (this : Value) (pf : Frame)
    (E : List Frame) : (callEnv names id scope this pf E).length = E.length + pushed scope := by
  unfold callEnv pushed
  cases scope <;> simp

theorem agree_callEnv (names : List (Nat × String)) (id : Nat) (scope : Frame) (this : Value) (pf : Frame)
    (n : Nat) (tl' E : List Frame) (x : String) (h : Agree n tl' E x) :
    Agree (n + pushed scope) tl' (callEnv names id scope this pf E) x := by
  unfold callEnv pushed
  cases scope with
  | nil => exact h.push _
  | cons a b => exact (h.push _).push _

theorem closedR_callFrame {N : List (Nat × String)} (names : List (Nat × String)) (id : Nat) (scope : Frame)
    (this : Value) (inputs : Option Value) (pf : Frame) (ht : ClosedV N this)
    (hi : ∀ v, inputs = some v → ClosedV N v) (hp : ClosedR N pf) :
    ClosedR N (callFrame names id scope this inputs pf) := by
  unfold callFrame
  apply closedR_insertAll pf _ hp
  have hself : ClosedR N (selfFrame names id scope this) := by
    unfold selfFrame
    split
    · split
      · simp
      · simp [ClosedR, ht]
    · simp
  unfold baseFrame
  cases inputs with
  | none => exact hself
  | some v => exact closedR_insertAL (hi v rfl) hself

theorem closedE_callEnv {N : List (Nat × String)} (names : List (Nat × String)) (id : Nat) (scope : Frame)
    (this : Value) (pf : Frame) (E : List Frame) (ht : ClosedV N this) (hs : ClosedR N scope)
    (hp : ClosedR N pf) (hE : ClosedE N E) : ClosedE N (callEnv names id scope this pf E) := by
  unfold callEnv
  rw [closedE_cons]
  refine ⟨closedR_callFrame names id scope this _ pf ht (fun v hv => closed_envGet hE hv) hp, ?_⟩
  split
  · exact hE
  · rw [closedE_cons]; exact ⟨hs, hE⟩

theorem lookup_callFrame_isSome (names : List (Nat × String)) (id : Nat) (scope : Frame) (this : Value)
    (inputs : Option Value) (pf : Frame) (x : String)
    (h : (lookupAL x pf.reverse).isSome ∨ (nameOf names id = some x ∧ lookupAL x scope = none)) :
    (lookupAL x (callFrame names id scope this inputs pf)).isSome := by
  unfold callFrame
  rw [lookupAL_insertAll]
  cases hp : lookupAL x pf.reverse with
  | some v => rfl
  | none =>
    rw [hp] at h
    rcases h with h | h
    · cases h
    · simp only
      have hself : (lookupAL x (selfFrame names id scope this)).isSome := by
        rw [lookup_selfFrame, if_pos h]; rfl
      unfold baseFrame
      cases inputs with
      | none => exact hself
      | some v => exact lookupAL_insertAL_isSome "inputs" x v _ hself

theorem fok_callEnv (names : List (Nat × String)) (id : Nat) (ps : List LArg) (body : Expr) (scope : Frame)
    (this : Value) (args : List Value) (pf : Frame) (E : List Frame) (n : Nat)
    (hc : ClosedFn names id ps body scope) (hb : bindParams ps args = .ok pf) :
    FOK (n + pushed scope) (callEnv names id scope this pf E) (FreeIn · body) := by
  intro x hx
  have hscope : (lookupAL x scope).isSome →
      InTop (n + pushed scope) (callEnv names id scope this pf E) x := by
    intro h
    unfold callEnv pushed
    cases scope with
    | nil => simp [lookupAL] at h
    | cons a b => exact InTop.push _ (InTop.of_top h)
  have htop : (lookupAL x pf.reverse).isSome ∨ (nameOf names id = some x ∧ lookupAL x scope = none) →
      InTop (n + pushed scope) (callEnv names id scope this pf E) x := by
    intro h
    have := lookup_callFrame_isSome names id scope this (envGet E "inputs") pf x h
    unfold callEnv pushed
    cases scope with
    | nil => exact InTop.of_top this
    | cons a b => exact InTop.of_top this
  rcases hc x hx with h | h | h | h
  · exact Or.inr (htop (Or.inl (bindParams_lookup_isSome ps args pf hb x h)))
  · exact Or.inr (hscope h)
  · cases hs : lookupAL x scope with
    | some v => exact Or.inr (hscope (by rw [hs]; rfl))
    | none => exact Or.inr (htop (Or.inr ⟨h, hs⟩))
  · exact Or.inl h

/-- `ClosedFn` is checkable: the free names are the finite list `freeVars [] body` -/
theorem closedFn_of_freeVars {names : List (Nat × String)} {id : Nat} {ps : List LArg} {body : Expr} {scope : Frame}
    (hno : noOutput body = true)
    (hall : ∀ x ∈ freeVars [] body, x ∈ ps.map LArg.name ∨ (lookupAL x scope).isSome ∨ nameOf names id = some x ∨
      x = "inputs") : ClosedFn names id ps body scope :=
  fun x hx => hall x ((freeVars_iff body [] x hno).mpr ⟨hx, by simp⟩)

end Blots
