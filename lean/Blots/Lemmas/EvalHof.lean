import Blots.Lemmas.EvalFuel
/-
  Helpers for C13: the operator forms (`via`, `where`, `into`) and the built-in forms
  (`map`, `filter`, `every`, `some`, `reduce`, application) unfolded to the shared workers
  (`mapCalls`, `whereCalls`, `quantCalls`, `foldCalls`, `callFn`), and the workers
  characterised as left-to-right passes over the list with a callback (`seqMap`, `seqWhere`,
  `seqQuant`, `seqFold`): element and 0-based index, state threaded, first failure wins.
-/
namespace Blots

/-- `ND x`: the call `x` did not end in the depth error -/
scoped macro "ND " x:term:max : term => `(Prod.fst $x ≠ Outcome.err ErrKind.depth)

def wrapList : R (List Value) → R Value
  | (.ok vs, s) => (.ok (.list vs), s)
  | (.err k, s) => (.err k, s)
  | (.panic p, s) => (.panic p, s)
  | (.fuel, s) => (.fuel, s)

theorem wrapList_eq_bind (r : R (List Value)) :
    wrapList r = R.bind r fun vs s1 => (.ok (.list vs), s1) := by
  rcases r with ⟨_ | _ | _ | _, s⟩ <;> rfl

@[simp] theorem wrapList_fst_ne_fuel (x : R (List Value)) :
    (wrapList x).1 ≠ Outcome.fuel ↔ x.1 ≠ Outcome.fuel := by
  obtain ⟨r, s⟩ := x; cases r <;> simp [wrapList]

theorem wrapList_eq_ok_iff (x : R (List Value)) (v : Value) (s' : ES) :
    wrapList x = (.ok v, s') ↔ ∃ vs, x = (.ok vs, s') ∧ v = .list vs := by
  rw [wrapList_eq_bind]
  constructor
  · intro h
    obtain ⟨vs, s1, rfl, h⟩ := R.bind_eq_ok h
    cases h; exact ⟨vs, rfl, rfl⟩
  · rintro ⟨vs, rfl, rfl⟩; rfl

theorem hof_arities :
    builtinArity "map" = some (.exact 2) ∧ builtinArity "filter" = some (.exact 2) ∧
    builtinArity "every" = some (.exact 2) ∧ builtinArity "some" = some (.exact 2) ∧
    builtinArity "reduce" = some (.exact 3) := by decide +kernel

theorem callFn_hof (ops : NumOps) (fuel : Nat) (name : String) (this : Value) (args : List Value)
    (depth : Nat) (s : ES) (har : builtinArity name = some (.exact args.length))
    (hh : isHof name = true) :
    callFn ops (fuel+1) (.builtin name) this args depth s =
      if depth > MAX_DEPTH then (.err .depth, s) else callHof ops fuel name args (depth + 1) s := by
  rw [callFn_builtin, har]
  simp only [checkArity, Gen.Arity.canAccept, beq_self_eq_true, if_true, R.bind_ok, hh]

theorem arityOf_lambda (id : Nat) (ps : List LArg) (body : Expr) (sc : List (String × Value)) :
    arityOf (.lambda id ps body sc) = some (lambdaArity ps) := rfl

theorem isCallable_of_arityOf {f : Value} {ar : Gen.Arity} (h : arityOf f = some ar) :
    f.isCallable = true := by
  cases f <;> first | rfl | cases h

theorem not_isListV_of_callable {f : Value} (h : f.isCallable = true) : isListV f = false := by
  cases f <;> first | rfl | cases h

theorem evalBin_via_list (ops : NumOps) (fuel depth : Nat) (L : List Value) (f : Value) (s : ES)
    (ar : Gen.Arity) (h : arityOf f = some ar) :
    evalBin ops (fuel+1) depth .via (.list L) f s =
      wrapList (mapCalls ops fuel f (ar.canAccept 2) L 0 depth s) := by
  have hc := isCallable_of_arityOf h
  rw [evalBin_via, wrapList_eq_bind]
  cases f with
  | lambda _ _ _ _ => simp only [h]; rfl
  | builtin _ => simp only [h]; rfl
  | _ => cases hc

theorem evalBin_where_list (ops : NumOps) (fuel depth : Nat) (L : List Value) (f : Value) (s : ES)
    (ar : Gen.Arity) (h : arityOf f = some ar) :
    evalBin ops (fuel+1) depth .where_ (.list L) f s =
      whereCalls ops fuel f (ar.canAccept 2) L 0 depth s := by
  have hc := isCallable_of_arityOf h
  rw [evalBin_where]
  cases f with
  | lambda _ _ _ _ => simp only [h]; rfl
  | builtin _ => simp only [h]; rfl
  | _ => cases hc

theorem evalBin_into_not_callable (ops : NumOps) (fuel depth : Nat) (x f : Value) (s : ES)
    (hc : f.isCallable = false) :
    evalBin ops (fuel+1) depth .into x f s =
      (.err (if isListV f then .type_ else .notCallable), s) := by
  rw [evalBin_into, hc]
  cases isListV f <;> rfl

theorem evalBin_via_scalar (ops : NumOps) (fuel depth : Nat) (x f : Value) (s : ES)
    (hx : isListV x = false) (hc : f.isCallable = true) :
    evalBin ops (fuel+1) depth .via x f s = callFn ops fuel f f [x] depth s := by
  rw [evalBin_via]
  split
  · cases hx
  · cases hx
  · cases hc
  · rw [hc]; rfl

/-- map: results in order, state threaded, first failure wins -/
def seqMap (call : List Value → ES → R Value) (w : Bool) : List Value → Nat → ES → R (List Value)
  | [], _, s => (.ok [], s)
  | x :: xs, i, s =>
    match call (idxArgs w x i) s with
    | (.ok v, s1) =>
      (match seqMap call w xs (i + 1) s1 with
       | (.ok vs, s2) => (.ok (v :: vs), s2)
       | r => r)
    | (.err k, s1) => (.err k, s1)
    | (.panic p, s1) => (.panic p, s1)
    | (.fuel, s1) => (.fuel, s1)

/-- filter: keep the elements whose callback result is `true`; a non-boolean is a type error -/
def seqWhere (call : List Value → ES → R Value) (w : Bool) : List Value → Nat → ES → R Value
  | [], _, s => (.ok (.list []), s)
  | x :: xs, i, s =>
    match call (idxArgs w x i) s with
    | (.ok (.bool b), s1) =>
      (match seqWhere call w xs (i + 1) s1 with
       | (.ok (.list vs), s2) => (.ok (.list (if b then x :: vs else vs)), s2)
       | r => r)
    | (.ok _, s1) => (.err .type_, s1)
    | r => r

/-- every / some: stop at the first deciding element -/
def seqQuant (call : List Value → ES → R Value) (w isEvery : Bool) : List Value → Nat → ES → R Value
  | [], _, s => (.ok (.bool isEvery), s)
  | x :: xs, i, s =>
    match call (idxArgs w x i) s with
    | (.ok (.bool b), s1) =>
      if isEvery && !b then (.ok (.bool false), s1)
      else if !isEvery && b then (.ok (.bool true), s1)
      else seqQuant call w isEvery xs (i + 1) s1
    | (.ok _, s1) => (.err .type_, s1)
    | r => r

/-- reduce: the left fold from the initial value -/
def seqFold (call : List Value → ES → R Value) (w : Bool) : Value → List Value → Nat → ES → R Value
  | acc, [], _, s => (.ok acc, s)
  | acc, x :: xs, i, s =>
    match call (foldArgs w acc x i) s with
    | (.ok v, s1) => seqFold call w v xs (i + 1) s1
    | r => r

section passes
variable (call : List Value → ES → R Value) (w : Bool)

theorem seqMap_cons (x : Value) (xs : List Value) (i : Nat) (s : ES) :
    seqMap call w (x :: xs) i s =
      R.bind (call (idxArgs w x i) s) fun v s1 =>
        R.bind (seqMap call w xs (i+1) s1) fun vs s2 => (.ok (v :: vs), s2) := by
  rw [seqMap]
  rcases call (idxArgs w x i) s with ⟨v | _ | _ | _, s1⟩
  · simp only [R.bind_ok]
    rcases seqMap call w xs (i+1) s1 with ⟨_ | _ | _ | _, s2⟩ <;> rfl
  all_goals rfl

theorem seqWhere_cons (x : Value) (xs : List Value) (i : Nat) (s : ES) :
    seqWhere call w (x :: xs) i s =
      R.bind (call (idxArgs w x i) s) fun v s1 =>
        match v with
        | .bool b =>
          R.bind (seqWhere call w xs (i+1) s1) fun r s2 =>
            match r with
            | .list vs => (.ok (.list (if b then x :: vs else vs)), s2)
            | other => (.ok other, s2)
        | _ => (.err .type_, s1) := by
  rw [seqWhere]
  rcases call (idxArgs w x i) s with ⟨v | _ | _ | _, s1⟩
  · cases v with
    | bool b =>
      simp only [R.bind_ok]
      rcases seqWhere call w xs (i+1) s1 with ⟨r | _ | _ | _, s2⟩
      · cases r <;> rfl
      all_goals rfl
    | _ => rfl
  all_goals rfl

theorem seqQuant_cons (q : Bool) (x : Value) (xs : List Value) (i : Nat) (s : ES) :
    seqQuant call w q (x :: xs) i s =
      R.bind (call (idxArgs w x i) s) fun v s1 =>
        match v with
        | .bool b =>
          if q && !b then (.ok (.bool false), s1)
          else if !q && b then (.ok (.bool true), s1)
          else seqQuant call w q xs (i+1) s1
        | _ => (.err .type_, s1) := by
  rw [seqQuant]
  rcases call (idxArgs w x i) s with ⟨v | _ | _ | _, s1⟩
  · cases v <;> rfl
  all_goals rfl

theorem seqFold_cons (acc x : Value) (xs : List Value) (i : Nat) (s : ES) :
    seqFold call w acc (x :: xs) i s =
      R.bind (call (foldArgs w acc x i) s) fun v s1 => seqFold call w v xs (i+1) s1 := by
  rw [seqFold]
  rcases call (foldArgs w acc x i) s with ⟨_ | _ | _ | _, s1⟩ <;> rfl

end passes

section workers
variable (ops : NumOps)

/-- a call with more fuel, as a first part of `FM.bind` -/
theorem callFn_FM {n N : Nat} (hN : n ≤ N) (f : Value) (args : List Value) (d : Nat) (s : ES) :
    FM (callFn ops N f f args d s) (callFn ops n f f args d s) :=
  fun h => callFn_fuel_mono ops hN h

theorem mapCalls_eq_seqMap (f : Value) (w : Bool) (d : Nat) : ∀ (n : Nat) (L : List Value) (i : Nat) (s : ES),
    NF (mapCalls ops n f w L i d s) → ∀ N, n ≤ N →
      seqMap (fun a st => callFn ops N f f a d st) w L i s = mapCalls ops n f w L i d s
  | 0, _, _, _, h, _, _ => by rw [mapCalls_zero] at h; exact absurd rfl h
  | n + 1, [], i, s, _, _, _ => by rw [mapCalls_nil]; rfl
  | n + 1, x :: xs, i, s, h, N, hN => by
    revert h
    rw [mapCalls_cons, seqMap_cons]
    exact FM.bind (callFn_FM ops (by omega) _ _ _ _) fun _ s1 =>
      FM.bind (fun h => mapCalls_eq_seqMap f w d n xs (i+1) s1 h N (by omega)) fun _ _ => FM.rfl

theorem seqMap_eq_mapCalls (f : Value) (w : Bool) (d N : Nat) : ∀ (L : List Value) (i : Nat) (s : ES),
    NF (seqMap (fun a st => callFn ops N f f a d st) w L i s) →
      mapCalls ops (N + L.length + 1) f w L i d s = seqMap (fun a st => callFn ops N f f a d st) w L i s
  | [], i, s, _ => by rw [mapCalls_nil]; rfl
  | x :: xs, i, s, h => by
    revert h
    rw [show N + (x :: xs).length + 1 = (N + xs.length + 1) + 1 from rfl, mapCalls_cons, seqMap_cons]
    exact FM.bind (callFn_FM ops (by omega) _ _ _ _) fun _ s1 =>
      FM.bind (seqMap_eq_mapCalls f w d N xs (i+1) s1) fun _ _ => FM.rfl

theorem whereCalls_eq_seqWhere (f : Value) (w : Bool) (d : Nat) : ∀ (n : Nat) (L : List Value) (i : Nat) (s : ES),
    NF (whereCalls ops n f w L i d s) → ∀ N, n ≤ N →
      seqWhere (fun a st => callFn ops N f f a d st) w L i s = whereCalls ops n f w L i d s
  | 0, _, _, _, h, _, _ => by rw [whereCalls_zero] at h; exact absurd rfl h
  | n + 1, [], i, s, _, _, _ => by rw [whereCalls_nil]; rfl
  | n + 1, x :: xs, i, s, h, N, hN => by
    revert h
    rw [whereCalls_cons, seqWhere_cons]
    refine FM.bind (callFn_FM ops (by omega) _ _ _ _) fun v s1 => ?_
    cases v with
    | bool b =>
      exact FM.bind (fun h => whereCalls_eq_seqWhere f w d n xs (i+1) s1 h N (by omega)) fun _ _ => FM.rfl
    | _ => exact FM.rfl

theorem seqWhere_eq_whereCalls (f : Value) (w : Bool) (d N : Nat) : ∀ (L : List Value) (i : Nat) (s : ES),
    NF (seqWhere (fun a st => callFn ops N f f a d st) w L i s) →
      whereCalls ops (N + L.length + 1) f w L i d s = seqWhere (fun a st => callFn ops N f f a d st) w L i s
  | [], i, s, _ => by rw [whereCalls_nil]; rfl
  | x :: xs, i, s, h => by
    revert h
    rw [show N + (x :: xs).length + 1 = (N + xs.length + 1) + 1 from rfl, whereCalls_cons, seqWhere_cons]
    refine FM.bind (callFn_FM ops (by omega) _ _ _ _) fun v s1 => ?_
    cases v with
    | bool b => exact FM.bind (seqWhere_eq_whereCalls f w d N xs (i+1) s1) fun _ _ => FM.rfl
    | _ => exact FM.rfl

theorem quantCalls_eq_seqQuant (f : Value) (w q : Bool) (d : Nat) : ∀ (n : Nat) (L : List Value) (i : Nat) (s : ES),
    NF (quantCalls ops n f w q L i d s) → ∀ N, n ≤ N →
      seqQuant (fun a st => callFn ops N f f a d st) w q L i s = quantCalls ops n f w q L i d s
  | 0, _, _, _, h, _, _ => by rw [quantCalls_zero] at h; exact absurd rfl h
  | n + 1, [], i, s, _, _, _ => by rw [quantCalls_nil]; rfl
  | n + 1, x :: xs, i, s, h, N, hN => by
    revert h
    rw [quantCalls_cons, seqQuant_cons]
    refine FM.bind (callFn_FM ops (by omega) _ _ _ _) fun v s1 => ?_
    cases v with
    | bool b =>
      exact FM.ite FM.rfl <| FM.ite FM.rfl fun h =>
        quantCalls_eq_seqQuant f w q d n xs (i+1) s1 h N (by omega)
    | _ => exact FM.rfl

theorem seqQuant_eq_quantCalls (f : Value) (w q : Bool) (d N : Nat) : ∀ (L : List Value) (i : Nat) (s : ES),
    NF (seqQuant (fun a st => callFn ops N f f a d st) w q L i s) →
      quantCalls ops (N + L.length + 1) f w q L i d s =
        seqQuant (fun a st => callFn ops N f f a d st) w q L i s
  | [], i, s, _ => by rw [quantCalls_nil]; rfl
  | x :: xs, i, s, h => by
    revert h
    rw [show N + (x :: xs).length + 1 = (N + xs.length + 1) + 1 from rfl, quantCalls_cons, seqQuant_cons]
    refine FM.bind (callFn_FM ops (by omega) _ _ _ _) fun v s1 => ?_
    cases v with
    | bool b => exact FM.ite FM.rfl <| FM.ite FM.rfl (seqQuant_eq_quantCalls f w q d N xs (i+1) s1)
    | _ => exact FM.rfl

theorem foldCalls_eq_seqFold (f : Value) (w : Bool) (d : Nat) : ∀ (n : Nat) (acc : Value) (L : List Value)
    (i : Nat) (s : ES), NF (foldCalls ops n f w acc L i d s) → ∀ N, n ≤ N →
      seqFold (fun a st => callFn ops N f f a d st) w acc L i s = foldCalls ops n f w acc L i d s
  | 0, _, _, _, _, h, _, _ => by rw [foldCalls_zero] at h; exact absurd rfl h
  | n + 1, acc, [], i, s, _, _, _ => by rw [foldCalls_nil]; rfl
  | n + 1, acc, x :: xs, i, s, h, N, hN => by
    revert h
    rw [foldCalls_cons, seqFold_cons]
    exact FM.bind (callFn_FM ops (by omega) _ _ _ _) fun v s1 h =>
      foldCalls_eq_seqFold f w d n v xs (i+1) s1 h N (by omega)

theorem seqFold_eq_foldCalls (f : Value) (w : Bool) (d N : Nat) : ∀ (acc : Value) (L : List Value) (i : Nat)
    (s : ES), NF (seqFold (fun a st => callFn ops N f f a d st) w acc L i s) →
      foldCalls ops (N + L.length + 1) f w acc L i d s =
        seqFold (fun a st => callFn ops N f f a d st) w acc L i s
  | acc, [], i, s, _ => by rw [foldCalls_nil]; rfl
  | acc, x :: xs, i, s, h => by
    revert h
    rw [show N + (x :: xs).length + 1 = (N + xs.length + 1) + 1 from rfl, foldCalls_cons, seqFold_cons]
    exact FM.bind (callFn_FM ops (by omega) _ _ _ _) fun v s1 => seqFold_eq_foldCalls f w d N v xs (i+1) s1

def isTrueV : Value → Bool
  | .bool true => true
  | _ => false

/-- only the outcomes: `every` / `some` may stop early, so fewer callbacks may have run than in
    the `map` -/
theorem quantCalls_of_mapCalls (f : Value) (w : Bool) (d : Nat) : ∀ (n : Nat) (L : List Value) (i : Nat)
    (s : ES) (bs : List Value) (s' : ES), mapCalls ops n f w L i d s = (.ok bs, s') →
    (∀ b ∈ bs, ∃ p, b = Value.bool p) →
      (quantCalls ops n f w true L i d s).1 = .ok (.bool (bs.all isTrueV)) ∧
      (quantCalls ops n f w false L i d s).1 = .ok (.bool (bs.any isTrueV))
  | 0, _, _, _, _, _, h, _ => by rw [mapCalls_zero] at h; cases h
  | n + 1, [], i, s, bs, s', h, _ => by
    rw [mapCalls_nil] at h; cases h
    rw [quantCalls_nil, quantCalls_nil]; exact ⟨rfl, rfl⟩
  | n + 1, x :: xs, i, s, bs, s', h, hb => by
    rw [mapCalls_cons] at h
    obtain ⟨v, s1, hc, h⟩ := R.bind_eq_ok h
    obtain ⟨vs, s2, hm, h⟩ := R.bind_eq_ok h
    cases h
    obtain ⟨p, rfl⟩ := hb v (List.mem_cons_self ..)
    have ih := quantCalls_of_mapCalls f w d n xs (i+1) s1 vs _ hm
      fun b hb' => hb b (List.mem_cons_of_mem _ hb')
    rw [quantCalls_cons, quantCalls_cons, hc]
    cases p
    · exact ⟨rfl, ih.2⟩
    · exact ⟨ih.1, rfl⟩

/-- no element decides early, so the same callbacks ran and the state agrees too -/
theorem quantCalls_of_mapCalls_state (f : Value) (w q : Bool) (d : Nat) : ∀ (n : Nat) (L : List Value)
    (i : Nat) (s : ES) (bs : List Value) (s' : ES), mapCalls ops n f w L i d s = (.ok bs, s') →
    (∀ b ∈ bs, b = Value.bool q) → quantCalls ops n f w q L i d s = (.ok (.bool q), s')
  | 0, _, _, _, _, _, h, _ => by rw [mapCalls_zero] at h; cases h
  | n + 1, [], i, s, bs, s', h, _ => by
    rw [mapCalls_nil] at h; cases h
    rw [quantCalls_nil]
  | n + 1, x :: xs, i, s, bs, s', h, hb => by
    rw [mapCalls_cons] at h
    obtain ⟨v, s1, hc, h⟩ := R.bind_eq_ok h
    obtain ⟨vs, s2, hm, h⟩ := R.bind_eq_ok h
    cases h
    cases hb v (List.mem_cons_self ..)
    have ih := quantCalls_of_mapCalls_state f w q d n xs (i+1) s1 vs _ hm
      fun b hb' => hb b (List.mem_cons_of_mem _ hb')
    rw [quantCalls_cons, hc]
    cases q <;> exact ih

theorem seqMap_pure (call : List Value → ES → R Value) (w : Bool) (g : Value → Nat → Value)
    (hpure : ∀ x i s, call (idxArgs w x i) s = (.ok (g x i), s)) : ∀ (L : List Value) (i : Nat) (s : ES),
    seqMap call w L i s = (.ok ((L.zipIdx i).map fun p => g p.1 p.2), s)
  | [], _, _ => rfl
  | x :: xs, i, s => by
    rw [seqMap_cons, hpure, R.bind_ok, seqMap_pure call w g hpure xs (i + 1) s]; rfl

theorem seqFold_pure (call : List Value → ES → R Value) (w : Bool) (g : Value → Value → Nat → Value)
    (hpure : ∀ acc x i s, call (foldArgs w acc x i) s = (.ok (g acc x i), s)) :
    ∀ (acc : Value) (L : List Value) (i : Nat) (s : ES),
    seqFold call w acc L i s = (.ok ((L.zipIdx i).foldl (fun a p => g a p.1 p.2) acc), s)
  | _, [], _, _ => rfl
  | acc, x :: xs, i, s => by
    rw [seqFold_cons, hpure, R.bind_ok, seqFold_pure call w g hpure (g acc x i) xs (i + 1) s]; rfl

end workers

/-- `f = b => if b then f(false) else "done"` as a closure with heap cell 7 -/
def recBody : Expr := .cond (.ident "b") (.call (.ident "f") [.bool false]) (.str "done")
def recFn : Value := .lambda 7 [.req "b"] recBody []
/-- a state in which cell 7 is named `f` (so the body's `f` is the function itself, bound as
    `this` by `callFn`), and `f` is NOT otherwise in scope -/
def recState : ES := { env := [[("y", .null)]], nextId := 8, names := [(7, "f")] }

end Blots
