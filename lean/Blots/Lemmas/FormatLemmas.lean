import Blots.Model.Format
/-
  Lemmas about the formatter model (`Model/Format.lean`, mirror of `formatter.rs`).  The main
  fact: a comment anywhere in a tree puts a line break into its single-line text, so the
  formatter never takes the single-line path for it.  Either `contains_comments` counts the
  comment (`cfm`), or it sits in a do-block, whose statement comments `contains_comments` does
  not count but which never prints on one line (`doFmt`).  Also the structure of the output of
  `joinStatementsWithSpacing`: the gaps, stability.
-/
namespace Blots
namespace FormatL

theorem hasNewline_append (a b : String) : hasNewline (a ++ b) = (hasNewline a || hasNewline b) := by
  simp [hasNewline, String.toList_append]

theorem mem_intercalate {α} (sep : List α) (c : α) :
    ∀ (l : List (List α)) (x : List α), x ∈ l → c ∈ x → c ∈ sep.intercalate l
  | [], _, h, _ => by cases h
  | [y], x, h, hc => by
    rw [List.mem_singleton] at h; subst h
    simpa [List.intercalate] using hc
  | y :: z :: r, x, h, hc => by
    have ih := mem_intercalate sep c (z :: r) x
    simp only [List.intercalate, List.intersperse_cons_cons, List.flatten_cons, List.mem_append] at ih ⊢
    rcases List.mem_cons.mp h with rfl | h
    · exact Or.inl hc
    · exact Or.inr (Or.inr (ih h hc))

theorem hasNewline_intercalate (sep : String) (l : List String) (x : String) (hx : x ∈ l)
    (h : hasNewline x = true) : hasNewline (sep.intercalate l) = true := by
  unfold hasNewline at *
  rw [String.toList_intercalate]
  rw [List.contains_iff_mem] at *
  exact mem_intercalate _ _ _ x.toList (List.mem_map.mpr ⟨x, hx, rfl⟩) h

theorem hasNewline_parenIf (b : Bool) (s : String) : hasNewline (parenIf b s) = hasNewline s := by
  cases b
  · rfl
  · simp only [parenIf, if_true, hasNewline_append]
    have : hasNewline "(" = false := by decide
    have h2 : hasNewline ")" = false := by decide
    simp [this, h2]

theorem hasNewline_nl : hasNewline "\n" = true := by decide

theorem makeIndent_toList (k : Nat) : (makeIndent k).toList = List.replicate k ' ' := by
  simp [makeIndent]

theorem exists_mem_cons_of {α} {p : α → Prop} {a : α} {l : List α}
    (h : p a ∨ ∃ s ∈ l, p s) : ∃ s ∈ a :: l, p s :=
  h.elim (fun h => ⟨a, List.mem_cons_self, h⟩) fun ⟨s, hs, h⟩ => ⟨s, List.mem_cons_of_mem _ hs, h⟩

mutual
/-- a tree that `contains_comments` counts has no newline-free single-line text: the formatter
    never takes the single-line path for it -/
theorem cfm : ∀ e : Expr, containsComments e = true → hasNewline (fmtSingle e) = true
  | .assign _ e, h | .output e, h => by
    simp only [containsComments] at h
    simp only [fmtSingle, hasNewline_append, cfm e h, Bool.or_true]
  | .lambda args body, h => by
    simp only [containsComments] at h
    have ih := cfm body h
    simp only [fmtSingle]
    split <;> simp only [hasNewline_append, ih, Bool.true_or, Bool.or_true]
  | .call f args, h => by
    simp only [containsComments, Bool.or_eq_true] at h
    simp only [fmtSingle, hasNewline_append, hasNewline_parenIf]
    rcases h with h | h
    · simp only [cfm f h, Bool.true_or]
    · obtain ⟨s, hs, hn⟩ := cfm_list args h
      simp only [hasNewline_intercalate _ _ s hs hn, Bool.true_or, Bool.or_true]
  | .list items, h => by
    simp only [containsComments] at h
    simp only [fmtSingle]
    split
    · decide
    · rename_i hany
      obtain ⟨s, hs, hn⟩ := cfm_items items h (by simpa using hany)
      simp only [hasNewline_append, hasNewline_intercalate _ _ s hs hn, Bool.true_or, Bool.or_true]
  | .record es, h => by
    simp only [containsComments] at h
    simp only [fmtSingle]
    split
    · decide
    · rename_i hany
      obtain ⟨s, hs, hn⟩ := cfm_entries es h (by simpa using hany)
      simp only [hasNewline_append, hasNewline_intercalate _ _ s hs hn, Bool.true_or, Bool.or_true]
  | .num _, h | .str _, h | .bool _, h | .null, h | .ident _, h | .inref _, h | .builtin _, h
  | .cond _ _ _, h | .doBlock _ _, h | .access _ _, h | .dot _ _, h | .bin _ _ _, h | .un _ _, h
  | .fact _, h | .spread _, h => by
    simp only [fmtSingle, h, if_true, hasNewline_nl]
theorem cfm_list : ∀ es : List Expr, exprsContainComments es = true →
    ∃ s ∈ fmtSingleList es, hasNewline s = true
  | [], h => by simp [exprsContainComments] at h
  | e :: es, h => by
    simp only [exprsContainComments, Bool.or_eq_true] at h
    exact exists_mem_cons_of (h.imp (cfm e) (cfm_list es))
theorem cfm_item : ∀ i : Item, itemContainsComments i = true → hasNewline (fmtSingleItem i) = true
  | .mk _ e _, h => by
    simp only [itemContainsComments] at h
    simp only [fmtSingleItem, cfm e h]
theorem cfm_items : ∀ is : List Item, itemsHaveComments is = true →
    is.any Item.hasComments = false → ∃ s ∈ fmtSingleItems is, hasNewline s = true
  | [], h, _ => by simp [itemsHaveComments] at h
  | (.mk l e t) :: is, h, hany => by
    simp only [itemsHaveComments, itemHasOrContains, Bool.or_eq_true] at h
    simp only [List.any_cons, Item.hasComments, Item.leading, Item.trailing, Bool.or_eq_false_iff] at hany
    simp only [fmtSingleItems, List.mem_cons, exists_eq_or_imp]
    rcases h with ((h | h) | h) | h
    · rw [hany.1.1] at h; cases h
    · rw [hany.1.2] at h; cases h
    · exact Or.inl (cfm_item (.mk l e t) (by simpa [itemContainsComments] using h))
    · exact Or.inr (cfm_items is h hany.2)
theorem cfm_entry : ∀ en : Entry, (match en with | .mk _ k v _ => keyContains k (containsComments v)) = true →
    hasNewline (fmtSingleEntry en) = true
  | .mk _ k v _, h => by
    simp only [fmtSingleEntry]
    exact cfm_key k (containsComments v) (fmtSingle v) (cfm v) h
theorem cfm_entries : ∀ es : List Entry, entriesHaveComments es = true →
    es.any Entry.hasComments = false → ∃ s ∈ fmtSingleEntries es, hasNewline s = true
  | [], h, _ => by simp [entriesHaveComments] at h
  | (.mk l k v t) :: es, h, hany => by
    simp only [entriesHaveComments, entryHasOrContains, Bool.or_eq_true] at h
    simp only [List.any_cons, Entry.hasComments, Entry.leading, Entry.trailing, Bool.or_eq_false_iff] at hany
    simp only [fmtSingleEntries, List.mem_cons, exists_eq_or_imp]
    rcases h with ((h | h) | h) | h
    · rw [hany.1.1] at h; cases h
    · rw [hany.1.2] at h; cases h
    · exact Or.inl (cfm_entry (.mk l k v t) h)
    · exact Or.inr (cfm_entries es h hany.2)
theorem cfm_key : ∀ (k : Key) (vc : Bool) (vs : String), (vc = true → hasNewline vs = true) →
    keyContains k vc = true → hasNewline (fmtSingleKeyed k vs) = true
  | .static _, vc, vs, hv, h => by
    simp only [keyContains] at h
    simp only [fmtSingleKeyed, hasNewline_append, hv h, Bool.or_true]
  | .dyn ke, vc, vs, hv, h => by
    simp only [keyContains, Bool.or_eq_true] at h
    simp only [fmtSingleKeyed, hasNewline_append]
    rcases h with h | h
    · simp only [cfm ke h, Bool.true_or, Bool.or_true]
    · simp only [hv h, Bool.or_true]
  | .short _, _, _, _, h => by simp [keyContains] at h
  | .spread e, _, _, _, h => by
    simp only [keyContains] at h
    simp only [fmtSingleKeyed, cfm e h]
end


/-- number of `'\n'` the joiner puts between two consecutive statements -/
def gapOf (a b : String × Nat × Nat) : Nat := min ((b.2.1 - a.2.2 - 1) + 1) 3

def gapsOf (stmts : List (String × Nat × Nat)) : List Nat := List.zipWith gapOf stmts stmts.tail

/-- `s₁ ++ '\n'^g₁ ++ s₂ ++ '\n'^g₂ ++ … ++ sₙ` -/
def weave : List String → List Nat → String
  | [], _ => ""
  | [s], _ => s
  | s :: t :: rest, g :: gs => s ++ String.ofList (List.replicate g '\n') ++ weave (t :: rest) gs
  | s :: t :: rest, [] => s ++ weave (t :: rest) []

theorem join_nil : joinStatementsWithSpacing [] = "" := rfl
theorem join_single (s : String) (a b : Nat) : joinStatementsWithSpacing [(s, a, b)] = s := rfl
theorem join_cons_cons (x y : String × Nat × Nat) (rest : List (String × Nat × Nat)) :
    joinStatementsWithSpacing (x :: y :: rest) =
      x.1 ++ String.ofList (List.replicate (gapOf x y) '\n') ++ joinStatementsWithSpacing (y :: rest) := by
  obtain ⟨s, a, b⟩ := x
  obtain ⟨s2, a2, b2⟩ := y
  simp only [joinStatementsWithSpacing, gapOf]

theorem gapsOf_cons_cons (x y : String × Nat × Nat) (rest : List (String × Nat × Nat)) :
    gapsOf (x :: y :: rest) = gapOf x y :: gapsOf (y :: rest) := by
  simp [gapsOf]

theorem join_eq_weave : ∀ stmts : List (String × Nat × Nat),
    joinStatementsWithSpacing stmts = weave (stmts.map (·.1)) (gapsOf stmts)
  | [] => rfl
  | [(s, a, b)] => rfl
  | x :: y :: rest => by
    rw [join_cons_cons, gapsOf_cons_cons, join_eq_weave (y :: rest)]
    simp only [List.map_cons, weave]

theorem gapOf_bounds (a b : String × Nat × Nat) : 1 ≤ gapOf a b ∧ gapOf a b ≤ 3 := by
  unfold gapOf; omega

theorem gapsOf_bounds : ∀ (stmts : List (String × Nat × Nat)), ∀ g ∈ gapsOf stmts, 1 ≤ g ∧ g ≤ 3
  | [], g, h => by simp [gapsOf] at h
  | [x], g, h => by simp [gapsOf] at h
  | x :: y :: rest, g, h => by
    rw [gapsOf_cons_cons] at h
    rcases List.mem_cons.mp h with rfl | h
    · exact gapOf_bounds x y
    · exact gapsOf_bounds (y :: rest) g h

theorem gapsOf_length (stmts : List (String × Nat × Nat)) :
    (gapsOf stmts).length = stmts.length - 1 := by
  simp [gapsOf]

def countNl (s : String) : Nat := s.toList.count '\n'

/-- where the statements sit in the joined output: the first starts on line `line`, a
    statement ends `countNl` lines after its start, the next one starts `gap` lines after
    that end -/
def relayout (line : Nat) : List (String × Nat × Nat) → List (String × Nat × Nat)
  | [] => []
  | [(s, _, _)] => [(s, line, line + countNl s)]
  | (s, a, e) :: (s2, st2, e2) :: rest =>
    (s, line, line + countNl s) ::
      relayout (line + countNl s + gapOf (s, a, e) (s2, st2, e2)) ((s2, st2, e2) :: rest)

theorem relayout_head (line : Nat) (y : String × Nat × Nat) (rest : List (String × Nat × Nat)) :
    ∃ e' tl, relayout line (y :: rest) = (y.1, line, e') :: tl := by
  obtain ⟨s, a, b⟩ := y
  cases rest with
  | nil => exact ⟨_, _, rfl⟩
  | cons z rest => obtain ⟨s2, a2, b2⟩ := z; exact ⟨_, _, rfl⟩

theorem join_relayout : ∀ (stmts : List (String × Nat × Nat)) (line : Nat),
    joinStatementsWithSpacing (relayout line stmts) = joinStatementsWithSpacing stmts
  | [], _ => rfl
  | [(s, a, b)], _ => rfl
  | (s, a, e) :: (s2, st2, e2) :: rest, line => by
    have ih := join_relayout ((s2, st2, e2) :: rest) (line + countNl s + gapOf (s, a, e) (s2, st2, e2))
    obtain ⟨e', tl, hr⟩ := relayout_head (line + countNl s + gapOf (s, a, e) (s2, st2, e2)) (s2, st2, e2) rest
    simp only [relayout]
    rw [hr] at ih ⊢
    rw [join_cons_cons, join_cons_cons, ih]
    have hb := gapOf_bounds (s, a, e) (s2, st2, e2)
    have : gapOf (s, line, line + countNl s) (s2, line + countNl s + gapOf (s, a, e) (s2, st2, e2), e') =
        gapOf (s, a, e) (s2, st2, e2) := by
      simp only [gapOf] at hb ⊢
      omega
    rw [this]


/-- a program: expressions with their first / last source line; its formatted text -/
def formatProgram (w : Option Nat) (prog : List (Expr × Nat × Nat)) : String :=
  joinStatementsWithSpacing (prog.map fun x => (formatExpr x.1 w, x.2.1, x.2.2))

mutual
/-- a do-block occurs somewhere in the printed part of the tree -/
def hasDo : Expr → Bool
  | .list items => itemsHaveDo items
  | .record es => entriesHaveDo es
  | .lambda _ b => hasDo b
  | .cond c t e => hasDo c || hasDo t || hasDo e
  | .doBlock _ _ => true
  | .assign _ v => hasDo v
  | .output e => hasDo e
  | .call f as => hasDo f || exprsHaveDo as
  | .access e i => hasDo e || hasDo i
  | .dot e _ => hasDo e
  | .bin _ l r => hasDo l || hasDo r
  | .un _ e => hasDo e
  | .fact e => hasDo e
  | .spread e => hasDo e
  | _ => false
def exprsHaveDo : List Expr → Bool
  | [] => false
  | e :: es => hasDo e || exprsHaveDo es
def itemHasDo : Item → Bool
  | .mk _ e _ => hasDo e
def itemsHaveDo : List Item → Bool
  | [] => false
  | i :: is => itemHasDo i || itemsHaveDo is
def entryHasDo : Entry → Bool
  | .mk _ k v _ => keyHasDo k (hasDo v)
def entriesHaveDo : List Entry → Bool
  | [] => false
  | e :: es => entryHasDo e || entriesHaveDo es
/-- like `keyContains`: the value of a shorthand entry is not printed -/
def keyHasDo : Key → Bool → Bool
  | .static _, vd => vd
  | .dyn k, vd => hasDo k || vd
  | .short _, _ => false
  | .spread e, _ => hasDo e
end

theorem hasNewline_retSrc (sc : Scope) (r : Item) : hasNewline (retSrc sc r) = true := by
  obtain ⟨lead, e, t⟩ := r
  have : hasNewline "\n  return " = true := by decide
  simp only [retSrc, hasNewline_append, this, Bool.or_true, Bool.true_or]

mutual
theorem doSrc : ∀ (e : Expr), hasDo e = true → ∀ sc, hasNewline (exprSrc sc e) = true
  | .list items, h, sc => by
    simp only [hasDo] at h
    obtain ⟨s, hs, hn⟩ := doSrc_items items h sc
    simp only [exprSrc, hasNewline_append, hasNewline_intercalate _ _ s hs hn, Bool.true_or, Bool.or_true]
  | .record es, h, sc => by
    simp only [hasDo] at h
    obtain ⟨s, hs, hn⟩ := doSrc_entries es h sc
    simp only [exprSrc, hasNewline_append, hasNewline_intercalate _ _ s hs hn, Bool.true_or, Bool.or_true]
  | .lambda _ e, h, sc | .dot e _, h, sc | .un _ e, h, sc | .fact e, h, sc => by
    simp only [hasDo] at h
    simp only [exprSrc, hasNewline_append, hasNewline_parenIf, doSrc e h, Bool.true_or, Bool.or_true]
  | .assign _ e, h, sc | .output e, h, sc | .spread e, h, sc => by
    simp only [hasDo] at h
    simp only [exprSrc, hasNewline_append, doSrc e h, Bool.or_true]
  | .cond c t e, h, sc => by
    simp only [hasDo, Bool.or_eq_true] at h
    simp only [exprSrc, hasNewline_append]
    rcases h with (h | h) | h
    · simp only [doSrc c h, Bool.true_or, Bool.or_true]
    · simp only [doSrc t h, Bool.true_or, Bool.or_true]
    · simp only [doSrc e h, Bool.or_true]
  | .doBlock ss r, _, sc => by
    simp only [exprSrc, hasNewline_append, hasNewline_retSrc, Bool.or_true]
  | .call f as, h, sc => by
    simp only [hasDo, Bool.or_eq_true] at h
    simp only [exprSrc, hasNewline_append, hasNewline_parenIf]
    rcases h with h | h
    · simp only [doSrc f h, Bool.true_or]
    · obtain ⟨s, hs, hn⟩ := doSrc_list as h sc
      simp only [hasNewline_intercalate _ _ s hs hn, Bool.true_or, Bool.or_true]
  | .access l r, h, sc | .bin _ l r, h, sc => by
    simp only [hasDo, Bool.or_eq_true] at h
    simp only [exprSrc, hasNewline_append, hasNewline_parenIf]
    rcases h with h | h
    · simp only [doSrc l h, Bool.true_or]
    · simp only [doSrc r h, Bool.true_or, Bool.or_true]
  | .num _, h, _ | .str _, h, _ | .bool _, h, _ | .null, h, _ | .ident _, h, _ | .inref _, h, _
  | .builtin _, h, _ => by simp [hasDo] at h
theorem doSrc_list : ∀ (es : List Expr), exprsHaveDo es = true → ∀ sc,
    ∃ s ∈ exprsSrc sc es, hasNewline s = true
  | [], h, _ => by simp [exprsHaveDo] at h
  | e :: es, h, sc => by
    simp only [exprsHaveDo, Bool.or_eq_true] at h
    exact exists_mem_cons_of (h.imp (fun h => doSrc e h sc) (fun h => doSrc_list es h sc))
theorem doSrc_item : ∀ (i : Item), itemHasDo i = true → ∀ sc, hasNewline (itemSrc sc i) = true
  | .mk _ e _, h, sc => by
    simp only [itemHasDo] at h
    simp only [itemSrc, doSrc e h]
theorem doSrc_items : ∀ (is : List Item), itemsHaveDo is = true → ∀ sc,
    ∃ s ∈ itemsSrc sc is, hasNewline s = true
  | [], h, _ => by simp [itemsHaveDo] at h
  | i :: is, h, sc => by
    simp only [itemsHaveDo, Bool.or_eq_true] at h
    exact exists_mem_cons_of (h.imp (fun h => doSrc_item i h sc) (fun h => doSrc_items is h sc))
theorem doSrc_entry : ∀ (en : Entry), entryHasDo en = true → ∀ sc, hasNewline (entrySrc sc en) = true
  | .mk _ k v _, h, sc => by
    simp only [entryHasDo] at h
    simp only [entrySrc]
    exact doSrc_key k (hasDo v) (exprSrc sc v) (fun hv => doSrc v hv sc) h sc
theorem doSrc_entries : ∀ (es : List Entry), entriesHaveDo es = true → ∀ sc,
    ∃ s ∈ entriesSrc sc es, hasNewline s = true
  | [], h, _ => by simp [entriesHaveDo] at h
  | e :: es, h, sc => by
    simp only [entriesHaveDo, Bool.or_eq_true] at h
    exact exists_mem_cons_of (h.imp (fun h => doSrc_entry e h sc) (fun h => doSrc_entries es h sc))
theorem doSrc_key : ∀ (k : Key) (vd : Bool) (vs : String), (vd = true → hasNewline vs = true) →
    keyHasDo k vd = true → ∀ sc, hasNewline (keyedSrc sc k vs) = true
  | .static _, vd, vs, hv, h, sc => by
    simp only [keyHasDo] at h
    simp only [keyedSrc, hasNewline_append, hv h, Bool.or_true]
  | .dyn ke, vd, vs, hv, h, sc => by
    simp only [keyHasDo, Bool.or_eq_true] at h
    simp only [keyedSrc, hasNewline_append]
    rcases h with h | h
    · simp only [doSrc ke h, Bool.true_or, Bool.or_true]
    · simp only [hv h, Bool.or_true]
  | .short _, _, _, _, h, _ => by simp [keyHasDo] at h
  | .spread e, _, _, _, h, sc => by
    simp only [keyHasDo] at h
    simp only [keyedSrc, doSrc e h]
end


theorem fmtSingle_default_newline (e : Expr) (h : hasDo e = true) :
    hasNewline (if containsComments e = true then "\n" else exprToSource e) = true := by
  split
  · decide
  · exact doSrc e h []

mutual
theorem doFmt : ∀ (e : Expr), hasDo e = true → hasNewline (fmtSingle e) = true
  | .assign _ e, h | .output e, h => by
    simp only [hasDo] at h
    simp only [fmtSingle, hasNewline_append, doFmt e h, Bool.or_true]
  | .lambda args body, h => by
    simp only [hasDo] at h
    have ih := doFmt body h
    simp only [fmtSingle]
    split <;> simp only [hasNewline_append, ih, Bool.true_or, Bool.or_true]
  | .call f args, h => by
    simp only [hasDo, Bool.or_eq_true] at h
    simp only [fmtSingle, hasNewline_append, hasNewline_parenIf]
    rcases h with h | h
    · simp only [doFmt f h, Bool.true_or]
    · obtain ⟨s, hs, hn⟩ := doFmt_list args h
      simp only [hasNewline_intercalate _ _ s hs hn, Bool.true_or, Bool.or_true]
  | .list items, h => by
    simp only [hasDo] at h
    simp only [fmtSingle]
    split
    · decide
    · obtain ⟨s, hs, hn⟩ := doFmt_items items h
      simp only [hasNewline_append, hasNewline_intercalate _ _ s hs hn, Bool.true_or, Bool.or_true]
  | .record es, h => by
    simp only [hasDo] at h
    simp only [fmtSingle]
    split
    · decide
    · obtain ⟨s, hs, hn⟩ := doFmt_entries es h
      simp only [hasNewline_append, hasNewline_intercalate _ _ s hs hn, Bool.true_or, Bool.or_true]
  | .cond _ _ _, h | .doBlock _ _, h | .access _ _, h | .dot _ _, h | .bin _ _ _, h | .un _ _, h
  | .fact _, h | .spread _, h => by simp only [fmtSingle]; exact fmtSingle_default_newline _ h
  | .num _, h | .str _, h | .bool _, h | .null, h | .ident _, h | .inref _, h
  | .builtin _, h => by simp [hasDo] at h
theorem doFmt_list : ∀ (es : List Expr), exprsHaveDo es = true →
    ∃ s ∈ fmtSingleList es, hasNewline s = true
  | [], h => by simp [exprsHaveDo] at h
  | e :: es, h => by
    simp only [exprsHaveDo, Bool.or_eq_true] at h
    exact exists_mem_cons_of (h.imp (doFmt e) (doFmt_list es))
theorem doFmt_item : ∀ (i : Item), itemHasDo i = true → hasNewline (fmtSingleItem i) = true
  | .mk _ e _, h => by
    simp only [itemHasDo] at h
    simp only [fmtSingleItem, doFmt e h]
theorem doFmt_items : ∀ (is : List Item), itemsHaveDo is = true →
    ∃ s ∈ fmtSingleItems is, hasNewline s = true
  | [], h => by simp [itemsHaveDo] at h
  | i :: is, h => by
    simp only [itemsHaveDo, Bool.or_eq_true] at h
    exact exists_mem_cons_of (h.imp (doFmt_item i) (doFmt_items is))
theorem doFmt_entry : ∀ (en : Entry), entryHasDo en = true → hasNewline (fmtSingleEntry en) = true
  | .mk _ k v _, h => by
    simp only [entryHasDo] at h
    simp only [fmtSingleEntry]
    exact doFmt_key k (hasDo v) (fmtSingle v) (doFmt v) h
theorem doFmt_entries : ∀ (es : List Entry), entriesHaveDo es = true →
    ∃ s ∈ fmtSingleEntries es, hasNewline s = true
  | [], h => by simp [entriesHaveDo] at h
  | e :: es, h => by
    simp only [entriesHaveDo, Bool.or_eq_true] at h
    exact exists_mem_cons_of (h.imp (doFmt_entry e) (doFmt_entries es))
theorem doFmt_key : ∀ (k : Key) (vd : Bool) (vs : String), (vd = true → hasNewline vs = true) →
    keyHasDo k vd = true → hasNewline (fmtSingleKeyed k vs) = true
  | .static _, vd, vs, hv, h => by
    simp only [keyHasDo] at h
    simp only [fmtSingleKeyed, hasNewline_append, hv h, Bool.or_true]
  | .dyn ke, vd, vs, hv, h => by
    simp only [keyHasDo, Bool.or_eq_true] at h
    simp only [fmtSingleKeyed, hasNewline_append]
    rcases h with h | h
    · simp only [doFmt ke h, Bool.true_or, Bool.or_true]
    · simp only [hv h, Bool.or_true]
  | .short _, _, _, _, h => by simp [keyHasDo] at h
  | .spread e, _, _, _, h => by
    simp only [keyHasDo] at h
    simp only [fmtSingleKeyed, doFmt e h]
end

mutual
/-- some `Commented` node anywhere in the printed part of the tree carries a comment —
    including the statements of do-blocks, which `contains_comments` does not look at -/
def anyComment : Expr → Bool
  | .list items => itemsAnyComment items
  | .record es => entriesAnyComment es
  | .lambda _ b => anyComment b
  | .cond c t e => anyComment c || anyComment t || anyComment e
  | .doBlock ss r => itemsAnyComment ss || itemAnyComment r
  | .assign _ v => anyComment v
  | .output e => anyComment e
  | .call f as => anyComment f || exprsAnyComment as
  | .access e i => anyComment e || anyComment i
  | .dot e _ => anyComment e
  | .bin _ l r => anyComment l || anyComment r
  | .un _ e => anyComment e
  | .fact e => anyComment e
  | .spread e => anyComment e
  | _ => false
def exprsAnyComment : List Expr → Bool
  | [] => false
  | e :: es => anyComment e || exprsAnyComment es
def itemAnyComment : Item → Bool
  | .mk l e t => !l.isEmpty || t.isSome || anyComment e
def itemsAnyComment : List Item → Bool
  | [] => false
  | i :: is => itemAnyComment i || itemsAnyComment is
def entryAnyComment : Entry → Bool
  | .mk l k v t => !l.isEmpty || t.isSome || keyAnyComment k (anyComment v)
def entriesAnyComment : List Entry → Bool
  | [] => false
  | e :: es => entryAnyComment e || entriesAnyComment es
def keyAnyComment : Key → Bool → Bool
  | .static _, vc => vc
  | .dyn k, vc => anyComment k || vc
  | .short _, _ => false
  | .spread e, _ => anyComment e
end

theorem noComment_iff (l : List String) (t : Option String) (b : Bool) :
    (!l.isEmpty || t.isSome || b) = false ↔ l = [] ∧ t = none ∧ b = false := by
  cases l <;> cases t <;> cases b <;> simp

theorem itemAnyComment_false {l : List String} {e : Expr} {t : Option String}
    (h : itemAnyComment (.mk l e t) = false) : l = [] ∧ t = none ∧ anyComment e = false :=
  (noComment_iff _ _ _).mp h

theorem entryAnyComment_false {l : List String} {k : Key} {v : Expr} {t : Option String}
    (h : entryAnyComment (.mk l k v t) = false) :
    l = [] ∧ t = none ∧ keyAnyComment k (anyComment v) = false :=
  (noComment_iff _ _ _).mp h

/-- "counted by `contains_comments`, or inside a do-block" -/
abbrev CD (c d : Bool) : Prop := c = true ∨ d = true

theorem CD.or {a b c d : Bool} : CD a b ∨ CD c d → CD (a || c) (b || d) := by
  unfold CD; cases a <;> cases b <;> cases c <;> cases d <;> simp

mutual
theorem anyC : ∀ (e : Expr), anyComment e = true → CD (containsComments e) (hasDo e)
  | .list items, h => by
    simp only [anyComment] at h
    simpa only [containsComments, hasDo] using anyC_items items h
  | .record es, h => by
    simp only [anyComment] at h
    simpa only [containsComments, hasDo] using anyC_entries es h
  | .lambda _ e, h | .assign _ e, h | .output e, h | .dot e _, h | .un _ e, h | .fact e, h
  | .spread e, h => by
    simp only [anyComment] at h
    simpa only [containsComments, hasDo] using anyC e h
  | .cond c t e, h => by
    simp only [anyComment, Bool.or_eq_true] at h
    simp only [containsComments, hasDo]
    apply CD.or
    rcases h with (h | h) | h
    · exact Or.inl (CD.or (Or.inl (anyC c h)))
    · exact Or.inl (CD.or (Or.inr (anyC t h)))
    · exact Or.inr (anyC e h)
  | .doBlock _ _, _ => Or.inr (by simp only [hasDo])
  | .call f as, h => by
    simp only [anyComment, Bool.or_eq_true] at h
    simp only [containsComments, hasDo]
    exact CD.or (h.imp (anyC f) (anyC_list as))
  | .access l r, h | .bin _ l r, h => by
    simp only [anyComment, Bool.or_eq_true] at h
    simp only [containsComments, hasDo]
    exact CD.or (h.imp (anyC l) (anyC r))
  | .num _, h | .str _, h | .bool _, h | .null, h | .ident _, h | .inref _, h
  | .builtin _, h => by simp [anyComment] at h
theorem anyC_list : ∀ (es : List Expr), exprsAnyComment es = true →
    CD (exprsContainComments es) (exprsHaveDo es)
  | [], h => by simp [exprsAnyComment] at h
  | e :: es, h => by
    simp only [exprsAnyComment, Bool.or_eq_true] at h
    simp only [exprsContainComments, exprsHaveDo]
    exact CD.or (h.imp (anyC e) (anyC_list es))
theorem anyC_item : ∀ (i : Item), itemAnyComment i = true → CD (itemHasOrContains i) (itemHasDo i)
  | .mk l e t, h => by
    simp only [itemAnyComment, Bool.or_eq_true] at h
    simp only [itemHasOrContains, itemHasDo]
    rcases h with (h | h) | h
    · exact Or.inl (by simp [h])
    · exact Or.inl (by simp [h])
    · rcases anyC e h with h | h
      · exact Or.inl (by simp [h])
      · exact Or.inr h
theorem anyC_items : ∀ (is : List Item), itemsAnyComment is = true →
    CD (itemsHaveComments is) (itemsHaveDo is)
  | [], h => by simp [itemsAnyComment] at h
  | i :: is, h => by
    simp only [itemsAnyComment, Bool.or_eq_true] at h
    simp only [itemsHaveComments, itemsHaveDo]
    exact CD.or (h.imp (anyC_item i) (anyC_items is))
theorem anyC_entry : ∀ (en : Entry), entryAnyComment en = true →
    CD (entryHasOrContains en) (entryHasDo en)
  | .mk l k v t, h => by
    simp only [entryAnyComment, Bool.or_eq_true] at h
    simp only [entryHasOrContains, entryHasDo]
    rcases h with (h | h) | h
    · exact Or.inl (by simp [h])
    · exact Or.inl (by simp [h])
    · rcases anyC_key k _ _ _ (anyC v) h with h | h
      · exact Or.inl (by simp [h])
      · exact Or.inr h
theorem anyC_entries : ∀ (es : List Entry), entriesAnyComment es = true →
    CD (entriesHaveComments es) (entriesHaveDo es)
  | [], h => by simp [entriesAnyComment] at h
  | e :: es, h => by
    simp only [entriesAnyComment, Bool.or_eq_true] at h
    simp only [entriesHaveComments, entriesHaveDo]
    exact CD.or (h.imp (anyC_entry e) (anyC_entries es))
theorem anyC_key : ∀ (k : Key) (va vc vd : Bool), (va = true → CD vc vd) →
    keyAnyComment k va = true → CD (keyContains k vc) (keyHasDo k vd)
  | .static _, va, vc, vd, hv, h => by
    simp only [keyAnyComment] at h
    simpa only [keyContains, keyHasDo] using hv h
  | .dyn ke, va, vc, vd, hv, h => by
    simp only [keyAnyComment, Bool.or_eq_true] at h
    simp only [keyContains, keyHasDo]
    apply CD.or
    rcases h with h | h
    · exact Or.inl (anyC ke h)
    · exact Or.inr (hv h)
  | .short _, _, _, _, _, h => by simp [keyAnyComment] at h
  | .spread e, _, _, _, _, h => by
    simp only [keyAnyComment] at h
    simpa only [keyContains, keyHasDo] using anyC e h
end

theorem anyComment_forces_multiline (e : Expr) (h : anyComment e = true) :
    hasNewline (fmtSingle e) = true := by
  rcases anyC e h with h | h
  · exact cfm e h
  · exact doFmt e h

theorem anyComment_false_of_single {e : Expr} (h : hasNewline (fmtSingle e) = false) :
    anyComment e = false := by
  cases ha : anyComment e
  · rfl
  · rw [anyComment_forces_multiline e ha] at h; cases h

end FormatL
end Blots
