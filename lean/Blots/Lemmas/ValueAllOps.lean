import Blots.Lemmas.EvalEqns
import Blots.Lemmas.ValueAll
/-
  The value-level operations that `Lemmas/EvalEqns.lean` names (`identOp` … `binValue`, the
  arguments of a callback, the state after an assignment, the frames of a call) keep every
  hereditary predicate `All L` of `Lemmas/ValueAll.lean`.
-/
namespace Blots

section leaves
variable {L : Leaf}

theorem sat_identOp {env : List Frame} (he : AllE L env) {n : String} : (identOp env n).Sat (All L) := by
  unfold identOp
  split
  · exact .ok (all_num _)
  · split
    · exact .ok (all_record.2 allR_constants)
    · split
      · rename_i v hv; exact .ok (he.get hv)
      · exact .err

theorem sat_inrefOp {env : List Frame} (he : AllE L env) {f : String} : (inrefOp env f).Sat (All L) := by
  unfold inrefOp
  split
  · exact .err
  · rename_i r hr; exact .ok (all_record.1 (he.get hr)).lookup_getD
  · exact .err

theorem sat_dotOp {v : Value} (hv : All L v) {f : String} : (dotOp v f).Sat (All L) := by
  unfold dotOp
  split
  · exact .ok (all_record.1 hv).lookup_getD
  · exact .err

theorem sat_accessOp {v : Value} (hv : All L v) {iv : Value} : (accessOp v iv).Sat (All L) := by
  unfold accessOp
  split
  · split
    · exact .ok (all_record.1 hv).lookup_getD
    · exact .err
  · split
    · refine .ok ?_
      split
      · exact all_listGetD (all_list.1 hv) _
      · exact all_null
    · exact .err
  · split
    · refine .ok ?_
      split
      · split
        · exact all_str _
        · exact all_null
      · exact all_null
    · exact .err
  · exact .err

theorem sat_unOp {op : UnOp} {v : Value} : (unOp op v).Sat (All L) := by
  unfold unOp
  split
  · exact .ok (all_num _)
  · exact .ok (all_bool _)
  · exact .ok (all_bool _)
  · exact .err

theorem sat_factOp {ops : NumOps} {v : Value} : (factOp ops v).Sat (All L) := by
  unfold factOp
  split
  · exact .ite (.ok (all_num _)) .err
  · exact .err

theorem sat_spreadOp {v : Value} (hv : All L v) : (spreadOp v).Sat (All L) := by
  unfold spreadOp
  split
  · exact .ok (all_spread.2 hv)
  · exact .ok (all_spread.2 hv)
  · exact .ok (all_spread.2 hv)
  · exact .err

theorem sat_binValue {ops : NumOps} {op : BinOp} {a b : Value} (ha : All L a) (hb : All L b) :
    (binValue ops op a b).Sat (All L) := by
  unfold binValue
  split
  · exact sat_compareOp
  · split
    · exact .ite .err (sat_zipScalar (all_list.1 ha) (all_list.1 hb))
    · exact sat_mapScalar hb (all_list.1 ha)
    · exact sat_mapScalar ha (all_list.1 hb)
    · exact sat_scalarOp ha hb

theorem allL_idxArgs {w : Bool} {x : Value} (hx : All L x) (i : Nat) : AllL L (idxArgs w x i) := by
  unfold idxArgs
  split
  · exact allL_cons.2 ⟨hx, allL_cons.2 ⟨all_num _, allL_nil⟩⟩
  · exact allL_cons.2 ⟨hx, allL_nil⟩

theorem allL_foldArgs {w : Bool} {acc x : Value} (ha : All L acc) (hx : All L x) (i : Nat) :
    AllL L (if w then [acc, x, .num (F64.ofNat i)] else [acc, x]) := by
  split
  · exact allL_cons.2 ⟨ha, allL_cons.2 ⟨hx, allL_cons.2 ⟨all_num _, allL_nil⟩⟩⟩
  · exact allL_cons.2 ⟨ha, allL_cons.2 ⟨hx, allL_nil⟩⟩

theorem allE_assignIn {s : ES} (he : AllE L s.env) {v : Value} (hv : All L v) (k : Nat) (x : String) :
    AllE L (assignIn k x v s).env := assignIn_env k x v s ▸ he.insert hv

theorem allR_bodyFrame {s : ES} (he : AllE L s.env) (id : Nat) (scope : Frame) {this : Value} {pf : Frame}
    (ht : All L this) (hp : AllR L pf) : AllR L (bodyFrame s id scope this pf) := by
  have hself : AllR L (match nameOf s.names id with
      | some n => if (lookupAL n scope).isSome then [] else [(n, this)]
      | none => []) := by
    split
    · split
      · exact allR_nil
      · exact allR_cons.2 ⟨ht, allR_nil⟩
    · exact allR_nil
  refine hp.foldl_insert ?_
  split
  · rename_i v hv; exact hself.insert (he.get hv)
  · exact hself

theorem allE_bodyEnv {s : ES} (he : AllE L s.env) (id : Nat) {scope : Frame} {this : Value} {pf : Frame}
    (hs : AllR L scope) (ht : All L this) (hp : AllR L pf) : AllE L (bodyEnv s id scope this pf) := by
  refine allE_cons.2 ⟨allR_bodyFrame he id scope ht hp, ?_⟩
  split
  · exact he
  · exact allE_cons.2 ⟨hs, he⟩

end leaves

end Blots
