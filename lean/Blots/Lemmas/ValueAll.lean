import Blots.Model.Eval
/-
  Hereditary predicates on values.  `All L v` says that every function value inside `v` (inside
  lists, records, spreads and captured scopes) satisfies `L.lam` and every built-in `L.bi`.
  The value operations of the evaluator and the callback-free built-ins only rearrange the
  function values they are given and add numbers, strings, booleans and null, so they keep
  `All L` whatever `L` is.  The invariants of the development (`Value.nsb`, `Value.idsLt`,
  `ClosedV`) are instances.
-/
namespace Blots

/-- what is asked of a function value (its captured values aside) and of a built-in -/
structure Leaf where
  lam : Nat → List LArg → Expr → Frame → Prop
  bi : String → Prop

mutual
def All (L : Leaf) : Value → Prop
  | .list xs => AllL L xs
  | .record r => AllR L r
  | .lambda id ps body scope => L.lam id ps body scope ∧ AllR L scope
  | .spread v => All L v
  | .builtin n => L.bi n
  | _ => True
def AllL (L : Leaf) : List Value → Prop
  | [] => True
  | x :: xs => All L x ∧ AllL L xs
def AllR (L : Leaf) : List (String × Value) → Prop
  | [] => True
  | (_, v) :: r => All L v ∧ AllR L r
end

def AllE (L : Leaf) (E : List Frame) : Prop := ∀ f ∈ E, AllR L f

section
variable {L : Leaf}

@[simp] theorem all_num (x : F64) : All L (.num x) := by simp [All]
@[simp] theorem all_bool (x : Bool) : All L (.bool x) := by simp [All]
@[simp] theorem all_null : All L .null := by simp [All]
@[simp] theorem all_str (x : String) : All L (.str x) := by simp [All]
@[simp] theorem all_builtin {n : String} : All L (.builtin n) ↔ L.bi n := by simp [All]
@[simp] theorem all_list {xs : List Value} : All L (.list xs) ↔ AllL L xs := by simp [All]
@[simp] theorem all_record {r : List (String × Value)} : All L (.record r) ↔ AllR L r := by simp [All]
@[simp] theorem all_spread {v : Value} : All L (.spread v) ↔ All L v := by simp [All]
@[simp] theorem all_lambda {id : Nat} {ps : List LArg} {body : Expr} {scope : Frame} :
    All L (.lambda id ps body scope) ↔ L.lam id ps body scope ∧ AllR L scope := by simp [All]
@[simp] theorem allL_nil : AllL L [] := by simp [AllL]
@[simp] theorem allR_nil : AllR L [] := by simp [AllR]
@[simp] theorem allL_cons {x : Value} {xs : List Value} : AllL L (x :: xs) ↔ All L x ∧ AllL L xs := by
  simp [AllL]
@[simp] theorem allR_cons {kv : String × Value} {r : List (String × Value)} :
    AllR L (kv :: r) ↔ All L kv.2 ∧ AllR L r := by simp [AllR]
@[simp] theorem allE_nil : AllE L [] := by simp [AllE]
@[simp] theorem allE_cons {f : Frame} {E : List Frame} : AllE L (f :: E) ↔ AllR L f ∧ AllE L E := by
  simp [AllE]

theorem allL_iff : ∀ {xs : List Value}, AllL L xs ↔ ∀ x ∈ xs, All L x
  | [] => by simp
  | x :: xs => by simp [allL_iff (xs := xs)]

theorem allR_iff : ∀ {r : List (String × Value)}, AllR L r ↔ ∀ kv ∈ r, All L kv.2
  | [] => by simp
  | kv :: r => by simp [allR_iff (r := r)]

mutual
theorem All.imp {L L' : Leaf} (hl : ∀ id ps body scope, L.lam id ps body scope → L'.lam id ps body scope)
    (hb : ∀ n, L.bi n → L'.bi n) : ∀ (v : Value), All L v → All L' v
  | .list xs, h => all_list.2 (AllL.imp hl hb xs (all_list.1 h))
  | .record r, h => all_record.2 (AllR.imp hl hb r (all_record.1 h))
  | .lambda .., h => all_lambda.2 ⟨hl _ _ _ _ (all_lambda.1 h).1, AllR.imp hl hb _ (all_lambda.1 h).2⟩
  | .spread v, h => all_spread.2 (All.imp hl hb v (all_spread.1 h))
  | .builtin _, h => all_builtin.2 (hb _ (all_builtin.1 h))
  | .num _, _ => all_num _
  | .bool _, _ => all_bool _
  | .null, _ => all_null
  | .str _, _ => all_str _
theorem AllL.imp {L L' : Leaf} (hl : ∀ id ps body scope, L.lam id ps body scope → L'.lam id ps body scope)
    (hb : ∀ n, L.bi n → L'.bi n) : ∀ (xs : List Value), AllL L xs → AllL L' xs
  | [], _ => allL_nil
  | x :: xs, h => allL_cons.2 ⟨All.imp hl hb x (allL_cons.1 h).1, AllL.imp hl hb xs (allL_cons.1 h).2⟩
theorem AllR.imp {L L' : Leaf} (hl : ∀ id ps body scope, L.lam id ps body scope → L'.lam id ps body scope)
    (hb : ∀ n, L.bi n → L'.bi n) : ∀ (r : List (String × Value)), AllR L r → AllR L' r
  | [], _ => allR_nil
  | (_, v) :: r, h => allR_cons.2 ⟨All.imp hl hb v (allR_cons.1 h).1, AllR.imp hl hb r (allR_cons.1 h).2⟩
end

theorem AllL.mem {xs : List Value} {x : Value} (h : AllL L xs) (hx : x ∈ xs) : All L x := allL_iff.1 h x hx

theorem AllL.subset {xs ys : List Value} (h : AllL L xs) (hs : ∀ y ∈ ys, y ∈ xs) : AllL L ys :=
  allL_iff.2 fun y hy => h.mem (hs y hy)

theorem AllL.getElem? {xs : List Value} {i : Nat} {x : Value} (h : AllL L xs) (hx : xs[i]? = some x) :
    All L x := h.mem (List.mem_of_getElem? hx)

theorem AllL.getD {xs : List Value} (h : AllL L xs) (i : Nat) : All L (xs[i]?.getD .null) := by
  cases hx : xs[i]? with
  | none => exact all_null
  | some x => exact h.getElem? hx

theorem AllL.drop {xs : List Value} (h : AllL L xs) (k : Nat) : AllL L (xs.drop k) :=
  h.subset fun _ => List.mem_of_mem_drop

theorem allL_map {α} {l : List α} {f : α → Value} (h : ∀ a ∈ l, All L (f a)) : AllL L (l.map f) :=
  allL_iff.2 fun _ hx => let ⟨a, ha, e⟩ := List.mem_map.1 hx; e ▸ h a ha

theorem AllL.flatMap {xs : List Value} {f : Value → List Value} (h : AllL L xs)
    (hf : ∀ x, All L x → AllL L (f x)) : AllL L (xs.flatMap f) :=
  allL_iff.2 fun _ hy => let ⟨x, hx, hy⟩ := List.mem_flatMap.1 hy; (hf x (h.mem hx)).mem hy

theorem AllR.filter {r : List (String × Value)} (h : AllR L r) (p : String × Value → Bool) :
    AllR L (r.filter p) :=
  allR_iff.2 fun kv hkv => allR_iff.1 h kv (List.mem_filter.1 hkv).1

theorem AllR.lookup {k : String} {v : Value} : ∀ {r : List (String × Value)}, AllR L r →
    lookupAL k r = some v → All L v
  | [], _, h => by cases h
  | (k', v') :: r, hr, h => by
    simp only [lookupAL] at h
    split at h
    · exact Option.some.inj h ▸ (allR_cons.1 hr).1
    · exact AllR.lookup (allR_cons.1 hr).2 h

theorem AllR.lookup_getD {k : String} {r : List (String × Value)} (hr : AllR L r) :
    All L ((lookupAL k r).getD .null) := by
  cases h : lookupAL k r with
  | none => exact all_null
  | some v => exact hr.lookup h

theorem AllR.insert {k : String} {v : Value} (hv : All L v) : ∀ {r : List (String × Value)}, AllR L r →
    AllR L (insertAL k v r)
  | [], _ => allR_cons.2 ⟨hv, allR_nil⟩
  | (k', v') :: r, hr => by
    simp only [insertAL]
    split
    · exact allR_cons.2 ⟨hv, (allR_cons.1 hr).2⟩
    · exact allR_cons.2 ⟨(allR_cons.1 hr).1, AllR.insert hv (allR_cons.1 hr).2⟩

theorem foldl_keeps {α β} {P : β → Prop} {f : β → α → β} : ∀ (l : List α) {b : β},
    (∀ b, ∀ a ∈ l, P b → P (f b a)) → P b → P (l.foldl f b)
  | [], _, _, h => h
  | a :: l, b, hf, h =>
    foldl_keeps l (fun b a ha => hf b a (List.mem_cons_of_mem _ ha)) (hf b a List.mem_cons_self h)

theorem AllE.get {k : String} {v : Value} : ∀ {E : List Frame}, AllE L E → envGet E k = some v → All L v
  | [], _, h => by cases h
  | f :: rest, he, h => by
    simp only [envGet] at h
    split at h
    · rename_i w hw; exact Option.some.inj h ▸ (allE_cons.1 he).1.lookup hw
    · exact AllE.get (allE_cons.1 he).2 h

theorem AllE.insert {k : String} {v : Value} {E : List Frame} (he : AllE L E) (hv : All L v) :
    AllE L (envInsert E k v) := by
  cases E with
  | nil => exact allE_cons.2 ⟨allR_cons.2 ⟨hv, allR_nil⟩, allE_nil⟩
  | cons f rest => exact allE_cons.2 ⟨(allE_cons.1 he).1.insert hv, (allE_cons.1 he).2⟩

theorem AllE.drop {E : List Frame} (he : AllE L E) (k : Nat) : AllE L (E.drop k) :=
  fun f hf => he f (List.mem_of_mem_drop hf)

theorem AllE.capture {E : List Frame} (he : AllE L E) (vars : List String) :
    AllR L (captureScope E vars) := by
  refine foldl_keeps vars (fun sc x _ h => ?_) allR_nil
  split
  · rename_i v hv; exact h.insert (he.get hv)
  · exact h

theorem all_entry {k : String} {v : Value} (hv : All L v) : All L (.list [.str k, v]) :=
  all_list.2 (allL_cons.2 ⟨all_str k, allL_cons.2 ⟨hv, allL_nil⟩⟩)

theorem allL_spreadValues {v : Value} (hv : All L v) : AllL L (spreadValues v) := by
  cases v with
  | list l => exact all_list.1 hv
  | str s => exact allL_map fun _ _ => all_str _
  | record r => exact allL_map fun kv hkv => all_entry (allR_iff.1 (all_record.1 hv) kv hkv)
  | _ => exact allL_nil

theorem allL_flattenSpreads {vs : List Value} (h : AllL L vs) : AllL L (flattenSpreads vs) :=
  h.flatMap fun x hx => by
    split
    · exact allL_spreadValues (all_spread.1 hx)
    · exact allL_cons.2 ⟨hx, allL_nil⟩

theorem allR_spreadIntoRecord {rec : Frame} {v : Value} (hr : AllR L rec) (hv : All L v) :
    AllR L (spreadIntoRecord rec v) := by
  cases v with
  | list l =>
    exact foldl_keeps _ (fun _ ⟨_, _⟩ hp h => h.insert ((all_list.1 hv).mem (List.fst_mem_of_mem_zipIdx hp))) hr
  | str s => exact foldl_keeps _ (fun _ ⟨_, _⟩ _ h => h.insert (all_str _)) hr
  | record r2 => exact foldl_keeps _ (fun _ kv hkv h => h.insert (allR_iff.1 (all_record.1 hv) kv hkv)) hr
  | _ => exact hr

theorem AllR.foldl_insert {pf acc : Frame} (hp : AllR L pf) (h : AllR L acc) :
    AllR L (pf.foldl (fun f kv => insertAL kv.1 kv.2 f) acc) :=
  foldl_keeps _ (fun _ kv hkv h => h.insert (allR_iff.1 hp kv hkv)) h

theorem all_listGetD {l : List Value} (h : AllL L l) (k : Nat) : All L (listGetD l k) := h.getD k

end

/-- a successful outcome satisfies `P` -/
def Outcome.Sat {α} (P : α → Prop) (o : Outcome α) : Prop := ∀ v, o = .ok v → P v

namespace Outcome.Sat
variable {α β : Type} {P : α → Prop} {Q : β → Prop}

theorem ok {v : α} (h : P v) : (Outcome.ok v).Sat P := fun _ e => Outcome.ok.inj e ▸ h
theorem err {k : ErrKind} : (Outcome.err k : Outcome α).Sat P := fun _ e => nomatch e
theorem panic {s : String} : (Outcome.panic s : Outcome α).Sat P := fun _ e => nomatch e
theorem fuel : (Outcome.fuel : Outcome α).Sat P := fun _ e => nomatch e

theorem bind {x : Outcome β} {f : β → Outcome α} (hx : x.Sat Q) (hf : ∀ b, Q b → (f b).Sat P) :
    (x.bind f).Sat P := by
  cases x with
  | ok b => exact hf b (hx b rfl)
  | _ => intro _ e; cases e

theorem skip {x : Outcome β} {f : β → Outcome α} (hf : ∀ b, (f b).Sat P) : (x.bind f).Sat P :=
  bind (Q := fun _ => True) (fun _ _ => trivial) fun b _ => hf b

theorem ite {c : Prop} [Decidable c] {a b : Outcome α} (ha : a.Sat P) (hb : b.Sat P) :
    (if c then a else b).Sat P := by split <;> assumption

theorem mapM' {f : β → Outcome α} : ∀ {l : List β}, (∀ x ∈ l, (f x).Sat P) →
    (Outcome.mapM' f l).Sat (∀ y ∈ ·, P y)
  | [], _ => .ok (fun _ h => nomatch h)
  | x :: xs, h => by
    have ih := mapM' (l := xs) fun x hx => h x (List.mem_cons_of_mem _ hx)
    have hx := h x List.mem_cons_self
    simp only [Outcome.mapM']
    split
    · split
      · rename_i y hy _ ys hys
        exact .ok (List.forall_mem_cons.2 ⟨hx y hy, ih ys hys⟩)
      · exact err
      · exact panic
      · exact fuel
    · exact err
    · exact panic
    · exact fuel

end Outcome.Sat

section
variable {L : Leaf}

theorem sat_bindParams_go {args : List Value} (ha : AllL L args) : ∀ (ps : List LArg) (idx : Nat)
    {frame : Frame}, AllR L frame → (bindParams.go args ps idx frame).Sat (AllR L)
  | [], _, _, hf => .ok hf
  | .req n :: rest, idx, _, hf => by
    rw [bindParams.go]
    split
    · rename_i v hv; exact sat_bindParams_go ha rest _ (hf.insert (ha.getElem? hv))
    · exact .err
  | .opt n :: rest, idx, _, hf => sat_bindParams_go ha rest _ (hf.insert (ha.getD idx))
  | .rest n :: rest, idx, _, hf => sat_bindParams_go ha rest _ (hf.insert (all_list.2 (ha.drop idx)))

theorem sat_bindParams {params : List LArg} {args : List Value} (ha : AllL L args) :
    (bindParams params args).Sat (AllR L) := sat_bindParams_go ha params 0 allR_nil

theorem sat_compareOp {op : BinOp} {a b : Value} : (compareOp op a b).Sat (All L) := by
  unfold compareOp
  split
  iterate 4 exact .ok (all_bool _)
  split
  · exact .skip fun _ => .ok (all_bool _)
  · exact .err

theorem sat_scalarOp {ops : NumOps} {ew : Bool} {op : BinOp} {a b : Value} (ha : All L a) (hb : All L b) :
    (scalarOp ops ew op a b).Sat (All L) := by
  fun_cases scalarOp
  iterate 12 exact sat_compareOp
  iterate 4 exact .skip fun ⟨_, _⟩ => .ok (all_bool _)
  · exact .ok (all_str _)
  · exact .ok (all_num _)
  · exact .err
  · exact .skip fun _ => .ok (all_str _)
  iterate 6 exact .skip fun _ => .skip fun _ => .ok (all_num _)
  · exact .ok (by split <;> assumption)
  iterate 3 exact .err

theorem sat_elemScalar {ops : NumOps} {op : BinOp} {lf : Bool} {x sc : Value} (hx : All L x) (hs : All L sc) :
    (elemScalar ops op lf x sc).Sat (All L) := by
  unfold elemScalar
  split
  iterate 3 exact sat_scalarOp hx hs
  split
  · exact sat_scalarOp hx hs
  · exact sat_scalarOp hs hx

theorem sat_mapScalar {ops : NumOps} {op : BinOp} {lf : Bool} {sc : Value} (hs : All L sc) :
    ∀ {l : List Value}, AllL L l → (mapScalar ops op lf l sc).Sat (All L)
  | [], _ => .ok (all_list.2 allL_nil)
  | x :: xs, hl => by
    have ih := sat_mapScalar (ops := ops) (op := op) (lf := lf) hs (allL_cons.1 hl).2
    rw [mapScalar]
    split
    · rename_i r hr
      split
      · rename_i rs hrs
        exact .ok (all_list.2 (allL_cons.2 ⟨sat_elemScalar (allL_cons.1 hl).1 hs r hr, all_list.1 (ih _ hrs)⟩))
      · exact ih
    · exact sat_elemScalar (allL_cons.1 hl).1 hs

theorem sat_zipScalar {ops : NumOps} {op : BinOp} : ∀ {la lb : List Value}, AllL L la → AllL L lb →
    (zipScalar ops op la lb).Sat (All L)
  | x :: xs, y :: ys, ha, hb => by
    have ih := sat_zipScalar (ops := ops) (op := op) (allL_cons.1 ha).2 (allL_cons.1 hb).2
    have hxy := sat_scalarOp (ops := ops) (ew := true) (op := op) (allL_cons.1 ha).1 (allL_cons.1 hb).1
    rw [zipScalar]
    split
    · rename_i r hr
      split
      · rename_i rs hrs
        exact .ok (all_list.2 (allL_cons.2 ⟨hxy r hr, all_list.1 (ih _ hrs)⟩))
      · exact ih
    · exact hxy
  | [], _, _, _ => .ok (all_list.2 allL_nil)
  | _ :: _, [], _, _ => .ok (all_list.2 allL_nil)

theorem allR_groupByKeys {xs ks : List Value} : ∀ {r : Frame}, AllL L xs →
    groupByKeys xs ks = some r → AllR L r := by
  fun_induction groupByKeys xs ks with
  | case1 x xs k ks ih =>
    intro r hx h
    obtain ⟨rest, hrest, rfl⟩ := Option.map_eq_some_iff.1 h
    have ih := ih (allL_cons.1 hx).2 hrest
    split
    · rename_i g hg
      exact allR_cons.2 ⟨all_list.2 (allL_cons.2 ⟨(allL_cons.1 hx).1, all_list.1 (ih.lookup hg)⟩), ih.filter _⟩
    · exact allR_cons.2 ⟨all_list.2 (allL_cons.2 ⟨(allL_cons.1 hx).1, allL_nil⟩), ih⟩
  | case2 => intro r _ h; cases h; exact allR_nil
  | case3 => intro r _ h; cases h

theorem allR_countByKeys {ops : NumOps} {ks : List Value} : ∀ {r : Frame},
    countByKeys ops ks = some r → AllR L r := by
  fun_induction countByKeys ops ks with
  | case1 k ks ih =>
    intro r h
    obtain ⟨rest, hrest, rfl⟩ := Option.map_eq_some_iff.1 h
    split
    · exact allR_cons.2 ⟨all_num _, (ih hrest).filter _⟩
    · exact allR_cons.2 ⟨all_num _, ih hrest⟩
  | case2 => intro r h; cases h; exact allR_nil
  | case3 => intro r h; cases h

theorem allR_constants : AllR L constantsRecord := by
  simp only [constantsRecord, allR_cons, all_num, allR_nil, and_self]

theorem mergeBy_mem {α} (lt : α → α → Bool) (x : α) (l r : List α) (h : x ∈ mergeBy lt l r) :
    x ∈ l ∨ x ∈ r := by
  fun_induction mergeBy lt l r with
  | case1 r => exact .inr h
  | case2 l _ => exact .inl h
  | case3 a l b r _ ih =>
    rcases List.mem_cons.1 h with rfl | h
    · exact .inr List.mem_cons_self
    · exact (ih h).imp_right (List.mem_cons_of_mem _)
  | case4 a l b r _ ih =>
    rcases List.mem_cons.1 h with rfl | h
    · exact .inl List.mem_cons_self
    · exact (ih h).imp_left (List.mem_cons_of_mem _)

theorem mergeSortBy_mem {α} (lt : α → α → Bool) (x : α) : ∀ (fuel : Nat) (xs : List α),
    x ∈ mergeSortBy lt fuel xs → x ∈ xs
  | 0, _, h => h
  | fuel + 1, xs, h => by
    rw [mergeSortBy] at h
    split at h
    · exact h
    · rcases mergeBy_mem lt x _ _ h with h | h
      · exact List.mem_of_mem_take (mergeSortBy_mem lt x fuel _ h)
      · exact List.mem_of_mem_drop (mergeSortBy_mem lt x fuel _ h)

theorem uniqueBy_mem (x : Value) (xs : List Value) : x ∈ uniqueBy xs → x ∈ xs :=
  foldl_keeps (P := fun acc => x ∈ acc → x ∈ xs) xs
    (fun acc a ha h => by
      split
      · exact h
      · intro hx
        rcases List.mem_append.1 hx with hx | hx
        · exact h hx
        · exact List.mem_singleton.1 hx ▸ ha)
    (fun h => nomatch h)

theorem AllL.headD {l : List Value} (h : AllL L l) : All L (l.headD .null) := by
  cases l with
  | nil => exact all_null
  | cons x xs => exact (allL_cons.1 h).1

theorem allL_chunkList (k : Nat) : ∀ (fuel : Nat) {xs : List Value}, AllL L xs → AllL L (chunkList k fuel xs)
  | 0, _, _ => allL_nil
  | fuel + 1, xs, h => by
    rw [chunkList]
    split
    · exact allL_nil
    · exact allL_cons.2 ⟨all_list.2 (h.subset fun _ => List.mem_of_mem_take), allL_chunkList k fuel (h.drop k)⟩

theorem allL_zipRows {lists : List (List Value)} (n : Nat) (h : ∀ l ∈ lists, AllL L l) :
    AllL L (zipRows lists n) :=
  allL_map fun i _ => all_list.2 (allL_map fun l hl => all_listGetD (h l hl) i)

theorem sat_uncheckedCmp {name : String} {a b : Value} : (uncheckedCmp name a b).Sat (All L) := by
  fun_cases uncheckedCmp
  iterate 4 exact .ok (all_bool _)
  exact .err

theorem sat_arg {args : List Value} (ha : AllL L args) {i : Nat} {msg : String} :
    (match args[i]? with
     | some v => Outcome.ok v
     | none => Outcome.panic msg).Sat (All L) := by
  split
  · rename_i v hv; exact .ok (ha.getElem? hv)
  · exact .panic

theorem sat_asList {v : Value} (h : All L v) : (asList v).Sat (AllL L) := by
  unfold asList
  split
  · exact .ok (all_list.1 h)
  · exact .err

theorem sat_asRecord {v : Value} (h : All L v) : (asRecord v).Sat (AllR L) := by
  unfold asRecord
  split
  · exact .ok (all_record.1 h)
  · exact .err

/-- A callback-free built-in returns numbers, strings, booleans, null, and lists made of these
    and of pieces of its arguments: whatever holds of every function value inside the arguments
    holds of every function value inside the result. -/
theorem callPure_sat (ops : NumOps) {name : String} {args : List Value} (ha : AllL L args) :
    ∀ o, callPure ops name args = some o → o.Sat (All L) := by
  -- one goal for each arm of the table, in its order; the last one, for any other name, has no outcome
  unfold callPure
  split
  all_goals rintro _ ⟨⟩
  -- sqrt … trunc, random
  iterate 15 exact .skip fun _ => .skip fun _ => .ok (all_num _)
  -- round
  · exact .skip fun _ => .skip fun _ => .ite (.ok (all_num _)) (.skip fun _ => .skip fun _ => .ok (all_num _))
  -- min max avg sum prod
  iterate 5 exact .skip fun _ => .ite .err (.ok (all_num _))
  -- median
  · exact .skip fun _ => .ite .err (.ite (.ok (all_num _)) (.ok (all_num _)))
  -- percentile
  · refine .skip fun _ => .skip fun _ => .skip fun _ => .skip fun _ => .ite .err (.skip fun _ => .ite .err ?_)
    dsimp only
    split
    · exact .ok (all_num _)
    · exact .panic
  -- range
  · exact .skip fun ⟨_, _⟩ => .ite .err (.ite .err (.ite .err (.ok (all_list.2 (allL_map fun _ _ => all_num _)))))
  -- len
  · refine .skip fun _ => ?_
    split
    · exact .ok (all_num _)
    · exact .ok (all_num _)
    · exact .err
  -- head
  · refine .bind (sat_arg ha) fun x hx => ?_
    split
    · exact .ok (all_list.1 hx).headD
    · exact .ok (all_str _)
    · exact .err
  -- tail
  · refine .bind (sat_arg ha) fun x hx => ?_
    split
    · exact .ok (all_list.2 ((all_list.1 hx).drop 1))
    · exact .ok (all_str _)
    · exact .err
  -- slice
  · refine .skip fun _ => .skip fun _ => .skip fun _ => .skip fun _ => .bind (sat_arg ha) fun x hx => ?_
    split
    · exact .ite (.ok (all_list.2 ((all_list.1 hx).subset fun _ h =>
        List.mem_of_mem_take (List.mem_of_mem_drop h)))) .err
    · exact .ite (.ok (all_str _)) .err
    · exact .err
  -- concat
  · refine .ok (all_list.2 (ha.flatMap fun x hx => ?_))
    split
    · exact all_list.1 hx
    · exact all_list.1 (all_spread.1 hx)
    · exact allL_map fun _ _ => all_str _
    · exact allL_cons.2 ⟨hx, allL_nil⟩
  -- dot
  · exact .skip fun _ => .skip fun _ => .skip fun _ => .skip fun _ => .ite .err (.skip fun _ => .ok (all_num _))
  -- unique
  · exact .bind (sat_arg ha) fun _ hx => .bind (sat_asList hx) fun _ hl =>
      .ok (all_list.2 (hl.subset fun y => uniqueBy_mem y _))
  -- sort
  · exact .bind (sat_arg ha) fun _ hx => .bind (sat_asList hx) fun _ hl =>
      .ok (all_list.2 (hl.subset fun y => mergeSortBy_mem _ y _ _))
  -- reverse
  · exact .bind (sat_arg ha) fun _ hx => .bind (sat_asList hx) fun _ hl =>
      .ok (all_list.2 (hl.subset fun _ => List.mem_reverse.1))
  -- any all
  iterate 2 exact .skip fun _ => .skip fun _ => .ok (all_bool _)
  -- split
  · exact .skip fun _ => .skip fun _ => .skip fun _ => .skip fun _ => .ok (all_list.2 (allL_map fun _ _ => all_str _))
  -- join
  · exact .skip fun _ => .skip fun _ => .skip fun _ => .skip fun _ => .ok (all_str _)
  -- replace
  · exact .skip fun _ => .skip fun _ => .skip fun _ => .skip fun _ => .skip fun _ => .skip fun _ => .ok (all_str _)
  -- trim uppercase lowercase
  iterate 3 exact .skip fun _ => .skip fun _ => .ok (all_str _)
  -- includes
  · refine .skip fun _ => ?_
    split
    · exact .skip fun _ => .ok (all_bool _)
    · exact .skip fun _ => .skip fun _ => .ok (all_bool _)
    · exact .err
  -- format
  · refine .skip fun _ => .skip fun _ => ?_
    split
    · exact .ok (all_str _)
    · exact .err
  -- typeof
  · exact .skip fun _ => .ok (all_str _)
  -- arity
  · refine .skip fun _ => ?_
    split
    · exact .ok (all_num _)
    · exact .ok (all_num _)
    · exact .ok (all_num _)
    · exact .err
  -- keys
  · exact .skip fun _ => .skip fun _ => .ok (all_list.2 (allL_map fun _ _ => all_str _))
  -- values
  · exact .bind (sat_arg ha) fun _ hx => .bind (sat_asRecord hx) fun _ hr =>
      .ok (all_list.2 (allL_map (allR_iff.1 hr)))
  -- entries
  · exact .bind (sat_arg ha) fun _ hx => .bind (sat_asRecord hx) fun _ hr =>
      .ok (all_list.2 (allL_map fun kv hkv => all_entry (allR_iff.1 hr kv hkv)))
  -- flatten
  · refine .bind (sat_arg ha) fun _ hx => .bind (sat_asList hx) fun _ hl =>
      .ok (all_list.2 (hl.flatMap fun x hx => ?_))
    split
    · exact all_list.1 hx
    · exact allL_cons.2 ⟨hx, allL_nil⟩
  -- zip
  · split
    · rename_i lists h
      refine .ok (all_list.2 (allL_zipRows _ (Outcome.Sat.mapM' (P := AllL L) (fun v hv => ?_) lists h)))
      split
      · exact .ok (all_list.1 (ha.mem hv))
      · exact .err
    · exact .err
    · exact .panic
    · exact .fuel
  -- chunk
  · exact .skip fun _ => .skip fun _ => .ite .err (.bind (sat_arg ha) fun _ hx => .bind (sat_asList hx) fun _ hl =>
      .ok (all_list.2 (allL_chunkList _ _ hl)))
  -- to_string
  · refine .skip fun _ => ?_
    split
    · exact .ok (all_str _)
    · exact .ok (all_str _)
  -- to_number
  · refine .skip fun _ => ?_
    split
    · exact .ok (all_num _)
    · exact .ok (all_num _)
    · refine .skip fun _ => ?_
      split
      · exact .ok (all_num _)
      · exact .err
  -- to_bool
  · refine .skip fun _ => ?_
    split
    · exact .ok (all_bool _)
    · exact .ok (all_bool _)
    · exact .err
  -- convert
  · refine .skip fun _ => .skip fun _ => .skip fun _ => .skip fun _ => .skip fun _ => .skip fun _ => ?_
    split
    · exact .ok (all_num _)
    · exact .err
  -- ugt ult ugte ulte
  iterate 4 exact .skip fun _ => .skip fun _ => sat_uncheckedCmp
  -- print
  · refine .ite (.ok all_null) ?_
    split
    · exact .ok all_null
    · exact .err
    · exact .panic

theorem callPure_all (ops : NumOps) {name : String} {args : List Value} {v : Value}
    (h : callPure ops name args = some (.ok v)) (ha : AllL L args) : All L v :=
  callPure_sat ops ha _ h v rfl

end
end Blots
