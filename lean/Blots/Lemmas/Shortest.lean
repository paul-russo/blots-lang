import Blots.Lemmas.ParseDec
/-
  Rust-style shortest printing reads back exactly (`F64.toDisplay` then `F64.parseDec`).

  The digit search only returns candidates that passed its own read-back test (`go_sound`),
  stripping trailing zeros keeps the converted value (`strip_decVal`), and the sign argument of
  `ofRatio` only sets the sign bit (`ofRatio_sign`); so the digits of `shortestDigitsWith` read
  back as `|x|` and `parseDec (toDisplay x) = some x` (`parseDec_toDisplay`).

  That the search finds a candidate within its 18 rounds (`ShortestFound`; 17 significant
  digits always suffice for a double) is a hypothesis here; it is proved for every finite
  non-zero double in `Blots/Lemmas/Shortest17.lean` (`shortest_always_found`,
  `parseDec_toDisplay_all`) and validated on the real code by the harness.
-/
namespace Blots.F64

theorem ofNatBits_eq_iff (a b : Nat) : ofNatBits a = ofNatBits b ↔ a % 2 ^ 64 = b % 2 ^ 64 := by
  constructor
  · intro h
    have h1 : (UInt64.ofNat a).toNat = (UInt64.ofNat b).toNat := congrArg (fun y : F64 => y.bits.toNat) h
    rw [UInt64.toNat_ofNat', UInt64.toNat_ofNat'] at h1
    exact h1
  · intro h
    unfold ofNatBits
    congr 1
    apply UInt64.toNat_inj.1
    rw [UInt64.toNat_ofNat', UInt64.toNat_ofNat']
    exact h

theorem nbits_eq_sign_mag (x : F64) : x.nbits = (if x.neg then 2 ^ 63 else 0) + x.mag := by
  have hlt := nbits_lt x
  unfold neg mag
  generalize x.nbits = N at *
  split
  · next h => simp only [decide_eq_true_eq] at h; omega
  · next h => simp only [decide_eq_true_eq] at h; omega

theorem eq_ofNatBits_sign_mag (x : F64) :
    x = ofNatBits ((if x.neg then 2 ^ 63 else 0) + x.mag) := by
  rw [← nbits_eq_sign_mag]; exact eq_ofNatBits_nbits x

/-- everything `ofRatioPack` puts next to the sign bit -/
def ofRatioPayload (e2 : Int) (q' : Nat) : Nat :=
  let p : Nat × Int := if q' ≥ 2 ^ 53 then (q' / 2, e2 + 1) else (q', e2)
  if p.1 < 2 ^ 52 then p.1
  else
    let biased : Int := p.2 + 1075
    if biased ≥ 2047 then 0x7FF0000000000000
    else biased.toNat * 2 ^ 52 + (p.1 - 2 ^ 52)

theorem ofRatioPack_eq_payload (sb : Nat) (e2 : Int) (q' : Nat) :
    ofRatioPack sb e2 q' = ofNatBits (sb + ofRatioPayload e2 q') := by
  unfold ofRatioPack ofRatioPayload
  simp only []
  generalize (if q' ≥ 2 ^ 53 then ((q' / 2, e2 + 1) : Nat × Int) else (q', e2)) = p
  by_cases h1 : p.1 < 2 ^ 52
  · simp only [if_pos h1]
  · by_cases h2 : p.2 + 1075 ≥ 2047
    · simp only [if_neg h1, if_pos h2]
    · simp only [if_neg h1, if_neg h2, Nat.add_assoc]

theorem ofRatio_sign_payload (n d : Nat) :
    ∃ P : Nat, ∀ s : Bool, ofRatio s n d = ofNatBits ((if s then 2 ^ 63 else 0) + P) := by
  by_cases hn : n = 0
  · refine ⟨0, fun s => ?_⟩
    subst hn; rw [ofRatio_zero, Nat.add_zero]
  · by_cases hd : d = 0
    · refine ⟨0, fun s => ?_⟩
      subst hd
      simp [ofRatio]
    · exact ⟨_, fun s => (ofRatio_eq s n d hn hd).trans (ofRatioPack_eq_payload _ _ _)⟩

theorem ofRatio_sign (s : Bool) (n d : Nat) (x : F64) (h : ofRatio false n d = x.abs)
    (hs : s = x.neg) : ofRatio s n d = x := by
  obtain ⟨P, hP⟩ := ofRatio_sign_payload n d
  have h0 := hP false
  rw [h] at h0
  unfold abs at h0
  have h1 := (ofNatBits_eq_iff _ _).1 h0
  rw [hP s, hs]
  conv => rhs; rw [eq_ofNatBits_sign_mag x]
  apply (ofNatBits_eq_iff _ _).2
  simp only [Bool.false_eq_true, if_false] at h1
  generalize (if x.neg = true then 2 ^ 63 else 0) = sb
  omega

theorem decVal_sign (m : Nat) (e : Int) (x : F64) (h : decVal false m e = x.abs) :
    decVal x.neg m e = x := by
  unfold decVal at h ⊢
  split
  · next he => rw [if_pos he] at h; exact ofRatio_sign _ _ _ x h rfl
  · next he => rw [if_neg he] at h; exact ofRatio_sign _ _ _ x h rfl

theorem ten_pow_pos (k : Nat) : 0 < 10 ^ k := Nat.pow_pos (by decide)

theorem decVal_mul_ten (neg : Bool) (d : Nat) (e : Int) :
    decVal neg (d * 10) e = decVal neg d (e + 1) := by
  unfold decVal
  by_cases h0 : e ≥ 0
  · have h1 : e + 1 ≥ 0 := by omega
    have ht : (e + 1).toNat = e.toNat + 1 := by omega
    rw [if_pos h0, if_pos h1, ht, Nat.pow_succ, Nat.mul_assoc, Nat.mul_comm 10]
  · by_cases h1 : e + 1 ≥ 0
    · have he : e = -1 := by omega
      subst he
      rw [if_neg h0, if_pos h1]
      exact ofRatio_congr neg _ _ _ _ (ten_pow_pos _) (by decide) (by simp)
    · rw [if_neg h0, if_neg h1]
      have ht : (-e).toNat = (-(e + 1)).toNat + 1 := by omega
      rw [ht, Nat.pow_succ]
      apply ofRatio_congr neg _ _ _ _ (Nat.mul_pos (ten_pow_pos _) (by decide)) (ten_pow_pos _)
      generalize 10 ^ (-(e + 1)).toNat = p
      rw [Nat.mul_right_comm, Nat.mul_assoc]

theorem strip_zero (e : Int) (fuel : Nat) : (shortestDigitsWith.strip 0 e fuel).1 = 0 := by
  cases fuel with
  | zero => rfl
  | succ f => rfl

theorem strip_decVal (neg : Bool) : ∀ (fuel d : Nat) (e : Int),
    decVal neg (shortestDigitsWith.strip d e fuel).1 (shortestDigitsWith.strip d e fuel).2 =
      decVal neg d e
  | 0, d, e => rfl
  | fuel + 1, d, e => by
    rw [shortestDigitsWith.strip.eq_2]
    split
    · next h =>
      simp only [Bool.and_eq_true, decide_eq_true_eq] at h
      rw [strip_decVal neg fuel (d / 10) (e + 1), ← decVal_mul_ten]
      have : d / 10 * 10 = d := by omega
      rw [this]
    · rfl

theorem strip_ne_zero : ∀ (fuel d : Nat) (e : Int), d ≠ 0 →
    (shortestDigitsWith.strip d e fuel).1 ≠ 0
  | 0, d, e, hd => hd
  | fuel + 1, d, e, hd => by
    rw [shortestDigitsWith.strip.eq_2]
    split
    · next h =>
      simp only [Bool.and_eq_true, decide_eq_true_eq] at h
      exact strip_ne_zero fuel (d / 10) (e + 1) (by omega)
    · exact hd

/-- the read-back test `rt` of `shortestDigitsWith.go` -/
def goRt (ax : F64) (sh : Int) (dd : Nat) : Bool :=
  dd ≠ 0 && (if sh ≥ 0 then ofRatio false (dd * 10 ^ sh.toNat) 1
             else ofRatio false dd (10 ^ (-sh).toNat)) == ax

/-- the candidate selection `pick` of `shortestDigitsWith.go` -/
def goPick (tieUp : Bool) (sn sd : Nat) (rt : Nat → Bool) : Option Nat :=
  let lo := sn / sd
  let r := sn % sd
  let hi := lo + 1
  let okLo := rt lo
  let okHi := rt hi
  if r = 0 && okLo then some lo
  else if okLo && okHi then
    (if 2 * r < sd then some lo else if 2 * r > sd then some hi
     else if !tieUp && lo % 2 = 0 then some lo else some hi)
  else if okLo then some lo
  else if okHi then some hi
  else none

/-- the scaled fraction of round `n` -/
def goScaled (num den : Nat) (sh : Int) : Nat × Nat :=
  if sh ≥ 0 then (num, den * 10 ^ sh.toNat) else (num * 10 ^ (-sh).toNat, den)

theorem go_succ (tieUp : Bool) (num den : Nat) (ax : F64) (k : Int) (n fuel : Nat) :
    shortestDigitsWith.go tieUp num den ax k n (fuel + 1) =
      match goPick tieUp (goScaled num den (k - Int.ofNat n + 1)).1
          (goScaled num den (k - Int.ofNat n + 1)).2 (goRt ax (k - Int.ofNat n + 1)) with
      | some dd => (dd, k - Int.ofNat n + 1)
      | none => shortestDigitsWith.go tieUp num den ax k (n + 1) fuel := by
  rw [shortestDigitsWith.go.eq_2]
  rfl

theorem goPick_sound (tieUp : Bool) (sn sd : Nat) (rt : Nat → Bool) (dd : Nat)
    (h : goPick tieUp sn sd rt = some dd) : rt dd = true := by
  unfold goPick at h
  simp only [] at h
  split at h
  · next h1 =>
    simp only [Bool.and_eq_true] at h1
    cases h; exact h1.2
  · split at h
    · next h2 =>
      simp only [Bool.and_eq_true] at h2
      split at h
      · cases h; exact h2.1
      · split at h
        · cases h; exact h2.2
        · split at h
          · cases h; exact h2.1
          · cases h; exact h2.2
    · split at h
      · next h3 => cases h; exact h3
      · split at h
        · next h4 => cases h; exact h4
        · cases h

theorem goRt_iff {ax : F64} {sh : Int} {dd : Nat} :
    goRt ax sh dd = true ↔ dd ≠ 0 ∧ decVal false dd sh = ax := by
  unfold goRt
  simp only [Bool.and_eq_true, decide_eq_true_eq, beq_iff_eq]
  rfl

theorem go_sound (tieUp : Bool) (num den : Nat) (ax : F64) (k : Int) : ∀ (fuel n : Nat),
    (shortestDigitsWith.go tieUp num den ax k n fuel).1 ≠ 0 →
    decVal false (shortestDigitsWith.go tieUp num den ax k n fuel).1
      (shortestDigitsWith.go tieUp num den ax k n fuel).2 = ax
  | 0, n, h => by
    rw [shortestDigitsWith.go.eq_1] at h
    exact absurd rfl h
  | fuel + 1, n, h => by
    rw [go_succ] at h ⊢
    cases hp : goPick tieUp (goScaled num den (k - Int.ofNat n + 1)).1
        (goScaled num den (k - Int.ofNat n + 1)).2 (goRt ax (k - Int.ofNat n + 1)) with
    | some dd =>
      exact (goRt_iff.1 (goPick_sound _ _ _ _ _ hp)).2
    | none =>
      rw [hp] at h
      exact go_sound tieUp num den ax k fuel (n + 1) h

/-- the decimal exponent estimate `k` of `shortestDigitsWith` -/
def shortestK (num den : Nat) : Int :=
  let est : Int := (Int.ofNat num.log2 - Int.ofNat den.log2) * 30103 / 100000
  let ge10 (k : Int) : Bool :=
    if k ≥ 0 then num ≥ den * 10 ^ k.toNat else num * 10 ^ (-k).toNat ≥ den
  let k0 := est - 1
  let k1 := if ge10 (k0 + 1) then k0 + 1 else k0
  let k2 := if ge10 (k1 + 1) then k1 + 1 else k1
  if ge10 (k2 + 1) then k2 + 1 else k2

/-- the result of the digit search before trailing zeros are stripped -/
def shortestRaw (tieUp : Bool) (x : F64) : Nat × Int :=
  shortestDigitsWith.go tieUp x.ratio.1 x.ratio.2 x.abs (shortestK x.ratio.1 x.ratio.2) 1 18

theorem shortestDigitsWith_eq (tieUp : Bool) (x : F64) :
    x.shortestDigitsWith tieUp =
      shortestDigitsWith.strip (shortestRaw tieUp x).1 (shortestRaw tieUp x).2 20 := by
  unfold shortestDigitsWith shortestRaw shortestK
  generalize x.ratio = r
  obtain ⟨num, den⟩ := r
  simp only []

/-- the digit search of `shortestDigitsWith` found a candidate within its 18 rounds
    (17 significant digits always suffice for a double: `shortest_always_found` in
    Lemmas/Shortest17.lean) -/
def ShortestFound (tieUp : Bool) (x : F64) : Prop := (x.shortestDigitsWith tieUp).1 ≠ 0

theorem shortestFound_iff_raw (tieUp : Bool) (x : F64) :
    ShortestFound tieUp x ↔ (shortestRaw tieUp x).1 ≠ 0 := by
  unfold ShortestFound
  rw [shortestDigitsWith_eq]
  constructor
  · intro h h0
    rw [h0] at h
    exact h (strip_zero _ _)
  · exact strip_ne_zero _ _ _

theorem shortestDigitsWith_value (tieUp : Bool) (x : F64) (h : ShortestFound tieUp x) :
    decVal false (x.shortestDigitsWith tieUp).1 (x.shortestDigitsWith tieUp).2 = x.abs := by
  have hraw := (shortestFound_iff_raw tieUp x).1 h
  rw [shortestDigitsWith_eq, strip_decVal]
  exact go_sound tieUp _ _ _ _ 18 1 hraw

theorem toDisplay_finite (x : F64) (hf : x.isFinite = true) :
    toDisplay x = (if x.neg then "-" else "") ++
      (if x.isZero then "0" else positional (natDigits x.shortestDigits.1) x.shortestDigits.2) := by
  unfold toDisplay
  simp only [isNaN_of_isFinite x hf, isInf_of_isFinite x hf, Bool.false_eq_true, if_false]
  split <;> rfl

theorem eq_signed_zero_of_isZero (x : F64) (h : x.isZero = true) :
    x = ofNatBits (if x.neg then 2 ^ 63 else 0) := by
  have hm : x.mag = 0 := by simpa [isZero] using h
  have := eq_ofNatBits_sign_mag x
  rw [hm, Nat.add_zero] at this
  exact this

theorem parseDec_toDisplay (x : F64) (hf : x.isFinite = true)
    (h : x.isZero = true ∨ ShortestFound true x) : parseDec (toDisplay x) = some x := by
  rw [toDisplay_finite x hf]
  by_cases hz : x.isZero = true
  · rw [if_pos hz]
    have h0 : "0" = positional (natDigits 0) 0 := by decide
    rw [h0, parseDec_positional]
    refine congrArg some ?_
    have : ((0 : Int) ≥ 0) := by decide
    rw [if_pos this, Nat.zero_mul, ofRatio_zero]
    exact (eq_signed_zero_of_isZero x hz).symm
  · rw [if_neg hz, parseDec_positional]
    refine congrArg some ?_
    have hfound : ShortestFound true x := h.resolve_left hz
    exact decVal_sign _ _ x (shortestDigitsWith_value true x hfound)

theorem parseDec_toDisplay_neg_zero : parseDec (toDisplay negZero) = some negZero :=
  parseDec_toDisplay negZero (by decide) (Or.inl (by decide))

example : toDisplay negZero = "-0" := by decide

-- the hypotheses of `parseDec_toDisplay` are met by 0.1 (found in the first round) ...
example : ShortestFound true (ofNatBits 0x3FB999999999999A) := by unfold ShortestFound; decide
example : (ofNatBits 0x3FB999999999999A).shortestDigitsWith true = (1, -1) := by decide
example : toDisplay (ofNatBits 0x3FB999999999999A) = "0.1" := by decide +kernel
example : parseDec (toDisplay (ofNatBits 0x3FB999999999999A)) = some (ofNatBits 0x3FB999999999999A) :=
  parseDec_toDisplay _ (by decide) (Or.inr (by unfold ShortestFound; decide))
-- ... by -1/3 (16 rounds, negative) ...
example : (ofNatBits 0xBFD5555555555555).shortestDigitsWith true = (3333333333333333, -16) := by
  decide +kernel
example : toDisplay (ofNatBits 0xBFD5555555555555) = "-0.3333333333333333" := by decide +kernel
example : parseDec (toDisplay (ofNatBits 0xBFD5555555555555)) = some (ofNatBits 0xBFD5555555555555) :=
  parseDec_toDisplay _ (by decide +kernel) (Or.inr (by unfold ShortestFound; decide +kernel))
-- ... by the largest finite double (17 rounds) and the smallest subnormal
theorem shortestDigits_max :
    (ofNatBits 0x7FEFFFFFFFFFFFFF).shortestDigitsWith true = (17976931348623157, 292) := by
  decide +kernel
theorem shortestDigits_min : (ofNatBits 1).shortestDigitsWith true = (5, -324) := by decide +kernel
example : (ofNatBits 0x7FEFFFFFFFFFFFFF).shortestDigitsWith true = (17976931348623157, 292) := shortestDigits_max
example : (ofNatBits 1).shortestDigitsWith true = (5, -324) := shortestDigits_min
example : parseDec (toDisplay (ofNatBits 0x7FEFFFFFFFFFFFFF)) = some (ofNatBits 0x7FEFFFFFFFFFFFFF) :=
  parseDec_toDisplay _ (by decide) (Or.inr (by unfold ShortestFound; rw [shortestDigits_max]; decide))
example : parseDec (toDisplay (ofNatBits 1)) = some (ofNatBits 1) :=
  parseDec_toDisplay _ (by decide) (Or.inr (by unfold ShortestFound; rw [shortestDigits_min]; decide))
-- `shortestDigitsWith_value` on the tie 2^-25, both tie rules
theorem shortestDigits_tie_even :
    (ofNatBits 0x3E60000000000000).shortestDigitsWith false = (29802322387695312, -24) := by
  decide +kernel
example : (ofNatBits 0x3E60000000000000).shortestDigitsWith true = (29802322387695313, -24) := by
  decide +kernel
example : (ofNatBits 0x3E60000000000000).shortestDigitsWith false = (29802322387695312, -24) :=
  shortestDigits_tie_even
example : decVal false 29802322387695312 (-24) = (ofNatBits 0x3E60000000000000).abs := by
  have h := shortestDigitsWith_value false (ofNatBits 0x3E60000000000000)
    (by unfold ShortestFound; rw [shortestDigits_tie_even]; decide)
  rw [shortestDigits_tie_even] at h
  exact h
-- `ofRatio_sign`: 3/2 with the sign of -1.5
example : ofRatio true 3 2 = ofNatBits 0xBFF8000000000000 :=
  ofRatio_sign true 3 2 (ofNatBits 0xBFF8000000000000) (by decide) (by decide)
-- trailing zeros: 1200 × 10^-3 = 12 × 10^-1 (the sign of the exponent is kept here, changed below)
example : shortestDigitsWith.strip 1200 (-3) 20 = (12, -1) := by decide
example : shortestDigitsWith.strip 1200 (-1) 20 = (12, 1) := by decide
example : decVal false 12 1 = decVal false 1200 (-1) := by
  have h := strip_decVal false 20 1200 (-1)
  rw [show shortestDigitsWith.strip 1200 (-1) 20 = (12, 1) by decide] at h
  exact h
example : decVal true (12 * 10) (-1) = decVal true 12 0 := decVal_mul_ten true 12 (-1)

end Blots.F64
