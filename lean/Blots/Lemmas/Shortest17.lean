import Blots.Lemmas.Shortest
import Mathlib.Tactic.Linarith
import Mathlib.Tactic.Ring
import Mathlib.Tactic.NormNum
import Mathlib.Tactic.Positivity
import Mathlib.Tactic.FieldSimp
import Mathlib.Algebra.Order.Field.Basic
import Mathlib.Algebra.Order.Field.Power
/-
  Seventeen significant digits always read back: the digit search of `F64.shortestDigitsWith`
  succeeds for every finite non-zero double (`ShortestFound` holds, so the read-back theorems of
  C16 need no hypothesis).

  The arithmetic is done in `ℚ` (`qv n d = n / d`, integer powers `2^e`, `10^k`); the model's
  natural-number computations are tied to it by bridge lemmas (`zpow_split`, `inWindow_iff_q`,
  `scaled_q`, `ge10_iff_q`, `goScaled_q`).  Positions are measured in units: `qv n d / 2^e` is
  the fraction in units of `2^e`, so that the rounding conditions are linear.

  * `rhe_near`, `rhe_near_q`   : `roundHalfEven n d = M` when `n/d` is strictly within ½ of `M`;
  * `ofRatio_near`             : NEAREST.  A fraction strictly within ½ unit of `M × 2^e` — and
                                 less than ¼ unit below when `M = 2^52`, where the gap below is
                                 half as wide — is converted by `ofRatio` to the pattern of
                                 `M × 2^e` (normal and subnormal, including the case where the
                                 fraction lies in the binade below);
  * `ofRatio_eq_abs_of_near`   : the same for a double `x` with `(M, e) = x.decode`;
  * `ofRatio_eq_abs_of_close`  : hence every fraction within RELATIVE distance `1/(2·10^16)` of
                                 `|x|` converts to `|x|` (`2^53 < 10^16`, and `2·2^52 < 10^16`
                                 at a power of two);
  * `shortestK_le`             : the decimal exponent `k` of the search satisfies `10^k ≤ |x|`
                                 (the estimate `⌊0.30103·L⌋ − 1` stays below `log₁₀ 2^(L−1)` on
                                 the exponent range of doubles, `est_le_two_pow`, by the
                                 rational bounds `59/196 < log₁₀ 2 < 28/93`; the three
                                 correction steps keep the invariant);
  * `round17`                  : in round `n = 17` (unit `10^(k−16) ≤ |x|/10^16`) the digit
                                 string below or the one above the exact value passes the
                                 read-back test (`floor_or_succ_near`: one of them is within half
                                 a unit; `close_of_half`: half a unit is close enough);
  * `go_found`, `goPick_isSome`: a passing round makes the search return a non-zero mantissa;
  * `shortest_always_found`    : `ShortestFound tieUp x` for every finite non-zero `x`, both
                                 tie rules;  `parseDec_toDisplay_all`: Rust's `{}` of every
                                 finite double parses back to the identical double.
-/
namespace Blots.S17
open Blots Blots.F64

theorem zpow_split (b : ℚ) (z : ℤ) :
    b ^ z = b ^ z.toNat / b ^ (-z).toNat := by
  rcases le_total 0 z with h | h
  · have h2 : (-z).toNat = 0 := by omega
    rw [h2, pow_zero, div_one]
    conv_lhs => rw [← Int.toNat_of_nonneg h]
    rw [zpow_natCast]
  · have h2 : z.toNat = 0 := by omega
    rw [h2, pow_zero, one_div, ← zpow_natCast, Int.toNat_of_nonneg (by omega), zpow_neg, inv_inv]

def qv (n d : ℕ) : ℚ := (n : ℚ) / (d : ℚ)

theorem scaled_q (n d : ℕ) (e : ℤ) :
    qv (ofRatioScaled n d e).1 (ofRatioScaled n d e).2 = qv n d / (2:ℚ) ^ e := by
  rw [ofRatioScaled_eq, zpow_split 2 e]
  unfold qv
  push_cast
  have hB : (0:ℚ) < 2 ^ (-e).toNat := by positivity
  have hA : (0:ℚ) < 2 ^ e.toNat := by positivity
  by_cases hd : (d:ℚ) = 0
  · simp [hd]
  · field_simp

theorem inWindow_iff_q (n d : ℕ) (e : ℤ) (hd : 0 < d) :
    InWindow n d e ↔ 2 ^ 52 ≤ qv n d / (2:ℚ) ^ e ∧ qv n d / (2:ℚ) ^ e < 2 ^ 53 := by
  have hs : 0 < (ofRatioScaled n d e).2 := by
    rw [ofRatioScaled_eq]; exact Nat.mul_pos hd (Nat.two_pow_pos _)
  have hsq : (0:ℚ) < (ofRatioScaled n d e).2 := by exact_mod_cast hs
  rw [inWindow_iff n d e hd, ← scaled_q, qv, le_div_iff₀ hsq, div_lt_iff₀ hsq,
    Nat.le_div_iff_mul_le hs, Nat.div_lt_iff_lt_mul hs]
  norm_cast


theorem rhe_near (N D M : ℕ) (h1 : 2 * (M * D) < 2 * N + D) (h2 : 2 * N < 2 * (M * D) + D) :
    roundHalfEven N D = M := by
  unfold roundHalfEven
  have hD : 0 < D := by
    rcases Nat.eq_zero_or_pos D with rfl | h
    · omega
    · exact h
  have hdm := Nat.div_add_mod N D
  have hr := Nat.mod_lt N hD
  generalize N / D = q at *
  generalize N % D = r at *
  rw [Nat.mul_comm D q] at hdm
  -- `M` is `q` or `q + 1`: compare the multiples of `D`
  have hlo : ¬ M < q := fun hc => by
    have := Nat.mul_le_mul_right D (Nat.succ_le_of_lt hc)
    rw [Nat.succ_mul] at this
    omega
  have hhi : ¬ q + 1 < M := fun hc => by
    have := Nat.mul_le_mul_right D (Nat.succ_le_of_lt hc)
    rw [Nat.succ_mul, Nat.succ_mul] at this
    omega
  rcases Nat.lt_or_ge q M with h | h
  · obtain rfl : M = q + 1 := by omega
    rw [Nat.add_one_mul q D] at h1
    rw [if_pos (by simp only [Bool.or_eq_true, decide_eq_true_eq]; omega)]
  · obtain rfl : M = q := by omega
    rw [if_neg (by simp only [Bool.or_eq_true, Bool.and_eq_true, decide_eq_true_eq]; omega)]

theorem rhe_near_q (N D M : ℕ) (hD : 0 < D) (h1 : (M:ℚ) - 1 / 2 < qv N D)
    (h2 : qv N D < (M:ℚ) + 1 / 2) : roundHalfEven N D = M := by
  have hDq : (0:ℚ) < D := by exact_mod_cast hD
  unfold qv at h1 h2
  rw [lt_div_iff₀ hDq] at h1
  rw [div_lt_iff₀ hDq] at h2
  apply rhe_near N D M
  · have : ((2 * (M * D) : ℕ) : ℚ) < ((2 * N + D : ℕ) : ℚ) := by push_cast; linarith only [h1]
    exact_mod_cast this
  · have : ((2 * N : ℕ) : ℚ) < ((2 * (M * D) + D : ℕ) : ℚ) := by push_cast; linarith only [h2]
    exact_mod_cast this

theorem ofRatio_round (s : Bool) (n d : ℕ) (hn : n ≠ 0) (hd : d ≠ 0) (e2 : ℤ) (M : ℕ)
    (he2 : ofRatioExp n d = e2) (h1 : (M:ℚ) - 1 / 2 < qv n d / (2:ℚ) ^ e2)
    (h2 : qv n d / (2:ℚ) ^ e2 < (M:ℚ) + 1 / 2) :
    ofRatio s n d = ofRatioPack (if s then 2 ^ 63 else 0) e2 M := by
  have hpos : 0 < (ofRatioScaled n d e2).2 := by
    rw [ofRatioScaled_eq]
    exact Nat.mul_pos (Nat.pos_of_ne_zero hd) (Nat.two_pow_pos _)
  rw [ofRatio_eq s n d hn hd, he2,
    rhe_near_q _ _ M hpos (by rw [scaled_q]; exact h1) (by rw [scaled_q]; exact h2)]

theorem ofRatioExp_of_window (n d : ℕ) (hn : n ≠ 0) (hd : d ≠ 0) (e : ℤ)
    (h1 : 2 ^ 52 ≤ qv n d / (2:ℚ) ^ e) (h2 : qv n d / (2:ℚ) ^ e < 2 ^ 53) :
    ofRatioExp n d = if e < -1074 then -1074 else e :=
  ofRatioExp_of_inWindow hn hd ((inWindow_iff_q n d e (Nat.pos_of_ne_zero hd)).2 ⟨h1, h2⟩)

theorem ofRatioExp_of_small (n d : ℕ) (hn : n ≠ 0) (hd : d ≠ 0)
    (h : qv n d / (2:ℚ) ^ (-1074 : ℤ) < 2 ^ 53) : ofRatioExp n d = -1074 := by
  obtain ⟨e', hw, he'⟩ := ofRatioExp_spec n d hn hd
  have hw' := ((inWindow_iff_q n d e' (Nat.pos_of_ne_zero hd)).1 hw).1
  rw [le_div_iff₀ (zpow_pos (by norm_num) _)] at hw'
  rw [div_lt_iff₀ (zpow_pos (by norm_num) _)] at h
  have h3 : (2:ℚ) ^ e' < 2 ^ (-1073 : ℤ) := by
    have : (2:ℚ) ^ (-1073 : ℤ) = 2 * 2 ^ (-1074 : ℤ) := by
      rw [show (-1073 : ℤ) = -1074 + 1 by norm_num, zpow_add_one₀ (by norm_num)]; ring
    rw [this]
    linarith only [hw', h]
  have h4 : e' < -1073 := (zpow_lt_zpow_iff_right₀ (by norm_num)).1 h3
  rw [he']
  split <;> omega

theorem pack_carry (sb : ℕ) (e : ℤ) :
    ofRatioPack sb (e - 1) (2 ^ 53) = ofRatioPack sb e (2 ^ 52) := by
  have h : e - 1 + 1 = e := by omega
  unfold ofRatioPack
  simp [h]

theorem ofRatio_near (s : Bool) (n d M : ℕ) (e : ℤ) (hd : 0 < d) (hM0 : 0 < M) (hM : M < 2 ^ 53)
    (he : -1074 ≤ e) (hnorm : e ≠ -1074 → 2 ^ 52 ≤ M)
    (hlo : (M:ℚ) - 1 / 2 < qv n d / (2:ℚ) ^ e) (hhi : qv n d / (2:ℚ) ^ e < (M:ℚ) + 1 / 2)
    (hb : M = 2 ^ 52 → (2:ℚ) ^ 52 - 1 / 4 < qv n d / (2:ℚ) ^ e) :
    ofRatio s n d = ofRatioPack (if s then 2 ^ 63 else 0) e M := by
  have hMq1 : (1:ℚ) ≤ M := by exact_mod_cast hM0
  have hMq2 : (M:ℚ) + 1 ≤ 2 ^ 53 := by exact_mod_cast hM
  have hn : n ≠ 0 := by
    rintro rfl
    rw [qv, Nat.cast_zero, zero_div, zero_div] at hlo
    linarith only [hlo, hMq1]
  have hd' : d ≠ 0 := by omega
  by_cases hE : e = -1074
  · subst hE
    exact ofRatio_round s n d hn hd' _ M (ofRatioExp_of_small n d hn hd' (by linarith only [hhi, hMq2])) hlo hhi
  · have hM52q : (2:ℚ) ^ 52 ≤ M := by exact_mod_cast hnorm hE
    by_cases hq : 2 ^ 52 ≤ qv n d / (2:ℚ) ^ e
    · refine ofRatio_round s n d hn hd' e M ?_ hlo hhi
      rw [ofRatioExp_of_window n d hn hd' e hq (by linarith only [hhi, hMq2]), if_neg (by omega)]
    · -- the fraction lies in the binade below: `M = 2^52`, and it rounds up to `2^53` there
      replace hq := lt_of_not_ge hq
      have hMeq : M = 2 ^ 52 := by
        have : (M:ℚ) < 2 ^ 52 + 1 := by linarith only [hlo, hq]
        have : M < 2 ^ 52 + 1 := by exact_mod_cast this
        have := hnorm hE
        omega
      have hb' := hb hMeq
      have hw : qv n d / (2:ℚ) ^ (e - 1) = 2 * (qv n d / (2:ℚ) ^ e) := by
        rw [zpow_sub_one₀ (by norm_num), div_mul_eq_div_div, div_inv_eq_mul, mul_comm]
      rw [hMeq, ← pack_carry]
      refine ofRatio_round s n d hn hd' (e - 1) (2 ^ 53) ?_
        (by rw [hw]; push_cast; linarith only [hb']) (by rw [hw]; push_cast; linarith only [hq])
      rw [ofRatioExp_of_window n d hn hd' (e - 1) (by rw [hw]; linarith only [hb'])
          (by rw [hw]; linarith only [hq]),
        if_neg (by omega)]


theorem decode_facts (x : F64) (hf : x.isFinite = true) (hz : x.isZero = false) :
    0 < x.decode.1 ∧ x.decode.1 < 2 ^ 53 ∧ -1074 ≤ x.decode.2 ∧ x.decode.2 ≤ 971 ∧
      (x.decode.2 ≠ -1074 → 2 ^ 52 ≤ x.decode.1) := by
  have hE := expField_lt_of_isFinite x hf
  have hfr := frac_lt x
  have hmag : x.mag ≠ 0 := by simpa [isZero] using hz
  have hEf : x.expField = 0 → x.frac ≠ 0 := by
    unfold expField frac
    unfold mag at hmag
    generalize x.nbits = N at *
    omega
  unfold decode
  split
  · next h0 =>
    have := hEf h0
    refine ⟨by simp only []; omega, by simp only []; omega, by simp, by simp, by simp⟩
  · next h0 =>
    refine ⟨by simp only []; omega, by simp only []; omega, ?_, ?_, ?_⟩
    · simp only [Int.ofNat_eq_natCast]; omega
    · simp only [Int.ofNat_eq_natCast]; omega
    · intro _; simp only []; omega

theorem ratio_q (x : F64) : qv x.ratio.1 x.ratio.2 = (x.decode.1 : ℚ) * (2:ℚ) ^ x.decode.2 := by
  unfold ratio
  generalize x.decode = p
  obtain ⟨m, e⟩ := p
  simp only []
  rw [zpow_split 2 e]
  split
  · next h =>
    have : (-e).toNat = 0 := by omega
    simp [qv, this]
  · next h =>
    have : e.toNat = 0 := by omega
    simp [qv, this]
    ring

theorem ofRatio_false_ratio (x : F64) (hf : x.isFinite = true) :
    ofRatio false x.ratio.1 x.ratio.2 = x.abs := by
  obtain ⟨P, hP⟩ := ofRatio_sign_payload x.ratio.1 x.ratio.2
  have h1 := hP x.neg
  rw [ofRatio_ratio x hf] at h1
  have h2 := eq_ofNatBits_sign_mag x
  have h3 := (ofNatBits_eq_iff _ _).1 (h2.symm.trans h1)
  rw [hP false]
  unfold F64.abs
  apply (ofNatBits_eq_iff _ _).2
  simp only [Bool.false_eq_true, if_false]
  generalize (if x.neg = true then 2 ^ 63 else 0) = sb at h3
  omega

theorem ratio_div (x : F64) : qv x.ratio.1 x.ratio.2 / (2:ℚ) ^ x.decode.2 = x.decode.1 := by
  rw [ratio_q, mul_div_cancel_right₀ _ (zpow_ne_zero _ (by norm_num))]

theorem ofRatio_eq_abs_of_near (x : F64) (hf : x.isFinite = true) (hz : x.isZero = false)
    (n d : ℕ) (hd : 0 < d)
    (hlo : (x.decode.1:ℚ) - 1 / 2 < qv n d / (2:ℚ) ^ x.decode.2)
    (hhi : qv n d / (2:ℚ) ^ x.decode.2 < (x.decode.1:ℚ) + 1 / 2)
    (hb : x.decode.1 = 2 ^ 52 → (2:ℚ) ^ 52 - 1 / 4 < qv n d / (2:ℚ) ^ x.decode.2) :
    ofRatio false n d = x.abs := by
  obtain ⟨h1, h2, h3, _, h5⟩ := decode_facts x hf hz
  rw [ofRatio_near false n d _ _ hd h1 h2 h3 h5 hlo hhi hb, ← ofRatio_false_ratio x hf]
  symm
  apply ofRatio_near false _ _ _ _ (ratio_snd_pos x) h1 h2 h3 h5
  · rw [ratio_div]; linarith only
  · rw [ratio_div]; linarith only
  · intro h; rw [ratio_div, h]; norm_num

theorem ofRatio_eq_abs_of_close (x : F64) (hf : x.isFinite = true) (hz : x.isZero = false)
    (n d : ℕ) (hd : 0 < d)
    (hlo : qv x.ratio.1 x.ratio.2 - qv x.ratio.1 x.ratio.2 / (2 * 10 ^ 16) ≤ qv n d)
    (hhi : qv n d ≤ qv x.ratio.1 x.ratio.2 + qv x.ratio.1 x.ratio.2 / (2 * 10 ^ 16)) :
    ofRatio false n d = x.abs := by
  obtain ⟨h1, h2, _, _, _⟩ := decode_facts x hf hz
  have ht : (0:ℚ) < (2:ℚ) ^ x.decode.2 := zpow_pos (by norm_num) _
  have hM1 : (0:ℚ) < x.decode.1 := by exact_mod_cast h1
  have hM2 : (x.decode.1:ℚ) < 2 ^ 53 := by exact_mod_cast h2
  -- divide by `2^e`: the bounds become `m − m/(2·10^16) ≤ n/d/2^e ≤ m + m/(2·10^16)`
  have hlo' := div_le_div_of_nonneg_right hlo ht.le
  have hhi' := div_le_div_of_nonneg_right hhi ht.le
  rw [sub_div, div_right_comm, ratio_div] at hlo'
  rw [add_div, div_right_comm, ratio_div] at hhi'
  apply ofRatio_eq_abs_of_near x hf hz n d hd
  · linarith only [hlo', hM2]
  · linarith only [hhi', hM2]
  · intro hM
    rw [hM] at hlo'
    push_cast at hlo'
    linarith only [hlo']

/-- the local test `ge10` of `shortestDigitsWith`: `num/den ≥ 10^k` -/
def ge10 (num den : ℕ) (k : ℤ) : Bool :=
  if k ≥ 0 then num ≥ den * 10 ^ k.toNat else num * 10 ^ (-k).toNat ≥ den

theorem ge10_iff_q (num den : ℕ) (hden : 0 < den) (k : ℤ) :
    ge10 num den k = true ↔ (10:ℚ) ^ k ≤ qv num den := by
  have hdq : (0:ℚ) < den := by exact_mod_cast hden
  have hB : (0:ℚ) < 10 ^ (-k).toNat := by positivity
  unfold ge10 qv
  rw [le_div_iff₀ hdq, zpow_split 10 k]
  split
  · next h =>
    have h2 : (-k).toNat = 0 := by omega
    rw [h2, pow_zero, div_one, decide_eq_true_eq, ge_iff_le, ← Nat.cast_le (α := ℚ)]
    push_cast
    rw [mul_comm]
  · next h =>
    have h2 : k.toNat = 0 := by omega
    rw [h2, pow_zero, decide_eq_true_eq, ge_iff_le, ← Nat.cast_le (α := ℚ), div_mul_eq_mul_div,
      one_mul, div_le_iff₀ hB]
    push_cast
    rfl

/-- the first estimate of the decimal exponent -/
def estK (num den : ℕ) : ℤ := (Int.ofNat num.log2 - Int.ofNat den.log2) * 30103 / 100000

theorem kstep (g : ℤ → Bool) (k : ℤ) (h : g k = true) :
    g (if g (k + 1) = true then k + 1 else k) = true := by
  split
  · next h1 => exact h1
  · exact h

theorem shortestK_eq (num den : ℕ) : shortestK num den =
    (let k0 := estK num den - 1
     let k1 := if ge10 num den (k0 + 1) then k0 + 1 else k0
     let k2 := if ge10 num den (k1 + 1) then k1 + 1 else k1
     if ge10 num den (k2 + 1) then k2 + 1 else k2) := rfl

theorem shortestK_ge (num den : ℕ) (h0 : ge10 num den (estK num den - 1) = true) :
    ge10 num den (shortestK num den) = true := by
  rw [shortestK_eq]
  exact kstep _ _ (kstep _ _ (kstep _ _ h0))

theorem shortestK_near (num den : ℕ) :
    estK num den - 1 ≤ shortestK num den ∧ shortestK num den ≤ estK num den + 2 := by
  rw [shortestK_eq]
  simp only []
  repeat' split
  all_goals omega

/-- comparing powers through a rational lower bound `p/q` of `log b / log a` (that is `hbase`) -/
theorem zpow_le_zpow_of_pow {a b : ℚ} (ha : 1 ≤ a) (hb : 0 < b) {p q : ℕ} (hq : q ≠ 0)
    (hbase : a ^ p ≤ b ^ q) {k n : ℤ} (hn : 0 ≤ n) (hkn : (q:ℤ) * k ≤ p * n) : a ^ k ≤ b ^ n := by
  have ha0 : (0:ℚ) < a := lt_of_lt_of_le one_pos ha
  refine (pow_le_pow_iff_left₀ (zpow_nonneg ha0.le k) (zpow_nonneg hb.le n) hq).1 ?_
  calc (a ^ k) ^ q = a ^ ((q:ℤ) * k) := by rw [mul_comm, zpow_mul, zpow_natCast]
    _ ≤ a ^ ((p:ℤ) * n) := zpow_le_zpow_right₀ ha hkn
    _ = (a ^ p) ^ n := by rw [zpow_mul, zpow_natCast]
    _ ≤ (b ^ q) ^ n := zpow_le_zpow_left₀ hn (pow_nonneg ha0.le p) hbase
    _ = (b ^ n) ^ q := by rw [← zpow_natCast b q, ← zpow_mul, mul_comm, zpow_mul, zpow_natCast]

/-- the estimate `⌊0.30103·L⌋ − 1` of the decimal exponent is below `log₁₀ 2^(L−1)` on the
    binary exponent range of doubles: `0.30103` exceeds `log₁₀ 2` by `4·10⁻⁹` only; the
    proof compares through the rationals `59/196 < log₁₀ 2 < 28/93`, which differ from
    `0.30103` by less than `5·10⁻⁵`, so over `|L| < 1100` the `− 1` absorbs the difference -/
theorem est_le_two_pow (L : ℤ) (h1 : -1100 ≤ L) (h2 : L < 1100) :
    (10:ℚ) ^ (L * 30103 / 100000 - 1) ≤ (2:ℚ) ^ (L - 1) := by
  generalize hk : L * 30103 / 100000 - 1 = k
  by_cases hL : 1 ≤ L
  · exact zpow_le_zpow_of_pow (p := 59) (q := 196) (by norm_num) (by norm_num) (by norm_num)
      (by norm_num) (by omega) (by omega)
  · -- both exponents are negative: compare the inverses
    have h : (2:ℚ) ^ (1 - L) ≤ (10:ℚ) ^ (-k) :=
      zpow_le_zpow_of_pow (p := 93) (q := 28) (by norm_num) (by norm_num) (by norm_num)
        (by norm_num) (by omega) (by omega)
    have e1 : (10:ℚ) ^ k = ((10:ℚ) ^ (-k))⁻¹ := by rw [zpow_neg, inv_inv]
    have e2 : (2:ℚ) ^ (L - 1) = ((2:ℚ) ^ (1 - L))⁻¹ := by rw [← zpow_neg, neg_sub]
    rw [e1, e2]
    exact inv_anti₀ (zpow_pos (by norm_num) _) h

theorem log2_bounds (num den : ℕ) (hn : num ≠ 0) (hd : den ≠ 0) :
    (2:ℚ) ^ ((num.log2 : ℤ) - (den.log2 : ℤ) - 1) < qv num den ∧
      qv num den < (2:ℚ) ^ ((num.log2 : ℤ) - (den.log2 : ℤ) + 1) := by
  obtain ⟨h1, h2⟩ := log2_cross num den hn hd
  have h1q : (num:ℚ) * 2 ^ den.log2 < den * 2 ^ (num.log2 + 1) := by exact_mod_cast h1
  have h2q : (den:ℚ) * 2 ^ num.log2 < num * 2 ^ (den.log2 + 1) := by exact_mod_cast h2
  have hdq : (0:ℚ) < den := by exact_mod_cast Nat.pos_of_ne_zero hd
  have e1 : (2:ℚ) ^ ((num.log2 : ℤ) - (den.log2 : ℤ) - 1) = 2 ^ num.log2 / 2 ^ (den.log2 + 1) := by
    rw [sub_sub, ← Nat.cast_succ, zpow_sub₀ two_ne_zero, zpow_natCast, zpow_natCast]
  have e2 : (2:ℚ) ^ ((num.log2 : ℤ) - (den.log2 : ℤ) + 1) = 2 ^ (num.log2 + 1) / 2 ^ den.log2 := by
    rw [sub_add_eq_add_sub, ← Nat.cast_succ, zpow_sub₀ two_ne_zero, zpow_natCast, zpow_natCast]
  rw [e1, e2, qv, div_lt_div_iff₀ (pow_pos two_pos _) hdq, div_lt_div_iff₀ hdq (pow_pos two_pos _),
    mul_comm _ (den:ℚ), mul_comm _ (den:ℚ)]
  exact ⟨h2q, h1q⟩

theorem ratio_range (x : F64) (hf : x.isFinite = true) (hz : x.isZero = false) :
    (2:ℚ) ^ (-1074 : ℤ) ≤ qv x.ratio.1 x.ratio.2 ∧ qv x.ratio.1 x.ratio.2 < (2:ℚ) ^ (1024 : ℤ) := by
  obtain ⟨h1, h2, h3, h4, _⟩ := decode_facts x hf hz
  rw [ratio_q]
  have hM1 : (1:ℚ) ≤ x.decode.1 := by exact_mod_cast h1
  have hM2 : (x.decode.1:ℚ) < 2 ^ 53 := by exact_mod_cast h2
  have ht : (0:ℚ) < (2:ℚ) ^ x.decode.2 := zpow_pos (by norm_num) _
  have hlo : (2:ℚ) ^ (-1074 : ℤ) ≤ (2:ℚ) ^ x.decode.2 := zpow_le_zpow_right₀ (by norm_num) h3
  have hhi : (2:ℚ) ^ x.decode.2 ≤ (2:ℚ) ^ (971 : ℤ) := zpow_le_zpow_right₀ (by norm_num) h4
  have e1 : (2:ℚ) ^ (1024 : ℤ) = 2 ^ 53 * (2:ℚ) ^ (971 : ℤ) := by
    rw [← zpow_natCast (2:ℚ) 53, ← zpow_add₀ (by norm_num)]; norm_num
  constructor
  · exact le_trans hlo (le_mul_of_one_le_left ht.le hM1)
  · rw [e1]
    calc (x.decode.1:ℚ) * (2:ℚ) ^ x.decode.2 < 2 ^ 53 * (2:ℚ) ^ x.decode.2 :=
          mul_lt_mul_of_pos_right hM2 ht
      _ ≤ 2 ^ 53 * (2:ℚ) ^ (971 : ℤ) := mul_le_mul_of_nonneg_left hhi (by positivity)

theorem ratio_fst_ne_zero (x : F64) (hf : x.isFinite = true) (hz : x.isZero = false) :
    x.ratio.1 ≠ 0 := by
  intro h0
  have h := (ratio_range x hf hz).1
  have hp : (0:ℚ) < (2:ℚ) ^ (-1074 : ℤ) := zpow_pos (by norm_num) _
  rw [h0] at h
  unfold qv at h
  rw [Nat.cast_zero, zero_div] at h
  linarith

/-- `L` is the difference of the binary logarithms of numerator and denominator, from which
    the search estimates the decimal exponent -/
theorem log2_ratio (x : F64) (hf : x.isFinite = true) (hz : x.isZero = false) :
    ∃ L : ℤ, estK x.ratio.1 x.ratio.2 = L * 30103 / 100000 ∧ -1075 < L ∧ L < 1025 ∧
      (2:ℚ) ^ (L - 1) < qv x.ratio.1 x.ratio.2 := by
  obtain ⟨r1, r2⟩ := ratio_range x hf hz
  obtain ⟨l1, l2⟩ := log2_bounds _ _ (ratio_fst_ne_zero x hf hz) (Nat.ne_of_gt (ratio_snd_pos x))
  refine ⟨(x.ratio.1.log2 : ℤ) - (x.ratio.2.log2 : ℤ), rfl, ?_, ?_, l1⟩
  · have := (zpow_lt_zpow_iff_right₀ (by norm_num : (1:ℚ) < 2)).1 (lt_of_le_of_lt r1 l2)
    omega
  · have := (zpow_lt_zpow_iff_right₀ (by norm_num : (1:ℚ) < 2)).1 (lt_trans l1 r2)
    omega

theorem shortestK_le (x : F64) (hf : x.isFinite = true) (hz : x.isZero = false) :
    (10:ℚ) ^ shortestK x.ratio.1 x.ratio.2 ≤ qv x.ratio.1 x.ratio.2 := by
  have hdp := ratio_snd_pos x
  obtain ⟨L, hest, hL1, hL2, l1⟩ := log2_ratio x hf hz
  rw [← ge10_iff_q _ _ hdp]
  apply shortestK_ge
  rw [ge10_iff_q _ _ hdp, hest]
  exact le_trans (est_le_two_pow L (by omega) (by omega)) (le_of_lt l1)


theorem goScaled_q (num den : ℕ) (hden : 0 < den) (sh : ℤ) :
    qv (goScaled num den sh).1 (goScaled num den sh).2 = qv num den / (10:ℚ) ^ sh := by
  have hdq : (den:ℚ) ≠ 0 := by exact_mod_cast (Nat.ne_of_gt hden)
  unfold goScaled
  rw [zpow_split 10 sh]
  split
  · next h =>
    have h2 : (-sh).toNat = 0 := by omega
    simp only [qv, h2, pow_zero, div_one]
    push_cast
    rw [div_div]
  · next h =>
    have h2 : sh.toNat = 0 := by omega
    simp only [qv, h2, pow_zero]
    push_cast
    field_simp

theorem goScaled_snd_pos (num den : ℕ) (hden : 0 < den) (sh : ℤ) : 0 < (goScaled num den sh).2 := by
  unfold goScaled
  split
  · exact Nat.mul_pos hden (Nat.pow_pos (by decide))
  · exact hden

theorem decVal_eq_abs_of_close (x : F64) (hf : x.isFinite = true) (hz : x.isZero = false)
    (c : ℕ) (sh : ℤ)
    (hlo : qv x.ratio.1 x.ratio.2 - qv x.ratio.1 x.ratio.2 / (2 * 10 ^ 16) ≤ (c:ℚ) * (10:ℚ) ^ sh)
    (hhi : (c:ℚ) * (10:ℚ) ^ sh ≤ qv x.ratio.1 x.ratio.2 + qv x.ratio.1 x.ratio.2 / (2 * 10 ^ 16)) :
    decVal false c sh = x.abs := by
  unfold decVal
  split
  · next h =>
    have h2 : (-sh).toNat = 0 := by omega
    have e : qv (c * 10 ^ sh.toNat) 1 = (c:ℚ) * (10:ℚ) ^ sh := by
      rw [zpow_split 10 sh, h2, pow_zero, div_one]
      unfold qv
      push_cast
      rw [div_one]
    exact ofRatio_eq_abs_of_close x hf hz _ 1 (by decide) (by rw [e]; exact hlo) (by rw [e]; exact hhi)
  · next h =>
    have h2 : sh.toNat = 0 := by omega
    have e : qv c (10 ^ (-sh).toNat) = (c:ℚ) * (10:ℚ) ^ sh := by
      rw [zpow_split 10 sh, h2, pow_zero]
      unfold qv
      push_cast
      rw [mul_one_div]
    exact ofRatio_eq_abs_of_close x hf hz _ _ (Nat.pow_pos (by decide)) (by rw [e]; exact hlo)
      (by rw [e]; exact hhi)

theorem floor_or_succ_near (sn sd : ℕ) (hsd : 0 < sd) :
    (qv sn sd - 1 / 2 ≤ ((sn / sd : ℕ) : ℚ) ∧ ((sn / sd : ℕ) : ℚ) ≤ qv sn sd + 1 / 2) ∨
      (qv sn sd - 1 / 2 ≤ ((sn / sd + 1 : ℕ) : ℚ) ∧ ((sn / sd + 1 : ℕ) : ℚ) ≤ qv sn sd + 1 / 2) := by
  have hsdq : (0:ℚ) < sd := by exact_mod_cast hsd
  have hr : ((sn % sd : ℕ) : ℚ) < sd := by exact_mod_cast Nat.mod_lt sn hsd
  -- `sn/sd = q + r/sd` with `0 ≤ r/sd < 1`
  have e : qv sn sd = ((sn / sd : ℕ) : ℚ) + ((sn % sd : ℕ) : ℚ) / sd := by
    rw [qv, ← Nat.div_add_mod sn sd]
    push_cast
    rw [Nat.div_add_mod, add_div, mul_div_cancel_left₀ _ hsdq.ne']
  have h0 : (0:ℚ) ≤ ((sn % sd : ℕ) : ℚ) / sd := div_nonneg (Nat.cast_nonneg _) hsdq.le
  have h1 : ((sn % sd : ℕ) : ℚ) / sd < 1 := (div_lt_one hsdq).2 hr
  rw [e]
  push_cast
  rcases le_total (((sn % sd : ℕ) : ℚ) / sd) (1 / 2) with h | h
  · exact Or.inl ⟨by linarith only [h], by linarith only [h0]⟩
  · exact Or.inr ⟨by linarith only [h1], by linarith only [h]⟩

theorem close_of_half {v u y c : ℚ} (hu : 0 < u) (hy : y = v / u) (h16 : u * 10 ^ 16 ≤ v)
    (h : y - 1 / 2 ≤ c ∧ c ≤ y + 1 / 2) :
    v - v / (2 * 10 ^ 16) ≤ c * u ∧ c * u ≤ v + v / (2 * 10 ^ 16) := by
  have hv : v = y * u := by rw [hy, div_mul_cancel₀ _ hu.ne']
  have e1 := mul_le_mul_of_nonneg_right h.1 hu.le
  have e2 := mul_le_mul_of_nonneg_right h.2 hu.le
  constructor <;> linarith only [hv, e1, e2, h16]

theorem round17 (x : F64) (hf : x.isFinite = true) (hz : x.isZero = false) (sh : ℤ)
    (hsh : sh = shortestK x.ratio.1 x.ratio.2 - 16) :
    goRt x.abs sh ((goScaled x.ratio.1 x.ratio.2 sh).1 / (goScaled x.ratio.1 x.ratio.2 sh).2) = true ∨
    goRt x.abs sh ((goScaled x.ratio.1 x.ratio.2 sh).1 / (goScaled x.ratio.1 x.ratio.2 sh).2 + 1) = true := by
  have hden := ratio_snd_pos x
  have hq := goScaled_q x.ratio.1 x.ratio.2 hden sh
  have hsd := goScaled_snd_pos x.ratio.1 x.ratio.2 hden sh
  have hu : (0:ℚ) < (10:ℚ) ^ sh := zpow_pos (by norm_num) _
  -- the unit of round 17 is at most `|x| / 10^16`
  have h16 : (10:ℚ) ^ sh * 10 ^ 16 ≤ qv x.ratio.1 x.ratio.2 := by
    rw [hsh, zpow_sub₀ (by norm_num), zpow_ofNat, div_mul_cancel₀ _ (by positivity)]
    exact shortestK_le x hf hz
  generalize (goScaled x.ratio.1 x.ratio.2 sh).1 = sn at *
  generalize (goScaled x.ratio.1 x.ratio.2 sh).2 = sd at *
  have hlo0 : sn / sd ≠ 0 := by
    have h1 : (1:ℚ) ≤ qv sn sd := by rw [hq, le_div_iff₀ hu]; linarith only [h16, hu]
    rw [qv, le_div_iff₀ (by exact_mod_cast hsd), one_mul] at h1
    exact Nat.ne_of_gt (Nat.div_pos (by exact_mod_cast h1) hsd)
  rcases floor_or_succ_near sn sd hsd with h | h
  · obtain ⟨a, b⟩ := close_of_half hu hq h16 h
    exact Or.inl (goRt_iff.2 ⟨hlo0, decVal_eq_abs_of_close x hf hz _ sh a b⟩)
  · obtain ⟨a, b⟩ := close_of_half hu hq h16 h
    exact Or.inr (goRt_iff.2 ⟨Nat.succ_ne_zero _, decVal_eq_abs_of_close x hf hz _ sh a b⟩)


theorem goPick_isSome (tieUp : Bool) (sn sd : ℕ) (rt : ℕ → Bool)
    (h : rt (sn / sd) = true ∨ rt (sn / sd + 1) = true) :
    ∃ dd, goPick tieUp sn sd rt = some dd := by
  unfold goPick
  simp only []
  cases h1 : rt (sn / sd) <;> cases h2 : rt (sn / sd + 1)
  · rw [h1, h2] at h; simp at h
  · simp
  · by_cases h3 : sn % sd = 0 <;> simp [h3]
  · by_cases h3 : sn % sd = 0
    · simp [h3]
    · simp only [h3, decide_false, Bool.false_and, Bool.and_self, if_true, Bool.false_eq_true,
        if_false]
      split
      · exact ⟨_, rfl⟩
      · split
        · exact ⟨_, rfl⟩
        · split <;> exact ⟨_, rfl⟩

theorem go_found (tieUp : Bool) (num den : ℕ) (ax : F64) (k : ℤ) : ∀ (fuel n j : ℕ), j < fuel →
    (∃ dd, goPick tieUp (goScaled num den (k - Int.ofNat (n + j) + 1)).1
      (goScaled num den (k - Int.ofNat (n + j) + 1)).2 (goRt ax (k - Int.ofNat (n + j) + 1)) = some dd) →
    (shortestDigitsWith.go tieUp num den ax k n fuel).1 ≠ 0
  | 0, n, j, hj, _ => absurd hj (Nat.not_lt_zero _)
  | fuel + 1, n, j, hj, h => by
    rw [go_succ]
    cases hp : goPick tieUp (goScaled num den (k - Int.ofNat n + 1)).1
        (goScaled num den (k - Int.ofNat n + 1)).2 (goRt ax (k - Int.ofNat n + 1)) with
    | some dd => exact (goRt_iff.1 (goPick_sound _ _ _ _ _ hp)).1
    | none =>
      cases j with
      | zero =>
        obtain ⟨dd, hdd⟩ := h
        rw [Nat.add_zero, hp] at hdd
        cases hdd
      | succ j' =>
        apply go_found tieUp num den ax k fuel (n + 1) j' (by omega)
        rw [show n + 1 + j' = n + (j' + 1) by omega]
        exact h

/-- the inequality of `est_le_two_pow` as a test on naturals (used on sample exponents below) -/
def kOK (L : ℤ) : Bool :=
  ge10 (2 ^ (L - 1).toNat) (2 ^ (1 - L).toNat) (L * 30103 / 100000 - 1)

end Blots.S17

namespace Blots.F64
open Blots.S17

theorem shortest_always_found (tieUp : Bool) (x : F64) (hf : x.isFinite = true)
    (hz : x.isZero = false) : ShortestFound tieUp x := by
  rw [shortestFound_iff_raw]
  unfold shortestRaw
  apply go_found tieUp _ _ _ _ 18 1 16 (by decide)
  apply goPick_isSome
  apply round17 x hf hz
  show shortestK x.ratio.1 x.ratio.2 - Int.ofNat 17 + 1 = shortestK x.ratio.1 x.ratio.2 - 16
  simp only [Int.ofNat_eq_natCast]
  omega

theorem shortestDigitsWith_value_all (tieUp : Bool) (x : F64) (hf : x.isFinite = true)
    (hz : x.isZero = false) :
    decVal false (x.shortestDigitsWith tieUp).1 (x.shortestDigitsWith tieUp).2 = x.abs :=
  shortestDigitsWith_value tieUp x (shortest_always_found tieUp x hf hz)

theorem zero_or_found (x : F64) (hf : x.isFinite = true) :
    x.isZero = true ∨ ShortestFound true x := by
  cases hz : x.isZero
  · exact Or.inr (shortest_always_found true x hf hz)
  · exact Or.inl rfl

theorem parseDec_toDisplay_all (x : F64) (hf : x.isFinite = true) :
    parseDec (toDisplay x) = some x :=
  parseDec_toDisplay x hf (zero_or_found x hf)


-- the search succeeds on f64::MAX, the smallest subnormal, 2^-1022, 2^53 (a binade boundary)
example : ShortestFound true (ofNatBits 0x7FEFFFFFFFFFFFFF) :=
  shortest_always_found true _ (by decide) (by decide)
example : ShortestFound false (ofNatBits 1) := shortest_always_found false _ (by decide) (by decide)
example : ShortestFound true (ofNatBits 0x0010000000000000) :=
  shortest_always_found true _ (by decide) (by decide)
example : parseDec (toDisplay (ofNatBits 0x4340000000000000)) = some (ofNatBits 0x4340000000000000) :=
  parseDec_toDisplay_all _ (by decide)
-- `ofRatio_near` below a power of two: 2^53 − 1/4 = (2^55 − 1)/4 is above (2^52 − ¼)·2 and
-- converts to 2^53 although it lies in the binade below
example : ofRatio false (2 ^ 55 - 1) 4 = ofNatBits 0x4340000000000000 := by decide
example : ofRatio false (2 ^ 55 - 1) 4 = ofRatioPack 0 1 (2 ^ 52) :=
  ofRatio_near false (2 ^ 55 - 1) 4 (2 ^ 52) 1 (by decide) (by decide) (by decide) (by decide)
    (fun _ => by decide) (by norm_num [qv]) (by norm_num [qv]) (fun _ => by norm_num [qv])
-- the exponent estimate on the extreme binary exponents
example : kOK (-1074) = true ∧ kOK 1024 = true := by decide +kernel

end Blots.F64

