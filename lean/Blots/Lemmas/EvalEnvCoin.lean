import Blots.Lemmas.EvalEnvCall
import Blots.Lemmas.EvalEnvWeak
/-
  Coincidence (C04 item 5) for bodies that never run the body of a function value: the outcome
  of `eval` at depth > 0 does not depend on the frames below the ones the call itself pushed,
  as long as the names free in the expression (and `inputs`) are resolved identically.
-/
namespace Blots

mutual
/-- no `output`, no `via` / `into` / `where`, and the only calls are calls of a literal pure
    (not higher-order) built-in: evaluating such an expression never runs the body of a
    function value -/
def plain : Expr → Bool
  | .output _ => false
  | .call (.builtin name) args => !isHof name && plainList args
  | .call _ _ => false
  | .bin op l r => op != .via && op != .into && op != .where_ && plain l && plain r
  | .lambda _ body => plain body
  | .assign _ v => plain v
  | .un _ e => plain e
  | .fact e => plain e
  | .spread e => plain e
  | .access e i => plain e && plain i
  | .dot e _ => plain e
  | .cond c a b => plain c && plain a && plain b
  | .list items => plainItems items
  | .record es => plainEntries es
  | .doBlock stmts ret => plainItems stmts && plainItem ret
  | _ => true
def plainList : List Expr → Bool
  | [] => true
  | e :: es => plain e && plainList es
def plainItem : Item → Bool
  | .mk _ e _ => plain e
def plainItems : List Item → Bool
  | [] => true
  | i :: is => plainItem i && plainItems is
def plainEntry : Entry → Bool
  | .mk _ k v _ => plainKey k && plain v
def plainEntries : List Entry → Bool
  | [] => true
  | e :: es => plainEntry e && plainEntries es
def plainKey : Key → Bool
  | .dyn e => plain e
  | .spread e => plain e
  | _ => true
end

mutual
theorem plain_noOutput : ∀ (e : Expr), plain e = true → noOutput e = true
  | .num _, _ | .str _, _ | .bool _, _ | .null, _ | .ident _, _ | .inref _, _ | .builtin _, _ => rfl
  | .output _, h => nomatch h
  | .call f args, h => by
    cases f with
    | builtin _ => exact and_true_of h (fun _ => rfl) (plainList_noOutput args)
    | _ => exact nomatch h
  | .bin _ l r, h =>
    and_true_of h (fun h => plain_noOutput l (Bool.and_eq_true_iff.mp h).2) (plain_noOutput r)
  | .lambda _ body, h => plain_noOutput body h
  | .assign _ v, h => plain_noOutput v h
  | .un _ e, h => plain_noOutput e h
  | .fact e, h => plain_noOutput e h
  | .spread e, h => plain_noOutput e h
  | .access e i, h => and_true_of h (plain_noOutput e) (plain_noOutput i)
  | .dot e _, h => plain_noOutput e h
  | .cond c a b, h =>
    and_true_of h (fun h => and_true_of h (plain_noOutput c) (plain_noOutput a)) (plain_noOutput b)
  | .list items, h => plainItems_noOutput items h
  | .record es, h => plainEntries_noOutput es h
  | .doBlock stmts (.mk _ re _), h => and_true_of h (plainItems_noOutput stmts) (plain_noOutput re)
theorem plainList_noOutput : ∀ (es : List Expr), plainList es = true → noOutputList es = true
  | [], _ => rfl
  | e :: es, h => and_true_of h (plain_noOutput e) (plainList_noOutput es)
theorem plainItems_noOutput : ∀ (is : List Item), plainItems is = true → noOutputItems is = true
  | [], _ => rfl
  | .mk _ e _ :: is, h => and_true_of h (plain_noOutput e) (plainItems_noOutput is)
theorem plainEntries_noOutput : ∀ (es : List Entry), plainEntries es = true → noOutputEntries es = true
  | [], _ => rfl
  | .mk _ k v _ :: es, h =>
    and_true_of h
      (fun h => and_true_of h
        (match k with
         | .static _ | .short _ => fun _ => rfl
         | .dyn ke => plain_noOutput ke
         | .spread se => plain_noOutput se)
        (plain_noOutput v))
      (plainEntries_noOutput es)
end

def retailE (n : Nat) (tl' : List Frame) (E : List Frame) : List Frame := E.take n ++ tl'

def retail (n : Nat) (tl' : List Frame) (s : ES) : ES := { s with env := retailE n tl' s.env }

/-- `x` is resolved identically with the original and with the replaced lower frames -/
def Agree (n : Nat) (tl' : List Frame) (E : List Frame) (x : String) : Prop :=
  envGet (retailE n tl' E) x = envGet E x

theorem retailE_cons (n : Nat) (tl' : List Frame) (f : Frame) (R : List Frame) :
    retailE (n + 1) tl' (f :: R) = f :: retailE n tl' R := rfl

structure KeysExt (e e' : List Frame) : Prop where
  below : SameBelow e e'
  keys : ∀ k, (lookupAL k (e.headD [])).isSome → (lookupAL k (e'.headD [])).isSome

theorem KeysExt.refl (e : List Frame) : KeysExt e e := ⟨SameBelow.refl e, fun _ h => h⟩
theorem KeysExt.trans {a b c : List Frame} (h1 : KeysExt a b) (h2 : KeysExt b c) : KeysExt a c :=
  ⟨h1.below.trans h2.below, fun k h => h2.keys k (h1.keys k h)⟩
theorem TopExt.toKeys {a b : List Frame} (h : TopExt a b) : KeysExt a b :=
  ⟨h.below, fun k hk => by
    cases hl : lookupAL k (a.headD []) with
    | none => rw [hl] at hk; cases hk
    | some v => rw [h.top k v hl]; rfl⟩

theorem KeysExt.insert (e : List Frame) (n : String) (v : Value) : KeysExt e (envInsert e n v) := by
  refine ⟨SameBelow.insert e n v, ?_⟩
  cases e with
  | nil => intro k hk; simp [lookupAL] at hk
  | cons f r => intro k hk; exact lookupAL_insertAL_isSome n k v f hk

theorem KeysExt.cases {E E1 : List Frame} (hE : E ≠ []) (h : KeysExt E E1) :
    E1 = E ∨ ∃ f f1 R, E = f :: R ∧ E1 = f1 :: R ∧ ∀ x, lookupAL x f1 = none → lookupAL x f = none := by
  cases E with
  | nil => exact absurd rfl hE
  | cons f R =>
    rcases h.below with he | ⟨f1, he⟩
    · exact .inl he
    · refine .inr ⟨f, f1, R, rfl, he, fun x h1 => ?_⟩
      have hk := h.keys x
      rw [he] at hk
      simp only [List.headD_cons] at hk
      cases h0 : lookupAL x f with
      | none => rfl
      | some v => rw [h0, h1] at hk; exact absurd (hk rfl) (by simp)

theorem Agree.mono {n : Nat} {tl' : List Frame} {E E1 : List Frame} {x : String}
    (hn : 0 < n) (hE : E ≠ []) (h : KeysExt E E1) (ha : Agree n tl' E x) : Agree n tl' E1 x := by
  obtain ⟨n, rfl⟩ : ∃ m, n = m + 1 := ⟨n - 1, by omega⟩
  rcases h.cases hE with rfl | ⟨f, f1, R, rfl, rfl, hk⟩
  · exact ha
  · unfold Agree at ha ⊢
    rw [retailE_cons, envGet_cons, envGet_cons] at ha ⊢
    cases h1 : lookupAL x f1 with
    | some v1 => rfl
    | none => rw [hk x h1] at ha; exact ha

theorem Agree.push {n : Nat} {tl' E : List Frame} {x : String} (g : Frame) (ha : Agree n tl' E x) :
    Agree (n + 1) tl' (g :: E) x := by
  unfold Agree at ha ⊢
  rw [retailE_cons, envGet_cons, envGet_cons]
  cases lookupAL x g with
  | some v => rfl
  | none => exact ha

theorem Agree.of_top {n : Nat} {tl' : List Frame} {f : Frame} {R : List Frame} {x : String}
    (hn : 0 < n) (h : (lookupAL x f).isSome) : Agree n tl' (f :: R) x := by
  obtain ⟨n, rfl⟩ : ∃ m, n = m + 1 := ⟨n - 1, by omega⟩
  unfold Agree
  rw [retailE_cons, envGet_cons, envGet_cons]
  cases hl : lookupAL x f with
  | none => rw [hl] at h; cases h
  | some v => rfl

theorem retailE_insert (n : Nat) (tl' : List Frame) (E : List Frame) (k : String) (v : Value)
    (hn : 0 < n) (hE : E ≠ []) :
    envInsert (retailE n tl' E) k v = retailE n tl' (envInsert E k v) := by
  obtain ⟨n, rfl⟩ : ∃ m, n = m + 1 := ⟨n - 1, by omega⟩
  cases E with
  | nil => exact absurd rfl hE
  | cons f R => rfl

theorem retailE_alreadyDefined (n : Nat) (tl' : List Frame) (E : List Frame) (k : String) (depth : Nat)
    (hd : 0 < depth) (hn : 0 < n) (hE : E ≠ []) :
    alreadyDefined depth (retailE n tl' E) k = alreadyDefined depth E k := by
  obtain ⟨n, rfl⟩ : ∃ m, n = m + 1 := ⟨n - 1, by omega⟩
  cases E with
  | nil => exact absurd rfl hE
  | cons f R =>
    unfold alreadyDefined
    rw [if_pos hd, if_pos hd]; rfl

theorem retailE_drop (n : Nat) (tl' : List Frame) (E : List Frame) (hE : E ≠ []) :
    (retailE (n + 1) tl' E).drop 1 = retailE n tl' (E.drop 1) := by
  cases E with
  | nil => exact absurd rfl hE
  | cons f R => rfl

theorem setNameIfLambda_retail (n : Nat) (tl' : List Frame) (s : ES) (k : String) (v : Value) :
    setNameIfLambda (retail n tl' s) k v = retail n tl' (setNameIfLambda s k v) := by
  cases v with
  | lambda id a b sc =>
    simp only [setNameIfLambda, retail]
    cases nameOf s.names id <;> rfl
  | _ => rfl

theorem assignIn_retail {n : Nat} (tl' : List Frame) (first : Nat) (k : String) (val : Value) {s : ES}
    (hn : 0 < n) (hs : s.env ≠ []) :
    assignIn first k val (retail n tl' s) = retail n tl' (assignIn first k val s) := by
  have hs' : (setNameIfLambda s k (createdSince first val)).env ≠ [] := by
    rw [setNameIfLambda_env]; exact hs
  unfold assignIn
  rw [setNameIfLambda_retail]
  simp only [retail, retailE_insert n tl' _ k val hn hs']

theorem KeysExt.keeps : Keeps fun s s' => KeysExt s.env s'.env := ⟨fun _ => .refl _, .trans⟩

theorem eval_keys {ops : NumOps} {fuel depth : Nat} {e : Expr} {s s1 : ES} {o : Outcome Value}
    (h : eval ops fuel depth e s = (o, s1)) : KeysExt s.env s1.env := by
  have := (eval_topExt ops fuel depth e s).toKeys
  rwa [h] at this

theorem evalDoStmt_keys (ops : NumOps) (fuel depth : Nat) (e : Expr) (s : ES) :
    KeysExt s.env (evalDoStmt ops fuel depth e s).2.env := by
  cases fuel with
  | zero => rw [evalDoStmt_zero]; exact .refl _
  | succ fuel =>
    by_cases he : ∃ n v, e = .assign n v
    · obtain ⟨n, v, rfl⟩ := he
      rw [evalDoStmt_assign]
      exact KeysExt.keeps.ite (.refl _) <| KeysExt.keeps.bind (eval_keys rfl) fun _ _ =>
        assignIn_env .. ▸ .insert ..
    · rw [evalDoStmt_other ops fuel depth s e fun x v h => he ⟨x, v, h⟩]
      exact eval_keys rfl

theorem evalDo_keys (ops : NumOps) : ∀ (fuel depth : Nat) (stmts : List Item) (ret : Item) (s : ES),
    KeysExt s.env (evalDo ops fuel depth stmts ret s).2.env
  | 0, _, _, _, s => by rw [evalDo_zero]; exact .refl _
  | fuel + 1, depth, [], .mk _ e _, s => by rw [evalDo_nil]; exact evalDoStmt_keys ops fuel depth e s
  | fuel + 1, depth, .mk _ e _ :: rest, ret, s => by
    rw [evalDo_cons]
    exact KeysExt.keeps.bind (evalDoStmt_keys ops fuel depth e s) fun _ s1 =>
      evalDo_keys ops fuel depth rest ret s1

theorem evalDoStmt_assign_binds (ops : NumOps) (fuel depth : Nat) (x : String) (v : Expr) (s s1 : ES)
    (val : Value) (h : evalDoStmt ops fuel depth (.assign x v) s = (.ok val, s1)) :
    (lookupAL x (s1.env.headD [])).isSome := by
  cases fuel with
  | zero => rw [evalDoStmt_zero] at h; cases h
  | succ fuel =>
    rw [evalDoStmt_assign] at h
    split at h
    · cases h
    · obtain ⟨val2, s2, _, h2⟩ := R.bind_eq_ok h
      cases h2
      rw [assignIn_env]
      cases s2.env with
      | nil => simp only [envInsert, List.headD_cons, lookupAL, if_pos, Option.isSome_some]
      | cons f R => simp only [envInsert, List.headD_cons, lookupAL_insertAL_self, Option.isSome_some]

theorem callFn_builtin_pure (T : ES → ES) (ops : NumOps) (fuel : Nat) (name : String) (this : Value)
    (args : List Value) (depth : Nat) (s : ES) (hn : isHof name = false) :
    Tracks T (callFn ops fuel (.builtin name) this args depth s)
      (callFn ops fuel (.builtin name) this args depth (T s)) := by
  cases fuel with
  | zero => rw [callFn_zero, callFn_zero]; exact .pure
  | succ fuel =>
    rw [callFn_builtin, callFn_builtin]
    cases builtinArity name with
    | none => exact .pure
    | some ar =>
      refine .bind .pure fun _ _ _ => .ite .pure ?_
      rw [hn]
      cases callPure ops name args <;> exact .pure

theorem ne_nil_of_le {n : Nat} {E : List Frame} (hn : 0 < n) (hk : n ≤ E.length) : E ≠ [] := by
  intro e; subst e; exact absurd hk (Nat.not_le_of_gt hn)

/-- the `n` innermost frames are there, and `inputs` and the names in `P` resolve in them as
    they do with the frames below replaced -/
structure Sees (n : Nat) (tl' : List Frame) (P : String → Prop) (E : List Frame) : Prop where
  len : n ≤ E.length
  agree : ∀ x, P x ∨ x = "inputs" → Agree n tl' E x

theorem Sees.sub {n : Nat} {tl' E : List Frame} {P Q : String → Prop} (h : Sees n tl' P E)
    (hQ : ∀ {x}, Q x → P x) : Sees n tl' Q E :=
  ⟨h.len, fun x hx => h.agree x (hx.imp_left hQ)⟩

theorem Sees.next {n : Nat} {tl' E E1 : List Frame} {P : String → Prop} (h : Sees n tl' P E)
    (hn : 0 < n) (hk : KeysExt E E1) : Sees n tl' P E1 :=
  have hE := ne_nil_of_le hn h.len
  ⟨by rw [hk.below.length hE]; exact h.len, fun x hx => (h.agree x hx).mono hn hE hk⟩

section
variable (ops : NumOps) (tl' : List Frame) {depth : Nat}

/-- coincidence for `plain` expressions inside a call (depth > 0), all evaluator functions
    involved, by induction on the fuel -/
theorem coin_group (hd : 0 < depth) : ∀ fuel : Nat,
    (∀ e n s, 0 < n → plain e = true → Sees n tl' (FreeIn · e) s.env →
      Tracks (retail n tl') (eval ops fuel depth e s) (eval ops fuel depth e (retail n tl' s))) ∧
    (∀ es n s, 0 < n → plainList es = true → Sees n tl' (FreeInList · es) s.env →
      Tracks (retail n tl') (evalList ops fuel depth es s) (evalList ops fuel depth es (retail n tl' s))) ∧
    (∀ is n s, 0 < n → plainItems is = true → Sees n tl' (FreeInItems · is) s.env →
      Tracks (retail n tl') (evalItems ops fuel depth is s) (evalItems ops fuel depth is (retail n tl' s))) ∧
    (∀ es acc n s, 0 < n → plainEntries es = true → Sees n tl' (FreeInEntries · es) s.env →
      Tracks (retail n tl') (evalEntries ops fuel depth es acc s)
        (evalEntries ops fuel depth es acc (retail n tl' s))) ∧
    (∀ e n s, 0 < n → plain e = true → Sees n tl' (FreeIn · e) s.env →
      Tracks (retail n tl') (evalDoStmt ops fuel depth e s) (evalDoStmt ops fuel depth e (retail n tl' s))) ∧
    (∀ stmts ret n s, 0 < n → plainItems stmts = true → plainItem ret = true →
      Sees n tl' (FreeInDo · stmts ret) s.env →
      Tracks (retail n tl') (evalDo ops fuel depth stmts ret s)
        (evalDo ops fuel depth stmts ret (retail n tl' s))) := by
  intro fuel
  induction fuel with
  | zero =>
    refine ⟨?_, ?_, ?_, ?_, ?_, ?_⟩ <;> intros <;>
      simp only [eval_zero, evalList_zero, evalItems_zero, evalEntries_zero, evalDoStmt_zero, evalDo_zero] <;>
      exact .pure
  | succ fuel ih =>
    obtain ⟨ihE, ihL, ihI, ihR, ihS, ihD⟩ := ih
    refine ⟨?_, ?_, ?_, ?_, ?_, ?_⟩
    · -- `eval`.  Leaves: `Tracks.pure`, the lookups being those `Sees` speaks of.  Subexpressions:
      -- `Tracks.bind`, with `Sees` carried to the state after the first by `Sees.next` (the keys of
      -- the innermost frame are kept, `eval_keys`) and cut down to the part by `Sees.sub`.
      -- Assignment: `retailE_alreadyDefined`, `assignIn_retail` (at depth > 0 only the innermost
      -- frame is looked at).  Do-block: `Tracks.restore`.  Call of a pure built-in:
      -- `callFn_builtin_pure`.
      intro e n s hn hp hS
      cases e with
      | num _ | str _ | bool _ | null | builtin _ =>
        simp only [eval_num, eval_str, eval_bool, eval_null, eval_builtin]; exact .pure
      | output _ => cases hp
      | ident nm =>
        rw [eval_ident, eval_ident]
        exact .mk rfl (identOp_congr fun hs => hS.agree nm (.inl (.ident hs)))
      | inref field =>
        rw [eval_inref, eval_inref]
        exact .mk rfl (inrefOp_congr field (hS.agree "inputs" (.inr rfl)))
      | un op e =>
        rw [eval_un, eval_un]
        exact .bind (ihE e n s hn hp (hS.sub .un)) fun _ _ _ => .pure
      | fact e =>
        rw [eval_fact, eval_fact]
        exact .bind (ihE e n s hn hp (hS.sub .fact)) fun _ _ _ => .pure
      | spread e =>
        rw [eval_spread, eval_spread]
        exact .bind (ihE e n s hn hp (hS.sub .spread)) fun _ _ _ => .pure
      | dot e field =>
        rw [eval_dot, eval_dot]
        exact .bind (ihE e n s hn hp (hS.sub .dot)) fun _ _ _ => .pure
      | cond c a b =>
        simp only [plain, Bool.and_eq_true] at hp
        rw [eval_cond, eval_cond]
        refine .bind (ihE c n s hn hp.1.1 (hS.sub .condC)) fun v s1 h1 => ?_
        have hS1 := hS.next hn (eval_keys h1)
        cases v with
        | bool bv =>
          cases bv
          · exact ihE b n s1 hn hp.2 (hS1.sub .condE)
          · exact ihE a n s1 hn hp.1.2 (hS1.sub .condT)
        | _ => exact .pure
      | access e i =>
        simp only [plain, Bool.and_eq_true] at hp
        rw [eval_access, eval_access]
        exact .bind (ihE e n s hn hp.1 (hS.sub .accessE)) fun _ s1 h1 =>
          .bind (ihE i n s1 hn hp.2 ((hS.next hn (eval_keys h1)).sub .accessI)) fun _ _ _ => .pure
      | bin op l r =>
        simp only [plain, not_callOp, Bool.and_eq_true, Bool.not_eq_true'] at hp
        rw [eval_bin, eval_bin]
        exact .bind (ihE l n s hn hp.1.2 (hS.sub .binL)) fun _ s1 h1 =>
          .bind (ihE r n s1 hn hp.2 ((hS.next hn (eval_keys h1)).sub .binR)) fun _ _ _ =>
            evalBin_nocall _ ops fuel depth op _ _ _ hp.1.1
      | list items =>
        rw [eval_list, eval_list]
        exact .bind (ihI items n s hn hp (hS.sub .list)) fun _ _ _ => .pure
      | record es =>
        rw [eval_record, eval_record]
        exact .bind (ihR es [] n s hn hp (hS.sub .record)) fun _ _ _ => .pure
      | assign nm v =>
        have hdef : ∀ s : ES, n ≤ s.env.length →
            alreadyDefined depth (retail n tl' s).env nm = alreadyDefined depth s.env nm :=
          fun s hs => retailE_alreadyDefined n tl' s.env nm depth hd hn (ne_nil_of_le hn hs)
        rw [eval_assign, eval_assign, hdef s hS.len]
        refine .ite .pure <| .ite .pure <| .ite .pure <|
          .bind (ihE v n s hn hp (hS.sub .assign)) fun val s1 h1 => ?_
        have hk1 := (hS.next hn (eval_keys h1)).len
        rw [hdef s1 hk1]
        exact .ite .pure (.mk (assignIn_retail tl' _ nm val hn (ne_nil_of_le hn hk1)) rfl)
      | lambda args body =>
        rw [eval_lambda, eval_lambda, captureScope_agree (E' := (retail n tl' s).env) fun y hy =>
          have hfy := (freeVars_iff body _ y (plain_noOutput body hp)).mp hy
          hS.agree y (.inl (.lambda hfy.1 hfy.2))]
        exact .ite .pure (.mk rfl rfl)
      | doBlock stmts ret =>
        simp only [plain, Bool.and_eq_true] at hp
        have hS0 : Sees (n + 1) tl' (FreeInDo · stmts ret) ([] :: s.env) :=
          ⟨Nat.succ_le_succ hS.len, fun x hx => (hS.agree x (hx.imp_left .doBlock)).push []⟩
        have hne := ne_nil_of_le (Nat.succ_pos n)
          (hS0.next (Nat.succ_pos n) (evalDo_keys ops fuel depth stmts ret { s with env := [] :: s.env })).len
        rw [eval_doBlock, eval_doBlock]
        -- inside the block one more frame is kept
        exact .restore (T' := retail (n + 1) tl') (fun s1 => { s1 with env := s1.env.drop 1 })
          (ihD stmts ret (n + 1) { s with env := [] :: s.env } (Nat.succ_pos n) hp.1 hp.2 hS0)
          (by simp only [retail, retailE_drop n tl' _ hne])
      | call f args =>
        cases f <;> simp only [plain, Bool.false_eq_true, Bool.and_eq_true, Bool.not_eq_true'] at hp
        rename_i name
        rw [eval_call, eval_call]
        refine .bind (ihE (.builtin name) n s hn rfl (hS.sub .callF)) fun fv s1 h1 =>
          .bind (ihL args n s1 hn hp.2 ((hS.next hn (eval_keys h1)).sub .callA)) fun raw s2 _ => ?_
        have hfv : fv = .builtin name := by
          cases fuel with
          | zero => rw [eval_zero] at h1; cases h1
          | succ _ => rw [eval_builtin] at h1; cases h1; rfl
        subst hfv
        exact .ite .pure (callFn_builtin_pure _ ops fuel name _ _ depth s2 hp.1)
    · -- `evalList`, `evalItems`, `evalEntries`: `Tracks.bind` along the list
      intro es n s hn hp hS
      cases es with
      | nil => rw [evalList_nil, evalList_nil]; exact .pure
      | cons e es =>
        simp only [plainList, Bool.and_eq_true] at hp
        rw [evalList_cons, evalList_cons]
        exact .bind (ihE e n s hn hp.1 (hS.sub .head)) fun _ s1 h1 =>
          .bind (ihL es n s1 hn hp.2 ((hS.next hn (eval_keys h1)).sub .tail)) fun _ _ _ => .pure
    · intro is n s hn hp hS
      cases is with
      | nil => rw [evalItems_nil, evalItems_nil]; exact .pure
      | cons i is =>
        obtain ⟨_, e, _⟩ := i
        simp only [plainItems, plainItem, Bool.and_eq_true] at hp
        rw [evalItems_cons, evalItems_cons]
        exact .bind (ihE e n s hn hp.1 (hS.sub .head)) fun _ s1 h1 =>
          .bind (ihI is n s1 hn hp.2 ((hS.next hn (eval_keys h1)).sub .tail)) fun _ _ _ => .pure
    · intro es acc n s hn hp hS
      cases es with
      | nil => rw [evalEntries_nil, evalEntries_nil]; exact .pure
      | cons en es =>
        obtain ⟨_, key, value, _⟩ := en
        simp only [plainEntries, plainEntry, Bool.and_eq_true] at hp
        cases key with
        | static kk =>
          rw [evalEntries_static, evalEntries_static]
          exact .bind (ihE value n s hn hp.1.2 (hS.sub fun h => .head (.static h))) fun _ s1 h1 =>
            ihR es _ n s1 hn hp.2 ((hS.next hn (eval_keys h1)).sub .tail)
        | dyn ke =>
          rw [evalEntries_dyn, evalEntries_dyn]
          refine .bind (ihE ke n s hn hp.1.1 (hS.sub fun h => .head (.dynK h))) fun kv s1 h1 => ?_
          have hS1 := hS.next hn (eval_keys h1)
          cases kv with
          | str kk =>
            exact .bind (ihE value n s1 hn hp.1.2 (hS1.sub fun h => .head (.dynV h))) fun _ s2 h2 =>
              ihR es _ n s2 hn hp.2 ((hS1.next hn (eval_keys h2)).sub .tail)
          | _ => exact .pure
        | short nm =>
          rw [evalEntries_short, evalEntries_short,
            show envGet (retail n tl' s).env nm = envGet s.env nm from hS.agree nm (.inl (.head .short))]
          cases envGet s.env nm with
          | none => exact .pure
          | some v => exact ihR es _ n s hn hp.2 (hS.sub .tail)
        | spread se =>
          rw [evalEntries_spread, evalEntries_spread]
          refine .bind (ihE se n s hn hp.1.1 (hS.sub fun h => .head (.spread h))) fun sv s1 h1 => ?_
          cases sv <;> exact ihR es _ n s1 hn hp.2 ((hS.next hn (eval_keys h1)).sub .tail)
    · -- `evalDoStmt`: the assignment as in `eval` without the checks; anything else is `eval`
      intro e n s hn hp hS
      by_cases he : ∃ x v, e = .assign x v
      · obtain ⟨nm, v, rfl⟩ := he
        rw [evalDoStmt_assign, evalDoStmt_assign]
        exact .ite .pure <| .bind (ihE v n s hn hp (hS.sub .assign)) fun val s1 h1 =>
          .mk (assignIn_retail tl' _ nm val hn (ne_nil_of_le hn (hS.next hn (eval_keys h1)).len)) rfl
      · have he' : ∀ x v, e ≠ .assign x v := fun x v h => he ⟨x, v, h⟩
        rw [evalDoStmt_other ops fuel depth _ e he', evalDoStmt_other ops fuel depth _ e he']
        exact ihE e n s hn hp hS
    · -- `evalDo`: `Tracks.bind` along the statements; what the rest may read is what was free in
      -- the block or what the first statement has bound
      intro stmts ret n s hn hp1 hp2 hS
      cases stmts with
      | nil =>
        obtain ⟨_, e, _⟩ := ret
        rw [evalDo_nil, evalDo_nil]
        exact ihS e n s hn hp2 (hS.sub .ret)
      | cons i rest =>
        obtain ⟨_, e, _⟩ := i
        simp only [plainItems, plainItem, Bool.and_eq_true] at hp1
        rw [evalDo_cons, evalDo_cons]
        refine .bind (ihS e n s hn hp1.1 (hS.sub .here)) fun val s1 h1 => ?_
        have hkeys := evalDoStmt_keys ops fuel depth e s
        rw [h1] at hkeys
        have hS1 := hS.next hn hkeys
        refine ihD rest ret n s1 hn hp1.2 hp2 ⟨hS1.len, fun x hx => ?_⟩
        -- a name the statement has just bound is found in the block frame; any other was free before
        by_cases hbx : FreeInDo x rest ret ∧ ∃ v, e = .assign x v
        · obtain ⟨_, v, rfl⟩ := hbx
          have hb := evalDoStmt_assign_binds ops fuel depth x v s s1 val h1
          cases hs1 : s1.env with
          | nil => exact absurd hs1 (ne_nil_of_le hn hS1.len)
          | cons f1 R => rw [hs1] at hb; exact .of_top hn hb
        · exact hS1.agree x (hx.imp_left fun hx => .later hx fun v hv => hbx ⟨hx, v, hv⟩)
end

/-- how many frames a call pushes -/
def pushed (scope : Frame) : Nat := if scope.isEmpty then 1 else 2

theorem callEnv_retailE (names : List (Nat × String)) (id : Nat) (scope : Frame) (this : Value) (pf : Frame)
    (n : Nat) (tl' E : List Frame) (hin : Agree n tl' E "inputs") :
    callEnv names id scope this pf (retailE n tl' E) =
      retailE (n + pushed scope) tl' (callEnv names id scope this pf E) := by
  unfold callEnv pushed
  unfold Agree at hin
  rw [hin]
  cases scope with
  | nil => simp [retailE]
  | cons a b => simp [retailE]

theorem callEnv_retail (names : List (Nat × String)) (id : Nat) (scope : Frame) (this : Value) (pf : Frame)
    (caller caller' : List Frame) (hin : envGet caller "inputs" = envGet caller' "inputs") :
    callEnv names id scope this pf caller' =
      retailE (if scope.isEmpty then 1 else 2) caller' (callEnv names id scope this pf caller) := by
  have h := callEnv_retailE names id scope this pf 0 caller' caller hin.symm
  rw [Nat.zero_add] at h
  exact h

end Blots
