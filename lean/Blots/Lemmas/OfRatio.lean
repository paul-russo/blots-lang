import Blots.Model.Num
/-
  Facts about `F64.ofRatio`, the round-to-nearest-even specification of Model/Num.lean.

  `ofRatio` estimates its exponent from `Nat.log2` of numerator and denominator separately.
  `ofRatioExp_spec` characterises the result without logarithms: before clamping it is the
  unique `e` for which the scaled quotient lies in `[2^52, 2^53)` (`InWindow`, stated with
  multiplications only).  The window does not see a common factor, so `ofRatio` depends only
  on the rational `num / den` (`ofRatio_scale`, `ofRatio_congr`); an exactly representable
  ratio is packed into the expected bit pattern (`ofRatio_normal_nonneg`, `ofRatio_normal_neg`,
  `ofRatio_subnormal`); hence every finite double is the rounding of its own exact value
  (`ofRatio_ratio`).
-/
namespace Blots.F64

/-- the local function `scaled` of `ofRatio` -/
def ofRatioScaled (num den : Nat) (e : Int) : Nat × Nat :=
  if e ≥ 0 then (num, den * 2 ^ e.toNat) else (num * 2 ^ (-e).toNat, den)

/-- the clamped exponent `e2` of `ofRatio` -/
def ofRatioExp (num den : Nat) : Int :=
  let lb : Int := Int.ofNat num.log2 - Int.ofNat den.log2
  let e0 : Int := lb - 52
  let q0 := (ofRatioScaled num den e0).1 / (ofRatioScaled num den e0).2
  let e1 : Int := if q0 ≥ 2 ^ 53 then e0 + 1 else if q0 < 2 ^ 52 then e0 - 1 else e0
  if e1 < -1074 then -1074 else e1

/-- the tail of `ofRatio`: renormalise the rounded quotient `q'` and pack the fields -/
def ofRatioPack (signBit : Nat) (e2 : Int) (q' : Nat) : F64 :=
  let p : Nat × Int := if q' ≥ 2 ^ 53 then (q' / 2, e2 + 1) else (q', e2)
  if p.1 < 2 ^ 52 then ofNatBits (signBit + p.1)
  else
    let biased : Int := p.2 + 1075
    if biased ≥ 2047 then ofNatBits (signBit + 0x7FF0000000000000)
    else ofNatBits (signBit + biased.toNat * 2 ^ 52 + (p.1 - 2 ^ 52))

theorem ofRatio_eq (s : Bool) (num den : Nat) (hn : num ≠ 0) (hd : den ≠ 0) :
    ofRatio s num den =
      ofRatioPack (if s then 2 ^ 63 else 0) (ofRatioExp num den)
        (roundHalfEven (ofRatioScaled num den (ofRatioExp num den)).1 (ofRatioScaled num den (ofRatioExp num den)).2) := by
  have h : ¬ ((num = 0 || den = 0) = true) := by simp [hn, hd]
  unfold ofRatio
  simp -zeta only [if_neg h]
  unfold ofRatioPack roundHalfEven ofRatioExp ofRatioScaled
  rfl

theorem ofRatio_zero (s : Bool) (d : Nat) :
    ofRatio s 0 d = ofNatBits (if s then 2 ^ 63 else 0) := by
  simp [ofRatio]


/-! ### comparing `n * 2^x` with `m * 2^y`: only the difference `y - x` matters -/

theorem le_shift {n m x y x' y' : Nat} (h : y + x' ≤ y' + x) (H : n * 2 ^ x ≤ m * 2 ^ y) :
    n * 2 ^ x' ≤ m * 2 ^ y' := by
  have hx : 0 < 2 ^ x := Nat.two_pow_pos x
  apply Nat.le_of_mul_le_mul_right _ hx
  calc n * 2 ^ x' * 2 ^ x = n * 2 ^ x * 2 ^ x' := Nat.mul_right_comm _ _ _
    _ ≤ m * 2 ^ y * 2 ^ x' := Nat.mul_le_mul_right _ H
    _ = m * 2 ^ (y + x') := by rw [Nat.mul_assoc, ← Nat.pow_add]
    _ ≤ m * 2 ^ (y' + x) := Nat.mul_le_mul_left _ (Nat.pow_le_pow_right (by decide) h)
    _ = m * 2 ^ y' * 2 ^ x := by rw [Nat.mul_assoc, ← Nat.pow_add]

theorem lt_shift {n m x y x' y' : Nat} (h : y + x' ≤ y' + x) (H : n * 2 ^ x < m * 2 ^ y) :
    n * 2 ^ x' < m * 2 ^ y' := by
  have hx : 0 < 2 ^ x := Nat.two_pow_pos x
  have hx' : 0 < 2 ^ x' := Nat.two_pow_pos x'
  apply Nat.lt_of_mul_lt_mul_right (a := 2 ^ x)
  calc n * 2 ^ x' * 2 ^ x = n * 2 ^ x * 2 ^ x' := Nat.mul_right_comm _ _ _
    _ < m * 2 ^ y * 2 ^ x' := Nat.mul_lt_mul_of_pos_right H hx'
    _ = m * 2 ^ (y + x') := by rw [Nat.mul_assoc, ← Nat.pow_add]
    _ ≤ m * 2 ^ (y' + x) := Nat.mul_le_mul_left _ (Nat.pow_le_pow_right (by decide) h)
    _ = m * 2 ^ y' * 2 ^ x := by rw [Nat.mul_assoc, ← Nat.pow_add]

/-- `ofRatioScaled` without the case split: one of the two exponents is `0`. -/
theorem ofRatioScaled_eq (n d : Nat) (e : Int) :
    ofRatioScaled n d e = (n * 2 ^ (-e).toNat, d * 2 ^ e.toNat) := by
  unfold ofRatioScaled
  split
  · have h : (-e).toNat = 0 := by omega
    rw [h, Nat.pow_zero, Nat.mul_one]
  · have h : e.toNat = 0 := by omega
    rw [h, Nat.pow_zero, Nat.mul_one]

/-- `2^52 ≤ ⌊n / (d * 2^e)⌋ < 2^53`, written with multiplications only
    (`d * 2^(e+52) ≤ n < d * 2^(e+53)` with negative powers moved to the other side). -/
def InWindow (n d : Nat) (e : Int) : Prop :=
  d * 2 ^ (e.toNat + 52) ≤ n * 2 ^ (-e).toNat ∧ n * 2 ^ (-e).toNat < d * 2 ^ (e.toNat + 53)

theorem le_div_scaled (x d k m : Nat) (hd : 0 < d) :
    2 ^ m ≤ x / (d * 2 ^ k) ↔ d * 2 ^ (k + m) ≤ x := by
  have hp : 0 < d * 2 ^ k := Nat.mul_pos hd (Nat.two_pow_pos k)
  rw [Nat.le_div_iff_mul_le hp, Nat.mul_comm (2 ^ m), Nat.mul_assoc, ← Nat.pow_add]

theorem div_scaled_lt (x d k m : Nat) (hd : 0 < d) :
    x / (d * 2 ^ k) < 2 ^ m ↔ x < d * 2 ^ (k + m) := by
  have hp : 0 < d * 2 ^ k := Nat.mul_pos hd (Nat.two_pow_pos k)
  rw [Nat.div_lt_iff_lt_mul hp, Nat.mul_comm (2 ^ m), Nat.mul_assoc, ← Nat.pow_add]

theorem inWindow_iff (n d : Nat) (e : Int) (hd : 0 < d) :
    InWindow n d e ↔
      2 ^ 52 ≤ (ofRatioScaled n d e).1 / (ofRatioScaled n d e).2 ∧
      (ofRatioScaled n d e).1 / (ofRatioScaled n d e).2 < 2 ^ 53 := by
  rw [ofRatioScaled_eq]
  simp only [InWindow, le_div_scaled _ _ _ _ hd, div_scaled_lt _ _ _ _ hd]

theorem inWindow_not_lt {n d : Nat} {e e' : Int} (h : InWindow n d e) (h' : InWindow n d e')
    (hlt : e < e') : False := by
  have h1 : d * 2 ^ (e.toNat + 53) ≤ n * 2 ^ (-e).toNat := le_shift (by omega) h'.1
  exact Nat.lt_irrefl _ (Nat.lt_of_lt_of_le h.2 h1)

theorem inWindow_unique {n d : Nat} {e e' : Int} (h : InWindow n d e) (h' : InWindow n d e') :
    e = e' := by
  by_cases h1 : e < e'
  · exact (inWindow_not_lt h h' h1).elim
  · by_cases h2 : e' < e
    · exact (inWindow_not_lt h' h h2).elim
    · omega

theorem inWindow_mul (n d c : Nat) (e : Int) (hc : 0 < c) :
    InWindow (n * c) (d * c) e ↔ InWindow n d e := by
  simp only [InWindow, Nat.mul_right_comm _ c, Nat.mul_le_mul_right_iff hc, Nat.mul_lt_mul_right hc]

/-- `n / d` lies strictly between `2^(a-b-1)` and `2^(a-b+1)`, for the binary logarithms `a`
    of `n` and `b` of `d` (cross-multiplied) -/
theorem log2_cross (n d : Nat) (hn : n ≠ 0) (hd : d ≠ 0) :
    n * 2 ^ d.log2 < d * 2 ^ (n.log2 + 1) ∧ d * 2 ^ n.log2 < n * 2 ^ (d.log2 + 1) :=
  ⟨calc n * 2 ^ d.log2 < 2 ^ (n.log2 + 1) * 2 ^ d.log2 :=
        Nat.mul_lt_mul_of_pos_right Nat.lt_log2_self (Nat.two_pow_pos _)
      _ = 2 ^ d.log2 * 2 ^ (n.log2 + 1) := Nat.mul_comm _ _
      _ ≤ d * 2 ^ (n.log2 + 1) := Nat.mul_le_mul_right _ (Nat.log2_self_le hd),
   calc d * 2 ^ n.log2 < 2 ^ (d.log2 + 1) * 2 ^ n.log2 :=
        Nat.mul_lt_mul_of_pos_right Nat.lt_log2_self (Nat.two_pow_pos _)
      _ = 2 ^ n.log2 * 2 ^ (d.log2 + 1) := Nat.mul_comm _ _
      _ ≤ n * 2 ^ (d.log2 + 1) := Nat.mul_le_mul_right _ (Nat.log2_self_le hn)⟩

theorem ofRatioExp_spec (n d : Nat) (hn : n ≠ 0) (hd : d ≠ 0) :
    ∃ e : Int, InWindow n d e ∧ ofRatioExp n d = if e < -1074 then -1074 else e := by
  obtain ⟨hi, hii⟩ := log2_cross n d hn hd
  have hdp : 0 < d := Nat.pos_of_ne_zero hd
  unfold ofRatioExp
  simp only [ofRatioScaled_eq, Int.ofNat_eq_natCast]
  generalize n.log2 = a at hi hii
  generalize d.log2 = b at hi hii
  generalize he0 : (a : Int) - (b : Int) - 52 = e0
  by_cases h1 : n * 2 ^ (-e0).toNat / (d * 2 ^ e0.toNat) ≥ 2 ^ 53
  · rw [if_pos h1]
    refine ⟨e0 + 1, ⟨?_, ?_⟩, rfl⟩
    · exact le_shift (by omega) ((le_div_scaled _ _ _ _ hdp).1 h1)
    · exact lt_shift (by omega) hi
  · rw [if_neg h1]
    by_cases h2 : n * 2 ^ (-e0).toNat / (d * 2 ^ e0.toNat) < 2 ^ 52
    · rw [if_pos h2]
      refine ⟨e0 - 1, ⟨?_, ?_⟩, rfl⟩
      · exact Nat.le_of_lt (lt_shift (by omega) hii)
      · exact lt_shift (by omega) ((div_scaled_lt _ _ _ _ hdp).1 h2)
    · rw [if_neg h2]
      refine ⟨e0, ⟨?_, ?_⟩, rfl⟩
      · exact (le_div_scaled _ _ _ _ hdp).1 (Nat.le_of_not_lt h2)
      · exact (div_scaled_lt _ _ _ _ hdp).1 (Nat.lt_of_not_le h1)

theorem ofRatioExp_of_inWindow {n d : Nat} {e : Int} (hn : n ≠ 0) (hd : d ≠ 0) (h : InWindow n d e) :
    ofRatioExp n d = if e < -1074 then -1074 else e := by
  obtain ⟨e', hw, he'⟩ := ofRatioExp_spec n d hn hd
  rw [he', inWindow_unique hw h]

theorem ofRatioScaled_mul (n d c : Nat) (e : Int) :
    ofRatioScaled (n * c) (d * c) e = ((ofRatioScaled n d e).1 * c, (ofRatioScaled n d e).2 * c) := by
  unfold ofRatioScaled
  split
  · simp only [Nat.mul_right_comm d c]
  · simp only [Nat.mul_right_comm n c]

theorem roundHalfEven_mul (n d c : Nat) (hc : 0 < c) :
    roundHalfEven (n * c) (d * c) = roundHalfEven n d := by
  simp only [roundHalfEven]
  rw [Nat.mul_div_mul_right _ _ hc, Nat.mul_mod_mul_right]
  have h1 : (2 * (n % d * c) > d * c) = (2 * (n % d) > d) := by
    rw [← Nat.mul_assoc]; exact propext (Nat.mul_lt_mul_right hc)
  have h2 : (2 * (n % d * c) = d * c) = (2 * (n % d) = d) := by
    rw [← Nat.mul_assoc]; exact propext (Nat.mul_left_inj (Nat.ne_of_gt hc))
  simp only [h1, h2]

theorem ofRatioExp_scale (n d c : Nat) (hn : n ≠ 0) (hd : d ≠ 0) (hc : 0 < c) :
    ofRatioExp (n * c) (d * c) = ofRatioExp n d := by
  have hc' : c ≠ 0 := Nat.ne_of_gt hc
  obtain ⟨e, hw, he⟩ := ofRatioExp_spec n d hn hd
  rw [he, ofRatioExp_of_inWindow (Nat.mul_ne_zero hn hc') (Nat.mul_ne_zero hd hc')
    ((inWindow_mul n d c e hc).2 hw)]

theorem ofRatio_scale (s : Bool) (n d c : Nat) (hd : 0 < d) (hc : 0 < c) :
    ofRatio s (n * c) (d * c) = ofRatio s n d := by
  have hc' : c ≠ 0 := Nat.ne_of_gt hc
  by_cases hn : n = 0
  · subst hn; rw [Nat.zero_mul, ofRatio_zero, ofRatio_zero]
  · have hd' : d ≠ 0 := Nat.ne_of_gt hd
    rw [ofRatio_eq s _ _ (Nat.mul_ne_zero hn hc') (Nat.mul_ne_zero hd' hc'),
      ofRatio_eq s n d hn hd', ofRatioExp_scale n d c hn hd' hc, ofRatioScaled_mul,
      roundHalfEven_mul _ _ _ hc]

theorem ofRatio_congr (s : Bool) (n d n' d' : Nat) (hd : 0 < d) (hd' : 0 < d')
    (h : n * d' = n' * d) : ofRatio s n d = ofRatio s n' d' := by
  rw [← ofRatio_scale s n d d' hd hd', ← ofRatio_scale s n' d' d hd' hd, h, Nat.mul_comm d d']

theorem ofRatio_scale_two_pow (s : Bool) (n d j : Nat) (hd : 0 < d) :
    ofRatio s (n * 2 ^ j) (d * 2 ^ j) = ofRatio s n d :=
  ofRatio_scale s n d (2 ^ j) hd (Nat.two_pow_pos j)

theorem roundHalfEven_exact (q d : Nat) (hd : 0 < d) : roundHalfEven (q * d) d = q := by
  simp only [roundHalfEven]
  rw [Nat.mul_div_cancel _ hd, Nat.mul_mod_left]
  have h1 : ¬ (2 * 0 > d) := by omega
  have h2 : ¬ (2 * 0 = d) := by omega
  simp [h1, h2]

theorem ofRatioPack_subnormal (sb : Nat) (e : Int) (q : Nat) (hq : q < 2 ^ 52) :
    ofRatioPack sb e q = ofNatBits (sb + q) := by
  have h1 : ¬ (q ≥ 2 ^ 53) := by omega
  simp only [ofRatioPack, if_neg h1, if_pos hq]

theorem ofRatioPack_normal (sb : Nat) (e : Int) (q : Nat) (hq1 : 2 ^ 52 ≤ q) (hq2 : q < 2 ^ 53)
    (he : e + 1075 < 2047) :
    ofRatioPack sb e q = ofNatBits (sb + (e + 1075).toNat * 2 ^ 52 + (q - 2 ^ 52)) := by
  have h1 : ¬ (q ≥ 2 ^ 53) := by omega
  have h2 : ¬ (q < 2 ^ 52) := by omega
  have h3 : ¬ (e + 1075 ≥ 2047) := by omega
  simp only [ofRatioPack, if_neg h1, if_neg h2, if_neg h3]

theorem inWindow_mantissa {m : Nat} (hm1 : 2 ^ 52 ≤ m) (hm2 : m < 2 ^ 53) (x y : Nat) :
    InWindow (m * 2 ^ x) (2 ^ y) ((x : Int) - y) := by
  have H1 : 2 ^ y * 2 ^ (52 + x) ≤ m * 2 ^ x * 2 ^ y := by
    rw [Nat.pow_add, Nat.mul_comm (2 ^ y)]
    exact Nat.mul_le_mul_right _ (Nat.mul_le_mul_right _ hm1)
  have H2 : m * 2 ^ x * 2 ^ y < 2 ^ y * 2 ^ (53 + x) := by
    rw [Nat.pow_add, Nat.mul_comm (2 ^ y)]
    exact Nat.mul_lt_mul_of_pos_right (Nat.mul_lt_mul_of_pos_right hm2 (Nat.two_pow_pos x))
      (Nat.two_pow_pos y)
  exact ⟨le_shift (by omega) H1, lt_shift (by omega) H2⟩

theorem ofRatio_normal_nonneg (s : Bool) (m e : Nat) (hm1 : 2 ^ 52 ≤ m) (hm2 : m < 2 ^ 53)
    (he : e ≤ 971) :
    ofRatio s (m * 2 ^ e) 1 =
      ofNatBits ((if s then 2 ^ 63 else 0) + (e + 1075) * 2 ^ 52 + (m - 2 ^ 52)) := by
  have hp : 0 < 2 ^ e := Nat.two_pow_pos e
  have hn : m * 2 ^ e ≠ 0 := Nat.mul_ne_zero (by omega) (Nat.ne_of_gt hp)
  have hw : InWindow (m * 2 ^ e) 1 (e : Int) := by simpa using inWindow_mantissa hm1 hm2 e 0
  have hge : (e : Int) ≥ 0 := by omega
  have hcl : ¬ ((e : Int) < -1074) := by omega
  rw [ofRatio_eq s _ _ hn (by decide), ofRatioExp_of_inWindow hn (by decide) hw, if_neg hcl]
  simp only [ofRatioScaled, if_pos hge, Int.toNat_natCast]
  rw [Nat.one_mul, roundHalfEven_exact _ _ hp, ofRatioPack_normal _ _ _ hm1 hm2 (by omega)]
  have h : ((e : Int) + 1075).toNat = e + 1075 := by omega
  rw [h]

theorem ofRatio_normal_neg (s : Bool) (m k : Nat) (hm1 : 2 ^ 52 ≤ m) (hm2 : m < 2 ^ 53)
    (hk1 : 1 ≤ k) (hk2 : k ≤ 1074) :
    ofRatio s m (2 ^ k) =
      ofNatBits ((if s then 2 ^ 63 else 0) + (1075 - k) * 2 ^ 52 + (m - 2 ^ 52)) := by
  have hp : 0 < 2 ^ k := Nat.two_pow_pos k
  have hw : InWindow m (2 ^ k) (-(k : Int)) := by simpa using inWindow_mantissa hm1 hm2 0 k
  have hge : ¬ (-(k : Int) ≥ 0) := by omega
  have ht : (- -(k : Int)).toNat = k := by omega
  have hcl : ¬ (-(k : Int) < -1074) := by omega
  rw [ofRatio_eq s _ _ (by omega) (Nat.ne_of_gt hp),
    ofRatioExp_of_inWindow (by omega) (Nat.ne_of_gt hp) hw, if_neg hcl]
  simp only [ofRatioScaled, if_neg hge, ht]
  rw [roundHalfEven_exact _ _ hp, ofRatioPack_normal _ _ _ hm1 hm2 (by omega)]
  have h : (-(k : Int) + 1075).toNat = 1075 - k := by omega
  rw [h]

theorem ofRatio_subnormal (s : Bool) (f : Nat) (hf : f < 2 ^ 52) :
    ofRatio s f (2 ^ 1074) = ofNatBits ((if s then 2 ^ 63 else 0) + f) := by
  by_cases hf0 : f = 0
  · subst hf0; rw [ofRatio_zero, Nat.add_zero]
  · have hp : 0 < 2 ^ 1074 := Nat.two_pow_pos 1074
    have hge : ¬ ((-1074 : Int) ≥ 0) := by omega
    have ht : (- (-1074 : Int)).toNat = 1074 := by omega
    -- the window of `f < 2^52` over `2^1074` lies below the clamp
    have hexp : ofRatioExp f (2 ^ 1074) = -1074 := by
      obtain ⟨e, hw, he⟩ := ofRatioExp_spec f (2 ^ 1074) hf0 (Nat.ne_of_gt hp)
      rw [he, if_pos]
      apply Int.lt_of_not_ge
      intro hge
      have h1 := le_shift (x' := 52) (y' := 1074) (by omega) hw.1
      generalize 2 ^ 1074 = P at hp h1
      rw [Nat.mul_comm f P] at h1
      exact absurd (Nat.le_of_mul_le_mul_left h1 hp) (Nat.not_le_of_lt hf)
    rw [ofRatio_eq s _ _ hf0 (Nat.ne_of_gt hp), hexp]
    simp only [ofRatioScaled, if_neg hge, ht]
    rw [roundHalfEven_exact _ _ hp, ofRatioPack_subnormal _ _ _ hf]

theorem eq_ofNatBits_nbits (x : F64) : x = ofNatBits x.nbits := by
  cases x with
  | mk b => simp only [ofNatBits, nbits, UInt64.ofNat_toNat]

theorem nbits_lt (x : F64) : x.nbits < 2 ^ 64 := UInt64.toNat_lt _

theorem nbits_eq_fields (x : F64) :
    x.nbits = (if x.neg then 2 ^ 63 else 0) + x.expField * 2 ^ 52 + x.frac := by
  have hlt := nbits_lt x
  unfold neg expField frac
  generalize x.nbits = N at *
  split
  · next h => simp only [decide_eq_true_eq] at h; omega
  · next h => simp only [decide_eq_true_eq] at h; omega

theorem nbits_ofNatBits (n : Nat) (h : n < 2 ^ 64) : (ofNatBits n).nbits = n := by
  simp only [ofNatBits, nbits, UInt64.toNat_ofNat']
  exact Nat.mod_eq_of_lt h

theorem frac_lt (x : F64) : x.frac < 2 ^ 52 := Nat.mod_lt _ (Nat.two_pow_pos 52)

theorem mag_lt (x : F64) : x.mag < 2 ^ 63 := Nat.mod_lt _ (Nat.two_pow_pos 63)

theorem nbits_abs (x : F64) : x.abs.nbits = x.mag :=
  nbits_ofNatBits _ (by have := mag_lt x; omega)

theorem not_special_of_expField_ne {x : F64} (h : x.expField ≠ 2047) :
    x.isFinite = true ∧ x.isNaN = false ∧ x.isInf = false := by
  simp [isFinite, isNaN, isInf, h]

theorem isNaN_of_isFinite (x : F64) (h : x.isFinite = true) : x.isNaN = false :=
  (not_special_of_expField_ne (by simpa [isFinite] using h)).2.1

theorem isInf_of_isFinite (x : F64) (h : x.isFinite = true) : x.isInf = false :=
  (not_special_of_expField_ne (by simpa [isFinite] using h)).2.2

theorem isFinite_of_not_nan_inf (x : F64) (h1 : x.isNaN = false) (h2 : x.isInf = false) :
    x.isFinite = true := by
  simp only [isNaN, isInf, isFinite] at *
  by_cases he : x.expField = 2047
  · by_cases hf : x.frac = 0 <;> simp_all
  · simp [he]

theorem expField_lt_of_isFinite (x : F64) (h : x.isFinite = true) : x.expField < 2047 := by
  have h1 : x.expField < 2048 := Nat.mod_lt _ (by decide)
  have h2 : x.expField ≠ 2047 := by simpa [isFinite] using h
  omega

theorem ratio_subnormal (x : F64) (h : x.expField = 0) : x.ratio = (x.frac, 2 ^ 1074) := by
  unfold ratio decode
  have h1 : ¬ ((-1074 : Int) ≥ 0) := by decide
  have h2 : (-(-1074 : Int)).toNat = 1074 := by decide
  rw [if_pos h]
  simp only [if_neg h1, h2]

theorem ratio_normal_nonneg (x : F64) (h : 1075 ≤ x.expField) :
    x.ratio = ((x.frac + 2 ^ 52) * 2 ^ (x.expField - 1075), 1) := by
  have h0 : ¬ (x.expField = 0) := by omega
  have h1 : Int.ofNat x.expField - 1075 ≥ 0 := by simp only [Int.ofNat_eq_natCast]; omega
  have h2 : (Int.ofNat x.expField - 1075).toNat = x.expField - 1075 := by
    simp only [Int.ofNat_eq_natCast]; omega
  unfold ratio decode
  rw [if_neg h0]
  simp only [if_pos h1, h2]

theorem ratio_normal_neg (x : F64) (h1 : 1 ≤ x.expField) (h2 : x.expField < 1075) :
    x.ratio = (x.frac + 2 ^ 52, 2 ^ (1075 - x.expField)) := by
  have h0 : ¬ (x.expField = 0) := by omega
  have h1 : ¬ (Int.ofNat x.expField - 1075 ≥ 0) := by simp only [Int.ofNat_eq_natCast]; omega
  have h2 : (-(Int.ofNat x.expField - 1075)).toNat = 1075 - x.expField := by
    simp only [Int.ofNat_eq_natCast]; omega
  unfold ratio decode
  rw [if_neg h0]
  simp only [if_neg h1, h2]

theorem ofRatio_ratio (x : F64) (h : x.isFinite = true) :
    ofRatio x.neg x.ratio.1 x.ratio.2 = x := by
  have hE := expField_lt_of_isFinite x h
  have hf := frac_lt x
  have hN := nbits_eq_fields x
  by_cases h0 : x.expField = 0
  · rw [h0, Nat.zero_mul, Nat.add_zero] at hN
    rw [ratio_subnormal x h0, ofRatio_subnormal _ _ hf, ← hN]
    exact (eq_ofNatBits_nbits x).symm
  · by_cases h1 : 1075 ≤ x.expField
    · rw [ratio_normal_nonneg x h1, ofRatio_normal_nonneg _ _ _ (by omega) (by omega) (by omega),
        Nat.sub_add_cancel h1, Nat.add_sub_cancel, ← hN]
      exact (eq_ofNatBits_nbits x).symm
    · rw [ratio_normal_neg x (by omega) (by omega),
        ofRatio_normal_neg _ _ _ (by omega) (by omega) (by omega) (by omega),
        Nat.sub_sub_self (by omega), Nat.add_sub_cancel, ← hN]
      exact (eq_ofNatBits_nbits x).symm

theorem ratio_snd_two_pow (x : F64) : ∃ k, x.ratio.2 = 2 ^ k := by
  by_cases h0 : x.expField = 0
  · exact ⟨1074, by rw [ratio_subnormal x h0]⟩
  · by_cases h1 : 1075 ≤ x.expField
    · exact ⟨0, by rw [ratio_normal_nonneg x h1]⟩
    · exact ⟨1075 - x.expField, by rw [ratio_normal_neg x (by omega) (by omega)]⟩

theorem ratio_snd_pos (x : F64) : 0 < x.ratio.2 := by
  obtain ⟨k, hk⟩ := ratio_snd_two_pow x
  rw [hk]; exact Nat.two_pow_pos k

theorem ofRatio_integral (x : F64) (h : x.isFinite = true) (hint : x.ratio.1 % x.ratio.2 = 0) :
    ofRatio x.neg (x.ratio.1 / x.ratio.2) 1 = x := by
  obtain ⟨k, hk⟩ := ratio_snd_two_pow x
  have hdvd : x.ratio.1 / x.ratio.2 * x.ratio.2 = x.ratio.1 :=
    Nat.div_mul_cancel (Nat.dvd_of_mod_eq_zero hint)
  have h1 := ofRatio_scale_two_pow x.neg (x.ratio.1 / x.ratio.2) 1 k (by decide)
  rw [Nat.one_mul, ← hk, hdvd] at h1
  rw [← h1, ofRatio_ratio x h]

example : ofRatio false 1 1 = F64.one := by decide
example : ofRatio true 3 2 = ofNatBits 0xBFF8000000000000 := by decide          -- -1.5
example : ofRatio false 1 3 = ofNatBits 0x3FD5555555555555 := by decide         -- 1/3 rounds
example : ofRatio false 1 10 = ofNatBits 0x3FB999999999999A := by decide        -- 0.1 rounds up
example : ofRatio false (3 * 2 ^ 5) (10 * 2 ^ 5) = ofRatio false 3 10 :=
  ofRatio_scale_two_pow false 3 10 5 (by decide)
-- 3·2^51, 0.75, the smallest (negative) and the largest subnormal
example : ofRatio false (3 * 2 ^ 51 * 2 ^ 0) 1 = ofNatBits 0x4338000000000000 :=
  (ofRatio_normal_nonneg false (3 * 2 ^ 51) 0 (by decide) (by decide) (by decide)).trans (by decide)
example : ofRatio false (3 * 2 ^ 51) (2 ^ 53) = ofNatBits 0x3FE8000000000000 :=
  (ofRatio_normal_neg false (3 * 2 ^ 51) 53 (by decide) (by decide) (by decide) (by decide)).trans
    (by decide)
example : ofRatio true 1 (2 ^ 1074) = ofNatBits (2 ^ 63 + 1) :=
  (ofRatio_subnormal true 1 (by decide)).trans (by decide)
example : ofRatio false (2 ^ 52 - 1) (2 ^ 1074) = ofNatBits 0x000FFFFFFFFFFFFF :=
  (ofRatio_subnormal false (2 ^ 52 - 1) (by decide)).trans (by decide)
-- the hypotheses of `ofRatio_ratio` and `ofRatio_integral` are met by 3.0
example : (ofNatBits 0x4008000000000000).isFinite = true ∧
    (ofNatBits 0x4008000000000000).ratio = (3 * 2 ^ 51, 2 ^ 51) ∧
    (ofNatBits 0x4008000000000000).ratio.1 % (ofNatBits 0x4008000000000000).ratio.2 = 0 := by
  decide
example : ofRatio false 3 1 = ofNatBits 0x4008000000000000 := by
  have h := ofRatio_integral (ofNatBits 0x4008000000000000) (by decide) (by decide)
  have h1 : (ofNatBits 0x4008000000000000).neg = false := by decide
  have h2 : (ofNatBits 0x4008000000000000).ratio.1 / (ofNatBits 0x4008000000000000).ratio.2 = 3 := by
    decide
  rw [h1, h2] at h
  exact h
-- `ofRatio_ratio` also covers the largest finite double and -0.0
example : (ofNatBits 0x7FEFFFFFFFFFFFFF).isFinite = true := by decide
example : negZero.isFinite = true := by decide
example : ofRatio false 30 100 = ofRatio false 3 10 :=
  ofRatio_scale false 3 10 10 (by decide) (by decide)
example : ofRatio true (1 * 7) (3 * 7) = ofRatio true 1 3 :=
  ofRatio_scale true 1 3 7 (by decide) (by decide)
-- hypotheses of `ofRatio_congr` are met by 6/4 = 9/6 (neither pair is a multiple of the other)
example : ofRatio false 6 4 = ofRatio false 9 6 :=
  ofRatio_congr false 6 4 9 6 (by decide) (by decide) (by decide)
-- the window characterisation on 1/3: 2^52 ≤ ⌊2^54 / 3⌋ < 2^53, so the exponent is -54
example : InWindow 1 3 (-54) := by unfold InWindow; decide
example : ofRatioExp 1 3 = -54 := by decide


end Blots.F64
