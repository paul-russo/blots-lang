import Blots.Model.Display
import Blots.Lemmas.Rounding
import Mathlib.Tactic.LinearCombination
/-
  Error of `round_to_significant_figures(x, 15)` (`values.rs`, modelled by
  `Display.roundToSignificantFigures`) under the standard model of floating-point arithmetic
  (`RoundingModel ops u`, `Lemmas/Rounding.lean`).

      scale = 10^(14 − e)            (e = ⌊log10 |x|⌋, hypotheses H1 + H2)
      p     = fl(x · scale)          = x · scale · (1 + δ₁)
      r     = round(p)               = p + ρ,  |ρ| ≤ ½          (hypothesis H3)
      y     = fl(r / scale)          = r / scale · (1 + δ₂)

  In units `T = 10^(e−14)` of the 15th significant digit, `x = xs·T` with `|xs| < 10^15`:
  `r·T − x = (ρ + xs·δ₁)·T` and `y − r·T = r·δ₂·T`, so

      |r·T − x| ≤ (½ + u·10^15)·T,        |y − x| ≤ (½ + 3·u·10^15)·T      (u ≤ ½).

  The displayed value is a point of a grid (`10^-dp·ℤ`) within half a mesh of `y`; that grid
  contains `r·T`, and `y` is much closer to `r·T` than half a mesh, so the displayed value IS
  `r·T` (`sig_display_error_grid`) — also when `y` falls into decade `e − 1` or `e + 1`
  (`sig_display_error_any_decade`).
-/
namespace Blots.Display

open Blots

theorem ten_zpow_pos (k : ℤ) : (0 : ℚ) < (10 : ℚ) ^ k := zpow_pos (by norm_num) k

theorem ten_zpow_mul {a b : ℤ} (k : ℕ) (h : a + b = k) :
    (10 : ℚ) ^ a * (10 : ℚ) ^ b = 10 ^ k := by
  rw [← zpow_add₀ (by norm_num : (10 : ℚ) ≠ 0), h, zpow_natCast]

theorem ten_zpow_units {a b : ℤ} (k : ℕ) (h : a = k + b) :
    (10 : ℚ) ^ a = 10 ^ k * (10 : ℚ) ^ b := by
  rw [h, zpow_add₀ (by norm_num : (10 : ℚ) ≠ 0), zpow_natCast]

theorem ten_zpow_inv (e : ℤ) : ((10 : ℚ) ^ (14 - e))⁻¹ = (10 : ℚ) ^ (e - 14) := by
  rw [← zpow_neg, neg_sub]

theorem unscale (x : ℚ) (e : ℤ) : x = x * (10 : ℚ) ^ (14 - e) * (10 : ℚ) ^ (e - 14) := by
  rw [mul_assoc, ten_zpow_mul 0 (by omega), pow_zero, mul_one]

theorem scaled_bounds {x : ℚ} {e : ℤ} (hlo : (10 : ℚ) ^ e ≤ |x|) (hhi : |x| < (10 : ℚ) ^ (e + 1)) :
    (10 : ℚ) ^ 14 ≤ |x * (10 : ℚ) ^ (14 - e)| ∧ |x * (10 : ℚ) ^ (14 - e)| < 10 ^ 15 := by
  have hS := ten_zpow_pos (14 - e)
  rw [abs_mul, abs_of_pos hS]
  exact ⟨(ten_zpow_mul 14 (by omega)).ge.trans (mul_le_mul_of_nonneg_right hlo hS.le),
    (mul_lt_mul_of_pos_right hhi hS).trans_eq (ten_zpow_mul 15 (by omega))⟩

/-! ### the computation in ℚ, in units `T` of the 15th significant digit

  `xs` is the scaled argument (`x = xs·T`), `p = xs(1+δ₁)` the rounded product, `r` what
  `round` returns (`|r − p| ≤ ½`), `y = r·T·(1+δ₂)` the rounded quotient. -/

theorem round_abs_bounds {u xs p r δ₁ : ℚ} (hu1 : u ≤ 1) (hδ₁ : |δ₁| ≤ u)
    (hp : p = xs * (1 + δ₁)) (hr : |r - p| ≤ 1 / 2) :
    |xs| * (1 - u) - 1 / 2 ≤ |r| ∧ |r| ≤ |xs| * (1 + u) + 1 / 2 := by
  obtain ⟨d1, d2⟩ := abs_le.mp hδ₁
  have hp' : |p| = |xs| * (1 + δ₁) := by rw [hp, abs_mul, abs_of_nonneg (by linarith : 0 ≤ 1 + δ₁)]
  obtain ⟨h1, h2⟩ := abs_le.mp ((abs_abs_sub_abs_le_abs_sub r p).trans hr)
  have a1 := mul_le_mul_of_nonneg_left (by linarith : 1 - u ≤ 1 + δ₁) (abs_nonneg xs)
  have a2 := mul_le_mul_of_nonneg_left (by linarith : 1 + δ₁ ≤ 1 + u) (abs_nonneg xs)
  constructor <;> linarith

/-- the grid point `r·T` against `x`: half a unit from `round`, `u·|xs|` from the product -/
theorem unscale_error {u x xs T p r δ₁ : ℚ} (hT : 0 < T) (hx : x = xs * T) (hxs : |xs| < 10 ^ 15)
    (hδ₁ : |δ₁| ≤ u) (hp : p = xs * (1 + δ₁)) (hr : |r - p| ≤ 1 / 2) :
    |r * T - x| ≤ (1 / 2 + u * 10 ^ 15) * T := by
  have e1 : r * T - x = ((r - p) + xs * δ₁) * T := by rw [hx, hp]; ring
  have hB : |xs * δ₁| ≤ 10 ^ 15 * u := by
    rw [abs_mul]; exact mul_le_mul hxs.le hδ₁ (abs_nonneg _) (by positivity)
  rw [e1, abs_mul, abs_of_pos hT]
  exact mul_le_mul_of_nonneg_right ((abs_add_le _ _).trans (by linarith)) hT.le

theorem quotient_near {u r T y δ₂ c : ℚ} (hT : 0 < T) (hδ₂ : |δ₂| ≤ u)
    (hy : y = r * T * (1 + δ₂)) (hc : |r| * u ≤ c) : |y - r * T| ≤ c * T := by
  have e : y - r * T = r * δ₂ * T := by rw [hy]; ring
  rw [e, abs_mul, abs_mul, abs_of_pos hT]
  exact mul_le_mul_of_nonneg_right
    ((mul_le_mul_of_nonneg_left hδ₂ (abs_nonneg _)).trans hc) hT.le

theorem sig_round_error_core {u x xs T p r y δ₁ δ₂ : ℚ} (hu2 : u ≤ 1 / 2) (hT : 0 < T)
    (hx : x = xs * T) (hxs : |xs| < 10 ^ 15) (hδ₁ : |δ₁| ≤ u) (hδ₂ : |δ₂| ≤ u)
    (hp : p = xs * (1 + δ₁)) (hr : |r - p| ≤ 1 / 2) (hy : y = r * T * (1 + δ₂)) :
    |y - x| ≤ (1 / 2 + 3 * u * 10 ^ 15) * T := by
  have hu : 0 ≤ u := (abs_nonneg δ₁).trans hδ₁
  have hr2 : |r| ≤ 2 * 10 ^ 15 := by
    have := (round_abs_bounds (by linarith) hδ₁ hp hr).2
    have := mul_le_mul hxs.le (by linarith : 1 + u ≤ 3 / 2) (by linarith) (by norm_num)
    linarith
  have h1 := quotient_near hT hδ₂ hy (mul_le_mul_of_nonneg_right hr2 hu)
  have h2 := unscale_error hT hx hxs hδ₁ hp hr
  have e : y - x = (y - r * T) + (r * T - x) := by ring
  rw [e]
  exact (abs_add_le _ _).trans (by linarith)

/-- (H2) `powi ten k` is finite and is the exact power of ten (true of `f64::powi` for
    `|k| ≤ 22`, where every intermediate product is an exactly representable integer) -/
def PowiExactAt (ops : NumOps) (k : ℤ) : Prop :=
  (ops.powi ten k).isFinite = true ∧ (ops.powi ten k).toRat = (10 : ℚ) ^ k

/-- (H3) `round` returns, at `p`, a finite integer-valued double within ½ of `p` (what
    round-half-away-from-zero does on every finite double; the tie rule is irrelevant here) -/
def RoundExactAt (ops : NumOps) (p : F64) : Prop :=
  (ops.round p).isFinite = true ∧ ∃ n : ℤ, (ops.round p).toRat = (n : ℚ) ∧ |(n : ℚ) - p.toRat| ≤ 1 / 2

theorem roundToSignificantFigures_eq (ops : NumOps) (x : F64) (e : ℤ)
    (hz : F64.feq x F64.zero = false) (H1 : decimalExponent ops x.abs = e) :
    roundToSignificantFigures ops x 15 =
      ops.div (ops.round (ops.mul x (ops.powi ten (14 - e)))) (ops.powi ten (14 - e)) := by
  have hk : Int.ofNat 15 - 1 - e = 14 - e := by
    show ((15 : ℕ) : ℤ) - 1 - e = 14 - e
    omega
  unfold roundToSignificantFigures
  simp only [hz, H1, hk, Bool.false_eq_true, if_false]

theorem noUnderflow_of_one_le {q : ℚ} (h : 1 ≤ |q|) : NoUnderflow q :=
  .inr (((div_le_one (by positivity)).mpr (one_le_pow₀ (by norm_num))).trans h)

/-- `2^-1022 ≤ 10^-19`: quotients of the display range do not underflow -/
theorem noUnderflow_of_ten_zpow_le {q : ℚ} {k : ℤ} (hk : -19 ≤ k) (h : (10 : ℚ) ^ k ≤ |q|) :
    NoUnderflow q := by
  refine .inr (le_trans ?_ ((zpow_le_zpow_right₀ (by norm_num) hk).trans h))
  rw [zpow_neg, ← one_div]
  exact one_div_le_one_div_of_le (by positivity)
    ((by norm_num : (10 : ℚ) ^ (19 : ℕ) ≤ 2 ^ 64).trans (pow_le_pow_right₀ (by norm_num) (by norm_num)))

theorem roundToSignificantFigures_decomp {ops : NumOps} {u : ℚ} (M : RoundingModel ops u)
    (hu2 : u ≤ 1 / 2) (x : F64) (e : ℤ) (hfin : x.isFinite = true)
    (hz : F64.feq x F64.zero = false)
    (hlo : (10 : ℚ) ^ e ≤ |x.toRat|) (he : -5 ≤ e)
    (H1 : decimalExponent ops x.abs = e)
    (H2 : PowiExactAt ops (14 - e))
    (H3 : RoundExactAt ops (ops.mul x (ops.powi ten (14 - e))))
    (hmf : (ops.mul x (ops.powi ten (14 - e))).isFinite = true)
    (hdf : (roundToSignificantFigures ops x 15).isFinite = true) :
    ∃ (n : ℤ) (p δ₁ δ₂ : ℚ), |δ₁| ≤ u ∧ |δ₂| ≤ u ∧
      p = x.toRat * (10 : ℚ) ^ (14 - e) * (1 + δ₁) ∧ |(n : ℚ) - p| ≤ 1 / 2 ∧
      (roundToSignificantFigures ops x 15).toRat = (n : ℚ) * (10 : ℚ) ^ (e - 14) * (1 + δ₂) := by
  rw [roundToSignificantFigures_eq ops x e hz H1] at hdf ⊢
  obtain ⟨hsf, hsr⟩ := H2
  obtain ⟨hrf, n, hrn, hrb⟩ := H3
  have hS := ten_zpow_pos (14 - e)
  have hT := ten_zpow_pos (e - 14)
  have hxs : (10 : ℚ) ^ 14 ≤ |x.toRat * (10 : ℚ) ^ (14 - e)| := by
    rw [abs_mul, abs_of_pos hS]
    exact (ten_zpow_mul 14 (by omega)).ge.trans (mul_le_mul_of_nonneg_right hlo hS.le)
  obtain ⟨δ₁, hδ₁, hp⟩ := M.mul x _ hfin hsf hmf
    (by rw [hsr]; exact noUnderflow_of_one_le ((one_le_pow₀ (by norm_num)).trans hxs))
  rw [hsr] at hp
  -- the rounded product is an integer `n ≠ 0`
  have hn1 : (1 : ℚ) ≤ |(n : ℚ)| := by
    have := (round_abs_bounds (by linarith) hδ₁ hp hrb).1
    have := mul_le_mul hxs (by linarith : 1 / 2 ≤ 1 - u) (by norm_num) (abs_nonneg _)
    linarith
  have hq : (n : ℚ) / (10 : ℚ) ^ (14 - e) = (n : ℚ) * (10 : ℚ) ^ (e - 14) := by
    rw [div_eq_mul_inv, ten_zpow_inv]
  obtain ⟨δ₂, hδ₂, hy⟩ := M.div _ _ hrf hsf (by rw [hsr]; exact hS.ne') hdf (by
    rw [hsr, hrn, hq]
    refine noUnderflow_of_ten_zpow_le (k := e - 14) (by omega) ?_
    rw [abs_mul, abs_of_pos hT]
    exact le_mul_of_one_le_left hT.le hn1)
  rw [hsr, hrn, hq] at hy
  exact ⟨n, _, δ₁, δ₂, hδ₁, hδ₂, hp, hrb, hy⟩

theorem roundToSignificantFigures_error {ops : NumOps} {u : ℚ} (M : RoundingModel ops u)
    (hu2 : u ≤ 1 / 2) (x : F64) (e : ℤ) (hfin : x.isFinite = true)
    (hz : F64.feq x F64.zero = false)
    (hlo : (10 : ℚ) ^ e ≤ |x.toRat|) (hhi : |x.toRat| < (10 : ℚ) ^ (e + 1)) (he : -5 ≤ e)
    (H1 : decimalExponent ops x.abs = e)
    (H2 : PowiExactAt ops (14 - e))
    (H3 : RoundExactAt ops (ops.mul x (ops.powi ten (14 - e))))
    (hmf : (ops.mul x (ops.powi ten (14 - e))).isFinite = true)
    (hdf : (roundToSignificantFigures ops x 15).isFinite = true) :
    |(roundToSignificantFigures ops x 15).toRat - x.toRat| ≤
      (1 / 2 + 3 * u * 10 ^ 15) * (10 : ℚ) ^ (e - 14) := by
  obtain ⟨n, p, δ₁, δ₂, hδ₁, hδ₂, hp, hrb, hy⟩ :=
    roundToSignificantFigures_decomp M hu2 x e hfin hz hlo he H1 H2 H3 hmf hdf
  exact sig_round_error_core hu2 (ten_zpow_pos _) (unscale _ e) (scaled_bounds hlo hhi).2
    hδ₁ hδ₂ hp hrb hy

/-- ⌊|q| + ½⌋ with the sign of `q`: round half away from zero, on ℚ -/
def halfAwayRat (q : ℚ) : ℤ :=
  let m : ℤ := ((2 * q.num.natAbs + q.den) / (2 * q.den) : ℕ)
  if q < 0 then -m else m

/-- `guardedOps` (correct rounding of `+ × /`, `Lemmas/Rounding.lean`) with an exact
    round-half-away `round`; `log10` / `floor` stay the identity of `intOps`, so that
    `decimalExponent` is decided by its correction step alone -/
def displayOps : NumOps :=
  { guardedOps with
    round := fun p => if p.isFinite = true then roundRat ((halfAwayRat p.toRat : ℤ) : ℚ) else p }

theorem displayOps_model : RoundingModel displayOps u64 :=
  ⟨guardedOps_model.u_nonneg, guardedOps_model.u_lt_one, guardedOps_model.add,
    guardedOps_model.mul, guardedOps_model.div⟩

/-- `0.1 + 0.2 = 0.30000000000000004` -/
def dbl0304 : F64 := F64.ofNatBits 0x3FD3333333333334

theorem grid_unique {g a b : ℚ} (hg : 0 < g) (ma mb : ℤ) (ha : a = ma * g) (hb : b = mb * g)
    (h : |a - b| < g) : a = b := by
  have e1 : a - b = ((ma - mb : ℤ) : ℚ) * g := by rw [ha, hb]; push_cast; ring
  rw [e1, abs_mul, abs_of_pos hg, mul_lt_iff_lt_one_left hg, ← Int.cast_abs] at h
  have h2 : |ma - mb| < 1 := by exact_mod_cast h
  have h4 : ma = mb := by have := Int.abs_lt_one_iff.mp h2; omega
  rw [ha, hb, h4]

/-- ℚ: a rendering `v` of `y` on a grid `g·ℤ` that contains `n·T`, within half a mesh of `y`,
    IS `n·T` when `y` is closer than half a mesh to it (`c·T < g/2` with `|n|·u ≤ c`), and is
    then within `(½ + u·10^15)·T` of `x` -/
theorem sig_display_error_grid {u x xs T g c p y v δ₁ δ₂ : ℚ} {n m k : ℤ}
    (hT : 0 < T) (hg : 0 < g) (hx : x = xs * T) (hxs : |xs| < 10 ^ 15)
    (hδ₁ : |δ₁| ≤ u) (hδ₂ : |δ₂| ≤ u)
    (hp : p = xs * (1 + δ₁)) (hr : |(n : ℚ) - p| ≤ 1 / 2) (hy : y = (n : ℚ) * T * (1 + δ₂))
    (hv : v = (m : ℚ) * g) (hk : (n : ℚ) * T = (k : ℚ) * g) (hvy : |v - y| ≤ 1 / 2 * g)
    (hc : |(n : ℚ)| * u ≤ c) (hcg : c * T < 1 / 2 * g) :
    |v - x| ≤ (1 / 2 + u * 10 ^ 15) * T := by
  have hvn : v = (n : ℚ) * T := by
    refine grid_unique hg m k hv hk ?_
    have e : v - (n : ℚ) * T = (v - y) + (y - (n : ℚ) * T) := by ring
    have := quotient_near hT hδ₂ hy hc
    rw [e]
    exact (abs_add_le _ _).trans_lt (by linarith)
  rw [hvn]
  exact unscale_error hT hx hxs hδ₁ hp hr

theorem round_int_bounds {u xs p δ₁ : ℚ} {n : ℤ} (hu3 : u * (5 * 10 ^ 15) < 1)
    (hlo : 10 ^ 14 ≤ |xs|) (hhi : |xs| < 10 ^ 15) (hδ₁ : |δ₁| ≤ u)
    (hp : p = xs * (1 + δ₁)) (hr : |(n : ℚ) - p| ≤ 1 / 2) :
    (10 : ℤ) ^ 14 ≤ |n| ∧ |n| ≤ (10 : ℤ) ^ 15 := by
  have hu : 0 ≤ u := (abs_nonneg δ₁).trans hδ₁
  obtain ⟨h1, h2⟩ := round_abs_bounds (by linarith) hδ₁ hp hr
  have a1 := mul_le_mul_of_nonneg_right hlo (by linarith : 0 ≤ 1 - u)
  have a2 := mul_le_mul_of_nonneg_right hhi.le (by linarith : 0 ≤ 1 + u)
  have hdn : (10 : ℚ) ^ 14 - 1 < |(n : ℚ)| := by linarith
  have hup : |(n : ℚ)| < 10 ^ 15 + 1 := by linarith
  rw [← Int.cast_abs] at hup hdn
  have hdn' : ((10 : ℤ) ^ 14 - 1 : ℤ) < |n| := by exact_mod_cast hdn
  have hup' : |n| < (10 : ℤ) ^ 15 + 1 := by exact_mod_cast hup
  exact ⟨by omega, by omega⟩

/-- the displayed value: a rendering `v` of `y = round_to_significant_figures(x, 15)` that is
    a multiple of `10^(e−14)` within half of it of `y` (what `{:.(14−e)}` produces) is within
    `(½ + u·10^15)` units of the 15th significant digit of `x` -/
theorem display_value_error {ops : NumOps} {u : ℚ} (M : RoundingModel ops u)
    (hu3 : u * (5 * 10 ^ 15) < 1) (x : F64) (e : ℤ) (hfin : x.isFinite = true)
    (hz : F64.feq x F64.zero = false)
    (hlo : (10 : ℚ) ^ e ≤ |x.toRat|) (hhi : |x.toRat| < (10 : ℚ) ^ (e + 1)) (he : -5 ≤ e)
    (H1 : decimalExponent ops x.abs = e)
    (H2 : PowiExactAt ops (14 - e))
    (H3 : RoundExactAt ops (ops.mul x (ops.powi ten (14 - e))))
    (hmf : (ops.mul x (ops.powi ten (14 - e))).isFinite = true)
    (hdf : (roundToSignificantFigures ops x 15).isFinite = true)
    (v : ℚ) (m : ℤ) (hv : v = (m : ℚ) * (10 : ℚ) ^ (e - 14))
    (hvy : |v - (roundToSignificantFigures ops x 15).toRat| ≤ 1 / 2 * (10 : ℚ) ^ (e - 14)) :
    |v - x.toRat| ≤ (1 / 2 + u * 10 ^ 15) * (10 : ℚ) ^ (e - 14) := by
  have hu := M.u_nonneg
  obtain ⟨n, p, δ₁, δ₂, hδ₁, hδ₂, hp, hrb, hy⟩ :=
    roundToSignificantFigures_decomp M (by linarith) x e hfin hz hlo he H1 H2 H3 hmf hdf
  have hT := ten_zpow_pos (e - 14)
  obtain ⟨hxs1, hxs2⟩ := scaled_bounds hlo hhi
  have hn2 : |(n : ℚ)| ≤ 10 ^ 15 := by
    rw [← Int.cast_abs]; exact_mod_cast (round_int_bounds hu3 hxs1 hxs2 hδ₁ hp hrb).2
  refine sig_display_error_grid (c := 1 / 5) hT hT (unscale _ e) hxs2 hδ₁ hδ₂ hp hrb hy hv rfl hvy
    ((mul_le_mul_of_nonneg_right hn2 hu).trans (by linarith)) (by linarith)

/-! ### the rounded value may leave the decade of `x`

  `y = n·10^(e−14)·(1+δ₂)` with `10^14 ≤ |n| ≤ 10^15`, so `⌊log10 |y|⌋ ∈ {e−1, e, e+1}`:
  `e − 1` only for `|n|` just above `10^14` and `δ₂ < 0` (grid `10^(e−15)`), `e + 1` only
  for `|n| = 10^15` (grid `10^(e−13)`, or `1` when `e = 14`).  In every case `n·10^(e−14)`
  is a point of the grid of `{:.dp}` and `y` is closer to it than half the mesh. -/

theorem decade_near {w : ℚ} {e e' : ℤ} (hw1 : 10 ^ 13 < w) (hw2 : w < 10 ^ 16)
    (h1 : (10 : ℚ) ^ e' ≤ w * (10 : ℚ) ^ (e - 14))
    (h2 : w * (10 : ℚ) ^ (e - 14) < (10 : ℚ) ^ (e' + 1)) : e - 1 ≤ e' ∧ e' ≤ e + 1 := by
  have hT := ten_zpow_pos (e - 14)
  have h10 : (1 : ℚ) < 10 := by norm_num
  have a : (10 : ℚ) ^ e' < (10 : ℚ) ^ (e + 2) :=
    (h1.trans_lt (mul_lt_mul_of_pos_right hw2 hT)).trans_eq (ten_zpow_units 16 (by omega)).symm
  have b : (10 : ℚ) ^ (e - 1) < (10 : ℚ) ^ (e' + 1) :=
    ((ten_zpow_units 13 (by omega)).trans_lt (mul_lt_mul_of_pos_right hw1 hT)).trans h2
  have := (zpow_lt_zpow_iff_right₀ h10).mp a
  have := (zpow_lt_zpow_iff_right₀ h10).mp b
  omega

/-- if `a` perturbed by a relative `δ`, `|δ| ≤ u < 1/(5·10^15)`, is below `10^14`, then
    `a < 2·10^14` and so `a·u ≤ 1/25` -/
theorem abs_mul_u_le_of_lt {u a δ : ℚ} (hu3 : u * (5 * 10 ^ 15) < 1) (ha : 0 ≤ a) (hδ : |δ| ≤ u)
    (h : a * (1 + δ) < 10 ^ 14) : a * u ≤ 1 / 25 := by
  have hu : 0 ≤ u := (abs_nonneg δ).trans hδ
  have h1 := mul_le_mul_of_nonneg_left (by linarith [(abs_le.mp hδ).1] : 1 / 2 ≤ 1 + δ) ha
  have h2 := mul_le_mul_of_nonneg_right (by linarith : a ≤ 2 * 10 ^ 14) hu
  linarith

/-- an integer `|n| ≤ 10^15` that such a perturbation lifts to `10^15` is `±10^15` itself
    (`u·10^15 < 1`), hence a multiple of ten -/
theorem ten_dvd_of_le {u δ : ℚ} {n : ℤ} (hu3 : u * (5 * 10 ^ 15) < 1) (hn : |n| ≤ (10 : ℤ) ^ 15)
    (hδ : |δ| ≤ u) (h : 10 ^ 15 ≤ |(n : ℚ)| * (1 + δ)) : ∃ k : ℤ, n = 10 * k := by
  have hu : 0 ≤ u := (abs_nonneg δ).trans hδ
  have hn' : |(n : ℚ)| ≤ 10 ^ 15 := by rw [← Int.cast_abs]; exact_mod_cast hn
  have h1 := mul_le_mul_of_nonneg_left (by linarith [(abs_le.mp hδ).2] : 1 + δ ≤ 1 + u)
    (abs_nonneg (n : ℚ))
  have h2 := mul_le_mul_of_nonneg_right hn' hu
  have h3 : (10 : ℚ) ^ 15 - 1 < |(n : ℚ)| := by linarith
  rw [← Int.cast_abs] at h3
  have h4 : ((10 : ℤ) ^ 15 - 1 : ℤ) < |n| := by exact_mod_cast h3
  rcases abs_cases n with ⟨h5, _⟩ | ⟨h5, _⟩
  · exact ⟨10 ^ 14, by omega⟩
  · exact ⟨-10 ^ 14, by omega⟩

theorem quotient_abs_bounds {u a δ : ℚ} (hu3 : u * (5 * 10 ^ 15) < 1) (ha1 : 10 ^ 14 ≤ a)
    (ha2 : a ≤ 10 ^ 15) (hδ : |δ| ≤ u) : 10 ^ 13 < a * (1 + δ) ∧ a * (1 + δ) < 10 ^ 16 := by
  obtain ⟨d1, d2⟩ := abs_le.mp hδ
  have h1 := mul_le_mul ha1 (by linarith : 1 / 2 ≤ 1 + δ) (by norm_num) (by linarith)
  have h2 := mul_le_mul ha2 (by linarith : 1 + δ ≤ 3 / 2) (by linarith) (by norm_num)
  constructor <;> linarith

/-- the bound of `sig_display_error_grid` when the rendering of `y` uses the number of decimals
    `dp = max 0 (14 − e')` of the decade `e'` of `y` instead of that of `x`.  `he14` ties the mesh
    `10^-dp` to `T = 10^(e−14)`: for `e ≤ 14` the clamp `max 0` bites only at `e = 14`,
    `e' = 15`, where the mesh is `1 = T` again (first case of `hcases`); for `e > 14` it would
    be `1 < T` in every decade and none of the three cases would hold. -/
theorem sig_display_error_any_decade {u x p y v δ₁ δ₂ : ℚ} {n m : ℤ} {e e' : ℤ} {dp : ℕ}
    (hu3 : u * (5 * 10 ^ 15) < 1) (he14 : e ≤ 14)
    (hlo : (10 : ℚ) ^ e ≤ |x|) (hhi : |x| < (10 : ℚ) ^ (e + 1))
    (hδ₁ : |δ₁| ≤ u) (hδ₂ : |δ₂| ≤ u)
    (hp : p = x * (10 : ℚ) ^ (14 - e) * (1 + δ₁)) (hr : |(n : ℚ) - p| ≤ 1 / 2)
    (hy : y = (n : ℚ) * (10 : ℚ) ^ (e - 14) * (1 + δ₂))
    (hy1 : (10 : ℚ) ^ e' ≤ |y|) (hy2 : |y| < (10 : ℚ) ^ (e' + 1))
    (hdp : (dp : ℤ) = max 0 (14 - e'))
    (hv : v = (m : ℚ) / (10 : ℚ) ^ dp) (hvy : |v - y| ≤ 1 / 2 / (10 : ℚ) ^ dp) :
    |v - x| ≤ (1 / 2 + u * 10 ^ 15) * (10 : ℚ) ^ (e - 14) := by
  have hu : 0 ≤ u := (abs_nonneg δ₁).trans hδ₁
  have hT := ten_zpow_pos (e - 14)
  obtain ⟨hxs1, hxs2⟩ := scaled_bounds hlo hhi
  obtain ⟨hn1, hn2⟩ := round_int_bounds hu3 hxs1 hxs2 hδ₁ hp hr
  have hA1 : (10 : ℚ) ^ 14 ≤ |(n : ℚ)| := by rw [← Int.cast_abs]; exact_mod_cast hn1
  have hA2 : |(n : ℚ)| ≤ (10 : ℚ) ^ 15 := by rw [← Int.cast_abs]; exact_mod_cast hn2
  have hAu : |(n : ℚ)| * u ≤ 1 / 5 :=
    (mul_le_mul_of_nonneg_right hA2 hu).trans (by linarith only [hu3])
  -- `|y| = w·T` with `w = |n|(1+δ₂)`, which fixes the decade of `y` up to one
  have hyabs : |y| = |(n : ℚ)| * (1 + δ₂) * (10 : ℚ) ^ (e - 14) := by
    rw [hy, abs_mul, abs_mul, abs_of_pos hT,
      abs_of_pos (by linarith only [(abs_le.mp hδ₂).1, hu3] : 0 < 1 + δ₂)]
    ring
  rw [hyabs] at hy1 hy2
  obtain ⟨hw1, hw2⟩ := quotient_abs_bounds hu3 hA1 hA2 hδ₂
  obtain ⟨he1, he2⟩ := decade_near hw1 hw2 hy1 hy2
  -- the mesh `10^-dp` of the rendering is `T`, `T/10` or `10·T`
  rw [div_eq_mul_inv, ← zpow_natCast, ← zpow_neg] at hv hvy
  have hcases : -(dp : ℤ) = e - 14 ∨ (-(dp : ℤ) = e - 15 ∧ e' + 1 = e) ∨
      (-(dp : ℤ) = e - 13 ∧ e' = e + 1) := by omega
  rcases hcases with hd | ⟨hd, he'⟩ | ⟨hd, he'⟩
  · rw [hd] at hv hvy
    exact sig_display_error_grid hT hT (unscale x e) hxs2 hδ₁ hδ₂ hp hr hy hv rfl hvy hAu
      (by linarith only [hT])
  · rw [hd] at hv hvy
    have hTg : (10 : ℚ) ^ (e - 14) = 10 ^ 1 * (10 : ℚ) ^ (e - 15) := ten_zpow_units 1 (by omega)
    rw [he', ten_zpow_units 14 (by omega : e = ((14 : ℕ) : ℤ) + (e - 14))] at hy2
    refine sig_display_error_grid (k := 10 * n) hT (ten_zpow_pos _) (unscale x e) hxs2 hδ₁ hδ₂ hp
      hr hy hv (by rw [hTg]; push_cast; ring) hvy
      (abs_mul_u_le_of_lt hu3 (abs_nonneg _) hδ₂ (lt_of_mul_lt_mul_right hy2 hT.le)) ?_
    rw [hTg]; linarith only [ten_zpow_pos (e - 15)]
  · rw [hd] at hv hvy
    have hgT : (10 : ℚ) ^ (e - 13) = 10 ^ 1 * (10 : ℚ) ^ (e - 14) := ten_zpow_units 1 (by omega)
    rw [he', ten_zpow_units 15 (by omega : e + 1 = ((15 : ℕ) : ℤ) + (e - 14))] at hy1
    obtain ⟨k, hk⟩ := ten_dvd_of_le hu3 hn2 hδ₂ (le_of_mul_le_mul_right hy1 hT)
    refine sig_display_error_grid (k := k) hT (ten_zpow_pos _) (unscale x e) hxs2 hδ₁ hδ₂ hp
      hr hy hv (by rw [hgT, hk]; push_cast; ring) hvy hAu ?_
    rw [hgT]; linarith only [hT]

/-- the number of decimals chosen by `format_float_significant(y, 15)` once the magnitude of
    `y` is known: `max(0, 14 − e')`, on both branches (`|y| ≥ 1` or not) -/
theorem decimalPlaces_of_exponent (ops : NumOps) (y : F64) (e' : ℤ)
    (h : decimalExponent ops y.abs = e') :
    ((decimalPlaces ops y 15 : ℕ) : ℤ) = max 0 (14 - e') := by
  unfold decimalPlaces
  simp only [h, Int.ofNat_eq_natCast]
  split_ifs <;> omega

/-- `display_value_error` with the mesh `10^-dp` of the rendering, `dp = decimalPlaces ops y 15`,
    computed from the exact magnitude `e'` of `y` instead of that of `x` -/
theorem display_value_error_any_decade {ops : NumOps} {u : ℚ} (M : RoundingModel ops u)
    (hu3 : u * (5 * 10 ^ 15) < 1) (x : F64) (e e' : ℤ) (hfin : x.isFinite = true)
    (hz : F64.feq x F64.zero = false)
    (hlo : (10 : ℚ) ^ e ≤ |x.toRat|) (hhi : |x.toRat| < (10 : ℚ) ^ (e + 1))
    (he : -5 ≤ e) (he14 : e ≤ 14)
    (H1 : decimalExponent ops x.abs = e)
    (H2 : PowiExactAt ops (14 - e))
    (H3 : RoundExactAt ops (ops.mul x (ops.powi ten (14 - e))))
    (hmf : (ops.mul x (ops.powi ten (14 - e))).isFinite = true)
    (hdf : (roundToSignificantFigures ops x 15).isFinite = true)
    (H1y : decimalExponent ops (roundToSignificantFigures ops x 15).abs = e')
    (hy1 : (10 : ℚ) ^ e' ≤ |(roundToSignificantFigures ops x 15).toRat|)
    (hy2 : |(roundToSignificantFigures ops x 15).toRat| < (10 : ℚ) ^ (e' + 1))
    (v : ℚ) (m : ℤ)
    (hv : v = (m : ℚ) / (10 : ℚ) ^ decimalPlaces ops (roundToSignificantFigures ops x 15) 15)
    (hvy : |v - (roundToSignificantFigures ops x 15).toRat| ≤
      1 / 2 / (10 : ℚ) ^ decimalPlaces ops (roundToSignificantFigures ops x 15) 15) :
    |v - x.toRat| ≤ (1 / 2 + u * 10 ^ 15) * (10 : ℚ) ^ (e - 14) := by
  have hu2 : u ≤ 1 / 2 := by linarith [M.u_nonneg]
  obtain ⟨n, p, δ₁, δ₂, hδ₁, hδ₂, hp, hrb, hy⟩ :=
    roundToSignificantFigures_decomp M hu2 x e hfin hz hlo he H1 H2 H3 hmf hdf
  exact sig_display_error_any_decade hu3 he14 hlo hhi hδ₁ hδ₂ hp hrb hy hy1 hy2
    (decimalPlaces_of_exponent ops _ e' H1y) hv hvy

end Blots.Display
