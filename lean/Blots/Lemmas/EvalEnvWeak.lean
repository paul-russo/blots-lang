import Blots.Lemmas.EvalEnvCall
/-
  Weakening (C02 (4)): binding a fresh name that is not mentioned does not change evaluation.
-/
namespace Blots

mutual
/-- `t` occurs in `e` as an identifier, assignment target, parameter or shorthand key
    (`#field` counts as an occurrence of `inputs`) -/
def mentions (t : String) : Expr → Bool
  | .ident n => n == t
  | .inref _ => t == "inputs"
  | .lambda args body => args.any (fun a => a.name == t) || mentions t body
  | .assign n v => n == t || mentions t v
  | .bin _ l r => mentions t l || mentions t r
  | .un _ e => mentions t e
  | .fact e => mentions t e
  | .spread e => mentions t e
  | .output e => mentions t e
  | .call f args => mentions t f || mentionsList t args
  | .access e i => mentions t e || mentions t i
  | .dot e _ => mentions t e
  | .cond c a b => mentions t c || mentions t a || mentions t b
  | .list items => mentionsItems t items
  | .record es => mentionsEntries t es
  | .doBlock stmts ret => mentionsItems t stmts || mentionsItem t ret
  | _ => false
def mentionsList (t : String) : List Expr → Bool
  | [] => false
  | e :: es => mentions t e || mentionsList t es
def mentionsItem (t : String) : Item → Bool
  | .mk _ e _ => mentions t e
def mentionsItems (t : String) : List Item → Bool
  | [] => false
  | i :: is => mentionsItem t i || mentionsItems t is
def mentionsEntry (t : String) : Entry → Bool
  | .mk _ k v _ => mentionsKey t k || mentions t v
def mentionsEntries (t : String) : List Entry → Bool
  | [] => false
  | e :: es => mentionsEntry t e || mentionsEntries t es
def mentionsKey (t : String) : Key → Bool
  | .static _ => false
  | .dyn e => mentions t e
  | .short n => n == t
  | .spread e => mentions t e
end

mutual
/-- no function application: no call expression, no `via` / `into` / `where` -/
def callFree : Expr → Bool
  | .call _ _ => false
  | .bin op l r => op != .via && op != .into && op != .where_ && callFree l && callFree r
  | .lambda _ body => callFree body
  | .assign _ v => callFree v
  | .un _ e => callFree e
  | .fact e => callFree e
  | .spread e => callFree e
  | .output e => callFree e
  | .access e i => callFree e && callFree i
  | .dot e _ => callFree e
  | .cond c a b => callFree c && callFree a && callFree b
  | .list items => callFreeItems items
  | .record es => callFreeEntries es
  | .doBlock stmts ret => callFreeItems stmts && callFreeItem ret
  | _ => true
def callFreeItem : Item → Bool
  | .mk _ e _ => callFree e
def callFreeItems : List Item → Bool
  | [] => true
  | i :: is => callFreeItem i && callFreeItems is
def callFreeEntry : Entry → Bool
  | .mk _ k v _ => callFreeKey k && callFree v
def callFreeEntries : List Entry → Bool
  | [] => true
  | e :: es => callFreeEntry e && callFreeEntries es
def callFreeKey : Key → Bool
  | .dyn e => callFree e
  | .spread e => callFree e
  | _ => true
end

/-- how the recursions over the syntax put the parts together: `or_true_of` where the predicate
    is an `||` of the parts', `and_true_of` where it is an `&&` -/
theorem or_true_of {a b : Bool} {p q : Prop} (h : p ∨ q) (ha : p → a = true) (hb : q → b = true) :
    (a || b) = true :=
  Bool.or_eq_true_iff.mpr (h.imp ha hb)

theorem and_true_of {a b a' b' : Bool} (h : (a && b) = true) (ha : a = true → a' = true)
    (hb : b = true → b' = true) : (a' && b') = true :=
  have h := Bool.and_eq_true_iff.mp h
  Bool.and_eq_true_iff.mpr ⟨ha h.1, hb h.2⟩

mutual
theorem freeVars_mentions : ∀ (e : Expr) (bound : List String) (x : String),
    x ∈ freeVars bound e → mentions x e = true
  | .num _, _, _, h | .str _, _, _, h | .bool _, _, _, h | .null, _, _, h | .inref _, _, _, h
  | .builtin _, _, _, h | .output _, _, _, h => nomatch h
  | .ident n, bound, x, h => by
    change x ∈ ite _ _ _ at h
    split at h
    · cases h
    · exact beq_iff_eq.mpr (List.mem_singleton.mp h).symm
  | .lambda _ body, _, x, h => Bool.or_eq_true_iff.mpr (.inr (freeVars_mentions body _ x h))
  | .bin _ l r, bound, x, h =>
    or_true_of (List.mem_append.mp h) (freeVars_mentions l bound x) (freeVars_mentions r bound x)
  | .un _ e, bound, x, h => freeVars_mentions e bound x h
  | .fact e, bound, x, h => freeVars_mentions e bound x h
  | .spread e, bound, x, h => freeVars_mentions e bound x h
  | .call f args, bound, x, h =>
    or_true_of (List.mem_append.mp h) (freeVars_mentions f bound x) (freeVarsList_mentions args bound x)
  | .access e i, bound, x, h =>
    or_true_of (List.mem_append.mp h) (freeVars_mentions e bound x) (freeVars_mentions i bound x)
  | .dot e _, bound, x, h => freeVars_mentions e bound x h
  | .cond c a b, bound, x, h =>
    or_true_of (List.mem_append.mp h)
      (fun h => or_true_of (List.mem_append.mp h) (freeVars_mentions c bound x) (freeVars_mentions a bound x))
      (freeVars_mentions b bound x)
  | .assign _ v, bound, x, h => Bool.or_eq_true_iff.mpr (.inr (freeVars_mentions v bound x h))
  | .list items, bound, x, h => freeVarsItems_mentions items bound x h
  | .record es, bound, x, h => freeVarsEntries_mentions es bound x h
  | .doBlock stmts (.mk _ re _), bound, x, h =>
    or_true_of (List.mem_append.mp h) (freeVarsStmts_mentions stmts bound x) (freeVars_mentions re _ x)
theorem freeVarsList_mentions : ∀ (es : List Expr) (bound : List String) (x : String),
    x ∈ freeVarsList bound es → mentionsList x es = true
  | [], _, _, h => nomatch h
  | e :: es, bound, x, h =>
    or_true_of (List.mem_append.mp h) (freeVars_mentions e bound x) (freeVarsList_mentions es bound x)
theorem freeVarsItems_mentions : ∀ (is : List Item) (bound : List String) (x : String),
    x ∈ freeVarsItems bound is → mentionsItems x is = true
  | [], _, _, h => nomatch h
  | .mk _ e _ :: is, bound, x, h =>
    or_true_of (List.mem_append.mp h) (freeVars_mentions e bound x) (freeVarsItems_mentions is bound x)
theorem freeVarsStmts_mentions : ∀ (is : List Item) (bound : List String) (x : String),
    x ∈ freeVarsStmts bound is → mentionsItems x is = true
  | [], _, _, h => nomatch h
  | .mk _ e _ :: is, bound, x, h =>
    or_true_of (List.mem_append.mp h) (freeVars_mentions e bound x) (freeVarsStmts_mentions is _ x)
theorem freeVarsEntries_mentions : ∀ (es : List Entry) (bound : List String) (x : String),
    x ∈ freeVarsEntries bound es → mentionsEntries x es = true
  | [], _, _, h => nomatch h
  | .mk _ k v _ :: es, bound, x, h =>
    or_true_of (List.mem_append.mp h) (fun h => by
      show (mentionsKey x k || mentions x v) = true
      cases k with
      | static _ => exact Bool.or_eq_true_iff.mpr (.inr (freeVars_mentions v bound x h))
      | dyn ke => exact or_true_of (List.mem_append.mp h) (freeVars_mentions ke bound x) (freeVars_mentions v bound x)
      | short n =>
        change x ∈ ite _ _ _ at h
        split at h
        · cases h
        · exact Bool.or_eq_true_iff.mpr (.inl (beq_iff_eq.mpr (List.mem_singleton.mp h).symm))
      | spread se => exact Bool.or_eq_true_iff.mpr (.inl (freeVars_mentions se bound x h)))
      (freeVarsEntries_mentions es bound x)
end

/-- `r'` is the run `r` seen through `T`: the same outcome, and `T` of the final state.  With
    `T` = "one more binding" this is weakening, with `T` = "other frames below" coincidence.
    (The original run first, the run from the changed state second, as in `Sim` and `Thru`.) -/
def Tracks (T : ES → ES) {α} (r r' : R α) : Prop := r' = (r.1, T r.2)

theorem Tracks.mk {T : ES → ES} {α} {o o' : Outcome α} {s s' : ES} (hs : s' = T s) (ho : o' = o) :
    Tracks T (o, s) (o', s') := by subst ho hs; rfl

theorem Tracks.pure {T : ES → ES} {α} {o : Outcome α} {s : ES} : Tracks T (o, s) (o, T s) := rfl

theorem Tracks.bind {T : ES → ES} {α β} {r r' : R α} {k k' : α → ES → R β} (hr : Tracks T r r')
    (hk : ∀ a s1, r = (.ok a, s1) → Tracks T (k a s1) (k' a (T s1))) :
    Tracks T (R.bind r k) (R.bind r' k') := by
  obtain ⟨o, s1⟩ := r
  unfold Tracks at hr
  subst hr
  cases o with
  | ok a => exact hk a s1 rfl
  | _ => rfl

theorem Tracks.ite {T : ES → ES} {α} {c : Prop} [Decidable c] {a a' b b' : R α}
    (ha : Tracks T a a') (hb : Tracks T b b') :
    Tracks T (if c then a else b) (if c then a' else b') := by
  split <;> assumption

/-- part of the state is put back afterwards by `f` (leaving a do-block): inside, the runs differ
    by `T'`, outside by `T` -/
theorem Tracks.restore {T T' : ES → ES} {α} {r r' : R α} (f : ES → ES) (hr : Tracks T' r r')
    (hf : f (T' r.2) = T (f r.2)) : Tracks T (r.1, f r.2) (r'.1, f r'.2) := by
  unfold Tracks at hr
  subst hr
  exact .mk hf rfl

/-- `infinity`, `inf` and `constants` are not looked up -/
theorem identOp_congr {E' E : List Frame} {n : String}
    (h : n ∉ Gen.specialIdents → envGet E' n = envGet E n) : identOp E' n = identOp E n := by
  unfold identOp
  split
  · rfl
  · split
    · rfl
    · rename_i h1 h2
      simp only [Bool.or_eq_true, beq_iff_eq, not_or] at h1 h2
      rw [h (by simp only [Gen.specialIdents, List.mem_cons, List.not_mem_nil, or_false, h1, h2,
        not_false_eq_true])]

theorem inrefOp_congr {E' E : List Frame} (f : String) (h : envGet E' "inputs" = envGet E "inputs") :
    inrefOp E' f = inrefOp E f := by unfold inrefOp; rw [h]

theorem not_callOp (op : BinOp) : (op != .via && op != .into && op != .where_) = !isCallOp op := by
  cases op <;> rfl

theorem evalBin_nocall (T : ES → ES) (ops : NumOps) (fuel depth : Nat) (op : BinOp) (a b : Value) (s : ES)
    (h : isCallOp op = false) :
    Tracks T (evalBin ops fuel depth op a b s) (evalBin ops fuel depth op a b (T s)) := by
  cases fuel with
  | zero => rw [evalBin_zero, evalBin_zero]; rfl
  | succ fuel => rw [evalBin_value _ _ _ _ _ _ _ h, evalBin_value _ _ _ _ _ _ _ h]; rfl

/-- `E` with the extra binding `(t, w)` at the head of the frame at depth `k` -/
def addAt (t : String) (w : Value) : Nat → List Frame → List Frame
  | 0, f :: r => ((t, w) :: f) :: r
  | k + 1, g :: E => g :: addAt t w k E
  | _, [] => []

def addT (t : String) (w : Value) (k : Nat) (s : ES) : ES := { s with env := addAt t w k s.env }

theorem envGet_addAt (t : String) (w : Value) {x : String} (hx : x ≠ t) : ∀ (k : Nat) (E : List Frame),
    envGet (addAt t w k E) x = envGet E x
  | 0, f :: r => by simp only [addAt, envGet, lookupAL, if_neg (Ne.symm hx)]
  | k + 1, g :: E => by simp only [addAt, envGet, envGet_addAt t w hx k E]
  | 0, [] => rfl
  | _ + 1, [] => rfl

theorem envGet_addT (t : String) (w : Value) {x : String} (hx : x ≠ t) (k : Nat) (s : ES) :
    envGet (addT t w k s).env x = envGet s.env x := envGet_addAt t w hx k s.env

theorem envInsert_addAt (t : String) (w : Value) {n : String} (v : Value) (hn : n ≠ t) :
    ∀ (k : Nat) (E : List Frame), k < E.length →
    envInsert (addAt t w k E) n v = addAt t w k (envInsert E n v)
  | 0, f :: r, _ => by simp only [addAt, envInsert, insertAL, if_neg (Ne.symm hn)]
  | _ + 1, _ :: _, _ => rfl
  | _, [], h => absurd h (Nat.not_lt_zero _)

theorem alreadyDefined_addAt (t : String) (w : Value) {n : String} (hn : n ≠ t) (depth k : Nat)
    (E : List Frame) : alreadyDefined depth (addAt t w k E) n = alreadyDefined depth E n := by
  unfold alreadyDefined
  split
  · match k, E with
    | 0, [] => rfl
    | _ + 1, [] => rfl
    | 0, _ :: _ => simp only [addAt, lookupAL, if_neg (Ne.symm hn)]
    | _ + 1, _ :: _ => rfl
  · simp only [envContains, envGet_addAt t w hn]

theorem addAt_drop (t : String) (w : Value) (k : Nat) : ∀ (E : List Frame),
    (addAt t w (k + 1) E).drop 1 = addAt t w k (E.drop 1)
  | [] => by cases k <;> rfl
  | g :: E => rfl

theorem addAt_length (t : String) (w : Value) : ∀ (k : Nat) (E : List Frame), (addAt t w k E).length = E.length
  | 0, _ :: _ => rfl
  | k + 1, _ :: E => congrArg (· + 1) (addAt_length t w k E)
  | 0, [] => rfl
  | _ + 1, [] => rfl

theorem setNameIfLambda_addT (t : String) (w : Value) (k : Nat) (s : ES) (n : String) (v : Value) :
    setNameIfLambda (addT t w k s) n v = addT t w k (setNameIfLambda s n v) := by
  cases v with
  | lambda id a b sc =>
    simp only [setNameIfLambda, addT]
    cases nameOf s.names id <;> rfl
  | _ => rfl

theorem assignIn_addT (t : String) (w : Value) {n : String} (hn : n ≠ t) (first : Nat) (val : Value)
    {k : Nat} {s : ES} (hk : k < s.env.length) :
    assignIn first n val (addT t w k s) = addT t w k (assignIn first n val s) := by
  have hk' : k < (setNameIfLambda s n (createdSince first val)).env.length := by
    rw [setNameIfLambda_env]; exact hk
  unfold assignIn
  rw [setNameIfLambda_addT]
  simp only [addT, envInsert_addAt t w val hn k _ hk']

theorem eval_len_lt {ops : NumOps} {fuel depth : Nat} {e : Expr} {s s1 : ES} {o : Outcome Value} {k : Nat}
    (h : eval ops fuel depth e s = (o, s1)) (hk : k < s.env.length) : k < s1.env.length := by
  have := (eval_topExt ops fuel depth e s).below.lt_length hk
  rwa [h] at this

section
variable (ops : NumOps) (t : String) (w : Value)

/-- weakening for expressions without function application, all evaluator functions involved,
    by induction on the fuel: evaluating in a state with the extra binding gives the same
    outcome, and the same state with the extra binding -/
theorem weak_group (ht : t ≠ "inputs") : ∀ fuel : Nat,
    (∀ depth e k s, mentions t e = false → callFree e = true → k < s.env.length →
      eval ops fuel depth e (addT t w k s) =
        ((eval ops fuel depth e s).1, addT t w k (eval ops fuel depth e s).2)) ∧
    (∀ depth is k s, mentionsItems t is = false → callFreeItems is = true → k < s.env.length →
      evalItems ops fuel depth is (addT t w k s) =
        ((evalItems ops fuel depth is s).1, addT t w k (evalItems ops fuel depth is s).2)) ∧
    (∀ depth es acc k s, mentionsEntries t es = false → callFreeEntries es = true → k < s.env.length →
      evalEntries ops fuel depth es acc (addT t w k s) =
        ((evalEntries ops fuel depth es acc s).1, addT t w k (evalEntries ops fuel depth es acc s).2)) ∧
    (∀ depth e k s, mentions t e = false → callFree e = true → k < s.env.length →
      evalDoStmt ops fuel depth e (addT t w k s) =
        ((evalDoStmt ops fuel depth e s).1, addT t w k (evalDoStmt ops fuel depth e s).2)) ∧
    (∀ depth stmts ret k s, mentionsItems t stmts = false → mentionsItem t ret = false →
      callFreeItems stmts = true → callFreeItem ret = true → k < s.env.length →
      evalDo ops fuel depth stmts ret (addT t w k s) =
        ((evalDo ops fuel depth stmts ret s).1, addT t w k (evalDo ops fuel depth stmts ret s).2)) := by
  intro fuel
  induction fuel with
  | zero =>
    refine ⟨?_, ?_, ?_, ?_, ?_⟩ <;> intros <;>
      simp only [eval_zero, evalItems_zero, evalEntries_zero, evalDoStmt_zero, evalDo_zero]
  | succ fuel ih =>
    obtain ⟨ihE, ihI, ihR, ihS, ihD⟩ := ih
    refine ⟨?_, ?_, ?_, ?_, ?_⟩
    · -- `eval`.  Leaves: `Tracks.pure`, after the lookup is shown not to see `t` (`identOp_congr`,
      -- `inrefOp_congr`, `captureScope_agree`).  One or two subexpressions: `Tracks.bind` with the
      -- hypothesis for each; the frame `k` is still there afterwards by `eval_len_lt`.  Assignment:
      -- the checks and the insertion commute with the extra binding (`alreadyDefined_addAt`,
      -- `assignIn_addT`).  Do-block: `Tracks.restore`.
      intro depth e k s hm hc hk
      show Tracks (addT t w k) _ _
      cases e with
      | num _ | str _ | bool _ | null | builtin _ =>
        simp only [eval_num, eval_str, eval_bool, eval_null, eval_builtin]; exact .pure
      | call f args => cases hc
      | ident n =>
        have hn : n ≠ t := by simpa only [mentions, beq_eq_false_iff_ne] using hm
        rw [eval_ident, eval_ident]
        exact .mk rfl (identOp_congr fun _ => envGet_addT t w hn k s)
      | inref field =>
        rw [eval_inref, eval_inref]
        exact .mk rfl (inrefOp_congr field (envGet_addT t w (Ne.symm ht) k s))
      | un op e =>
        rw [eval_un, eval_un]
        exact .bind (ihE _ e k s hm hc hk) fun _ _ _ => .pure
      | fact e =>
        rw [eval_fact, eval_fact]
        exact .bind (ihE _ e k s hm hc hk) fun _ _ _ => .pure
      | spread e =>
        rw [eval_spread, eval_spread]
        exact .bind (ihE _ e k s hm hc hk) fun _ _ _ => .pure
      | dot e field =>
        rw [eval_dot, eval_dot]
        exact .bind (ihE _ e k s hm hc hk) fun _ _ _ => .pure
      | output e => rw [eval_output, eval_output]; exact ihE _ e k s hm hc hk
      | cond c a b =>
        simp only [mentions, callFree, Bool.or_eq_false_iff, Bool.and_eq_true] at hm hc
        rw [eval_cond, eval_cond]
        refine .bind (ihE _ c k s hm.1.1 hc.1.1 hk) fun v s1 h1 => ?_
        have hk1 := eval_len_lt h1 hk
        cases v with
        | bool bv =>
          cases bv
          · exact ihE _ b k s1 hm.2 hc.2 hk1
          · exact ihE _ a k s1 hm.1.2 hc.1.2 hk1
        | _ => exact .pure
      | access e i =>
        simp only [mentions, callFree, Bool.or_eq_false_iff, Bool.and_eq_true] at hm hc
        rw [eval_access, eval_access]
        exact .bind (ihE _ e k s hm.1 hc.1 hk) fun _ s1 h1 =>
          .bind (ihE _ i k s1 hm.2 hc.2 (eval_len_lt h1 hk)) fun _ _ _ => .pure
      | bin op l r =>
        simp only [mentions, callFree, not_callOp, Bool.or_eq_false_iff, Bool.and_eq_true,
          Bool.not_eq_true'] at hm hc
        rw [eval_bin, eval_bin]
        exact .bind (ihE _ l k s hm.1 hc.1.2 hk) fun _ s1 h1 =>
          .bind (ihE _ r k s1 hm.2 hc.2 (eval_len_lt h1 hk)) fun _ _ _ =>
            evalBin_nocall _ ops fuel depth op _ _ _ hc.1.1
      | assign n v =>
        simp only [mentions, Bool.or_eq_false_iff, beq_eq_false_iff_ne] at hm
        have hdef : ∀ s : ES, alreadyDefined depth (addT t w k s).env n = alreadyDefined depth s.env n :=
          fun s => alreadyDefined_addAt t w hm.1 depth k s.env
        rw [eval_assign, eval_assign, hdef]
        refine .ite .pure <| .ite .pure <| .ite .pure <|
          .bind (ihE _ v k s hm.2 hc hk) fun val s1 h1 => ?_
        rw [hdef]
        exact .ite .pure (.mk (assignIn_addT t w hm.1 _ val (eval_len_lt h1 hk)) rfl)
      | lambda args body =>
        simp only [mentions, Bool.or_eq_false_iff] at hm
        have hy : ∀ y ∈ freeVars (args.map LArg.name) body, y ≠ t := by
          rintro y hy rfl
          exact Bool.false_ne_true (hm.2.symm.trans (freeVars_mentions body _ y hy))
        rw [eval_lambda, eval_lambda, captureScope_agree fun y h => envGet_addT t w (hy y h) k s]
        exact .ite .pure (.mk rfl rfl)
      | list items =>
        rw [eval_list, eval_list]
        exact .bind (ihI _ items k s hm hc hk) fun _ _ _ => .pure
      | record es =>
        rw [eval_record, eval_record]
        exact .bind (ihR _ es [] k s hm hc hk) fun _ _ _ => .pure
      | doBlock stmts ret =>
        simp only [mentions, callFree, Bool.or_eq_false_iff, Bool.and_eq_true] at hm hc
        rw [eval_doBlock, eval_doBlock]
        -- inside the block the extra binding is one frame deeper
        exact .restore (T' := addT t w (k + 1)) (fun s1 => { s1 with env := s1.env.drop 1 })
          (ihD depth stmts ret (k + 1) { s with env := [] :: s.env } hm.1 hm.2 hc.1 hc.2 (Nat.succ_lt_succ hk))
          (by simp only [addT, addAt_drop])
    · -- `evalItems`, `evalEntries`: `Tracks.bind` along the list; a shorthand key is a lookup
      intro depth is k s hm hc hk
      show Tracks (addT t w k) _ _
      cases is with
      | nil => rw [evalItems_nil, evalItems_nil]; exact .pure
      | cons i is =>
        obtain ⟨_, e, _⟩ := i
        simp only [mentionsItems, mentionsItem, Bool.or_eq_false_iff, callFreeItems, callFreeItem,
          Bool.and_eq_true] at hm hc
        rw [evalItems_cons, evalItems_cons]
        exact .bind (ihE _ e k s hm.1 hc.1 hk) fun _ s1 h1 =>
          .bind (ihI _ is k s1 hm.2 hc.2 (eval_len_lt h1 hk)) fun _ _ _ => .pure
    · intro depth es acc k s hm hc hk
      show Tracks (addT t w k) _ _
      cases es with
      | nil => rw [evalEntries_nil, evalEntries_nil]; exact .pure
      | cons en es =>
        obtain ⟨_, key, value, _⟩ := en
        simp only [mentionsEntries, mentionsEntry, Bool.or_eq_false_iff, callFreeEntries, callFreeEntry,
          Bool.and_eq_true] at hm hc
        cases key with
        | static kk =>
          rw [evalEntries_static, evalEntries_static]
          exact .bind (ihE _ value k s hm.1.2 hc.1.2 hk) fun _ s1 h1 =>
            ihR _ es _ k s1 hm.2 hc.2 (eval_len_lt h1 hk)
        | dyn ke =>
          rw [evalEntries_dyn, evalEntries_dyn]
          refine .bind (ihE _ ke k s hm.1.1 hc.1.1 hk) fun kv s1 h1 => ?_
          cases kv with
          | str kk =>
            exact .bind (ihE _ value k s1 hm.1.2 hc.1.2 (eval_len_lt h1 hk)) fun _ s2 h2 =>
              ihR _ es _ k s2 hm.2 hc.2 (eval_len_lt h2 (eval_len_lt h1 hk))
          | _ => exact .pure
        | short n =>
          rw [evalEntries_short, evalEntries_short,
            envGet_addT t w (by simpa only [mentionsKey, beq_eq_false_iff_ne] using hm.1.1) k s]
          cases envGet s.env n with
          | none => exact .pure
          | some v => exact ihR _ es _ k s hm.2 hc.2 hk
        | spread se =>
          rw [evalEntries_spread, evalEntries_spread]
          refine .bind (ihE _ se k s hm.1.1 hc.1.1 hk) fun sv s1 h1 => ?_
          cases sv <;> exact ihR _ es _ k s1 hm.2 hc.2 (eval_len_lt h1 hk)
    · -- `evalDoStmt`: the assignment as in `eval` without the checks; anything else is `eval`
      intro depth e k s hm hc hk
      show Tracks (addT t w k) _ _
      by_cases he : ∃ n v, e = .assign n v
      · obtain ⟨n, v, rfl⟩ := he
        simp only [mentions, Bool.or_eq_false_iff, beq_eq_false_iff_ne] at hm
        rw [evalDoStmt_assign, evalDoStmt_assign]
        exact .ite .pure <| .bind (ihE _ v k s hm.2 hc hk) fun val s1 h1 =>
          .mk (assignIn_addT t w hm.1 _ val (eval_len_lt h1 hk)) rfl
      · have he' : ∀ x v, e ≠ .assign x v := fun x v h => he ⟨x, v, h⟩
        rw [evalDoStmt_other ops fuel depth _ e he', evalDoStmt_other ops fuel depth _ e he']
        exact ihE _ e k s hm hc hk
    · -- `evalDo`: `Tracks.bind` along the statements; a statement keeps the frames below the
      -- block's own (`SameBelow`), so frame `k` is still there
      intro depth stmts ret k s hm1 hm2 hc1 hc2 hk
      show Tracks (addT t w k) _ _
      cases stmts with
      | nil =>
        obtain ⟨_, e, _⟩ := ret
        rw [evalDo_nil, evalDo_nil]
        exact ihS _ e k s hm2 hc2 hk
      | cons i rest =>
        obtain ⟨_, e, _⟩ := i
        simp only [mentionsItems, mentionsItem, Bool.or_eq_false_iff, callFreeItems, callFreeItem,
          Bool.and_eq_true] at hm1 hc1
        rw [evalDo_cons, evalDo_cons]
        refine .bind (ihS _ e k s hm1.1 hc1.1 hk) fun _ s1 h1 => ?_
        have hk1 := ((eval_group_ext ops fuel).2.2.2.2.1 depth e s).lt_length hk
        rw [h1] at hk1
        exact ihD _ rest ret k s1 hm1.2 hm2 hc1.2 hc2 hk1
end

mutual
/-- some function value inside `v` mentions `t`: as a parameter, in its body, or as a key of
    its captured scope -/
def valueMentions (t : String) : Value → Bool
  | .list l => valueMentionsList t l
  | .record r => valueMentionsFields t r
  | .lambda _ ps body scope =>
    ps.any (fun a => a.name == t) || mentions t body || scopeMentions t scope
  | .spread v => valueMentions t v
  | _ => false
def valueMentionsList (t : String) : List Value → Bool
  | [] => false
  | v :: vs => valueMentions t v || valueMentionsList t vs
def valueMentionsFields (t : String) : List (String × Value) → Bool
  | [] => false
  | (_, v) :: r => valueMentions t v || valueMentionsFields t r
def scopeMentions (t : String) : List (String × Value) → Bool
  | [] => false
  | (k, v) :: r => k == t || valueMentions t v || scopeMentions t r
end

end Blots
