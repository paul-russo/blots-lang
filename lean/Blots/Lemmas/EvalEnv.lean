import Blots.Lemmas.EvalEqns
import Blots.Lemmas.AssocList
import Blots.Drv.Eval
/-
  What a run of the evaluator does to the environment.

  * `Keeps`, `CallsKeep` : a reflexive, transitive relation between the states before and after
                        a run composes along `R.bind`; the call group keeps every such relation
                        that is kept where a lambda body is evaluated.
  * `callsKeep_env`   : the call group (`callFn`, the higher-order helpers, `evalBin`) returns the
                        caller's environment exactly.
  * `eval_group_ext`  : `eval`, `evalList`, `evalItems`, `evalEntries` only extend the innermost
                        frame (`ExtD depth`: `TopExt` at any call depth, and at depth 0 every
                        visible binding stays visible, which together is `EnvExt`); the do-block
                        functions leave everything below the block's own frame untouched
                        (`SameBelow`) — whatever the outcome.
  * `runStmts`        : a session (mirror of `Drv.runSession`).
-/
namespace Blots

/-- a relation on states that runs compose along.  The rules `bindFrom` and `ite` need neither
    field: they take `_ : Keeps T` so that every rule is written `hT.rule …`. -/
structure Keeps (T : ES → ES → Prop) : Prop where
  refl : ∀ s, T s s
  trans : ∀ {a b c}, T a b → T b c → T a c

namespace Keeps
variable {T : ES → ES → Prop} {α β : Type} {s : ES}

theorem bindFrom (_ : Keeps T) {r : R α} {k : α → ES → R β} (hr : T s r.2)
    (hk : ∀ a s1, T s s1 → T s (k a s1).2) : T s (R.bind r k).2 := by
  obtain ⟨o, s1⟩ := r
  cases o with
  | ok a => exact hk a s1 hr
  | err e => exact hr
  | panic p => exact hr
  | fuel => exact hr

theorem bind (hT : Keeps T) {r : R α} {k : α → ES → R β} (hr : T s r.2) (hk : ∀ a s1, T s1 (k a s1).2) :
    T s (R.bind r k).2 :=
  hT.bindFrom hr fun a s1 h1 => hT.trans h1 (hk a s1)

theorem bindPure (hT : Keeps T) {o : Outcome α} {k : α → ES → R β} (hk : ∀ a, T s (k a s).2) :
    T s (R.bind (o, s) k).2 := by
  cases o with
  | ok a => exact hk a
  | _ => exact hT.refl s

theorem ite (_ : Keeps T) {c : Prop} [Decidable c] {x y : R α} (hx : T s x.2) (hy : T s y.2) :
    T s (if c then x else y).2 := by split <;> assumption

end Keeps

structure CallsKeep (T : ES → ES → Prop) (ops : NumOps) (n : Nat) : Prop where
  callFn : ∀ fv this args d s, T s (callFn ops n fv this args d s).2
  mapCalls : ∀ f w xs i d s, T s (mapCalls ops n f w xs i d s).2
  quantCalls : ∀ f w q xs i d s, T s (quantCalls ops n f w q xs i d s).2
  foldCalls : ∀ f w acc xs i d s, T s (foldCalls ops n f w acc xs i d s).2
  keyCalls : ∀ f xs d s, T s (keyCalls ops n f xs d s).2
  callHof : ∀ name args d s, T s (callHof ops n name args d s).2
  evalBin : ∀ d op a b s, T s (evalBin ops n d op a b s).2
  viaPairs : ∀ la lb d s, T s (viaPairs ops n la lb d s).2
  whereCalls : ∀ f w xs i d s, T s (whereCalls ops n f w xs i d s).2

theorem CallsKeep.zero {T : ES → ES → Prop} (hT : Keeps T) (ops : NumOps) : CallsKeep T ops 0 := by
  constructor <;> intros <;>
    simp only [callFn_zero, mapCalls_zero, quantCalls_zero, foldCalls_zero, keyCalls_zero, callHof_zero,
      evalBin_zero, viaPairs_zero, whereCalls_zero] <;>
    exact hT.refl _

/-! The call group touches the state only where a lambda body is evaluated (in the frames of the
    call, the caller's environment put back afterwards): a relation that this step keeps is kept
    by all nine functions. -/
section calls
variable {T : ES → ES → Prop} (hT : Keeps T) {ops : NumOps} {n : Nat}
  (body : ∀ d e s env, T s { (eval ops n d e { s with env := env }).2 with env := s.env })
  (ih : CallsKeep T ops n)
include hT

include body ih in
theorem keeps_callFn (fv this args d s) : T s (callFn ops (n+1) fv this args d s).2 := by
  by_cases hl : ∃ id ps b sc, fv = .lambda id ps b sc
  · obtain ⟨id, ps, b, sc, rfl⟩ := hl
    rw [callFn_lambda]
    exact hT.bindPure fun _ => hT.ite (hT.refl _) <| hT.bindPure fun _ => body _ _ _ _
  · by_cases hb : ∃ x, fv = .builtin x
    · obtain ⟨name, rfl⟩ := hb
      rw [callFn_builtin]
      split
      · exact hT.refl _
      · refine hT.bindPure fun _ => hT.ite (hT.refl _) <| hT.ite (ih.callHof _ _ _ _) ?_
        split <;> exact hT.refl _
    · rw [callFn_other _ _ _ _ _ _ _ (fun id ps b sc hx => hl ⟨id, ps, b, sc, hx⟩) (fun x hx => hb ⟨x, hx⟩)]
      exact hT.refl _

include ih

theorem keeps_mapCalls (f w xs i d s) : T s (mapCalls ops (n+1) f w xs i d s).2 := by
  cases xs with
  | nil => rw [mapCalls_nil]; exact hT.refl _
  | cons x xs =>
    rw [mapCalls_cons]
    exact hT.bind (ih.callFn _ _ _ _ _) fun _ _ => hT.bind (ih.mapCalls _ _ _ _ _ _) fun _ _ => hT.refl _

theorem keeps_quantCalls (f w q xs i d s) : T s (quantCalls ops (n+1) f w q xs i d s).2 := by
  cases xs with
  | nil => rw [quantCalls_nil]; exact hT.refl _
  | cons x xs =>
    rw [quantCalls_cons]
    refine hT.bind (ih.callFn _ _ _ _ _) fun v s1 => ?_
    split
    · exact hT.ite (hT.refl _) (hT.ite (hT.refl _) (ih.quantCalls _ _ _ _ _ _ _))
    · exact hT.refl _

theorem keeps_foldCalls (f w acc xs i d s) : T s (foldCalls ops (n+1) f w acc xs i d s).2 := by
  cases xs with
  | nil => rw [foldCalls_nil]; exact hT.refl _
  | cons x xs =>
    rw [foldCalls_cons]; exact hT.bind (ih.callFn _ _ _ _ _) fun _ _ => ih.foldCalls _ _ _ _ _ _ _

theorem keeps_keyCalls (f xs d s) : T s (keyCalls ops (n+1) f xs d s).2 := by
  cases xs with
  | nil => rw [keyCalls_nil]; exact hT.refl _
  | cons x xs => rw [keyCalls_cons]; exact hT.trans (ih.callFn f f [x] d s) (ih.keyCalls _ _ _ _)

theorem keeps_viaPairs (la lb d s) : T s (viaPairs ops (n+1) la lb d s).2 := by
  cases la with
  | nil => rw [viaPairs_nil_left]; exact hT.refl _
  | cons x xs =>
    cases lb with
    | nil => rw [viaPairs_nil_right]; exact hT.refl _
    | cons f fs =>
      rw [viaPairs_cons]
      refine hT.ite (hT.refl _) <| hT.bind (ih.callFn _ _ _ _ _) fun _ _ =>
        hT.bind (ih.viaPairs _ _ _ _) fun r s2 => ?_
      split <;> exact hT.refl _

theorem keeps_whereCalls (f w xs i d s) : T s (whereCalls ops (n+1) f w xs i d s).2 := by
  cases xs with
  | nil => rw [whereCalls_nil]; exact hT.refl _
  | cons x xs =>
    rw [whereCalls_cons]
    refine hT.bind (ih.callFn _ _ _ _ _) fun v s1 => ?_
    split
    · refine hT.bind (ih.whereCalls _ _ _ _ _ _) fun r s2 => ?_
      split <;> exact hT.refl _
    · exact hT.refl _

theorem keeps_evalBin (d op a b s) : T s (evalBin ops (n+1) d op a b s).2 := by
  by_cases hc : isCallOp op = false
  · rw [evalBin_value _ _ _ _ _ _ _ hc]; exact hT.refl _
  · cases op <;> first | exact absurd rfl hc | skip
    · rw [evalBin_via]
      split
      · exact hT.ite (hT.refl _) (ih.viaPairs _ _ _ _)
      · refine hT.ite (hT.refl _) ?_
        split
        · exact hT.refl _
        · exact hT.bind (ih.mapCalls _ _ _ _ _ _) fun _ _ => hT.refl _
      · exact hT.refl _
      · exact hT.ite (hT.refl _) (ih.callFn _ _ _ _ _)
    · rw [evalBin_into]; exact hT.ite (hT.refl _) (hT.ite (hT.refl _) (ih.callFn _ _ _ _ _))
    · rw [evalBin_where]
      split
      · exact hT.ite (hT.refl _) (hT.refl _)
      · refine hT.ite (hT.refl _) ?_
        split
        · exact hT.refl _
        · exact ih.whereCalls _ _ _ _ _ _
      · exact hT.refl _

theorem keeps_callHof (name args d s) : T s (callHof ops (n+1) name args d s).2 := by
  match args with
  | [] => rw [callHof_short _ _ _ _ _ _ (by decide)]; exact hT.refl _
  | [x] => rw [callHof_short _ _ _ _ _ [x] (Nat.le_refl 2)]; exact hT.refl _
  | lv :: f :: rest =>
    by_cases hsb : name = "sort_by"
    · subst hsb
      rw [callHof_sort_by]
      split
      · exact hT.ite (hT.refl _) (hT.ite (ih.keyCalls _ _ _ _) (ih.keyCalls _ _ _ _))
      · exact hT.refl _
    · by_cases hl : ∃ l, lv = Value.list l
      · obtain ⟨l, rfl⟩ := hl
        rcases isHof_cases name with rfl | rfl | rfl | rfl | rfl | rfl | rfl | rfl | hn
        · exact absurd rfl hsb
        · rw [callHof_map]; split
          · exact hT.refl _
          · exact hT.bind (ih.mapCalls _ _ _ _ _ _) fun _ _ => hT.refl _
        · rw [callHof_filter]; split
          · exact hT.refl _
          · exact ih.whereCalls _ _ _ _ _ _
        · rw [callHof_every]; split
          · exact hT.refl _
          · exact ih.quantCalls _ _ _ _ _ _ _
        · rw [callHof_some]; split
          · exact hT.refl _
          · exact ih.quantCalls _ _ _ _ _ _ _
        · rw [callHof_reduce]; split
          · exact hT.refl _
          · split
            · exact ih.foldCalls _ _ _ _ _ _ _
            · exact hT.refl _
        · rw [callHof_group_by]; split
          · exact hT.refl _
          · refine hT.bind (ih.mapCalls _ _ _ _ _ _) fun _ _ => ?_
            split <;> exact hT.refl _
        · rw [callHof_count_by]; split
          · exact hT.refl _
          · refine hT.bind (ih.mapCalls _ _ _ _ _ _) fun _ _ => ?_
            split <;> exact hT.refl _
        · rw [callHof_unknown _ _ _ _ _ hn]; split <;> exact hT.refl _
      · rw [callHof_not_list _ _ _ _ _ hsb _ _ _ fun l h => hl ⟨l, h⟩]; exact hT.refl _

include body in
theorem CallsKeep.succ : CallsKeep T ops (n+1) :=
  ⟨keeps_callFn hT body ih, keeps_mapCalls hT ih, keeps_quantCalls hT ih, keeps_foldCalls hT ih,
   keeps_keyCalls hT ih, keeps_callHof hT ih, keeps_evalBin hT ih, keeps_viaPairs hT ih,
   keeps_whereCalls hT ih⟩

end calls

theorem keeps_env : Keeps fun s s' => s'.env = s.env := ⟨fun _ => rfl, fun h1 h2 => h2.trans h1⟩

theorem callsKeep_env (ops : NumOps) : ∀ n, CallsKeep (fun s s' => s'.env = s.env) ops n
  | 0 => .zero keeps_env ops
  | n + 1 => .succ keeps_env (fun _ _ _ _ => rfl) (callsKeep_env ops n)

theorem callFn_env (ops : NumOps) (fuel fv this args depth s) :
    (callFn ops fuel fv this args depth s).2.env = s.env := (callsKeep_env ops fuel).callFn ..
theorem evalBin_env (ops : NumOps) (fuel depth op a b s) :
    (evalBin ops fuel depth op a b s).2.env = s.env := (callsKeep_env ops fuel).evalBin ..

def FrameExt (f f' : Frame) : Prop := ∀ k v, lookupAL k f = some v → lookupAL k f' = some v
def SameBelow (e e' : List Frame) : Prop := e' = e ∨ ∃ f', e' = f' :: e.tail
/-- a name a top-level assignment accepts (when it is not yet bound) -/
def Assignable (n : String) : Prop := isBuiltinIdent n = false ∧ Gen.assignKeywords.contains n = false

instance (n : String) : Decidable (Assignable n) := by unfold Assignable; exact inferInstance

theorem not_assignable_of_reserved {n : String}
    (hn : isBuiltinIdent n = true ∨ n ∈ Gen.assignKeywords) : ¬ Assignable n := by
  rintro ⟨hb, hk⟩
  rcases hn with hn | hn
  · rw [hb] at hn; cases hn
  · rw [List.contains_eq_mem, decide_eq_false_iff_not] at hk; exact hk hn

/-- what every evaluation guarantees, at any call depth: same frames below the innermost one,
    every binding of the innermost frame kept with its value, and every new key of the
    innermost frame is a name an assignment accepts.  (Inside a function call a plain
    assignment may add to the call's own frame a name that is also bound further out —
    `alreadyDefined` looks only at that frame there — so visibility through the whole chain is
    only guaranteed at depth 0, see `EnvExt`.) -/
structure TopExt (e e' : List Frame) : Prop where
  below : SameBelow e e'
  top : FrameExt (e.headD []) (e'.headD [])
  fresh : ∀ k, (lookupAL k (e'.headD [])).isSome → (lookupAL k (e.headD [])).isSome ∨ Assignable k

/-- `e'` is `e` with the innermost frame extended: `TopExt`, and every visible binding is still
    visible with its value (top level, depth 0) -/
structure EnvExt (e e' : List Frame) : Prop extends TopExt e e' where
  get : ∀ k v, envGet e k = some v → envGet e' k = some v

/-- the invariant of `eval` at call depth `depth` -/
structure ExtD (depth : Nat) (e e' : List Frame) : Prop extends TopExt e e' where
  get0 : depth = 0 → ∀ k v, envGet e k = some v → envGet e' k = some v

theorem FrameExt.refl (f : Frame) : FrameExt f f := fun _ _ h => h
theorem FrameExt.trans {a b c : Frame} (h1 : FrameExt a b) (h2 : FrameExt b c) : FrameExt a c :=
  fun k v h => h2 k v (h1 k v h)
theorem SameBelow.refl (e : List Frame) : SameBelow e e := Or.inl rfl
theorem SameBelow.trans {a b c : List Frame} (h1 : SameBelow a b) (h2 : SameBelow b c) : SameBelow a c := by
  rcases h1 with rfl | ⟨f, rfl⟩
  · exact h2
  · rcases h2 with rfl | ⟨g, rfl⟩
    · exact Or.inr ⟨f, rfl⟩
    · exact Or.inr ⟨g, rfl⟩
theorem TopExt.refl (e : List Frame) : TopExt e e :=
  ⟨SameBelow.refl e, FrameExt.refl _, fun _ h => Or.inl h⟩
theorem TopExt.trans {a b c : List Frame} (h1 : TopExt a b) (h2 : TopExt b c) : TopExt a c :=
  ⟨h1.below.trans h2.below, h1.top.trans h2.top, fun k h => (h2.fresh k h).elim (h1.fresh k) Or.inr⟩
theorem EnvExt.refl (e : List Frame) : EnvExt e e := ⟨TopExt.refl e, fun _ _ h => h⟩
theorem EnvExt.trans {a b c : List Frame} (h1 : EnvExt a b) (h2 : EnvExt b c) : EnvExt a c :=
  ⟨h1.toTopExt.trans h2.toTopExt, fun k v h => h2.get k v (h1.get k v h)⟩
theorem ExtD.refl (d : Nat) (e : List Frame) : ExtD d e e := ⟨TopExt.refl e, fun _ _ _ h => h⟩
theorem ExtD.trans {d : Nat} {a b c : List Frame} (h1 : ExtD d a b) (h2 : ExtD d b c) : ExtD d a c :=
  ⟨h1.toTopExt.trans h2.toTopExt, fun hd k v h => h2.get0 hd k v (h1.get0 hd k v h)⟩
theorem ExtD.toEnvExt {a b : List Frame} (h : ExtD 0 a b) : EnvExt a b := ⟨h.toTopExt, h.get0 rfl⟩

theorem SameBelow.insert (e : List Frame) (n : String) (v : Value) : SameBelow e (envInsert e n v) := by
  cases e with
  | nil => exact Or.inr ⟨_, rfl⟩
  | cons f r => exact Or.inr ⟨_, rfl⟩

theorem TopExt.insert (e : List Frame) (n : String) (v : Value)
    (h : lookupAL n (e.headD []) = none) (ha : Assignable n) : TopExt e (envInsert e n v) := by
  refine ⟨SameBelow.insert e n v, ?_, ?_⟩
  · cases e with
    | nil => intro k w hk; simp [lookupAL] at hk
    | cons f r =>
      intro k w hk
      simp only [envInsert, List.headD_cons] at hk h ⊢
      by_cases hkn : k = n
      · subst hkn; rw [h] at hk; cases hk
      · rw [lookupAL_insertAL_ne n k v hkn]; exact hk
  · intro k hk
    by_cases hkn : k = n
    · subst hkn; exact Or.inr ha
    · left
      cases e with
      | nil => simp [envInsert, lookupAL, Ne.symm hkn] at hk
      | cons f r =>
        simp only [envInsert, List.headD_cons] at hk ⊢
        rw [lookupAL_insertAL_ne n k v hkn] at hk; exact hk

theorem envGet_insert_of_not_contains (e : List Frame) (n : String) (v : Value)
    (h : envContains e n = false) : ∀ k w, envGet e k = some w → envGet (envInsert e n v) k = some w := by
  intro k w hk
  have hkn : k ≠ n := by
    intro e'; subst e'; simp [envContains, hk] at h
  rw [envGet_envInsert, if_neg hkn]; exact hk

theorem alreadyDefined_false_top {depth : Nat} {e : List Frame} {n : String}
    (h : alreadyDefined depth e n = false) : lookupAL n (e.headD []) = none := by
  unfold alreadyDefined at h
  split at h
  · cases e with
    | nil => rfl
    | cons f r => simpa using h
  · cases e with
    | nil => rfl
    | cons f r =>
      simp only [envContains, envGet, List.headD_cons] at h ⊢
      cases hl : lookupAL n f with
      | none => rfl
      | some w => rw [hl] at h; simp at h

theorem ExtD.insert (depth : Nat) (e : List Frame) (n : String) (v : Value)
    (h : alreadyDefined depth e n = false) (ha : Assignable n) : ExtD depth e (envInsert e n v) := by
  refine ⟨TopExt.insert e n v (alreadyDefined_false_top h) ha, ?_⟩
  intro hd
  subst hd
  exact envGet_insert_of_not_contains e n v (by simpa [alreadyDefined] using h)

theorem SameBelow.of_ext {a b : List Frame} (h : TopExt a b) : SameBelow a b := h.below

theorem SameBelow.drop_push {e e' : List Frame} (h : SameBelow ([] :: e) e') : e'.drop 1 = e := by
  rcases h with rfl | ⟨f, rfl⟩ <;> rfl

theorem ExtD.of_eq {d : Nat} {e e' : List Frame} (h : e' = e) : ExtD d e e' := h ▸ .refl d e

theorem SameBelow.assignIn (k : Nat) (x : String) (v : Value) (s : ES) :
    SameBelow s.env (assignIn k x v s).env := assignIn_env k x v s ▸ .insert ..

theorem ExtD.assignIn {d : Nat} {s : ES} {x : String} (h : alreadyDefined d s.env x = false)
    (ha : Assignable x) (k : Nat) (v : Value) : ExtD d s.env (assignIn k x v s).env :=
  assignIn_env k x v s ▸ .insert d _ x v h ha

theorem ExtD.keeps (d : Nat) : Keeps fun s s' => ExtD d s.env s'.env := ⟨fun _ => .refl _ _, .trans⟩
theorem SameBelow.keeps : Keeps fun s s' => SameBelow s.env s'.env := ⟨fun _ => .refl _, .trans⟩

structure EnvStep (ops : NumOps) (n : Nat) : Prop where
  eval : ∀ d e s, ExtD d s.env (eval ops n d e s).2.env
  evalList : ∀ d es s, ExtD d s.env (evalList ops n d es s).2.env
  evalItems : ∀ d is s, ExtD d s.env (evalItems ops n d is s).2.env
  evalEntries : ∀ d es acc s, ExtD d s.env (evalEntries ops n d es acc s).2.env
  evalDoStmt : ∀ d e s, SameBelow s.env (evalDoStmt ops n d e s).2.env
  evalDo : ∀ d st ret s, SameBelow s.env (evalDo ops n d st ret s).2.env

theorem envStep_zero (ops : NumOps) : EnvStep ops 0 where
  eval _ _ _ := by rw [eval_zero]; exact .refl _ _
  evalList _ _ _ := by rw [evalList_zero]; exact .refl _ _
  evalItems _ _ _ := by rw [evalItems_zero]; exact .refl _ _
  evalEntries _ _ _ _ := by rw [evalEntries_zero]; exact .refl _ _
  evalDoStmt _ _ _ := by rw [evalDoStmt_zero]; exact .refl _
  evalDo _ _ _ _ := by rw [evalDo_zero]; exact .refl _

section step
variable {ops : NumOps} {n : Nat} (ih : EnvStep ops n)
include ih

/-- only an accepted assignment adds a binding, to the innermost frame; a do-block drops the
    frame it pushed, a call or operator hands the environment back -/
theorem env_eval (d e s) : ExtD d s.env (eval ops (n+1) d e s).2.env := by
  have K := ExtD.keeps d
  cases e with
  | num x => rw [eval_num]; exact .refl _ _
  | str x => rw [eval_str]; exact .refl _ _
  | bool b => rw [eval_bool]; exact .refl _ _
  | null => rw [eval_null]; exact .refl _ _
  | builtin x => rw [eval_builtin]; exact .refl _ _
  | ident x => rw [eval_ident]; exact .refl _ _
  | inref f => rw [eval_inref]; exact .refl _ _
  | list items => rw [eval_list]; exact K.bind (ih.evalItems _ _ _) fun _ _ => .refl _ _
  | record es => rw [eval_record]; exact K.bind (ih.evalEntries _ _ _ _) fun _ _ => .refl _ _
  | lambda args body => rw [eval_lambda]; exact K.ite (.refl _ _) (.refl _ _)
  | assign x v =>
    rw [eval_assign]
    split
    · exact .refl _ _
    rename_i hb
    split
    · exact .refl _ _
    rename_i hk
    split
    · exact .refl _ _
    refine K.bindFrom (ih.eval _ _ _) fun val s1 h1 => ?_
    split
    · exact h1
    · rename_i hc
      exact h1.trans (.assignIn (Bool.eq_false_iff.mpr hc)
        ⟨Bool.eq_false_iff.mpr hb, Bool.eq_false_iff.mpr hk⟩ _ _)
  | output e => rw [eval_output]; exact ih.eval _ _ _
  | cond c t el =>
    rw [eval_cond]
    refine K.bind (ih.eval _ _ _) fun v s1 => ?_
    split
    · exact ih.eval _ _ _
    · exact ih.eval _ _ _
    · exact .refl _ _
  | doBlock stmts ret =>
    rw [eval_doBlock]; exact .of_eq (ih.evalDo d stmts ret { s with env := [] :: s.env }).drop_push
  | call f args =>
    rw [eval_call]
    exact K.bind (ih.eval _ _ _) fun _ _ => K.bind (ih.evalList _ _ _) fun _ _ =>
      K.ite (.refl _ _) (.of_eq (callFn_env ..))
  | access e i =>
    rw [eval_access]; exact K.bind (ih.eval _ _ _) fun _ _ => K.bind (ih.eval _ _ _) fun _ _ => .refl _ _
  | dot e f => rw [eval_dot]; exact K.bind (ih.eval _ _ _) fun _ _ => .refl _ _
  | bin op l r =>
    rw [eval_bin]
    exact K.bind (ih.eval _ _ _) fun _ _ => K.bind (ih.eval _ _ _) fun _ _ => .of_eq (evalBin_env ..)
  | un op e => rw [eval_un]; exact K.bind (ih.eval _ _ _) fun _ _ => .refl _ _
  | fact e => rw [eval_fact]; exact K.bind (ih.eval _ _ _) fun _ _ => .refl _ _
  | spread e => rw [eval_spread]; exact K.bind (ih.eval _ _ _) fun _ _ => .refl _ _

theorem env_evalList (d es s) : ExtD d s.env (evalList ops (n+1) d es s).2.env := by
  cases es with
  | nil => rw [evalList_nil]; exact .refl _ _
  | cons e es =>
    rw [evalList_cons]
    exact (ExtD.keeps d).bind (ih.eval _ _ _) fun _ _ => (ExtD.keeps d).bind (ih.evalList _ _ _) fun _ _ => .refl _ _

theorem env_evalItems (d es s) : ExtD d s.env (evalItems ops (n+1) d es s).2.env := by
  rcases es with _ | ⟨⟨l, e, t⟩, es⟩
  · rw [evalItems_nil]; exact .refl _ _
  · rw [evalItems_cons]
    exact (ExtD.keeps d).bind (ih.eval _ _ _) fun _ _ => (ExtD.keeps d).bind (ih.evalItems _ _ _) fun _ _ => .refl _ _

theorem env_evalEntries (d es acc s) : ExtD d s.env (evalEntries ops (n+1) d es acc s).2.env := by
  have K := ExtD.keeps d
  rcases es with _ | ⟨⟨l, k, v, t⟩, es⟩
  · rw [evalEntries_nil]; exact .refl _ _
  · cases k with
    | static k => rw [evalEntries_static]; exact K.bind (ih.eval _ _ _) fun _ _ => ih.evalEntries _ _ _ _
    | dyn ke =>
      rw [evalEntries_dyn]
      refine K.bind (ih.eval _ _ _) fun kv s1 => ?_
      split
      · exact K.bind (ih.eval _ _ _) fun _ _ => ih.evalEntries _ _ _ _
      · exact .refl _ _
    | short x =>
      rw [evalEntries_short]
      split
      · exact ih.evalEntries _ _ _ _
      · exact .refl _ _
    | spread se =>
      rw [evalEntries_spread]
      refine K.bind (ih.eval _ _ _) fun x s1 => ?_
      split <;> exact ih.evalEntries _ _ _ _

/-- a do-block statement may replace a binding of the block's frame -/
theorem env_evalDoStmt (d e s) : SameBelow s.env (evalDoStmt ops (n+1) d e s).2.env := by
  by_cases he : ∃ x v, e = .assign x v
  · obtain ⟨x, v, rfl⟩ := he
    rw [evalDoStmt_assign]
    exact SameBelow.keeps.ite (.refl _) <| SameBelow.keeps.bindFrom (ih.eval _ _ _).below
      fun _ _ h1 => h1.trans (.assignIn ..)
  · rw [evalDoStmt_other _ _ _ _ _ fun x v hx => he ⟨x, v, hx⟩]; exact (ih.eval _ _ _).below

theorem env_evalDo (d st ret s) : SameBelow s.env (evalDo ops (n+1) d st ret s).2.env := by
  rcases ret with ⟨l, e, t⟩
  rcases st with _ | ⟨⟨l', e', t'⟩, rest⟩
  · rw [evalDo_nil]; exact ih.evalDoStmt _ _ _
  · rw [evalDo_cons]; exact SameBelow.keeps.bind (ih.evalDoStmt _ _ _) fun _ _ => ih.evalDo _ _ _ _

theorem envStep_succ : EnvStep ops (n+1) :=
  ⟨env_eval ih, env_evalList ih, env_evalItems ih, env_evalEntries ih, env_evalDoStmt ih, env_evalDo ih⟩

end step

theorem envStep (ops : NumOps) : ∀ n, EnvStep ops n
  | 0 => envStep_zero ops
  | n + 1 => envStep_succ (envStep ops n)

theorem eval_group_ext (ops : NumOps) : ∀ fuel : Nat,
    (∀ depth e s, ExtD depth s.env (eval ops fuel depth e s).2.env) ∧
    (∀ depth es s, ExtD depth s.env (evalList ops fuel depth es s).2.env) ∧
    (∀ depth is s, ExtD depth s.env (evalItems ops fuel depth is s).2.env) ∧
    (∀ depth es acc s, ExtD depth s.env (evalEntries ops fuel depth es acc s).2.env) ∧
    (∀ depth e s, SameBelow s.env (evalDoStmt ops fuel depth e s).2.env) ∧
    (∀ depth stmts ret s, SameBelow s.env (evalDo ops fuel depth stmts ret s).2.env) := fun fuel =>
  have h := envStep ops fuel
  ⟨h.eval, h.evalList, h.evalItems, h.evalEntries, h.evalDoStmt, h.evalDo⟩

theorem eval_extD (ops : NumOps) (fuel depth e s) : ExtD depth s.env (eval ops fuel depth e s).2.env :=
  (eval_group_ext ops fuel).1 depth e s

theorem eval_topExt (ops : NumOps) (fuel depth e s) : TopExt s.env (eval ops fuel depth e s).2.env :=
  (eval_extD ops fuel depth e s).toTopExt

theorem eval_ext (ops : NumOps) (fuel e s) : EnvExt s.env (eval ops fuel 0 e s).2.env :=
  (eval_extD ops fuel 0 e s).toEnvExt

theorem TopExt.get_none {e e' : List Frame} (h : TopExt e e') {n : String} (hn : ¬ Assignable n)
    (hg : envGet e n = none) : envGet e' n = none := by
  rcases h.below with he | ⟨f', he⟩
  · rw [he]; exact hg
  · -- `e' = f' :: e.tail`: below the innermost frame nothing changed, and a key of `f'` is a key
    -- of the old innermost frame (where `n` is not bound, by `hg`) or is assignable (`n` is not)
    have hf := h.fresh n
    rw [he] at hf ⊢
    simp only [List.headD_cons] at hf
    cases e with
    | nil =>
      simp only [envGet, List.tail_nil]
      cases hl : lookupAL n f' with
      | none => rfl
      | some v =>
        rw [hl] at hf
        rcases hf rfl with h1 | h1
        · simp [lookupAL] at h1
        · exact absurd h1 hn
    | cons f r =>
      simp only [envGet, List.tail_cons] at hg ⊢
      cases hl0 : lookupAL n f with
      | some v => rw [hl0] at hg; cases hg
      | none =>
        rw [hl0] at hg
        cases hl : lookupAL n f' with
        | none => exact hg
        | some v =>
          rw [hl] at hf
          rcases hf rfl with h1 | h1
          · simp [hl0] at h1
          · exact absurd h1 hn

theorem SameBelow.single {f : Frame} {e' : List Frame} (h : SameBelow [f] e') : ∃ f', e' = [f'] := by
  rcases h with rfl | ⟨f', rfl⟩
  · exact ⟨f, rfl⟩
  · exact ⟨f', rfl⟩

theorem SameBelow.length {e e' : List Frame} (h : SameBelow e e') (hne : e ≠ []) : e'.length = e.length := by
  rcases h with rfl | ⟨f', rfl⟩
  · rfl
  · cases e with
    | nil => exact absurd rfl hne
    | cons f r => rfl

theorem SameBelow.lt_length {E E' : List Frame} (h : SameBelow E E') {k : Nat} (hk : k < E.length) :
    k < E'.length := by
  have : E ≠ [] := by intro e; subst e; exact absurd hk (Nat.not_lt_zero _)
  rw [h.length this]; exact hk

theorem SameBelow.tail {e e' : List Frame} (h : SameBelow e e') (hne : e ≠ []) : e'.tail = e.tail := by
  rcases h with rfl | ⟨f', rfl⟩ <;> rfl

/-- statements evaluated in order in one state, continuing after failures (a REPL session /
    a program run statement by statement) -/
def runStmts (ops : NumOps) (fuel : Nat) (s : ES) : List Expr → List (Outcome Value) × ES
  | [] => ([], s)
  | e :: es =>
    ((eval ops fuel 0 e s).1 :: (runStmts ops fuel (eval ops fuel 0 e s).2 es).1,
     (runStmts ops fuel (eval ops fuel 0 e s).2 es).2)

theorem runStmts_append (ops : NumOps) (fuel : Nat) : ∀ (pre : List Expr) (s : ES) (post : List Expr),
    runStmts ops fuel s (pre ++ post) =
      ((runStmts ops fuel s pre).1 ++ (runStmts ops fuel (runStmts ops fuel s pre).2 post).1,
       (runStmts ops fuel (runStmts ops fuel s pre).2 post).2)
  | [], s, post => by simp [runStmts]
  | e :: pre, s, post => by
    simp only [List.cons_append, runStmts, runStmts_append ops fuel pre]

/-- `Drv.runSession` is the function the harness compares with the real interpreter -/
theorem runStmts_eq_runSession (ops : NumOps) (fuel : Nat) (s : ES) (stmts : List Expr) :
    runStmts ops fuel s stmts = Drv.runSession ops fuel s stmts := by
  have gen : ∀ (stmts : List Expr) (acc : List (Outcome Value)) (s : ES),
      stmts.foldl (fun (p : List (Outcome Value) × ES) e =>
        (p.1 ++ [(eval ops fuel 0 e p.2).1], (eval ops fuel 0 e p.2).2)) (acc, s)
      = (acc ++ (runStmts ops fuel s stmts).1, (runStmts ops fuel s stmts).2) := by
    intro stmts
    induction stmts with
    | nil => intro acc s; simp [runStmts]
    | cons e es ih => intro acc s; simp [runStmts, ih]
  unfold Drv.runSession
  have := gen stmts [] s
  simp only [List.nil_append] at this
  exact this.symm

theorem runStmts_ext (ops : NumOps) (fuel : Nat) : ∀ (stmts : List Expr) (s : ES),
    EnvExt s.env (runStmts ops fuel s stmts).2.env
  | [], _ => EnvExt.refl _
  | e :: es, s => (eval_ext ops fuel e s).trans (runStmts_ext ops fuel es _)

/-- a total `NumOps` for the examples of Props/C02, C03, C04 -/
def toyOps : NumOps :=
  { add := fun a _ => a, sub := fun a _ => a, mul := fun a _ => a, div := fun a _ => a,
    rem := fun a _ => a, powf := fun a _ => a, sqrt := id, sin := id, cos := id, tan := id,
    asin := id, acos := id, atan := id, ln := id, log10 := id, exp := id, floor := id,
    ceil := id, round := id, trunc := id }

def root0 : ES := { env := [[]], nextId := 1, names := [] }
def it (e : Expr) : Item := .mk [] e none

end Blots
