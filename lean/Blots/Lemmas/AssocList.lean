import Blots.Model.Eval
/-
  The model's association lists (`lookupAL`, `insertAL`: records, frames, scopes) and the
  environment built from them (`envGet`, `envInsert`): what a lookup finds, and what it finds
  after an insert, a filter, an append, a run of inserts.
-/
namespace Blots

theorem lookupAL_append {α} (k : String) : ∀ (a b : List (String × α)),
    lookupAL k (a ++ b) = match lookupAL k a with | some v => some v | none => lookupAL k b
  | [], b => rfl
  | (k', v) :: a, b => by
    by_cases h : k' = k
    · simp only [List.cons_append, lookupAL, if_pos h]
    · simp only [List.cons_append, lookupAL, if_neg h, lookupAL_append k a b]

theorem lookupAL_eq_none_iff {α} (k : String) : ∀ (f : List (String × α)),
    lookupAL k f = none ↔ k ∉ f.map Prod.fst
  | [] => by simp [lookupAL]
  | (k', v) :: f => by
    by_cases h : k' = k
    · simp [lookupAL, h]
    · simp [lookupAL, h, lookupAL_eq_none_iff k f, Ne.symm h]

theorem lookupAL_ne_none_iff {α} (k : String) (f : List (String × α)) :
    lookupAL k f ≠ none ↔ k ∈ f.map Prod.fst := by
  rw [Ne, lookupAL_eq_none_iff, Decidable.not_not]

theorem lookupAL_isSome_iff {α} (k : String) (f : List (String × α)) :
    (lookupAL k f).isSome = true ↔ k ∈ f.map Prod.fst := by
  rw [← lookupAL_ne_none_iff, Option.isSome_iff_ne_none]

theorem lookupAL_mem {α} {k : String} {v : α} : ∀ {f : List (String × α)},
    lookupAL k f = some v → (k, v) ∈ f
  | [], h => nomatch h
  | (k', v') :: f, h => by
    by_cases hk : k' = k
    · rw [lookupAL, if_pos hk] at h; cases h; subst hk; exact List.mem_cons_self
    · rw [lookupAL, if_neg hk] at h; exact List.mem_cons_of_mem _ (lookupAL_mem h)

theorem lookupAL_eq_some_iff {α} {k : String} {v : α} : ∀ {f : List (String × α)},
    (f.map Prod.fst).Nodup → (lookupAL k f = some v ↔ (k, v) ∈ f)
  | [], _ => by simp [lookupAL]
  | (k', v') :: f, hnd => by
    simp only [List.map_cons, List.nodup_cons] at hnd
    refine ⟨lookupAL_mem, fun h => ?_⟩
    rcases List.mem_cons.mp h with e | h
    · cases e; exact if_pos rfl
    · have hk : k' ≠ k := fun e => hnd.1 (e ▸ List.mem_map_of_mem (f := Prod.fst) h)
      rw [lookupAL, if_neg hk]
      exact (lookupAL_eq_some_iff hnd.2).mpr h

/-- the frames of the source are `HashMap`s: the order of the entries must not matter -/
theorem lookupAL_perm {α} {f f' : List (String × α)} (k : String)
    (hnd : (f.map Prod.fst).Nodup) (hp : f.Perm f') : lookupAL k f = lookupAL k f' := by
  have hnd' : (f'.map Prod.fst).Nodup := (hp.map Prod.fst).nodup_iff.mp hnd
  cases h : lookupAL k f with
  | some v =>
    have := (lookupAL_eq_some_iff hnd).mp h
    exact ((lookupAL_eq_some_iff hnd').mpr (hp.mem_iff.mp this)).symm
  | none =>
    have h1 := (lookupAL_eq_none_iff k f).mp h
    have : k ∉ f'.map Prod.fst := fun hm => h1 ((hp.map Prod.fst).mem_iff.mpr hm)
    exact ((lookupAL_eq_none_iff k f').mpr this).symm

theorem lookupAL_filter_key {α} (p : String → Bool) (k : String) : ∀ (l : List (String × α)),
    lookupAL k (l.filter fun kv => p kv.1) = if p k then lookupAL k l else none
  | [] => by simp [lookupAL]
  | (k', v) :: rest => by
    have ih := lookupAL_filter_key p k rest
    by_cases hk : k' = k
    · subst hk
      by_cases hp : p k' = true
      · simp only [List.filter_cons, hp, if_true, lookupAL]
      · simp only [List.filter_cons, hp, Bool.false_eq_true, if_false, ih]
    · by_cases hp : p k' = true
      · simp only [List.filter_cons, hp, if_true, lookupAL, if_neg hk, ih]
      · simp only [List.filter_cons, hp, Bool.false_eq_true, if_false, lookupAL, if_neg hk, ih]

theorem lookupAL_insertAL {α} (x : String) (v : α) (n : String) : ∀ (f : List (String × α)),
    lookupAL n (insertAL x v f) = if n = x then some v else lookupAL n f
  | [] => by
    by_cases h : n = x
    · simp only [insertAL, lookupAL, h, if_true]
    · simp only [insertAL, lookupAL, h, Ne.symm h, if_false]
  | (k, w) :: rest => by
    by_cases hk : k = x
    · subst hk
      by_cases h : n = k
      · simp only [insertAL, lookupAL, h, if_true]
      · simp only [insertAL, lookupAL, h, Ne.symm h, if_true, if_false]
    · simp only [insertAL, hk, if_false, lookupAL, lookupAL_insertAL x v n rest]
      by_cases h : n = x
      · subst h; simp only [hk, if_true, if_false]
      · simp only [h, if_false]

theorem lookupAL_insertAL_self {α} (k : String) (v : α) (f : List (String × α)) :
    lookupAL k (insertAL k v f) = some v := by
  rw [lookupAL_insertAL, if_pos rfl]

theorem lookupAL_insertAL_ne {α} (k k2 : String) (v : α) (hne : k2 ≠ k) (f : List (String × α)) :
    lookupAL k2 (insertAL k v f) = lookupAL k2 f := by
  rw [lookupAL_insertAL, if_neg hne]

theorem lookupAL_insertAL_isSome {α} (k k2 : String) (v : α) (f : List (String × α))
    (h : (lookupAL k2 f).isSome) : (lookupAL k2 (insertAL k v f)).isSome := by
  rw [lookupAL_insertAL]; split
  · rfl
  · exact h

theorem insertAL_fresh {α} (k : String) (v : α) : ∀ (acc : List (String × α)),
    (∀ kv ∈ acc, kv.1 ≠ k) → insertAL k v acc = acc ++ [(k, v)]
  | [], _ => rfl
  | (k', v') :: rest, h => by
    have h1 : k' ≠ k := h (k', v') List.mem_cons_self
    simp only [insertAL, h1, if_false, List.cons_append]
    rw [insertAL_fresh k v rest (fun kv hkv => h kv (List.mem_cons_of_mem _ hkv))]

/-- `IndexMap` order: a present key keeps its place, a new one goes to the end -/
theorem insertAL_keys {α} (k : String) (v : α) : ∀ (f : List (String × α)),
    (insertAL k v f).map Prod.fst = if k ∈ f.map Prod.fst then f.map Prod.fst else f.map Prod.fst ++ [k]
  | [] => by simp [insertAL]
  | (k', v') :: f => by
    by_cases h : k' = k
    · subst h; simp [insertAL]
    · have := insertAL_keys k v f
      simp only [insertAL, h, if_false, List.map_cons, this, List.mem_cons, Ne.symm h, false_or]
      split <;> simp

theorem insertAL_nodup {α} (k : String) (v : α) (f : List (String × α))
    (h : (f.map Prod.fst).Nodup) : ((insertAL k v f).map Prod.fst).Nodup := by
  rw [insertAL_keys]
  split
  · exact h
  · rename_i hk
    rw [List.nodup_append]
    refine ⟨h, by simp, ?_⟩
    intro a ha b hb
    simp at hb; subst hb
    intro e; subst e; exact hk ha

/-- `kvs.reverse`: the last pair with the key wins -/
theorem lookupAL_foldl_insertAL {α} (k : String) : ∀ (kvs f : List (String × α)),
    lookupAL k (kvs.foldl (fun f kv => insertAL kv.1 kv.2 f) f) =
      match lookupAL k kvs.reverse with | some v => some v | none => lookupAL k f
  | [], f => rfl
  | kv :: kvs, f => by
    rw [List.foldl_cons, lookupAL_foldl_insertAL k kvs, List.reverse_cons, lookupAL_append]
    cases lookupAL k kvs.reverse with
    | some v => rfl
    | none =>
      simp only [lookupAL, lookupAL_insertAL]
      by_cases hk : kv.1 = k
      · rw [if_pos hk, if_pos hk.symm]
      · rw [if_neg hk, if_neg (Ne.symm hk)]

theorem lookupAL_foldl_insertAL_of_mem {α} (k : String) (kvs : List (String × α))
    (h : k ∈ kvs.map Prod.fst) :
    ∃ v, ∀ f, lookupAL k (kvs.foldl (fun f kv => insertAL kv.1 kv.2 f) f) = some v := by
  cases hl : lookupAL k kvs.reverse with
  | some v => exact ⟨v, fun f => by rw [lookupAL_foldl_insertAL, hl]⟩
  | none =>
    rw [lookupAL_eq_none_iff, List.map_reverse, List.mem_reverse] at hl
    exact absurd h hl

theorem lookupAL_foldl_insertAL_of_not_mem {α} (k : String) (kvs f : List (String × α))
    (h : k ∉ kvs.map Prod.fst) :
    lookupAL k (kvs.foldl (fun f kv => insertAL kv.1 kv.2 f) f) = lookupAL k f := by
  have : lookupAL k kvs.reverse = none := by
    rw [lookupAL_eq_none_iff, List.map_reverse, List.mem_reverse]; exact h
  rw [lookupAL_foldl_insertAL, this]

theorem envGet_cons (f : Frame) (rest : List Frame) (x : String) :
    envGet (f :: rest) x = match lookupAL x f with | some v => some v | none => envGet rest x := rfl

theorem envGet_push_nil (A : List Frame) (n : String) : envGet ([] :: A) n = envGet A n := rfl

theorem envGet_append (A B : List Frame) (x : String) :
    envGet (A ++ B) x = match envGet A x with | some v => some v | none => envGet B x := by
  induction A with
  | nil => rfl
  | cons f A ih =>
    simp only [List.cons_append, envGet]
    cases lookupAL x f with
    | some v => rfl
    | none => exact ih

theorem envGet_insert (x : String) (v : Value) (f : Frame) (e : List Frame) (n : String) :
    envGet (insertAL x v f :: e) n = if n = x then some v else envGet (f :: e) n := by
  simp only [envGet, lookupAL_insertAL]
  by_cases h : n = x
  · rw [if_pos h, if_pos h]
  · rw [if_neg h, if_neg h]

theorem envGet_envInsert (env : List Frame) (x : String) (v : Value) (n : String) :
    envGet (envInsert env x v) n = if n = x then some v else envGet env n := by
  cases env with
  | nil => exact envGet_insert x v [] [] n
  | cons f rest => exact envGet_insert x v f rest n

theorem envGet_envInsert_self (env : List Frame) (k : String) (v : Value) :
    envGet (envInsert env k v) k = some v := by
  rw [envGet_envInsert, if_pos rfl]

theorem envGet_envInsert_ne (env : List Frame) (k k2 : String) (v : Value) (hne : k2 ≠ k) :
    envGet (envInsert env k v) k2 = envGet env k2 := by
  rw [envGet_envInsert, if_neg hne]

end Blots
