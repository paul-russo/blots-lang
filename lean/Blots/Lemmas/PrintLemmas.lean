import Blots.Lemmas.PrattRoundTrip
/-
  Lemmas about the single-line printer (`Model/Print.lean`, mirror of `ast_to_source.rs`).
  `readString` is a character-level model of the grammar rule
      `string = ${ PUSH("\"" | "'") ~ string_value ~ POP }`,  `string_value = @{ (!PEEK ~ ANY)* }`;
  it reads back every literal `stringToSource` emits (three branches).  `EndsOpen` and
  `ChainExposed` characterise `endsOpen` and `lambdaBodyNeedsParens` inductively.  The comments
  of a do-block are emitted exactly once, in order (`doChunks_comments`).
-/
namespace Blots
namespace PrintL

/-- the grammar rule `string`: an opening quote `q` (either kind), then every character up
    to (not including) the next `q` — `(!PEEK ~ ANY)*` is greedy and cannot skip a `q` —,
    then that `q` (`POP`).  Result: (content, remaining input); `none` = the rule fails. -/
def readString : List Char → Option (List Char × List Char)
  | [] => none
  | q :: cs =>
    if q == '"' || q == '\'' then
      match cs.dropWhile (· != q) with
      | [] => none
      | _ :: rest => some (cs.takeWhile (· != q), rest)
    else none

theorem takeWhile_until (q : Char) (rest : List Char) :
    ∀ s : List Char, q ∉ s → (s ++ q :: rest).takeWhile (· != q) = s
  | [], _ => by simp
  | c :: s, h => by
    have hc : c ≠ q := fun e => h (by simp [e])
    have hs : q ∉ s := fun m => h (List.mem_cons_of_mem _ m)
    simp [hc, takeWhile_until q rest s hs]

theorem dropWhile_until (q : Char) (rest : List Char) :
    ∀ s : List Char, q ∉ s → (s ++ q :: rest).dropWhile (· != q) = q :: rest
  | [], _ => by simp
  | c :: s, h => by
    have hc : c ≠ q := fun e => h (by simp [e])
    have hs : q ∉ s := fun m => h (List.mem_cons_of_mem _ m)
    simp [hc, dropWhile_until q rest s hs]

theorem readString_quoted (q : Char) (hq : q = '"' ∨ q = '\'') (s rest : List Char) (h : q ∉ s) :
    readString (q :: (s ++ q :: rest)) = some (s, rest) := by
  unfold readString
  have : (q == '"' || q == '\'') = true := by rcases hq with rfl | rfl <;> rfl
  simp only [this, if_true, dropWhile_until q rest s h, takeWhile_until q rest s h]

theorem dropWhile_cons_split (q : Char) : ∀ (cs : List Char) (d : Char) (rest' : List Char),
    cs.dropWhile (· != q) = d :: rest' →
    d = q ∧ cs = cs.takeWhile (· != q) ++ q :: rest' ∧ q ∉ cs.takeWhile (· != q)
  | [], d, rest', h => by simp at h
  | c :: cs, d, rest', h => by
    by_cases hc : c = q
    · subst hc
      simp only [List.dropWhile_cons, bne_self_eq_false, Bool.false_eq_true, if_false,
        List.cons.injEq] at h
      simp [h.1.symm, h.2]
    · have hb : (c != q) = true := by simpa using hc
      simp only [List.dropWhile_cons, hb, if_true] at h
      obtain ⟨h1, h2, h3⟩ := dropWhile_cons_split q cs d rest' h
      refine ⟨h1, ?_, ?_⟩
      · simp only [List.takeWhile_cons, hb, if_true, List.cons_append]
        rw [← h2]
      · simp only [List.takeWhile_cons, hb, if_true, List.mem_cons, not_or]
        exact ⟨fun e => hc e.symm, h3⟩

/-- the content never contains the delimiter: the grammar has no escapes, so a literal cannot
    denote a string with its own quote -/
theorem readString_content_free (inp c rest : List Char) (h : readString inp = some (c, rest)) :
    ∃ q, (q = '"' ∨ q = '\'') ∧ inp = q :: (c ++ q :: rest) ∧ q ∉ c := by
  cases inp with
  | nil => simp [readString] at h
  | cons q cs =>
    unfold readString at h
    by_cases hq : (q == '"' || q == '\'') = true
    · simp only [hq, if_true] at h
      cases hd : cs.dropWhile (· != q) with
      | nil => simp [hd] at h
      | cons d rest' =>
        rw [hd] at h
        simp only [Option.some.injEq, Prod.mk.injEq] at h
        obtain ⟨h1, h2⟩ := h
        obtain ⟨_, h4, h5⟩ := dropWhile_cons_split q cs d rest' hd
        subst h1; subst h2
        exact ⟨q, by simpa using hq, by rw [← h4], h5⟩
    · simp [hq] at h

theorem dq_toList : "\"".toList = ['"'] := rfl
theorem sq_toList : "'".toList = ['\''] := rfl

theorem stringToSource_dq (s : String) (h : '"' ∉ s.toList) :
    stringToSource s = "\"" ++ s ++ "\"" := by
  unfold stringToSource
  simp [h]

theorem stringToSource_sq (s : String) (h : '"' ∈ s.toList) (h2 : '\'' ∉ s.toList) :
    stringToSource s = "'" ++ s ++ "'" := by
  unfold stringToSource
  simp [h, h2]

theorem readString_dq (s rest : List Char) (h : '"' ∉ s) :
    readString ((stringToSource (String.ofList s)).toList ++ rest) = some (s, rest) := by
  rw [stringToSource_dq _ (by simpa using h)]
  simp only [String.toList_append, String.toList_ofList, dq_toList, List.cons_append,
    List.nil_append, List.append_assoc]
  exact readString_quoted '"' (Or.inl rfl) s rest h

theorem readString_sq (s rest : List Char) (h1 : '"' ∈ s) (h2 : '\'' ∉ s) :
    readString ((stringToSource (String.ofList s)).toList ++ rest) = some (s, rest) := by
  rw [stringToSource_sq _ (by simpa using h1) (by simpa using h2)]
  simp only [String.toList_append, String.toList_ofList, sq_toList, List.cons_append,
    List.nil_append, List.append_assoc]
  exact readString_quoted '\'' (Or.inr rfl) s rest h2

/-! branch 3: both quote kinds occur → `( piece + piece + … )` -/

/-- the (delimiter, content) pairs of one split piece: the text before a `"` (if non-empty)
    in double quotes, then the `"` itself in single quotes -/
def quotedOf (pq : List Char × Bool) : List (Char × List Char) :=
  (if pq.1.isEmpty then [] else [('"', pq.1)]) ++ (if pq.2 then [('\'', ['"'])] else [])

def quotedPieces (cs : List Char) : List (Char × List Char) := (splitQuotes cs).flatMap quotedOf

def pieces (cs : List Char) : List (List Char) := (quotedPieces cs).map (·.2)

def litOf (qc : Char × List Char) : String := String.ofList (qc.1 :: (qc.2 ++ [qc.1]))

theorem pieceLit_eq (p : List Char) (q : Bool) :
    (if q = true then (if p.isEmpty = true then [] else ["\"" ++ String.ofList p ++ "\""]) ++ ["'\"'"]
      else (if p.isEmpty = true then [] else ["\"" ++ String.ofList p ++ "\""])) =
    (quotedOf (p, q)).map litOf := by
  have e1 : "\"" ++ String.ofList p ++ "\"" = litOf ('"', p) := by
    apply String.toList_inj.mp
    simp [litOf, dq_toList]
  have e2 : "'\"'" = litOf ('\'', ['"']) := rfl
  cases q <;> cases hp : p.isEmpty <;> simp [quotedOf, hp, e1, e2]

theorem stringToSource_both (s : String) (h1 : '"' ∈ s.toList) (h2 : '\'' ∈ s.toList) :
    stringToSource s = "(" ++ " + ".intercalate ((quotedPieces s.toList).map litOf) ++ ")" := by
  unfold stringToSource
  simp only [List.contains_iff_mem.mpr h1, List.contains_iff_mem.mpr h2, Bool.not_true,
    Bool.false_eq_true, if_false]
  have hf : (fun x : List Char × Bool => match x with
        | (p, q) =>
          if q = true then (if p.isEmpty = true then [] else ["\"" ++ String.ofList p ++ "\""]) ++ ["'\"'"]
          else (if p.isEmpty = true then [] else ["\"" ++ String.ofList p ++ "\""])) =
      fun x => (quotedOf x).map litOf := by
    funext x
    obtain ⟨p, q⟩ := x
    exact pieceLit_eq p q
  simp only [quotedPieces, hf, List.map_flatMap]

def unsplit (l : List (List Char × Bool)) : List Char :=
  l.flatMap fun pq => pq.1 ++ (if pq.2 then ['"'] else [])

theorem unsplit_append (a b) : unsplit (a ++ b) = unsplit a ++ unsplit b := by
  simp [unsplit]

theorem unsplit_go : ∀ (cs cur : List Char) (acc : List (List Char × Bool)),
    unsplit (splitQuotes.go cs cur acc) = unsplit acc.reverse ++ (cur.reverse ++ cs)
  | [], cur, acc => by
    unfold splitQuotes.go
    cases cur with
    | nil => simp
    | cons c cur => simp [unsplit]
  | c :: rest, cur, acc => by
    unfold splitQuotes.go
    by_cases hc : c = '"'
    · subst hc
      simp only [beq_self_eq_true, if_true]
      rw [unsplit_go rest [] _]
      simp [unsplit]
    · simp only [beq_iff_eq, hc, if_false]
      rw [unsplit_go rest (c :: cur) acc]
      simp

theorem unsplit_splitQuotes (cs : List Char) : unsplit (splitQuotes cs) = cs := by
  unfold splitQuotes
  rw [unsplit_go]
  simp [unsplit]

theorem go_noquote : ∀ (cs cur : List Char) (acc : List (List Char × Bool)),
    (∀ pq ∈ acc, '"' ∉ pq.1) → '"' ∉ cur → ∀ pq ∈ splitQuotes.go cs cur acc, '"' ∉ pq.1
  | [], cur, acc, ha, hc => by
    unfold splitQuotes.go
    intro pq hpq
    cases hcur : cur.isEmpty
    · simp only [hcur, Bool.false_eq_true, if_false, List.mem_reverse, List.mem_cons] at hpq
      rcases hpq with rfl | hpq
      · simpa using hc
      · exact ha pq hpq
    · simp only [hcur, if_true, List.mem_reverse] at hpq
      exact ha pq hpq
  | c :: rest, cur, acc, ha, hc => by
    unfold splitQuotes.go
    by_cases hq : c = '"'
    · subst hq
      simp only [beq_self_eq_true, if_true]
      refine go_noquote rest [] _ ?_ (by simp)
      intro pq hpq
      rcases List.mem_cons.mp hpq with rfl | hpq
      · simpa using hc
      · exact ha pq hpq
    · simp only [beq_iff_eq, hq, if_false]
      refine go_noquote rest (c :: cur) acc ha ?_
      intro hm
      rcases List.mem_cons.mp hm with h | h
      · exact hq h.symm
      · exact hc h

theorem splitQuotes_noquote (cs : List Char) : ∀ pq ∈ splitQuotes cs, '"' ∉ pq.1 := by
  unfold splitQuotes
  exact go_noquote cs [] [] (by simp) (by simp)

theorem pieces_flatten (cs : List Char) : (pieces cs).flatten = cs := by
  have : ∀ L : List (List Char × Bool), ((L.flatMap quotedOf).map (·.2)).flatten = unsplit L := by
    intro L
    induction L with
    | nil => rfl
    | cons x L ih =>
      obtain ⟨p, q⟩ := x
      simp only [List.flatMap_cons, List.map_append, List.flatten_append, ih]
      have : unsplit ((p, q) :: L) = (p ++ if q then ['"'] else []) ++ unsplit L := by
        simp [unsplit]
      rw [this]
      congr 1
      cases q <;> cases hp : p.isEmpty <;> simp [quotedOf, hp]
      all_goals simpa using hp
  unfold pieces quotedPieces
  rw [this, unsplit_splitQuotes]

theorem quotedPieces_ok (cs : List Char) :
    ∀ qc ∈ quotedPieces cs, (qc.1 = '"' ∨ qc.1 = '\'') ∧ qc.1 ∉ qc.2 := by
  intro qc hqc
  unfold quotedPieces at hqc
  obtain ⟨pq, hpq, hin⟩ := List.mem_flatMap.mp hqc
  have hn := splitQuotes_noquote cs pq hpq
  unfold quotedOf at hin
  rcases List.mem_append.mp hin with h | h
  · split at h
    · cases h
    · rw [List.mem_singleton] at h; subst h; exact ⟨Or.inl rfl, hn⟩
  · split at h
    · rw [List.mem_singleton] at h; subst h; exact ⟨Or.inr rfl, by decide⟩
    · cases h

theorem litOf_reads (qc : Char × List Char) (hq : qc.1 = '"' ∨ qc.1 = '\'') (hf : qc.1 ∉ qc.2)
    (rest : List Char) : readString ((litOf qc).toList ++ rest) = some (qc.2, rest) := by
  unfold litOf
  simp only [String.toList_ofList, List.cons_append, List.append_assoc, List.nil_append]
  exact readString_quoted qc.1 hq qc.2 rest hf

theorem quotedPieces_ne_nil (cs : List Char) (h : '"' ∈ cs) : quotedPieces cs ≠ [] := by
  intro he
  have h1 := pieces_flatten cs
  simp [pieces, he] at h1
  subst h1
  cases h

theorem formatRecordKey_ident (k : String) (h : isValidIdentifier k = true) :
    formatRecordKey k = k := by
  unfold formatRecordKey; simp [h]

theorem formatRecordKey_string (k : String) (h : isValidIdentifier k = false)
    (hq : ¬ ('"' ∈ k.toList ∧ '\'' ∈ k.toList)) : formatRecordKey k = stringToSource k := by
  unfold formatRecordKey
  simp only [h, Bool.false_eq_true, if_false]
  have : (k.toList.contains '"' && k.toList.contains '\'') = false := by
    cases h1 : k.toList.contains '"' <;> cases h2 : k.toList.contains '\'' <;> simp
    exact hq ⟨List.contains_iff_mem.mp h1, List.contains_iff_mem.mp h2⟩
  simp only [this, Bool.not_false, if_true]

theorem formatRecordKey_computed (k : String) (h : isValidIdentifier k = false)
    (h1 : '"' ∈ k.toList) (h2 : '\'' ∈ k.toList) :
    formatRecordKey k = "[" ++ stringToSource k ++ "]" := by
  unfold formatRecordKey
  simp [h, h1, h2]

theorem formatRecordKey_reads (k : String) (h : isValidIdentifier k = false)
    (hq : ¬ ('"' ∈ k.toList ∧ '\'' ∈ k.toList)) (rest : List Char) :
    readString ((formatRecordKey k).toList ++ rest) = some (k.toList, rest) := by
  rw [formatRecordKey_string k h hq]
  have e : k = String.ofList k.toList := String.ofList_toList.symm
  by_cases h1 : '"' ∈ k.toList
  · have h2 : '\'' ∉ k.toList := fun h2 => hq ⟨h1, h2⟩
    have := readString_sq k.toList rest h1 h2
    rwa [← e] at this
  · have := readString_dq k.toList rest h1
    rwa [← e] at this

theorem isValidIdentifier_spec (k : String) (h : isValidIdentifier k = true) :
    k ∉ Gen.printerReserved ∧
    ∃ c rest, k.toList = c :: rest ∧ (isAsciiAlpha c = true ∨ c = '_') ∧
      ∀ d ∈ rest, isAsciiAlpha d = true ∨ isAsciiDigit d = true ∨ d = '_' := by
  unfold isValidIdentifier at h
  split at h
  · cases h
  · rename_i c rest hk
    simp only [Bool.and_eq_true, Bool.not_eq_true', Bool.or_eq_true, beq_iff_eq,
      List.all_eq_true] at h
    refine ⟨?_, c, rest, hk, h.1.2, fun d hd => ?_⟩
    · intro hm
      have := List.contains_iff_mem.mpr hm
      rw [h.1.1] at this; cases this
    · rcases h.2 d hd with (h | h) | h
      · exact Or.inl h
      · exact Or.inr (Or.inl h)
      · exact Or.inr (Or.inr h)

theorem reserved_lists_agree : Gen.printerReserved = Gen.grammarReserved := by decide

theorem parenIf_toList (b : Bool) (s : String) :
    (parenIf b s).toList = if b then '(' :: (s.toList ++ [')']) else s.toList := by
  cases b <;> simp [parenIf]

theorem fmtSpelling_eq_opSpelling (op : BinOp) : fmtSpelling op = opSpelling op := by
  cases op <;> decide +kernel

theorem protectDecide_paren (cs : List Char) : protectDecide ('(' :: cs) = false := by
  simp [protectDecide, wordOperatorStart, List.isPrefixOf]

theorem protectDecide_false {cs : List Char} (h : protectDecide cs = false) :
    cs.head? ≠ some '-' ∧ wordOperatorStart cs = false := by
  simp only [protectDecide, Bool.or_eq_false_iff, beq_eq_false_iff_ne, ne_eq] at h
  exact h

theorem protectStatementStart_head (s : String) :
    (protectStatementStart s).toList.head? ≠ some '-' := by
  unfold protectStatementStart
  split
  · simp
  · rename_i h
    exact (protectDecide_false (by simpa using h)).1

theorem protectStatementStart_word (s : String) :
    wordOperatorStart (protectStatementStart s).toList = false := by
  unfold protectStatementStart
  split
  · simp [wordOperatorStart, List.isPrefixOf]
  · rename_i h
    exact (protectDecide_false (by simpa using h)).2

theorem protectStatementStart_id (s : String) (h : s.toList.head? ≠ some '-')
    (hw : wordOperatorStart s.toList = false) : protectStatementStart s = s := by
  have : protectDecide s.toList = false := by
    simp only [protectDecide, Bool.or_eq_false_iff, beq_eq_false_iff_ne, ne_eq]
    exact ⟨h, hw⟩
  simp [protectStatementStart, this]

theorem protectStatementStart_minus (s : String) (h : s.toList.head? = some '-') :
    protectStatementStart s = "(" ++ s ++ ")" := by
  have : protectDecide s.toList = true := by simp [protectDecide, h]
  simp [protectStatementStart, this]

theorem protectStatementStart_wordStart (s : String) (hw : wordOperatorStart s.toList = true) :
    protectStatementStart s = "(" ++ s ++ ")" := by
  have : protectDecide s.toList = true := by simp [protectDecide, hw]
  simp [protectStatementStart, this]

/-- the rightmost leaf along bin-right / unary-operand edges is a lambda, conditional,
    assignment or output -/
inductive EndsOpen : Expr → Prop
  | lambda (a b) : EndsOpen (.lambda a b)
  | cond (c t e) : EndsOpen (.cond c t e)
  | assign (n v) : EndsOpen (.assign n v)
  | output (e) : EndsOpen (.output e)
  | binRight (op l) {r} : EndsOpen r → EndsOpen (.bin op l r)
  | unOperand (op) {e} : EndsOpen e → EndsOpen (.un op e)

theorem endsOpen_iff : ∀ e : Expr, endsOpen e = true ↔ EndsOpen e := by
  intro e
  constructor
  · fun_induction endsOpen e with
    | case1 a b => exact fun _ => .lambda a b
    | case2 c t e => exact fun _ => .cond c t e
    | case3 n v => exact fun _ => .assign n v
    | case4 e => exact fun _ => .output e
    | case5 op l r ih => exact fun h => .binRight op l (ih h)
    | case6 op e ih => exact fun h => .unOperand op (ih h)
    | case7 => intro h; cases h
  · intro h
    induction h with
    | binRight _ _ _ ih => exact ih
    | unOperand _ _ ih => exact ih
    | _ => rfl

theorem endsOpen_needsParens (c : Expr) (op : BinOp) (h : endsOpen c = true) :
    needsParens c (.binLeft op) = true ∧ needsParens c .postfix_ = true := by
  constructor <;> (unfold needsParens; simp [h])

/-- the left spine of loosest-level binary operators reaches a `via` / `into` / `where` -/
inductive ChainExposed : Expr → Prop
  | via (l r) : ChainExposed (.bin .via l r)
  | into (l r) : ChainExposed (.bin .into l r)
  | where_ (l r) : ChainExposed (.bin .where_ l r)
  | left {op l} (r) : (opInfo op).1 = (opInfo .via).1 → ChainExposed l → ChainExposed (.bin op l r)

theorem lambdaBodyNeedsParens_bin (op : BinOp) (l r : Expr) :
    lambdaBodyNeedsParens (.bin op l r) =
      (op == .via || op == .into || op == .where_ ||
        ((opInfo op).1 == (opInfo .via).1 && lambdaBodyNeedsParens l)) := by
  simp only [lambdaBodyNeedsParens]

theorem lambdaBodyNeedsParens_iff : ∀ e : Expr, lambdaBodyNeedsParens e = true ↔ ChainExposed e := by
  intro e
  constructor
  · fun_induction lambdaBodyNeedsParens e with
    | case1 op l r ih =>
      intro h
      simp only [Bool.or_eq_true, Bool.and_eq_true, beq_iff_eq] at h
      rcases h with ((rfl | rfl) | rfl) | ⟨h1, h2⟩
      · exact .via l r
      · exact .into l r
      · exact .where_ l r
      · exact .left r h1 (ih h2)
    | case2 => intro h; cases h
  · intro h
    induction h with
    | left r h1 _ ih => rw [lambdaBodyNeedsParens_bin, ih, beq_iff_eq.mpr h1]; simp
    | _ => rfl

/-- which operators share the level of `via` (evaluated over the generated table): exactly
    `&&`, `and`, `||`, `or`, `via`, `into`, `where`; and no operator is looser -/
def chainLevelOk (op : BinOp) : Bool :=
  (decide ((opInfo op).1 = (opInfo .via).1) ==
    [BinOp.and, .nand, .or, .nor, .via, .into, .where_].contains op) &&
  decide ((opInfo .via).1 ≤ (opInfo op).1)

theorem all_chainLevelOk : BinOp.all.all chainLevelOk = true := by decide +kernel

theorem chain_level (op : BinOp) :
    ((opInfo op).1 = (opInfo .via).1 ↔ op ∈ [BinOp.and, .nand, .or, .nor, .via, .into, .where_]) ∧
    (opInfo .via).1 ≤ (opInfo op).1 := by
  have h := List.all_eq_true.mp all_chainLevelOk op (PrattRT.BinOp.mem_all op)
  simp only [chainLevelOk, Bool.and_eq_true, beq_iff_eq, decide_eq_true_eq] at h
  refine ⟨?_, h.2⟩
  rw [← List.contains_iff_mem, ← h.1]
  simp

theorem numberToSource_inf (x : F64) (h1 : x.isInf = true) (h2 : x.neg = false) :
    numberToSource x = "1e999" := by
  unfold numberToSource; simp [h1, h2]

theorem numberToSource_int (x : F64) (h0 : ¬ (x.isInf = true ∧ x.neg = false))
    (h1 : x.isIntegral = true) (h2 : F64.flt x.abs f64_1e15 = true) :
    numberToSource x = x.toFixed 0 := by
  unfold numberToSource
  have : (x.isInf && !x.neg) = false := by
    cases hi : x.isInf <;> cases hn : x.neg <;> simp
    exact h0 ⟨hi, hn⟩
  simp [this, h1, h2]

theorem numberToSource_other (x : F64) (h0 : ¬ (x.isInf = true ∧ x.neg = false))
    (h1 : ¬ (x.isIntegral = true ∧ F64.flt x.abs f64_1e15 = true)) :
    numberToSource x = x.toDisplay := by
  unfold numberToSource
  have : (x.isInf && !x.neg) = false := by
    cases hi : x.isInf <;> cases hn : x.neg <;> simp
    exact h0 ⟨hi, hn⟩
  have h3 : (x.isIntegral && F64.flt x.abs f64_1e15) = false := by
    cases hi : x.isIntegral <;> cases hn : F64.flt x.abs f64_1e15 <;> simp
    exact h1 ⟨hi, hn⟩
  simp [this, h3]

/-! the characters of a printed number: each satisfies `p`, for every `p` true of the digits, of
  `.`, of the letters of `NaN`, `inf` and `1e999`, and of `-` when the sign bit is set -/

section numChars
variable (p : Char → Bool)

theorem all_append (a b : String) :
    (a ++ b).toList.all p = (a.toList.all p && b.toList.all p) := by
  simp only [String.toList_append, List.all_append]

theorem all_sub {s : String} (h : s.toList.all p = true) {l : List Char}
    (hl : ∀ c ∈ l, c ∈ s.toList) : (String.ofList l).toList.all p = true := by
  simp only [String.toList_ofList, List.all_eq_true] at h ⊢
  exact fun c hc => h c (hl c hc)

theorem all_sign (x : F64) (hs : x.neg = true → p '-' = true) :
    (if x.neg = true then "-" else "").toList.all p = true := by
  split
  · rename_i hn
    show (['-'].all p) = true
    rw [List.all_cons, hs hn]; rfl
  · rfl

theorem all_nonFinite (hl : ".NaNinfe".toList.all p = true) (x : F64)
    (hs : x.neg = true → p '-' = true) :
    "NaN".toList.all p = true ∧ (if x.neg = true then "-inf" else "inf").toList.all p = true := by
  have h : p '.' = true ∧ p 'N' = true ∧ p 'a' = true ∧ p 'i' = true ∧ p 'n' = true ∧
      p 'f' = true ∧ p 'e' = true := by
    have : (['.', 'N', 'a', 'N', 'i', 'n', 'f', 'e'].all p) = true := hl
    simp only [List.all_cons, List.all_nil, Bool.and_true, Bool.and_eq_true] at this
    exact ⟨this.1, this.2.1, this.2.2.1, this.2.2.2.2.1, this.2.2.2.2.2.1, this.2.2.2.2.2.2.1,
      this.2.2.2.2.2.2.2⟩
  refine ⟨?_, ?_⟩
  · show (['N', 'a', 'N'].all p) = true
    simp only [List.all_cons, List.all_nil, h.2.1, h.2.2.1, Bool.and_self]
  · split
    · rename_i hn
      show (['-', 'i', 'n', 'f'].all p) = true
      simp only [List.all_cons, List.all_nil, hs hn, h.2.2.2.1, h.2.2.2.2.1, h.2.2.2.2.2.1,
        Bool.and_self]
    · show (['i', 'n', 'f'].all p) = true
      simp only [List.all_cons, List.all_nil, h.2.2.2.1, h.2.2.2.2.1, h.2.2.2.2.2.1, Bool.and_self]

variable (hd : ∀ c, c.isDigit = true → p c = true)
include hd

theorem all_natDigits (n : Nat) : (F64.natDigits n).toList.all p = true := by
  simp only [F64.natDigits, Nat.toString_eq_repr, Nat.repr_eq_ofList_toDigits,
    String.toList_ofList, List.all_eq_true]
  exact fun c h => hd c (Nat.isDigit_of_mem_toDigits (by decide) (by decide) h)

theorem all_zeros (n : Nat) : (F64.zeros n).toList.all p = true := by
  simp only [F64.zeros, String.toList_ofList, List.all_eq_true, List.mem_replicate]
  rintro c ⟨_, rfl⟩
  exact hd '0' (by decide)

theorem all_positional (hdot : p '.' = true) (ds : String) (e : Int)
    (h : ds.toList.all p = true) : (F64.positional ds e).toList.all p = true := by
  have h1 : ".".toList.all p = true := by
    show (['.'].all p) = true
    rw [List.all_cons, hdot]; rfl
  have h2 : "0.".toList.all p = true := by
    show (['0', '.'].all p) = true
    rw [List.all_cons, List.all_cons, hd '0' (by decide), hdot]; rfl
  unfold F64.positional
  split
  · rw [all_append, h, all_zeros p hd]; rfl
  · simp only []
    split
    · rw [all_append, all_append, h1, all_sub p h fun _ => List.mem_of_mem_take,
        all_sub p h fun _ => List.mem_of_mem_drop]
      rfl
    · rw [all_append, all_append, h2, all_zeros p hd, h]; rfl

variable (hl : ".NaNinfe".toList.all p = true) (x : F64) (hs : x.neg = true → p '-' = true)
include hl hs

theorem all_toDisplay : x.toDisplay.toList.all p = true := by
  have hdot : p '.' = true := by
    have : (['.', 'N', 'a', 'N', 'i', 'n', 'f', 'e'].all p) = true := hl
    rw [List.all_cons, Bool.and_eq_true] at this
    exact this.1
  unfold F64.toDisplay
  split
  · exact (all_nonFinite p hl x hs).1
  · split
    · exact (all_nonFinite p hl x hs).2
    · simp only []
      split
      · rw [all_append, all_sign p x hs]
        show (true && ['0'].all p) = true
        rw [List.all_cons, hd '0' (by decide)]; rfl
      · rw [all_append, all_sign p x hs,
          all_positional p hd hdot _ _ (all_natDigits p hd _)]
        rfl

theorem all_toFixed0 : (x.toFixed 0).toList.all p = true := by
  unfold F64.toFixed
  split
  · exact (all_nonFinite p hl x hs).1
  · split
    · exact (all_nonFinite p hl x hs).2
    · simp only [if_true]
      rw [all_append, all_sign p x hs]
      split
      · rw [all_append, all_zeros p hd, all_natDigits p hd]; rfl
      · rw [all_natDigits p hd]; rfl

theorem all_numberToSource : (numberToSource x).toList.all p = true := by
  unfold numberToSource
  split
  · have he : p 'e' = true := by
      have : (['.', 'N', 'a', 'N', 'i', 'n', 'f', 'e'].all p) = true := hl
      simp only [List.all_cons, List.all_nil, Bool.and_true, Bool.and_eq_true] at this
      exact this.2.2.2.2.2.2.2
    show (['1', 'e', '9', '9', '9'].all p) = true
    simp only [List.all_cons, List.all_nil, hd '1' (by decide), hd '9' (by decide), he,
      Bool.and_self]
  · split
    · exact all_toFixed0 p hd hl x hs
    · exact all_toDisplay p hd hl x hs

end numChars

theorem numberToSource_no_minus (x : F64) (hn : x.neg = false) :
    '-' ∉ (numberToSource x).toList := by
  have := all_numberToSource (fun c => c != '-') (fun c h => by
    simp only [bne_iff_ne, ne_eq]; rintro rfl; exact absurd h (by decide)) (by decide) x
    (fun h => by rw [hn] at h; cases h)
  intro hm
  simpa using List.all_eq_true.mp this _ hm

/-- a piece of emitted text: a comment copied from the tree, or anything else -/
inductive Chunk where
  | comment : String → Chunk
  | code : String → Chunk

def Chunk.text : Chunk → String
  | .comment c => c
  | .code s => s

def Chunk.comment? : Chunk → Option String
  | .comment c => some c
  | .code _ => none

def joinChunks (l : List Chunk) : String := String.join (l.map Chunk.text)

def leadChunks : List String → List Chunk
  | [] => []
  | c :: cs => .code "\n  " :: .comment c :: leadChunks cs

def trailChunks : Option String → List Chunk
  | some t => [.code "  ", .comment t]
  | none => []

def stmtChunks (sc : Scope) : Item → List Chunk
  | .mk lead e tr =>
    leadChunks lead ++ [.code ("\n  " ++ protectStatementStart (exprSrc sc e))] ++ trailChunks tr

def stmtsChunks (sc : Scope) : List Item → List Chunk
  | [] => []
  | i :: rest => stmtChunks sc i ++ stmtsChunks (scopeAfterStmt sc i) rest

def retChunks (sc : Scope) : Item → List Chunk
  | .mk lead e _ => leadChunks lead ++ [.code ("\n  return " ++ exprSrc sc e ++ "\n}")]

def doChunks (sc : Scope) (stmts : List Item) (ret : Item) : List Chunk :=
  .code "do {" :: (stmtsChunks sc stmts ++ retChunks (scopeAfterStmts sc stmts) ret)

def stmtComments : Item → List String
  | .mk lead _ tr => lead ++ tr.toList

/-- the comments of a do-block in source order: those of its statements, last the leading
    comments of the `return` (the parser never gives the `return` item a trailing comment:
    `None` at the `Rule::return_statement` arm of `pairs_to_expr_inner`) -/
def doComments (stmts : List Item) (ret : Item) : List String :=
  stmts.flatMap stmtComments ++ ret.leading

theorem joinChunks_nil : joinChunks [] = "" := rfl

theorem comment?_code (s : String) : Chunk.comment? (.code s) = none := rfl
theorem comment?_comment (s : String) : Chunk.comment? (.comment s) = some s := rfl

theorem filterMap_code (s : String) (l : List Chunk) :
    (Chunk.code s :: l).filterMap Chunk.comment? = l.filterMap Chunk.comment? :=
  List.filterMap_cons_none rfl
theorem filterMap_comment (s : String) (l : List Chunk) :
    (Chunk.comment s :: l).filterMap Chunk.comment? = s :: l.filterMap Chunk.comment? :=
  List.filterMap_cons_some rfl

theorem joinChunks_append (a b : List Chunk) : joinChunks (a ++ b) = joinChunks a ++ joinChunks b := by
  apply String.toList_inj.mp
  simp [joinChunks, String.toList_join]

theorem joinChunks_cons (c : Chunk) (l : List Chunk) : joinChunks (c :: l) = c.text ++ joinChunks l := by
  apply String.toList_inj.mp
  simp [joinChunks, String.toList_join]

theorem commentLines_chunks : ∀ cs : List String, commentLines cs = joinChunks (leadChunks cs)
  | [] => rfl
  | c :: cs => by
    have ih := commentLines_chunks cs
    apply String.toList_inj.mp
    have ih' := congrArg String.toList ih
    simp only [commentLines, joinChunks, String.toList_join] at ih' ⊢
    simp [leadChunks, Chunk.text, ih']

theorem stmtSrc_chunks (sc : Scope) (i : Item) : stmtSrc sc i = joinChunks (stmtChunks sc i) := by
  obtain ⟨lead, e, tr⟩ := i
  cases tr <;>
  simp only [stmtSrc, stmtChunks, trailChunks, joinChunks_append, joinChunks_cons, joinChunks_nil,
    Chunk.text, commentLines_chunks, String.append_empty, String.append_assoc]

theorem doStmtsSrc_chunks : ∀ (stmts : List Item) (sc : Scope),
    doStmtsSrc sc stmts = joinChunks (stmtsChunks sc stmts)
  | [], _ => by simp only [doStmtsSrc, stmtsChunks, joinChunks_nil]
  | i :: rest, sc => by
    simp only [doStmtsSrc, stmtsChunks, joinChunks_append, stmtSrc_chunks,
      doStmtsSrc_chunks rest (scopeAfterStmt sc i)]

theorem retSrc_chunks (sc : Scope) (r : Item) : retSrc sc r = joinChunks (retChunks sc r) := by
  obtain ⟨lead, e, tr⟩ := r
  simp only [retSrc, retChunks, joinChunks_append, joinChunks_cons, joinChunks_nil, Chunk.text,
    commentLines_chunks, String.append_empty, String.append_assoc]

theorem doBlock_chunks (sc : Scope) (stmts : List Item) (ret : Item) :
    exprSrc sc (.doBlock stmts ret) = joinChunks (doChunks sc stmts ret) := by
  simp only [exprSrc, doChunks, joinChunks_cons, joinChunks_append, Chunk.text,
    doStmtsSrc_chunks, retSrc_chunks, String.append_assoc]

theorem leadChunks_comments : ∀ cs : List String, (leadChunks cs).filterMap Chunk.comment? = cs
  | [] => rfl
  | c :: cs => by
    simp only [leadChunks, filterMap_code, filterMap_comment, leadChunks_comments cs]

theorem stmtChunks_comments (sc : Scope) (i : Item) :
    (stmtChunks sc i).filterMap Chunk.comment? = stmtComments i := by
  obtain ⟨lead, e, tr⟩ := i
  cases tr <;>
    simp [stmtChunks, stmtComments, trailChunks, List.filterMap_append, leadChunks_comments,
      filterMap_code, filterMap_comment]

theorem stmtsChunks_comments : ∀ (stmts : List Item) (sc : Scope),
    (stmtsChunks sc stmts).filterMap Chunk.comment? = stmts.flatMap stmtComments
  | [], _ => rfl
  | i :: rest, sc => by
    simp only [stmtsChunks, List.filterMap_append, stmtChunks_comments,
      stmtsChunks_comments rest _, List.flatMap_cons]

theorem doChunks_comments (sc : Scope) (stmts : List Item) (ret : Item) :
    (doChunks sc stmts ret).filterMap Chunk.comment? = doComments stmts ret := by
  obtain ⟨lead, e, tr⟩ := ret
  simp only [doChunks, doComments, retChunks, List.filterMap_append, stmtsChunks_comments,
    leadChunks_comments, filterMap_code, Item.leading, List.filterMap_nil, List.append_nil]

theorem foldl_scopeRemove_nil (args : List LArg) :
    args.foldl (fun s a => scopeRemove s a.name) ([] : Scope) = [] := by
  induction args with
  | nil => rfl
  | cons a r ih => simpa [List.foldl, scopeRemove] using ih

theorem scopeAfterStmt_nil (i : Item) : scopeAfterStmt [] i = [] := by
  obtain ⟨l, e, t⟩ := i
  cases e <;> rfl

theorem scopeAfterStmts_nil : ∀ ss : List Item, scopeAfterStmts [] ss = []
  | [] => rfl
  | i :: rest => by
    simp only [scopeAfterStmts, List.foldl_cons, scopeAfterStmt_nil]
    exact scopeAfterStmts_nil rest

end PrintL
end Blots
