import Blots.Lemmas.AggLaws
import Blots.Lemmas.ToyOps
import Mathlib.Tactic.Linarith
import Mathlib.Tactic.Ring
import Mathlib.Tactic.Positivity
import Mathlib.Tactic.NormNum
import Mathlib.Tactic.FieldSimp
import Mathlib.Algebra.Order.Ring.Abs
import Mathlib.Algebra.Order.Field.Basic
import Mathlib.Algebra.BigOperators.Group.List.Basic
/-
  The standard model of floating-point arithmetic as an explicit hypothesis on `NumOps`, and
  the classical forward error bounds of recursive summation / multiplication under it
  (N. Higham, "Accuracy and Stability of Numerical Algorithms", 2nd ed.: model (2.4),
  §3.1 Lemma 3.1, §4.2 (4.4)).

  `NumOps` is an abstract record of float operations: nothing about rounding can be proved
  of it without a hypothesis.  `RoundingModel ops u` is that hypothesis, stated once:

      fl(a op b) = (a op b) · (1 + δ),   |δ| ≤ u,        op ∈ {+, ×, /}

  for finite operands, whenever the computed result is finite (no overflow) and — for `×`
  and `/` only — the exact result did not underflow (`NoUnderflow`: it is zero or at least
  the smallest normal double 2^-1022 in magnitude).  For `+` no underflow condition is
  needed in IEEE-754 arithmetic with gradual underflow: a sum of two doubles that lands in
  the subnormal range is exact (Hauser 1996; Higham §2.8 Problem 2.19), so the model for `+`
  is asked for every finite result.

  The inhabitant meant for the hardware operations (`NumOps.native`) is IEEE-754 binary64
  round-to-nearest with `u = 2^-53`.  That fact is NOT proved here (Lean's `Float` is
  opaque); it is what the harness validates numerically (`harness/src/props/c15.rs` compares
  the built-in results with exact rational sums / products).  `guardedOps` below is a
  concrete inhabitant for `u = 2^-53` built from the correct-rounding specification
  `F64.ofRatio`, so the structure is not vacuous.
-/
namespace Blots

namespace Rounding

/-- `E n = (1+u)^n − 1`, the accumulated relative error of `n` roundings
    (`E n ≤ γₙ = n·u/(1 − n·u)` when `n·u < 1`, Higham Lemma 3.1) -/
def E (u : ℚ) (n : ℕ) : ℚ := (1 + u) ^ n - 1

theorem E_zero (u : ℚ) : E u 0 = 0 := by simp [E]

theorem E_succ (u : ℚ) (n : ℕ) : E u (n + 1) = (1 + u) * E u n + u := by
  unfold E; ring

theorem E_nonneg {u : ℚ} (hu : 0 ≤ u) (n : ℕ) : 0 ≤ E u n := by
  have : (1 : ℚ) ≤ (1 + u) ^ n := one_le_pow₀ (by linarith)
  unfold E; linarith

theorem E_mono_succ {u : ℚ} (hu : 0 ≤ u) (n : ℕ) : E u n ≤ E u (n + 1) := by
  have h := E_nonneg hu n
  rw [E_succ]; nlinarith

/-- Bernoulli's inequality -/
theorem one_sub_mul_le_pow {u : ℚ} (hu : 0 ≤ u) (hu1 : u ≤ 1) (n : ℕ) :
    1 - (n : ℚ) * u ≤ (1 - u) ^ n := by
  induction n with
  | zero => simp
  | succ m ih =>
    have h1 := mul_le_mul_of_nonneg_right ih (by linarith : (0 : ℚ) ≤ 1 - u)
    have h2 := mul_nonneg (mul_nonneg (Nat.cast_nonneg (α := ℚ) m) hu) hu
    rw [pow_succ]
    push_cast
    linarith

/-- Higham Lemma 3.1 (the bound `γₙ`), because `(1+u)^n (1 − n·u) ≤ ((1+u)(1−u))^n ≤ 1` -/
theorem E_le_gamma {u : ℚ} (hu : 0 ≤ u) (n : ℕ) (hn : (n : ℚ) * u < 1) :
    E u n ≤ (n : ℚ) * u / (1 - (n : ℚ) * u) := by
  rcases Nat.eq_zero_or_pos n with rfl | hpos
  · simp [E]
  have hu1 : u ≤ 1 := by
    have := mul_le_mul_of_nonneg_right (Nat.one_le_cast.mpr hpos : (1 : ℚ) ≤ n) hu
    linarith
  have h1 := mul_le_mul_of_nonneg_left (one_sub_mul_le_pow hu hu1 n)
    (by positivity : (0 : ℚ) ≤ (1 + u) ^ n)
  have h2 : (1 + u) ^ n * (1 - u) ^ n ≤ 1 := by
    rw [← mul_pow]
    exact pow_le_one₀ (mul_nonneg (by linarith) (by linarith)) (by nlinarith [mul_self_nonneg u])
  unfold E
  rw [le_div_iff₀ (by linarith)]
  linarith

theorem abs_one_add_le {u δ : ℚ} (hδ : |δ| ≤ u) : |1 + δ| ≤ 1 + u :=
  (abs_add_le 1 δ).trans (by rw [abs_one]; exact add_le_add_right hδ 1)

theorem rel_error {u δ r fl : ℚ} (hδ : |δ| ≤ u) (hfl : fl = r * (1 + δ)) :
    |fl - r| ≤ u * |r| ∧ |fl| ≤ (1 + u) * |r| := by
  have e : fl - r = δ * r := by rw [hfl]; ring
  rw [e, hfl, abs_mul, abs_mul, mul_comm |r|]
  exact ⟨mul_le_mul_of_nonneg_right hδ (abs_nonneg r),
    mul_le_mul_of_nonneg_right (abs_one_add_le hδ) (abs_nonneg r)⟩

theorem round_step {u δ r R m g fl : ℚ} (hg : 0 ≤ g) (hδ : |δ| ≤ u) (hfl : fl = r * (1 + δ))
    (hr : |r - R| ≤ g * m) (hR : |R| ≤ m) : |fl - R| ≤ (g * (1 + u) + u) * m := by
  have hm : 0 ≤ m := (abs_nonneg R).trans hR
  have e : fl - R = (r - R) * (1 + δ) + R * δ := by rw [hfl]; ring
  have a1 := mul_le_mul hr (abs_one_add_le hδ) (abs_nonneg _) (mul_nonneg hg hm)
  have a2 := mul_le_mul hR hδ (abs_nonneg _) hm
  rw [e]
  refine (abs_add_le _ _).trans ?_
  rw [abs_mul, abs_mul]
  linarith

/-- the step of recursive summation: the partial sum `a'` carries the local error `d₂` and
    the error `d₁` of the rest is relative to `|a'| + S` -/
theorem add_step {u E A S a' d₁ d₂ : ℚ} (hu : 0 ≤ u) (hE : 0 ≤ E) (hS : 0 ≤ S)
    (h1 : d₂ ≤ u * A) (h2 : a' ≤ (1 + u) * A) (h3 : d₁ ≤ E * (a' + S)) :
    d₁ + d₂ ≤ ((1 + u) * E + u) * (A + S) := by
  have h4 := mul_le_mul_of_nonneg_left (add_le_add_right h2 S) hE
  have h5 := mul_nonneg (mul_nonneg hu hE) hS
  have h6 := mul_nonneg hu hS
  linarith

theorem theta_step {u δ θ : ℚ} {n : ℕ} (hu : 0 ≤ u) (hδ : |δ| ≤ u) (hθ : |θ - 1| ≤ E u n) :
    |(1 + δ) * θ - 1| ≤ E u (n + 1) := by
  have h := round_step (E_nonneg hu n) hδ (mul_comm (1 + δ) θ) (by rwa [mul_one]) abs_one.le
  rwa [mul_one, mul_comm (E u n), ← E_succ] at h

theorem abs_sub_le_add {s t c B₁ B₂ : ℚ} (h1 : |s - c| ≤ B₁) (h2 : |t - c| ≤ B₂) :
    |s - t| ≤ B₁ + B₂ := by
  rw [← sub_sub_sub_cancel_right s t c]
  exact (abs_sub _ _).trans (add_le_add h1 h2)

end Rounding

namespace F64

/-- exact value of a finite pattern (sign × numerator / denominator of `F64.ratio`); a
    meaningless number for `±inf` / NaN, which is why every statement below carries
    `isFinite` hypotheses -/
def toRat (x : F64) : ℚ :=
  (if x.neg then -1 else 1) * ((x.ratio.1 : ℚ) / (x.ratio.2 : ℚ))

/-- the start value of `Iterator::sum`, `-0.0`, is worth `0` -/
theorem toRat_negZero : negZero.toRat = 0 := by
  unfold toRat
  rw [ratio_subnormal negZero (by decide)]
  have : negZero.frac = 0 := by decide
  simp only [this, Nat.cast_zero, zero_div, mul_zero]

theorem toRat_zero : zero.toRat = 0 := by
  unfold toRat
  rw [ratio_subnormal zero (by decide)]
  have : zero.frac = 0 := by decide
  simp only [this, Nat.cast_zero, zero_div, mul_zero]

/-- the start value of `Iterator::product`, `1.0`, is worth `1` -/
theorem toRat_one : one.toRat = 1 := by
  unfold toRat
  have hE : one.expField = 1023 := by decide
  have hF : one.frac = 0 := by decide
  have hN : one.neg = false := by decide
  rw [ratio_normal_neg one (by rw [hE]; decide) (by rw [hE]; decide), hE, hF, hN]
  norm_num

theorem isFinite_negZero : negZero.isFinite = true := by decide
theorem isFinite_one : one.isFinite = true := by decide

theorem toRat_ofNat (k : Nat) (hk0 : k ≠ 0) (hk : k < 2 ^ 53) :
    (ofNat k).isFinite = true ∧ (ofNat k).toRat = (k : ℚ) := by
  obtain ⟨j, hj, hneg, hE, hr⟩ := ofNat_fields k hk0 hk
  refine ⟨(not_special_of_expField_ne (by omega)).1, ?_⟩
  unfold toRat
  rw [hneg, hr]
  push_cast
  rw [one_mul, mul_div_assoc, div_self (by positivity), mul_one]

end F64

/-- the exact result `q` of an operation did not underflow: it is zero, or at least the
    smallest normal double `2^-1022` in magnitude.  (Below that, doubles are spaced `2^-1074`
    apart ABSOLUTELY and the relative error of rounding is unbounded:
    `2^-1074 × 0.5` rounds to `0`, relative error `1`.) -/
def NoUnderflow (q : ℚ) : Prop := q = 0 ∨ 1 / 2 ^ 1022 ≤ |q|

/-- the standard model (Higham (2.4)) with unit roundoff `u`, for the operations the
    aggregates use.  Operands finite; computed result finite (no overflow); for `×` and `/`
    the exact result not underflowed.  Then `fl(a op b) = (a op b)(1 + δ)` with `|δ| ≤ u`. -/
structure RoundingModel (ops : NumOps) (u : ℚ) : Prop where
  u_nonneg : 0 ≤ u
  u_lt_one : u < 1
  add : ∀ a b : F64, a.isFinite = true → b.isFinite = true → (ops.add a b).isFinite = true →
    ∃ δ : ℚ, |δ| ≤ u ∧ (ops.add a b).toRat = (a.toRat + b.toRat) * (1 + δ)
  mul : ∀ a b : F64, a.isFinite = true → b.isFinite = true → (ops.mul a b).isFinite = true →
    NoUnderflow (a.toRat * b.toRat) →
    ∃ δ : ℚ, |δ| ≤ u ∧ (ops.mul a b).toRat = (a.toRat * b.toRat) * (1 + δ)
  div : ∀ a b : F64, a.isFinite = true → b.isFinite = true → b.toRat ≠ 0 →
    (ops.div a b).isFinite = true → NoUnderflow (a.toRat / b.toRat) →
    ∃ δ : ℚ, |δ| ≤ u ∧ (ops.div a b).toRat = (a.toRat / b.toRat) * (1 + δ)

def exactSum (ns : List F64) : ℚ := (ns.map F64.toRat).sum
def exactAbsSum (ns : List F64) : ℚ := (ns.map fun x => |x.toRat|).sum
def exactProd (ns : List F64) : ℚ := (ns.map F64.toRat).prod

theorem exactSum_cons (x : F64) (xs : List F64) :
    exactSum (x :: xs) = x.toRat + exactSum xs := by
  unfold exactSum; rw [List.map_cons, List.sum_cons]
theorem exactAbsSum_cons (x : F64) (xs : List F64) :
    exactAbsSum (x :: xs) = |x.toRat| + exactAbsSum xs := by
  unfold exactAbsSum; rw [List.map_cons, List.sum_cons]
theorem exactProd_cons (x : F64) (xs : List F64) :
    exactProd (x :: xs) = x.toRat * exactProd xs := by
  unfold exactProd; rw [List.map_cons, List.prod_cons]

theorem exactSum_perm {ns ms : List F64} (h : ns.Perm ms) : exactSum ns = exactSum ms :=
  (h.map _).sum_eq
theorem exactAbsSum_perm {ns ms : List F64} (h : ns.Perm ms) : exactAbsSum ns = exactAbsSum ms :=
  (h.map _).sum_eq
theorem exactProd_perm {ns ms : List F64} (h : ns.Perm ms) : exactProd ns = exactProd ms :=
  (h.map _).prod_eq

theorem exactAbsSum_nonneg (ns : List F64) : 0 ≤ exactAbsSum ns :=
  List.sum_nonneg fun _ h => by
    obtain ⟨x, _, rfl⟩ := List.mem_map.mp h
    exact abs_nonneg _

theorem abs_exactSum_le (ns : List F64) : |exactSum ns| ≤ exactAbsSum ns := by
  induction ns with
  | nil => simp [exactSum, exactAbsSum]
  | cons x xs ih =>
    rw [exactSum_cons, exactAbsSum_cons]
    exact (abs_add_le _ _).trans (add_le_add le_rfl ih)

/-- every operand is finite and every partial result `f (… (f (f a x₁) x₂) …) xₖ`,
    `0 ≤ k ≤ n`, of the left fold is finite (nothing overflowed, no NaN) -/
def PartialsFinite (f : F64 → F64 → F64) (a : F64) (ns : List F64) : Prop :=
  (∀ x ∈ ns, x.isFinite = true) ∧ ∀ k, k ≤ ns.length → ((ns.take k).foldl f a).isFinite = true

theorem PartialsFinite.cons {f : F64 → F64 → F64} {a x : F64} {xs : List F64}
    (h : PartialsFinite f a (x :: xs)) :
    a.isFinite = true ∧ x.isFinite = true ∧ (f a x).isFinite = true ∧ PartialsFinite f (f a x) xs := by
  obtain ⟨h1, h2⟩ := h
  refine ⟨by simpa using h2 0 (Nat.zero_le _), h1 x (by simp), by simpa using h2 1 (by simp),
    fun y hy => h1 y (by simp [hy]), fun k hk => ?_⟩
  simpa using h2 (k + 1) (by simpa using hk)

theorem PartialsFinite.start {f : F64 → F64 → F64} {a : F64} {ns : List F64}
    (h : PartialsFinite f a ns) : a.isFinite = true := by
  simpa using h.2 0 (Nat.zero_le _)

theorem PartialsFinite.result {f : F64 → F64 → F64} {a : F64} {ns : List F64}
    (h : PartialsFinite f a ns) : (ns.foldl f a).isFinite = true := by
  simpa using h.2 ns.length (Nat.le_refl _)

/-- no multiplication of the left fold underflows: each exact product
    `(computed partial product) × (next factor)` is zero or at least `2^-1022` in magnitude -/
def PartialProductsNoUnderflow (ops : NumOps) (a : F64) (ns : List F64) : Prop :=
  ∀ k (h : k < ns.length), NoUnderflow (((ns.take k).foldl ops.mul a).toRat * (ns[k]).toRat)

theorem PartialProductsNoUnderflow.cons {ops : NumOps} {a x : F64} {xs : List F64}
    (h : PartialProductsNoUnderflow ops a (x :: xs)) :
    NoUnderflow (a.toRat * x.toRat) ∧ PartialProductsNoUnderflow ops (ops.mul a x) xs := by
  exact ⟨h 0 (by simp), fun k hk => h (k + 1) (by simpa using hk)⟩

open Rounding in
/-- recursive summation from an arbitrary start value (Higham (4.4) with the crude constant
    `(1+u)^n − 1`) -/
theorem foldl_add_error {ops : NumOps} {u : ℚ} (M : RoundingModel ops u) :
    ∀ (ns : List F64) (a : F64), PartialsFinite ops.add a ns →
      |(ns.foldl ops.add a).toRat - (a.toRat + exactSum ns)| ≤
        E u ns.length * (|a.toRat| + exactAbsSum ns) := by
  intro ns
  induction ns with
  | nil => intro a _; simp [exactSum, E_zero]
  | cons x xs ih =>
    intro a h
    obtain ⟨ha, hx, hax, hrest⟩ := h.cons
    obtain ⟨δ, hδ, hfl⟩ := M.add a x ha hx hax
    have hu := M.u_nonneg
    -- the local error and the size of the new partial sum
    obtain ⟨h1, h2⟩ := rel_error hδ hfl
    have hA : |a.toRat + x.toRat| ≤ |a.toRat| + |x.toRat| := abs_add_le _ _
    rw [List.foldl_cons, List.length_cons, exactSum_cons, exactAbsSum_cons, E_succ, ← add_assoc,
      ← add_assoc, ← sub_add_sub_cancel _ ((ops.add a x).toRat + exactSum xs)]
    refine (abs_add_le _ _).trans ?_
    rw [add_sub_add_right_eq_sub]
    exact add_step hu (E_nonneg hu _) (exactAbsSum_nonneg xs)
      (h1.trans (mul_le_mul_of_nonneg_left hA hu))
      (h2.trans (mul_le_mul_of_nonneg_left hA (by linarith))) (ih _ hrest)

open Rounding in
/-- recursive multiplication from an arbitrary start value (Higham Lemma 3.1) -/
theorem foldl_mul_error {ops : NumOps} {u : ℚ} (M : RoundingModel ops u) :
    ∀ (ns : List F64) (a : F64), PartialsFinite ops.mul a ns →
      PartialProductsNoUnderflow ops a ns →
      ∃ θ : ℚ, |θ - 1| ≤ E u ns.length ∧
        (ns.foldl ops.mul a).toRat = a.toRat * exactProd ns * θ := by
  intro ns
  induction ns with
  | nil => intro a _ _; exact ⟨1, by simp [E_zero], by simp [exactProd]⟩
  | cons x xs ih =>
    intro a h hnu
    obtain ⟨ha, hx, hax, hrest⟩ := h.cons
    obtain ⟨hnu0, hnurest⟩ := hnu.cons
    obtain ⟨δ, hδ, hfl⟩ := M.mul a x ha hx hax hnu0
    obtain ⟨θ, hθ, hr⟩ := ih (ops.mul a x) hrest hnurest
    refine ⟨(1 + δ) * θ, theta_step M.u_nonneg hδ hθ, ?_⟩
    rw [List.foldl_cons, hr, hfl, exactProd_cons]
    ring

open Rounding in
theorem sum_error {ops : NumOps} {u : ℚ} (M : RoundingModel ops u) (ns : List F64)
    (h : PartialsFinite ops.add F64.negZero ns) :
    |(ns.foldl ops.add F64.negZero).toRat - exactSum ns| ≤ E u ns.length * exactAbsSum ns := by
  have := foldl_add_error M ns F64.negZero h
  simpa [F64.toRat_negZero] using this

open Rounding in
theorem sum_perm_error {ops : NumOps} {u : ℚ} (M : RoundingModel ops u) {ns ms : List F64}
    (hp : ns.Perm ms) (h1 : PartialsFinite ops.add F64.negZero ns)
    (h2 : PartialsFinite ops.add F64.negZero ms) :
    |(ns.foldl ops.add F64.negZero).toRat - (ms.foldl ops.add F64.negZero).toRat| ≤
      2 * E u ns.length * exactAbsSum ns := by
  have e1 := sum_error M ns h1
  have e2 := sum_error M ms h2
  rw [← hp.length_eq, ← exactSum_perm hp, ← exactAbsSum_perm hp] at e2
  rw [mul_assoc, two_mul]
  exact abs_sub_le_add e1 e2

open Rounding in
/-- `avg`: one more rounding (the division by the count, exact as a double below 2^53) -/
theorem avg_error {ops : NumOps} {u : ℚ} (M : RoundingModel ops u) (ns : List F64)
    (hne : ns ≠ []) (hlen : ns.length < 2 ^ 53)
    (h : PartialsFinite ops.add F64.negZero ns)
    (hfin : (ops.div (ns.foldl ops.add F64.negZero) (F64.ofNat ns.length)).isFinite = true)
    (hnu : NoUnderflow ((ns.foldl ops.add F64.negZero).toRat / (ns.length : ℚ))) :
    |(ops.div (ns.foldl ops.add F64.negZero) (F64.ofNat ns.length)).toRat -
        exactSum ns / (ns.length : ℚ)| ≤
      E u (ns.length + 1) * exactAbsSum ns / (ns.length : ℚ) := by
  have hn0 : ns.length ≠ 0 := fun h0 => hne (List.length_eq_zero_iff.mp h0)
  obtain ⟨hnf, hnr⟩ := F64.toRat_ofNat ns.length hn0 hlen
  have hnq : (0 : ℚ) < (ns.length : ℚ) := by exact_mod_cast Nat.pos_of_ne_zero hn0
  obtain ⟨δ, hδ, hfl⟩ := M.div _ _ h.result hnf (by rw [hnr]; exact ne_of_gt hnq) hfin
    (by rw [hnr]; exact hnu)
  rw [hnr] at hfl
  have hu := M.u_nonneg
  -- the sum is within `E n · T` of `S`, `|S| ≤ T`; divide by `n` and round once more
  have hr : |(ns.foldl ops.add F64.negZero).toRat / (ns.length : ℚ) - exactSum ns / (ns.length : ℚ)|
      ≤ E u ns.length * (exactAbsSum ns / (ns.length : ℚ)) := by
    rw [← sub_div, abs_div, abs_of_pos hnq, ← mul_div_assoc]
    exact div_le_div_of_nonneg_right (sum_error M ns h) hnq.le
  have hR : |exactSum ns / (ns.length : ℚ)| ≤ exactAbsSum ns / (ns.length : ℚ) := by
    rw [abs_div, abs_of_pos hnq]
    exact div_le_div_of_nonneg_right (abs_exactSum_le ns) hnq.le
  rw [E_succ, mul_div_assoc, mul_comm (1 + u)]
  exact round_step (E_nonneg hu _) hδ hfl hr hR

open Rounding in
theorem prod_error {ops : NumOps} {u : ℚ} (M : RoundingModel ops u) (ns : List F64)
    (h : PartialsFinite ops.mul F64.one ns) (hnu : PartialProductsNoUnderflow ops F64.one ns) :
    |(ns.foldl ops.mul F64.one).toRat - exactProd ns| ≤ E u ns.length * |exactProd ns| := by
  obtain ⟨θ, hθ, hr⟩ := foldl_mul_error M ns F64.one h hnu
  rw [hr, F64.toRat_one, one_mul]
  have : exactProd ns * θ - exactProd ns = exactProd ns * (θ - 1) := by ring
  rw [this, abs_mul, mul_comm]
  exact mul_le_mul_of_nonneg_right hθ (abs_nonneg _)

open Rounding in
theorem prod_perm_error {ops : NumOps} {u : ℚ} (M : RoundingModel ops u) {ns ms : List F64}
    (hp : ns.Perm ms)
    (h1 : PartialsFinite ops.mul F64.one ns) (n1 : PartialProductsNoUnderflow ops F64.one ns)
    (h2 : PartialsFinite ops.mul F64.one ms) (n2 : PartialProductsNoUnderflow ops F64.one ms) :
    |(ns.foldl ops.mul F64.one).toRat - (ms.foldl ops.mul F64.one).toRat| ≤
      2 * E u ns.length * |exactProd ns| := by
  have e1 := prod_error M ns h1 n1
  have e2 := prod_error M ms h2 n2
  rw [← hp.length_eq, ← exactProd_perm hp] at e2
  rw [mul_assoc, two_mul]
  exact abs_sub_le_add e1 e2

/-! ### an inhabitant: correct rounding by `F64.ofRatio`, guarded

  `F64.ofRatio` is the round-to-nearest-even specification of the model (Model/Num.lean).
  `roundRat q` applies it to an exact rational; `guardedRound q` returns that double when it
  is finite and within relative distance `2^-53` of `q`, and NaN otherwise.  The guard makes
  the proof of `RoundingModel guardedOps (2^-53)` immediate; it only ever fires on overflow
  and on underflowed results (where the relative model is false, see `NoUnderflow`) — that it
  never fires elsewhere is the relative-error theorem of correct rounding, which is not needed
  for an inhabitant and not proved here. -/

def roundRat (q : ℚ) : F64 := F64.ofRatio (decide (q < 0)) q.num.natAbs q.den

/-- `|q|` by a comparison (evaluates in the kernel without unfolding the lattice of ℚ) -/
def ratAbs (q : ℚ) : ℚ := if q < 0 then -q else q

theorem ratAbs_eq (q : ℚ) : ratAbs q = |q| := by
  unfold ratAbs
  split
  · next h => rw [abs_of_neg h]
  · next h => rw [abs_of_nonneg (not_lt.mp h)]

/-- the unit roundoff of binary64 -/
def u64 : ℚ := 1 / 2 ^ 53

def guardedRound (q : ℚ) : F64 :=
  if (roundRat q).isFinite = true ∧ ratAbs ((roundRat q).toRat - q) ≤ u64 * ratAbs q
  then roundRat q else F64.nan

theorem guardedRound_spec (q : ℚ) (h : (guardedRound q).isFinite = true) :
    ∃ δ : ℚ, |δ| ≤ u64 ∧ (guardedRound q).toRat = q * (1 + δ) := by
  unfold guardedRound at h ⊢
  split
  · next hc =>
    obtain ⟨_, hb⟩ := hc
    rw [ratAbs_eq, ratAbs_eq] at hb
    by_cases hq : q = 0
    · subst hq
      simp only [abs_zero, mul_zero, sub_zero] at hb
      have : (roundRat 0).toRat = 0 := abs_eq_zero.mp (le_antisymm hb (abs_nonneg _))
      exact ⟨0, by simp [u64], by rw [this]; ring⟩
    · have hq' : 0 < |q| := abs_pos.mpr hq
      refine ⟨((roundRat q).toRat - q) / q, ?_, by field_simp; ring⟩
      rw [abs_div, div_le_iff₀ hq']
      exact hb
  · next hc =>
    rw [if_neg hc] at h
    exact absurd h (by decide)

/-- correct rounding of the exact result on finite operands (NaN otherwise); the remaining
    primitives, which the aggregates `sum` / `avg` / `prod` do not use, are those of `intOps` -/
def guardedOps : NumOps :=
  { intOps with
    add := fun a b =>
      if a.isFinite = true ∧ b.isFinite = true then guardedRound (a.toRat + b.toRat) else F64.nan
    mul := fun a b =>
      if a.isFinite = true ∧ b.isFinite = true then guardedRound (a.toRat * b.toRat) else F64.nan
    div := fun a b =>
      if a.isFinite = true ∧ b.isFinite = true ∧ b.toRat ≠ 0 then guardedRound (a.toRat / b.toRat)
      else F64.nan }

theorem guardedOps_model : RoundingModel guardedOps u64 where
  u_nonneg := by unfold u64; positivity
  u_lt_one := by unfold u64; norm_num
  add := fun a b ha hb h => by
    have e : guardedOps.add a b = guardedRound (a.toRat + b.toRat) := by
      show (if a.isFinite = true ∧ b.isFinite = true then _ else _) = _
      rw [if_pos ⟨ha, hb⟩]
    rw [e] at h ⊢
    exact guardedRound_spec _ h
  mul := fun a b ha hb h _ => by
    have e : guardedOps.mul a b = guardedRound (a.toRat * b.toRat) := by
      show (if a.isFinite = true ∧ b.isFinite = true then _ else _) = _
      rw [if_pos ⟨ha, hb⟩]
    rw [e] at h ⊢
    exact guardedRound_spec _ h
  div := fun a b ha hb hb0 h _ => by
    have e : guardedOps.div a b = guardedRound (a.toRat / b.toRat) := by
      show (if a.isFinite = true ∧ b.isFinite = true ∧ b.toRat ≠ 0 then _ else _) = _
      rw [if_pos ⟨ha, hb, hb0⟩]
    rw [e] at h ⊢
    exact guardedRound_spec _ h

/-! ### concrete doubles for the examples, by bit pattern -/

/-- `0.1` -/
def dbl01 : F64 := F64.ofNatBits 0x3FB999999999999A
/-- `0.2` -/
def dbl02 : F64 := F64.ofNatBits 0x3FC999999999999A
/-- `0.3` -/
def dbl03 : F64 := F64.ofNatBits 0x3FD3333333333333
/-- the smallest subnormal, `5e-324 = 2^-1074` -/
def dblTiny : F64 := F64.ofNatBits 1
/-- `0.5` -/
def dblHalf : F64 := F64.ofNatBits 0x3FE0000000000000
/-- the largest finite double -/
def dblMax : F64 := F64.ofNatBits 0x7FEFFFFFFFFFFFFF

end Blots
