import Blots.Lemmas.EvalEnv
/-
  The display names of function cells (`ES.names`, `ES.nextId`) under evaluation.

  Two kinds of place touch them: the `.lambda` case of `eval` (takes the cell `nextId`,
  `nextId := nextId + 1`) and the two assignment sites (`eval (.assign ..)`, `evalDoStmt
  (.assign ..)`), which call `setNameIfLambda s1 n (createdSince s.nextId val)` where `s` is the
  state before the right-hand side was evaluated.

  * `NamesRel n l n' l'` / `NamesExt s s'` : `n ≤ n'`, and `l' = new ++ l` where every entry of
    `new` is for a cell `≥ n` that has no name in `l`.  Reflexive, transitive.
  * `names_group` : all fifteen functions of the evaluator satisfy `NamesExt s s'`, for every
    fuel, depth, input and outcome.
  * consequences: `NamesRel.keep` (a name once given never changes), `NamesRel.old` (the name —
    or namelessness — of a cell that existed before is unchanged), `NamesRel.added`.
-/
namespace Blots

theorem nameOf_nil (id : Nat) : nameOf [] id = none := rfl

theorem nameOf_cons (p : Nat × String) (l : List (Nat × String)) (id : Nat) :
    nameOf (p :: l) id = if p.1 = id then some p.2 else nameOf l id := by
  unfold nameOf
  by_cases h : p.1 = id
  · simp [h]
  · simp [h]

theorem nameOf_append (a b : List (Nat × String)) (id : Nat) :
    nameOf (a ++ b) id = (nameOf a id).or (nameOf b id) := by
  induction a with
  | nil => simp [nameOf_nil]
  | cons p a ih =>
    rw [List.cons_append, nameOf_cons, nameOf_cons, ih]
    split <;> simp

theorem nameOf_eq_none_iff (l : List (Nat × String)) (id : Nat) :
    nameOf l id = none ↔ ∀ p ∈ l, p.1 ≠ id := by
  induction l with
  | nil => simp [nameOf_nil]
  | cons p l ih =>
    rw [nameOf_cons]
    by_cases h : p.1 = id
    · simp [h]
    · simp [h, ih]

theorem nameOf_some_mem {l : List (Nat × String)} {id : Nat} {n : String} (h : nameOf l id = some n) :
    (id, n) ∈ l := by
  induction l with
  | nil => simp [nameOf_nil] at h
  | cons p l ih =>
    rw [nameOf_cons] at h
    split at h
    · rename_i hp
      cases h
      obtain ⟨a, b⟩ := p
      simp only at hp
      subst hp
      exact List.mem_cons_self
    · exact List.mem_cons_of_mem _ (ih h)

/-- the relation between the (next cell, names) of a state and of a later state -/
structure NamesRel (n : Nat) (l : List (Nat × String)) (n' : Nat) (l' : List (Nat × String)) : Prop where
  next : n ≤ n'
  grow : ∃ new, l' = new ++ l ∧ ∀ p ∈ new, n ≤ p.1 ∧ nameOf l p.1 = none

/-- `s'` comes after `s` as far as function cells and their names are concerned -/
abbrev NamesExt (s s' : ES) : Prop := NamesRel s.nextId s.names s'.nextId s'.names

theorem NamesRel.refl (n : Nat) (l : List (Nat × String)) : NamesRel n l n l :=
  ⟨Nat.le_refl _, [], rfl, fun _ h => by cases h⟩

theorem NamesRel.trans {n1 n2 n3 : Nat} {l1 l2 l3 : List (Nat × String)}
    (h1 : NamesRel n1 l1 n2 l2) (h2 : NamesRel n2 l2 n3 l3) : NamesRel n1 l1 n3 l3 := by
  obtain ⟨a1, new1, e1, f1⟩ := h1
  obtain ⟨a2, new2, e2, f2⟩ := h2
  refine ⟨Nat.le_trans a1 a2, new2 ++ new1, by rw [e2, e1, List.append_assoc], ?_⟩
  intro p hp
  rcases List.mem_append.mp hp with hp | hp
  · obtain ⟨g1, g2⟩ := f2 p hp
    refine ⟨Nat.le_trans a1 g1, ?_⟩
    rw [e1, nameOf_append] at g2
    cases h : nameOf l1 p.1 with
    | none => rfl
    | some x => rw [h] at g2; cases hh : nameOf new1 p.1 <;> simp [hh] at g2
  · exact f1 p hp

theorem NamesExt.refl (s : ES) : NamesExt s s := NamesRel.refl _ _
theorem NamesExt.trans {a b c : ES} (h1 : NamesExt a b) (h2 : NamesExt b c) : NamesExt a c :=
  NamesRel.trans h1 h2

theorem NamesRel.keep {n n' : Nat} {l l' : List (Nat × String)} (h : NamesRel n l n' l')
    {id : Nat} {x : String} (hx : nameOf l id = some x) : nameOf l' id = some x := by
  obtain ⟨_, new, e, f⟩ := h
  rw [e, nameOf_append]
  cases hn : nameOf new id with
  | none => simpa using hx
  | some y =>
    have hm := nameOf_some_mem hn
    have := (f _ hm).2
    simp only at this
    rw [this] at hx; cases hx

theorem NamesRel.old {n n' : Nat} {l l' : List (Nat × String)} (h : NamesRel n l n' l')
    {id : Nat} (hid : id < n) : nameOf l' id = nameOf l id := by
  obtain ⟨_, new, e, f⟩ := h
  rw [e, nameOf_append]
  have : nameOf new id = none := by
    rw [nameOf_eq_none_iff]
    intro p hp hpe
    have := (f p hp).1
    omega
  rw [this]; rfl

theorem NamesRel.added {n n' : Nat} {l l' : List (Nat × String)} (h : NamesRel n l n' l')
    {p : Nat × String} (hp : p ∈ l') : p ∈ l ∨ n ≤ p.1 := by
  obtain ⟨_, new, e, f⟩ := h
  rw [e] at hp
  rcases List.mem_append.mp hp with hp | hp
  · exact Or.inr (f p hp).1
  · exact Or.inl hp

theorem NamesRel.mem {n n' : Nat} {l l' : List (Nat × String)} (h : NamesRel n l n' l')
    {p : Nat × String} (hp : p ∈ l) : p ∈ l' := by
  obtain ⟨_, new, e, _⟩ := h
  rw [e]; exact List.mem_append_right _ hp

theorem NamesRel.alloc (n : Nat) (l : List (Nat × String)) : NamesRel n l (n + 1) l :=
  ⟨Nat.le_succ _, [], rfl, fun _ h => by cases h⟩

/-- the assignment step: `s` the state before the right-hand side, `s1` after it -/
theorem NamesExt.assign {s s1 : ES} (h : NamesExt s s1) (x : String) (val : Value) :
    NamesExt s (setNameIfLambda s1 x (createdSince s.nextId val)) := by
  unfold createdSince
  split
  · -- `val` is a function in cell `id`
    rename_i id ps body sc
    split
    · -- created by the right-hand side (`s.nextId ≤ id`): `setNameIfLambda` sees the function
      rename_i hle
      unfold setNameIfLambda
      simp only
      split
      · -- the cell has no name yet: `(id, x)` is the one new entry
        rename_i hnone
        obtain ⟨a, new, e, f⟩ := h
        refine ⟨a, (id, x) :: new, by simp [e], ?_⟩
        intro p hp
        rcases List.mem_cons.mp hp with rfl | hp
        · refine ⟨hle, ?_⟩
          rw [e, nameOf_append] at hnone
          cases hh : nameOf s.names id with
          | none => rfl
          | some y => rw [hh] at hnone; cases h2 : nameOf new id <;> simp [h2] at hnone
        · exact f p hp
      · exact h -- already named: the names stay
    · exact h -- an older function: `createdSince` hands `.null` on, nothing is named
  · -- not a function: nothing is named
    rename_i hnl
    unfold setNameIfLambda
    split
    · exact absurd rfl (hnl _ _ _ _)
    · exact h

theorem NamesExt.assignIn {s s1 : ES} (h : NamesExt s s1) (x : String) (val : Value) :
    NamesExt s (assignIn s.nextId x val s1) := h.assign x val

structure NamesStep (ops : NumOps) (n : Nat) : Prop where
  eval : ∀ d e s, NamesExt s (eval ops n d e s).2
  evalList : ∀ d es s, NamesExt s (evalList ops n d es s).2
  evalItems : ∀ d es s, NamesExt s (evalItems ops n d es s).2
  evalEntries : ∀ d es acc s, NamesExt s (evalEntries ops n d es acc s).2
  evalDoStmt : ∀ d e s, NamesExt s (evalDoStmt ops n d e s).2
  evalDo : ∀ d st ret s, NamesExt s (evalDo ops n d st ret s).2
  callFn : ∀ fv this args d s, NamesExt s (callFn ops n fv this args d s).2
  mapCalls : ∀ f w L i d s, NamesExt s (mapCalls ops n f w L i d s).2
  quantCalls : ∀ f w q L i d s, NamesExt s (quantCalls ops n f w q L i d s).2
  foldCalls : ∀ f w acc L i d s, NamesExt s (foldCalls ops n f w acc L i d s).2
  keyCalls : ∀ f L d s, NamesExt s (keyCalls ops n f L d s).2
  callHof : ∀ name args d s, NamesExt s (callHof ops n name args d s).2
  evalBin : ∀ d op a b s, NamesExt s (evalBin ops n d op a b s).2
  viaPairs : ∀ la lb d s, NamesExt s (viaPairs ops n la lb d s).2
  whereCalls : ∀ f w L i d s, NamesExt s (whereCalls ops n f w L i d s).2

theorem NamesExt.keeps : Keeps NamesExt := ⟨.refl, .trans⟩

theorem namesStep_zero (ops : NumOps) : NamesStep ops 0 := by
  constructor <;> intros <;>
    simp only [eval_zero, evalList_zero, evalItems_zero, evalEntries_zero, evalDoStmt_zero, evalDo_zero,
      callFn_zero, mapCalls_zero, quantCalls_zero, foldCalls_zero, keyCalls_zero, callHof_zero, evalBin_zero,
      viaPairs_zero, whereCalls_zero] <;>
    exact NamesExt.refl _

section step
variable {ops : NumOps} {n : Nat} (ih : NamesStep ops n)
include ih

/-- `nextId` and `names` change at `.lambda` (a new cell) and `.assign` only; a do-block and a
    call swap environments, which `NamesExt` does not look at -/
theorem names_eval (d e s) : NamesExt s (eval ops (n+1) d e s).2 := by
  have K := NamesExt.keeps
  cases e with
  | num x => rw [eval_num]; exact .refl _
  | str x => rw [eval_str]; exact .refl _
  | bool b => rw [eval_bool]; exact .refl _
  | null => rw [eval_null]; exact .refl _
  | builtin x => rw [eval_builtin]; exact .refl _
  | ident x => rw [eval_ident]; exact .refl _
  | inref f => rw [eval_inref]; exact .refl _
  | list items => rw [eval_list]; exact K.bind (ih.evalItems _ _ _) fun _ _ => .refl _
  | record es => rw [eval_record]; exact K.bind (ih.evalEntries _ _ _ _) fun _ _ => .refl _
  | lambda args body => rw [eval_lambda]; exact K.ite (.refl _) (NamesRel.alloc _ _)
  | assign x v =>
    rw [eval_assign]
    exact K.ite (.refl _) <| K.ite (.refl _) <| K.ite (.refl _) <|
      K.bindFrom (ih.eval _ _ _) fun val _ h1 => K.ite h1 (h1.assignIn x val)
  | output e => rw [eval_output]; exact ih.eval _ _ _
  | cond c t el =>
    rw [eval_cond]
    refine K.bind (ih.eval _ _ _) fun v s1 => ?_
    split
    · exact ih.eval _ _ _
    · exact ih.eval _ _ _
    · exact .refl _
  | doBlock stmts ret => rw [eval_doBlock]; exact ih.evalDo d stmts ret { s with env := [] :: s.env }
  | call f args =>
    rw [eval_call]
    exact K.bind (ih.eval _ _ _) fun _ _ => K.bind (ih.evalList _ _ _) fun _ _ =>
      K.ite (.refl _) (ih.callFn _ _ _ _ _)
  | access e i =>
    rw [eval_access]; exact K.bind (ih.eval _ _ _) fun _ _ => K.bind (ih.eval _ _ _) fun _ _ => .refl _
  | dot e f => rw [eval_dot]; exact K.bind (ih.eval _ _ _) fun _ _ => .refl _
  | bin op l r =>
    rw [eval_bin]; exact K.bind (ih.eval _ _ _) fun _ _ => K.bind (ih.eval _ _ _) fun _ _ => ih.evalBin _ _ _ _ _
  | un op e => rw [eval_un]; exact K.bind (ih.eval _ _ _) fun _ _ => .refl _
  | fact e => rw [eval_fact]; exact K.bind (ih.eval _ _ _) fun _ _ => .refl _
  | spread e => rw [eval_spread]; exact K.bind (ih.eval _ _ _) fun _ _ => .refl _

theorem names_evalList (d es s) : NamesExt s (evalList ops (n+1) d es s).2 := by
  have K := NamesExt.keeps
  cases es with
  | nil => rw [evalList_nil]; exact .refl _
  | cons e es =>
    rw [evalList_cons]
    exact K.bind (ih.eval _ _ _) fun _ _ => K.bind (ih.evalList _ _ _) fun _ _ => .refl _

theorem names_evalItems (d es s) : NamesExt s (evalItems ops (n+1) d es s).2 := by
  have K := NamesExt.keeps
  rcases es with _ | ⟨⟨l, e, t⟩, es⟩
  · rw [evalItems_nil]; exact .refl _
  · rw [evalItems_cons]
    exact K.bind (ih.eval _ _ _) fun _ _ => K.bind (ih.evalItems _ _ _) fun _ _ => .refl _

theorem names_evalEntries (d es acc s) : NamesExt s (evalEntries ops (n+1) d es acc s).2 := by
  have K := NamesExt.keeps
  rcases es with _ | ⟨⟨l, k, v, t⟩, es⟩
  · rw [evalEntries_nil]; exact .refl _
  · cases k with
    | static k => rw [evalEntries_static]; exact K.bind (ih.eval _ _ _) fun _ _ => ih.evalEntries _ _ _ _
    | dyn ke =>
      rw [evalEntries_dyn]
      refine K.bind (ih.eval _ _ _) fun kv s1 => ?_
      split
      · exact K.bind (ih.eval _ _ _) fun _ _ => ih.evalEntries _ _ _ _
      · exact .refl _
    | short x =>
      rw [evalEntries_short]
      split
      · exact ih.evalEntries _ _ _ _
      · exact .refl _
    | spread se =>
      rw [evalEntries_spread]
      refine K.bind (ih.eval _ _ _) fun x s1 => ?_
      split <;> exact ih.evalEntries _ _ _ _

theorem names_evalDoStmt (d e s) : NamesExt s (evalDoStmt ops (n+1) d e s).2 := by
  have K := NamesExt.keeps
  by_cases he : ∃ x v, e = .assign x v
  · obtain ⟨x, v, rfl⟩ := he
    rw [evalDoStmt_assign]
    exact K.ite (.refl _) <| K.bindFrom (ih.eval _ _ _) fun val _ h1 => h1.assignIn x val
  · rw [evalDoStmt_other _ _ _ _ _ fun x v hx => he ⟨x, v, hx⟩]; exact ih.eval _ _ _

theorem names_evalDo (d st ret s) : NamesExt s (evalDo ops (n+1) d st ret s).2 := by
  have K := NamesExt.keeps
  rcases ret with ⟨l, e, t⟩
  rcases st with _ | ⟨⟨l', e', t'⟩, rest⟩
  · rw [evalDo_nil]; exact ih.evalDoStmt _ _ _
  · rw [evalDo_cons]; exact K.bind (ih.evalDoStmt _ _ _) fun _ _ => ih.evalDo _ _ _ _

/-- the call group: `NamesExt` does not look at the environment, so evaluating a lambda body in
    other frames and putting the caller's back is the step of `eval` -/
theorem namesStep_succ : NamesStep ops (n+1) :=
  have c := CallsKeep.succ NamesExt.keeps (fun d e s env => ih.eval d e { s with env := env })
    ⟨ih.callFn, ih.mapCalls, ih.quantCalls, ih.foldCalls, ih.keyCalls, ih.callHof, ih.evalBin, ih.viaPairs,
     ih.whereCalls⟩
  ⟨names_eval ih, names_evalList ih, names_evalItems ih, names_evalEntries ih, names_evalDoStmt ih,
   names_evalDo ih, c.callFn, c.mapCalls, c.quantCalls, c.foldCalls, c.keyCalls, c.callHof, c.evalBin,
   c.viaPairs, c.whereCalls⟩

end step

theorem names_group (ops : NumOps) : ∀ n, NamesStep ops n
  | 0 => namesStep_zero ops
  | n + 1 => namesStep_succ (names_group ops n)

theorem eval_names (ops : NumOps) (fuel d e s) : NamesExt s (eval ops fuel d e s).2 :=
  (names_group ops fuel).eval d e s

theorem runStmts_names (ops : NumOps) (fuel : Nat) : ∀ (stmts : List Expr) (s : ES),
    NamesExt s (runStmts ops fuel s stmts).2
  | [], _ => NamesExt.refl _
  | e :: es, s => (eval_names ops fuel 0 e s).trans (runStmts_names ops fuel es _)

end Blots
