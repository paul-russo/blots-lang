import Blots.Lemmas.EvalNames
import Blots.Lemmas.ValueAll
/-
  Freshness of function cells: every function value reachable from the state (environment,
  captured scopes, arguments, results) lives in a cell `< nextId`, and so does every cell that
  has a name.  This file has the predicates and what the value-level operations do to them;
  that the fifteen functions of the evaluator keep `StateOk` is `fresh_group`
  (Lemmas/EvalFresh.lean).

  * `Value.idsLt N v`  : every function value inside `v` (captured scopes included) has `id < N`;
    it is the hereditary predicate `All (idsLeaf N)` of `Lemmas/ValueAll.lean`, which provides
    the data lemmas.
  * `envLt N env`      : the same for every binding of every frame.
  * `NamesFresh s`     : every entry of `s.names` is for a cell `< s.nextId`.
  * `StateOk s`        : `envLt s.nextId s.env ∧ NamesFresh s`.
  * `callPure_keeps_idsLt` : the callback-free built-ins only return function values taken
    from their arguments.
-/
namespace Blots

mutual
def Value.idsLt (N : Nat) : Value → Bool
  | .list xs => Value.idsLtList N xs
  | .record r => Value.idsLtRec N r
  | .lambda id _ _ scope => decide (id < N) && Value.idsLtRec N scope
  | .spread v => Value.idsLt N v
  | .builtin _ => true
  | .num _ => true
  | .bool _ => true
  | .null => true
  | .str _ => true
def Value.idsLtList (N : Nat) : List Value → Bool
  | [] => true
  | x :: xs => Value.idsLt N x && Value.idsLtList N xs
def Value.idsLtRec (N : Nat) : List (String × Value) → Bool
  | [] => true
  | (_, v) :: r => Value.idsLt N v && Value.idsLtRec N r
end

def envLt (N : Nat) : List Frame → Bool
  | [] => true
  | f :: fs => Value.idsLtRec N f && envLt N fs

section data
variable {N : Nat}

/-- `Value.idsLt N` is `All (idsLeaf N)` -/
def idsLeaf (N : Nat) : Leaf := ⟨fun id _ _ _ => id < N, fun _ => True⟩

mutual
theorem idsLt_all : ∀ {v : Value}, v.idsLt N = true ↔ All (idsLeaf N) v
  | .list xs => by rw [Value.idsLt, all_list]; exact idsLtList_all
  | .record r => by rw [Value.idsLt, all_record]; exact idsLtRec_all
  | .lambda _ _ _ scope => by
    rw [Value.idsLt, all_lambda, Bool.and_eq_true, decide_eq_true_eq, idsLtRec_all]; rfl
  | .spread v => by rw [Value.idsLt, all_spread]; exact idsLt_all
  | .builtin _ => by simp only [Value.idsLt, all_builtin, idsLeaf]
  | .num _ => by simp only [Value.idsLt, all_num]
  | .bool _ => by simp only [Value.idsLt, all_bool]
  | .null => by simp only [Value.idsLt, all_null]
  | .str _ => by simp only [Value.idsLt, all_str]
theorem idsLtList_all : ∀ {xs : List Value}, Value.idsLtList N xs = true ↔ AllL (idsLeaf N) xs
  | [] => by simp only [Value.idsLtList, allL_nil]
  | x :: xs => by rw [Value.idsLtList, Bool.and_eq_true, allL_cons, idsLt_all, idsLtList_all]
theorem idsLtRec_all : ∀ {r : List (String × Value)}, Value.idsLtRec N r = true ↔ AllR (idsLeaf N) r
  | [] => by simp only [Value.idsLtRec, allR_nil]
  | (_, v) :: r => by rw [Value.idsLtRec, Bool.and_eq_true, allR_cons, idsLt_all, idsLtRec_all]
end

theorem envLt_all : ∀ {e : List Frame}, envLt N e = true ↔ AllE (idsLeaf N) e
  | [] => by simp only [envLt, allE_nil]
  | f :: fs => by rw [envLt, Bool.and_eq_true, allE_cons, idsLtRec_all, envLt_all]

/-- a result of one of the value-level operations (`Lemmas/ValueAllOps.lean`) -/
theorem Outcome.Sat.idsLt {o : Outcome Value} (h : o.Sat (All (idsLeaf N))) (a : Value) (e : o = .ok a) :
    a.idsLt N = true := idsLt_all.2 (h a e)

theorem idsLtList_iff (xs : List Value) : Value.idsLtList N xs = true ↔ ∀ x ∈ xs, x.idsLt N = true := by
  simp only [idsLtList_all, allL_iff, idsLt_all]

theorem idsLtRec_iff (r : List (String × Value)) :
    Value.idsLtRec N r = true ↔ ∀ kv ∈ r, kv.2.idsLt N = true := by
  simp only [idsLtRec_all, allR_iff, idsLt_all]

theorem envLt_iff (e : List Frame) : envLt N e = true ↔ ∀ f ∈ e, Value.idsLtRec N f = true := by
  simp only [envLt_all, AllE, idsLtRec_all]

theorem idsLt_of_mem_list {xs : List Value} {x : Value} (h : Value.idsLtList N xs = true) (hx : x ∈ xs) :
    x.idsLt N = true := (idsLtList_iff xs).mp h x hx

theorem idsLt_getElem? {xs : List Value} {i : Nat} {x : Value} (h : Value.idsLtList N xs = true)
    (hx : xs[i]? = some x) : x.idsLt N = true :=
  idsLt_of_mem_list h (List.mem_of_getElem? hx)

theorem idsLt_insertAL {k : String} {v : Value} (hv : v.idsLt N = true) {r : List (String × Value)}
    (hr : Value.idsLtRec N r = true) : Value.idsLtRec N (insertAL k v r) = true :=
  idsLtRec_all.2 ((idsLtRec_all.1 hr).insert (idsLt_all.1 hv))

theorem idsLt_envGet {k : String} {v : Value} {env : List Frame}
    (he : envLt N env = true) (h : envGet env k = some v) : v.idsLt N = true :=
  idsLt_all.2 ((envLt_all.1 he).get h)

theorem idsLt_envInsert {k : String} {v : Value} {env : List Frame} (he : envLt N env = true)
    (hv : v.idsLt N = true) : envLt N (envInsert env k v) = true :=
  envLt_all.2 ((envLt_all.1 he).insert (idsLt_all.1 hv))

theorem envLt_drop {env : List Frame} (he : envLt N env = true) (k : Nat) :
    envLt N (env.drop k) = true :=
  envLt_all.2 ((envLt_all.1 he).drop k)

theorem idsLt_captureScope {env : List Frame} (he : envLt N env = true) (vars : List String) :
    Value.idsLtRec N (captureScope env vars) = true :=
  idsLtRec_all.2 ((envLt_all.1 he).capture vars)

theorem idsLt_flattenSpreads {vs : List Value} (h : Value.idsLtList N vs = true) :
    Value.idsLtList N (flattenSpreads vs) = true :=
  idsLtList_all.2 (allL_flattenSpreads (idsLtList_all.1 h))

theorem idsLt_spreadIntoRecord {rec : Frame} {v : Value} (hr : Value.idsLtRec N rec = true)
    (hv : v.idsLt N = true) : Value.idsLtRec N (spreadIntoRecord rec v) = true :=
  idsLtRec_all.2 (allR_spreadIntoRecord (idsLtRec_all.1 hr) (idsLt_all.1 hv))

theorem idsLt_bindParams {params : List LArg} {args : List Value} {pf : Frame}
    (ha : Value.idsLtList N args = true) (h : bindParams params args = .ok pf) :
    Value.idsLtRec N pf = true :=
  idsLtRec_all.2 (sat_bindParams (idsLtList_all.1 ha) pf h)

theorem idsLt_groupByKeys {xs ks : List Value} {r : Frame} (hx : Value.idsLtList N xs = true)
    (h : groupByKeys xs ks = some r) : Value.idsLtRec N r = true :=
  idsLtRec_all.2 (allR_groupByKeys (idsLtList_all.1 hx) h)

theorem idsLt_countByKeys {ops : NumOps} {ks : List Value} {r : Frame}
    (h : countByKeys ops ks = some r) : Value.idsLtRec N r = true :=
  idsLtRec_all.2 (allR_countByKeys h)

theorem idsLtRec_constants : Value.idsLtRec N constantsRecord = true := idsLtRec_all.2 allR_constants

theorem idsLeaf_mono {n m : Nat} (h : n ≤ m) (id : Nat) (ps : List LArg) (body : Expr) (scope : Frame) :
    (idsLeaf n).lam id ps body scope → (idsLeaf m).lam id ps body scope := fun hid => Nat.lt_of_lt_of_le hid h

theorem idsLt_mono {n m : Nat} (h : n ≤ m) (v : Value) (hv : v.idsLt n = true) : v.idsLt m = true :=
  idsLt_all.2 (All.imp (idsLeaf_mono h) (fun _ => id) v (idsLt_all.1 hv))

theorem idsLtList_mono {n m : Nat} (h : n ≤ m) (xs : List Value) (hv : Value.idsLtList n xs = true) :
    Value.idsLtList m xs = true :=
  idsLtList_all.2 (AllL.imp (idsLeaf_mono h) (fun _ => id) xs (idsLtList_all.1 hv))

theorem idsLtRec_mono {n m : Nat} (h : n ≤ m) (r : List (String × Value)) (hv : Value.idsLtRec n r = true) :
    Value.idsLtRec m r = true :=
  idsLtRec_all.2 (AllR.imp (idsLeaf_mono h) (fun _ => id) r (idsLtRec_all.1 hv))

theorem envLt_mono {n m : Nat} (h : n ≤ m) (e : List Frame) (hv : envLt n e = true) : envLt m e = true :=
  (envLt_iff _).2 fun f hf => idsLtRec_mono h f ((envLt_iff _).1 hv f hf)

mutual
/-- the function cell `i` occurs inside the value (captured scopes included) -/
def Value.hasId (i : Nat) : Value → Bool
  | .list xs => Value.hasIdList i xs
  | .record r => Value.hasIdRec i r
  | .lambda id _ _ scope => id == i || Value.hasIdRec i scope
  | .spread v => Value.hasId i v
  | .builtin _ => false
  | .num _ => false
  | .bool _ => false
  | .null => false
  | .str _ => false
def Value.hasIdList (i : Nat) : List Value → Bool
  | [] => false
  | x :: xs => Value.hasId i x || Value.hasIdList i xs
def Value.hasIdRec (i : Nat) : List (String × Value) → Bool
  | [] => false
  | (_, v) :: r => Value.hasId i v || Value.hasIdRec i r
end

mutual
theorem lt_of_hasId {N i : Nat} : ∀ (v : Value), v.idsLt N = true → v.hasId i = true → i < N
  | .list xs, hv, hi => by
    simp only [Value.idsLt, Value.hasId] at hv hi; exact lt_of_hasIdList xs hv hi
  | .record r, hv, hi => by
    simp only [Value.idsLt, Value.hasId] at hv hi; exact lt_of_hasIdRec r hv hi
  | .lambda id _ _ scope, hv, hi => by
    simp only [Value.idsLt, Value.hasId, Bool.and_eq_true, decide_eq_true_eq, Bool.or_eq_true, beq_iff_eq] at hv hi
    rcases hi with rfl | hi
    · exact hv.1
    · exact lt_of_hasIdRec scope hv.2 hi
  | .spread v, hv, hi => by
    simp only [Value.idsLt, Value.hasId] at hv hi; exact lt_of_hasId v hv hi
  | .builtin _, _, hi => by simp [Value.hasId] at hi
  | .num _, _, hi => by simp [Value.hasId] at hi
  | .bool _, _, hi => by simp [Value.hasId] at hi
  | .null, _, hi => by simp [Value.hasId] at hi
  | .str _, _, hi => by simp [Value.hasId] at hi
theorem lt_of_hasIdList {N i : Nat} : ∀ (xs : List Value),
    Value.idsLtList N xs = true → Value.hasIdList i xs = true → i < N
  | [], _, hi => by simp [Value.hasIdList] at hi
  | x :: xs, hv, hi => by
    simp only [Value.idsLtList, Value.hasIdList, Bool.and_eq_true, Bool.or_eq_true] at hv hi
    rcases hi with hi | hi
    · exact lt_of_hasId x hv.1 hi
    · exact lt_of_hasIdList xs hv.2 hi
theorem lt_of_hasIdRec {N i : Nat} : ∀ (r : List (String × Value)),
    Value.idsLtRec N r = true → Value.hasIdRec i r = true → i < N
  | [], _, hi => by simp [Value.hasIdRec] at hi
  | (_, v) :: r, hv, hi => by
    simp only [Value.idsLtRec, Value.hasIdRec, Bool.and_eq_true, Bool.or_eq_true] at hv hi
    rcases hi with hi | hi
    · exact lt_of_hasId v hv.1 hi
    · exact lt_of_hasIdRec r hv.2 hi
end


/-- every named cell has been created -/
def NamesFresh (s : ES) : Prop := ∀ p ∈ s.names, p.1 < s.nextId

/-- every function value reachable from the environment and every named cell is `< nextId` -/
structure StateOk (s : ES) : Prop where
  env : envLt s.nextId s.env = true
  names : NamesFresh s

theorem StateOk.alloc {s : ES} (h : StateOk s) (e : List Frame) (he : envLt (s.nextId + 1) e = true) :
    StateOk { env := e, nextId := s.nextId + 1, names := s.names } :=
  ⟨he, fun p hp => Nat.lt_succ_of_lt (h.names p hp)⟩

theorem StateOk.withEnv {s : ES} (h : StateOk s) (e : List Frame) (he : envLt s.nextId e = true) :
    StateOk { env := e, nextId := s.nextId, names := s.names } := ⟨he, h.names⟩

theorem StateOk.assign {s1 : ES} (h : StateOk s1) (x : String) (k : Nat) (val : Value)
    (hv : val.idsLt s1.nextId = true) :
    StateOk { env := envInsert (setNameIfLambda s1 x (createdSince k val)).env x val,
              nextId := (setNameIfLambda s1 x (createdSince k val)).nextId,
              names := (setNameIfLambda s1 x (createdSince k val)).names } := by
  rw [setNameIfLambda_env, setNameIfLambda_nextId]
  refine ⟨idsLt_envInsert h.env hv, ?_⟩
  intro p hp
  simp only at hp ⊢
  unfold createdSince at hp
  split at hp
  · -- `val` is a function in cell `id`
    rename_i id ps body sc
    split at hp
    · -- created by the right-hand side: `setNameIfLambda` sees the function
      unfold setNameIfLambda at hp
      simp only at hp
      split at hp
      · -- no name yet: the new entry is for the cell of `val`, which is `< nextId` by `hv`
        rcases List.mem_cons.mp hp with rfl | hp
        · simp only [Value.idsLt, Bool.and_eq_true, decide_eq_true_eq] at hv
          exact hv.1
        · exact h.names p hp
      · exact h.names p hp -- already named
    · exact h.names p hp -- an older function: nothing is named
  · -- not a function: nothing is named
    rename_i hnl
    unfold setNameIfLambda at hp
    split at hp
    · exact absurd rfl (hnl _ _ _ _)
    · exact h.names p hp

theorem StateOk.assignIn {s1 : ES} (h : StateOk s1) (x : String) (k : Nat) (val : Value)
    (hv : val.idsLt s1.nextId = true) : StateOk (assignIn k x val s1) := h.assign x k val hv

theorem callPure_keeps_idsLt (ops : NumOps) (name : String) (args : List Value) (v : Value)
    (h : callPure ops name args = some (.ok v)) (ha : Value.idsLtList N args = true) : v.idsLt N = true :=
  idsLt_all.2 (callPure_all ops h (idsLtList_all.1 ha))

end data

end Blots
