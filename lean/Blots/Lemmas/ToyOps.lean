import Blots.Model.Num
/-
  A total toy instance of `NumOps` (integer arithmetic through the saturating casts).  It is
  the concrete instance of the development: `example`s and witness theorems use it to show
  that hypotheses are satisfiable or that a statement over all `ops` fails, and to run
  `callPure` / `eval` on concrete inputs under `decide`/`rfl`; `guardedOps`
  (`Lemmas/Rounding.lean`) takes from it the primitives it does not define itself.  Every
  general theorem quantifies over all `ops`.
-/
namespace Blots

def intOps : NumOps where
  add a b := F64.ofInt (a.toI64 + b.toI64)
  sub a b := F64.ofInt (a.toI64 - b.toI64)
  mul a b := F64.ofInt (a.toI64 * b.toI64)
  div a b := if b.toI64 = 0 then F64.nan else F64.ofInt (a.toI64 / b.toI64)
  rem a b := if b.toI64 = 0 then F64.nan else F64.ofInt (a.toI64 % b.toI64)
  powf a _ := a
  sqrt a := a
  sin a := a
  cos a := a
  tan a := a
  asin a := a
  acos a := a
  atan a := a
  ln a := a
  log10 a := a
  exp a := a
  floor a := a
  ceil a := a
  round a := a
  trunc a := a

/-- small integers as doubles, by bit pattern (so that examples reduce without `ofRatio`) -/
def int0 : F64 := F64.zero
def int1 : F64 := F64.one
def int2 : F64 := F64.ofNatBits 0x4000000000000000
def int3 : F64 := F64.ofNatBits 0x4008000000000000

end Blots
