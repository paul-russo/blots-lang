import Blots.Model.Data
import Blots.Lemmas.Num
/-
  `Value::compare` is a coherent partial order: antisymmetric, transitive, compatible
  with `Value::equals`, lexicographic on lists and strings.
-/
namespace Blots

theorem strCmpL_cons (a b : Char) (as bs : List Char) :
    strCmpL (a :: as) (b :: bs) =
      if a.toNat < b.toNat then .lt else if b.toNat < a.toNat then .gt else strCmpL as bs := rfl

theorem strCmpL_cons_lt {a b : Char} {as bs : List Char} :
    strCmpL (a :: as) (b :: bs) = .lt ↔ a.toNat < b.toNat ∨ a = b ∧ strCmpL as bs = .lt := by
  rw [strCmpL_cons]
  by_cases h1 : a.toNat < b.toNat
  · simp [h1]
  · by_cases h2 : b.toNat < a.toNat
    · have : a ≠ b := by rintro rfl; omega
      simp [h1, h2, this]
    · have : a = b := Char.toNat_inj.mp (by omega)
      simp [this]

theorem strCmpL_eq_iff : ∀ (a b : List Char), strCmpL a b = .eq ↔ a = b
  | [], [] => by simp [strCmpL]
  | [], _ :: _ => by simp [strCmpL]
  | _ :: _, [] => by simp [strCmpL]
  | a :: as, b :: bs => by
    rw [strCmpL_cons, List.cons.injEq, ← strCmpL_eq_iff as bs]
    by_cases h1 : a.toNat < b.toNat
    · have : a ≠ b := by rintro rfl; omega
      simp [h1, this]
    · by_cases h2 : b.toNat < a.toNat
      · have : a ≠ b := by rintro rfl; omega
        simp [h1, h2, this]
      · have : a = b := Char.toNat_inj.mp (by omega)
        simp [this]

theorem strCmpL_swap : ∀ (a b : List Char), strCmpL b a = (strCmpL a b).swap
  | [], [] | [], _ :: _ | _ :: _, [] => rfl
  | a :: as, b :: bs => by
    rw [strCmpL_cons, strCmpL_cons, strCmpL_swap as bs]
    by_cases h1 : a.toNat < b.toNat
    · have : ¬ b.toNat < a.toNat := by omega
      simp [h1, this, Ordering.swap]
    · by_cases h2 : b.toNat < a.toNat <;> simp [h1, h2, Ordering.swap]

theorem strCmpL_lt_trans : ∀ (a b c : List Char),
    strCmpL a b = .lt → strCmpL b c = .lt → strCmpL a c = .lt
  | [], _ :: _, _ :: _, _, _ => rfl
  | [], [], _, h, _ | _ :: _, [], _, h, _ | _, _ :: _, [], _, h => by cases h
  | a :: as, b :: bs, c :: cs, h1, h2 => by
    rw [strCmpL_cons_lt] at h1 h2 ⊢
    rcases h1 with h1 | ⟨rfl, h1⟩ <;> rcases h2 with h2 | ⟨rfl, h2⟩
    · exact .inl (Nat.lt_trans h1 h2)
    · exact .inl h1
    · exact .inl h2
    · exact .inr ⟨rfl, strCmpL_lt_trans as bs cs h1 h2⟩

theorem strCmpL_prefix : ∀ (a b : List Char), b ≠ [] → strCmpL a (a ++ b) = .lt
  | [], [], h => absurd rfl h
  | [], _ :: _, _ => rfl
  | _ :: xs, b, h => strCmpL_cons_lt.mpr (.inr ⟨rfl, strCmpL_prefix xs b h⟩)

/-- The four pairs of shapes that `vcmp` compares, every other pair (on which it fails in both
    directions), and the head-first comparison of lists: the tails matter only when the heads
    compare equal. -/
theorem vcmp_ind {P : Value → Value → Prop} {Q : List Value → List Value → Prop}
    (num : ∀ x y, P (.num x) (.num y)) (bool : ∀ x y, P (.bool x) (.bool y))
    (str : ∀ x y, P (.str x) (.str y)) (list : ∀ xs ys, Q xs ys → P (.list xs) (.list ys))
    (other : ∀ a b, vcmp a b = none → vcmp b a = none → P a b)
    (nil : Q [] []) (nil_cons : ∀ y ys, Q [] (y :: ys)) (cons_nil : ∀ x xs, Q (x :: xs) [])
    (cons : ∀ x xs y ys, P x y → (vcmp x y = some .eq → Q xs ys) → Q (x :: xs) (y :: ys)) :
    (∀ a b, P a b) ∧ ∀ xs ys, Q xs ys :=
  vcmp.mutual_induct P Q num bool str list
    (fun a b h1 h2 h3 h4 => other a b (vcmp.eq_5 a b h1 h2 h3 h4)
      (vcmp.eq_5 b a (fun x y hb ha => h1 y x ha hb) (fun x y hb ha => h2 y x ha hb)
        (fun x y hb ha => h3 y x ha hb) (fun x y hb ha => h4 y x ha hb)))
    nil nil_cons cons_nil
    (fun x xs y ys _ p q => cons x xs y ys p fun _ => q)
    (fun x xs y ys h p => cons x xs y ys p fun h' => (h h').elim)

theorem vcmpList_cons_iff {x y : Value} {xs ys : List Value} {o : Ordering} :
    vcmpList (x :: xs) (y :: ys) = some o ↔
      vcmp x y = some .eq ∧ vcmpList xs ys = some o ∨ vcmp x y = some o ∧ o ≠ .eq := by
  rw [vcmpList]
  cases vcmp x y with
  | none => simp
  | some o' => cases o' <;> cases o <;> simp

theorem vcmp_type_mismatch (a b : Value) (h : a.typeName ≠ b.typeName) : vcmp a b = none :=
  vcmp.eq_5 a b (fun _ _ ha hb => h (ha ▸ hb ▸ rfl)) (fun _ _ ha hb => h (ha ▸ hb ▸ rfl))
    (fun _ _ ha hb => h (ha ▸ hb ▸ rfl)) (fun _ _ ha hb => h (ha ▸ hb ▸ rfl))

theorem boolCmp_swap (a b : Bool) : boolCmp b a = (boolCmp a b).swap := by
  cases a <;> cases b <;> rfl

theorem vcmp_swap_both : (∀ a b, vcmp b a = (vcmp a b).map Ordering.swap) ∧
    ∀ xs ys, vcmpList ys xs = (vcmpList xs ys).map Ordering.swap := by
  apply vcmp_ind
  case num => exact fun x y => F64.pcmp_swap x y
  case bool => exact fun x y => congrArg some (boolCmp_swap x y)
  case str => exact fun x y => congrArg some (strCmpL_swap _ _)
  case list => exact fun _ _ q => q
  case other => intro a b h1 h2; rw [h1, h2]; rfl
  case nil => rfl
  case nil_cons => exact fun _ _ => rfl
  case cons_nil => exact fun _ _ => rfl
  case cons =>
    intro x xs y ys p q
    rw [vcmpList, vcmpList, p]
    cases h : vcmp x y with
    | none => rfl
    | some o => cases o with
      | eq => exact q h
      | _ => rfl

theorem vcmp_swap (a b : Value) : vcmp b a = (vcmp a b).map Ordering.swap := vcmp_swap_both.1 a b

theorem vcmpList_swap : ∀ (xs ys : List Value), vcmpList ys xs = (vcmpList xs ys).map Ordering.swap :=
  vcmp_swap_both.2

theorem vcmp_lt_gt {a b : Value} (h : vcmp a b = some .lt) : vcmp b a = some .gt := by
  rw [vcmp_swap a b, h]; rfl

theorem vcmp_gt_lt {a b : Value} (h : vcmp a b = some .gt) : vcmp b a = some .lt := by
  rw [vcmp_swap a b, h]; rfl

theorem vcmp_eq_symm {a b : Value} (h : vcmp a b = some .eq) : vcmp b a = some .eq := by
  rw [vcmp_swap a b, h]; rfl

theorem F64.feq_of_pcmp {x y : F64} {o : Ordering} (h : x.pcmp y = some o) : x.feq y = (o == .eq) := by
  cases hf : x.feq y with
  | true => rw [(pcmp_eq_iff_feq x y).mpr hf] at h; cases h; rfl
  | false =>
    cases o with
    | eq => rw [(pcmp_eq_iff_feq x y).mp h] at hf; cases hf
    | _ => rfl

theorem veq_of_vcmp_both :
    (∀ a b, ∀ o, vcmp a b = some o → veq a b = (o == .eq)) ∧
    ∀ xs ys, ∀ o, vcmpList xs ys = some o → veqList xs ys = (o == .eq) := by
  apply vcmp_ind
  case num => exact fun x y o h => F64.feq_of_pcmp h
  case bool => intro x y o h; cases h; cases x <;> cases y <;> rfl
  case str =>
    intro x y o h; cases h
    rw [veq, Bool.eq_iff_iff, beq_iff_eq, beq_iff_eq, strCmp, strCmpL_eq_iff, String.toList_inj]
  case list => exact fun _ _ q => q
  case other => intro a b h _ o ho; rw [h] at ho; cases ho
  case nil => intro o h; cases h; rfl
  case nil_cons => intro _ _ o h; cases h; rfl
  case cons_nil => intro _ _ o h; cases h; rfl
  case cons =>
    intro x xs y ys p q o h
    rw [veqList]
    rcases vcmpList_cons_iff.mp h with ⟨hxy, h⟩ | ⟨hxy, hne⟩
    · rw [p _ hxy, q hxy o h]; rfl
    · rw [p _ hxy]; cases o <;> first | rfl | exact absurd rfl hne

theorem veq_of_vcmp {a b : Value} {o : Ordering} (h : vcmp a b = some o) : veq a b = (o == .eq) :=
  veq_of_vcmp_both.1 a b o h

theorem vcmp_eq_imp_veq (a b : Value) (h : vcmp a b = some .eq) : veq a b = true := veq_of_vcmp h

theorem vcmpList_eq_imp_veqList : ∀ (xs ys : List Value), vcmpList xs ys = some .eq → veqList xs ys = true :=
  fun xs ys h => veq_of_vcmp_both.2 xs ys _ h

theorem veqList_imp_vcmpList_eq : ∀ (xs ys : List Value) (o : Ordering),
    vcmpList xs ys = some o → veqList xs ys = true → o = .eq := by
  intro xs ys o h he
  rw [veq_of_vcmp_both.2 xs ys o h] at he
  exact eq_of_beq he

theorem vcmp_congr_both :
    (∀ b c, vcmp b c = some .eq → ∀ a, vcmp a b = vcmp a c) ∧
    ∀ ys zs, vcmpList ys zs = some .eq → ∀ xs, vcmpList xs ys = vcmpList xs zs := by
  apply vcmp_ind
  case num => intro y z h a; cases a <;> first | rfl | exact F64.pcmp_congr_right h _
  case bool =>
    intro y z h a
    have : y = z := by cases y <;> cases z <;> first | rfl | cases h
    rw [this]
  case str =>
    intro y z h a
    rw [String.toList_inj.mp ((strCmpL_eq_iff _ _).mp (Option.some.inj h))]
  case list => intro ys zs q h a; cases a <;> first | rfl | exact q h _
  case other => intro b c h _ h'; rw [h] at h'; cases h'
  case nil => exact fun _ _ => rfl
  case nil_cons => intro _ _ h; cases h
  case cons_nil => intro _ _ h; cases h
  case cons =>
    intro y ys z zs p q h xs
    rcases vcmpList_cons_iff.mp h with ⟨hyz, h⟩ | ⟨_, hne⟩
    · cases xs with
      | nil => rfl
      | cons x xs => rw [vcmpList, vcmpList, p hyz x, q hyz h xs]
    · exact absurd rfl hne

theorem vcmp_congr : ∀ (b c : Value), vcmp b c = some .eq → ∀ a, vcmp a b = vcmp a c :=
  vcmp_congr_both.1

theorem vcmpList_congr : ∀ (ys zs : List Value), vcmpList ys zs = some .eq → ∀ xs, vcmpList xs ys = vcmpList xs zs :=
  vcmp_congr_both.2

theorem vcmp_congr_left {b c : Value} (h : vcmp b c = some .eq) (a : Value) : vcmp b a = vcmp c a := by
  rw [vcmp_swap a b, vcmp_swap a c, vcmp_congr b c h a]

theorem vcmp_lt_trans_both :
    (∀ a b, ∀ c, vcmp a b = some .lt → vcmp b c = some .lt → vcmp a c = some .lt) ∧
    ∀ xs ys, ∀ zs, vcmpList xs ys = some .lt → vcmpList ys zs = some .lt → vcmpList xs zs = some .lt := by
  apply vcmp_ind
  case num =>
    intro x y c h1 h2
    cases c <;> first | cases h2 | exact F64.pcmp_trans_lt h1 h2
  case bool =>
    -- nothing is below `false`, nothing above `true`
    intro x y c h1 h2
    cases y with
    | false => cases x <;> cases h1
    | true => cases c <;> first | cases h2 | (rename_i z; cases z <;> cases h2)
  case str =>
    intro x y c h1 h2
    cases c <;> first
      | cases h2
      | exact congrArg some (strCmpL_lt_trans _ _ _ (Option.some.inj h1) (Option.some.inj h2))
  case list => intro xs ys q c h1 h2; cases c <;> first | cases h2 | exact q _ h1 h2
  case other => intro a b h _ c h1; rw [h] at h1; cases h1
  case nil => intro _ h; cases h
  case nil_cons => intro _ _ zs _ h2; cases zs <;> first | cases h2 | rfl
  case cons_nil => intro _ _ _ h; cases h
  case cons =>
    intro x xs y ys p q zs h1 h2
    cases zs with
    | nil => cases h2
    | cons z zs =>
      have lt : vcmp x z = some .lt → vcmpList (x :: xs) (z :: zs) = some .lt :=
        fun h => vcmpList_cons_iff.mpr (.inr ⟨h, by decide⟩)
      rcases vcmpList_cons_iff.mp h1 with ⟨hxy, h1⟩ | ⟨hxy, _⟩ <;>
        rcases vcmpList_cons_iff.mp h2 with ⟨hyz, h2⟩ | ⟨hyz, _⟩
      · exact vcmpList_cons_iff.mpr (.inl ⟨(vcmp_congr_left hxy z).trans hyz, q hxy zs h1 h2⟩)
      · exact lt ((vcmp_congr_left hxy z).trans hyz)
      · exact lt ((vcmp_congr y z hyz x).symm.trans hxy)
      · exact lt (p z hxy hyz)

theorem vcmp_lt_trans : ∀ (a b c : Value), vcmp a b = some .lt → vcmp b c = some .lt → vcmp a c = some .lt :=
  fun a b => vcmp_lt_trans_both.1 a b

theorem vcmpList_lt_trans : ∀ (xs ys zs : List Value),
    vcmpList xs ys = some .lt → vcmpList ys zs = some .lt → vcmpList xs zs = some .lt :=
  fun xs ys => vcmp_lt_trans_both.2 xs ys

theorem vcmpList_prefix : ∀ (xs : List Value), vcmpList xs xs = some .eq →
    ∀ (ys : List Value), ys ≠ [] → vcmpList xs (xs ++ ys) = some .lt
  | [], _, [], h => absurd rfl h
  | [], _, _ :: _, _ => rfl
  | x :: xs, hself, ys, h => by
    rcases vcmpList_cons_iff.mp hself with ⟨hxx, hself⟩ | ⟨_, hne⟩
    · exact vcmpList_cons_iff.mpr (.inl ⟨hxx, vcmpList_prefix xs hself ys h⟩)
    · exact absurd rfl hne

end Blots
