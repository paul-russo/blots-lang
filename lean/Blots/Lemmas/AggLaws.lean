import Blots.Model.Builtins
import Blots.Lemmas.Num
import Blots.Lemmas.OfRatio
/-
  Helper lemmas for C15 (aggregates `min max avg sum prod median percentile`).

  Each aggregate is `aggThen args f`: the list-or-varargs prologue `aggArgs`, the emptiness
  check, then a pure function `f` of the numbers.  The laws of C15 so reduce to `aggArgs`
  under permutation (`AggPerm`) and to facts about `f`: the `fmin` / `fmax` folds (treated
  once, through `Picks`), `sortTotal` as the only `total_cmp`-sorted arrangement of a multiset
  of bit patterns, and for the index of `percentile` the cast `usize as f64 as usize`, which is
  the identity below 2^53 and monotone (`toU64_mono`).
-/
namespace Blots

/-- prologue + emptiness check + a pure function of the numbers -/
def aggThen (args : List Value) (f : List F64 → F64) : Outcome Value :=
  (aggArgs args).bind fun ns => if ns.isEmpty then .err .domain else .ok (.num (f ns))

/-- the value `median` computes from the sorted numbers -/
def medianOf (ops : NumOps) (s : List F64) : F64 :=
  if s.length % 2 == 0 then
    ops.div (ops.add (s.getD (s.length / 2 - 1) F64.zero) (s.getD (s.length / 2) F64.zero)) f64Two
  else s.getD (s.length / 2) F64.zero

/-- the index `percentile` computes (with the float operations of `ops`) for `n` numbers -/
def pctIndex (ops : NumOps) (p : F64) (n : Nat) : Nat :=
  (ops.round (ops.mul (ops.div p hundred) (F64.ofNat (n - 1)))).toU64

/-- the tail of `percentile`: indexing the sorted numbers, a panic when out of range -/
def pctOf (ops : NumOps) (p : F64) (ns : List F64) : Outcome Value :=
  match (sortTotal ns)[pctIndex ops p (sortTotal ns).length]? with
  | some x => .ok (.num x)
  | none => .panic "nums[index] in percentile"

theorem callPure_min (ops : NumOps) (args : List Value) :
    callPure ops "min" args = some (aggThen args fun ns => ns.foldl fmin F64.inf) := rfl
theorem callPure_max (ops : NumOps) (args : List Value) :
    callPure ops "max" args = some (aggThen args fun ns => ns.foldl fmax F64.negInf) := rfl
theorem callPure_sum (ops : NumOps) (args : List Value) :
    callPure ops "sum" args = some (aggThen args fun ns => ns.foldl ops.add F64.negZero) := rfl
theorem callPure_prod (ops : NumOps) (args : List Value) :
    callPure ops "prod" args = some (aggThen args fun ns => ns.foldl ops.mul F64.one) := rfl
theorem callPure_avg (ops : NumOps) (args : List Value) :
    callPure ops "avg" args = some (aggThen args fun ns =>
      ops.div (ns.foldl ops.add F64.negZero) (F64.ofNat ns.length)) := rfl

theorem callPure_median (ops : NumOps) (args : List Value) :
    callPure ops "median" args = some (aggThen args fun ns => medianOf ops (sortTotal ns)) := by
  have h : callPure ops "median" args = some ((aggArgs args).bind fun ns =>
      if ns.isEmpty then .err .domain
      else
        if (sortTotal ns).length % 2 == 0 then
          .ok (.num (ops.div (ops.add ((sortTotal ns).getD ((sortTotal ns).length / 2 - 1) F64.zero)
            ((sortTotal ns).getD ((sortTotal ns).length / 2) F64.zero)) f64Two))
        else .ok (.num ((sortTotal ns).getD ((sortTotal ns).length / 2) F64.zero))) := rfl
  rw [h, aggThen]
  congr 1
  cases aggArgs args with
  | ok ns =>
    simp only [Outcome.bind, medianOf]
    split
    · rfl
    · split <;> rfl
  | _ => rfl

theorem callPure_percentile (ops : NumOps) (l : List Value) (p : F64) :
    callPure ops "percentile" [.list l, .num p] =
      some (if !(F64.fle F64.zero p && F64.fle p hundred) then .err .domain
            else (numList l).bind fun ns => if ns.isEmpty then .err .domain else pctOf ops p ns) := rfl

theorem numList_nil : numList [] = .ok [] := rfl

theorem numList_cons (v : Value) (L : List Value) :
    numList (v :: L) = (asNumber v).bind fun x => (numList L).bind fun xs => .ok (x :: xs) := by
  unfold numList
  cases v <;> simp only [Outcome.mapM', asNumber, Outcome.bind]
  cases Outcome.mapM' asNumber L <;> rfl

theorem numList_num_cons (x : F64) (L : List Value) :
    numList (.num x :: L) = (numList L).bind fun xs => .ok (x :: xs) := by
  rw [numList_cons]; rfl

theorem numList_map_num (ns : List F64) : numList (ns.map Value.num) = .ok ns := by
  induction ns with
  | nil => rfl
  | cons x xs ih => rw [List.map_cons, numList_num_cons, ih]; rfl

theorem numList_cases (L : List Value) :
    (∃ ns, L = ns.map Value.num ∧ numList L = .ok ns) ∨
    ((∃ v, v ∈ L ∧ ∀ x, v ≠ .num x) ∧ numList L = .err .type_) := by
  induction L with
  | nil => exact .inl ⟨[], rfl, rfl⟩
  | cons v L ih =>
    by_cases hv : ∃ x, v = .num x
    · obtain ⟨x, rfl⟩ := hv
      rcases ih with ⟨ns, h1, h2⟩ | ⟨⟨w, hw, hw'⟩, h2⟩
      · exact .inl ⟨x :: ns, by rw [h1]; rfl, by rw [numList_num_cons, h2]; rfl⟩
      · exact .inr ⟨⟨w, List.mem_cons_of_mem _ hw, hw'⟩, by rw [numList_num_cons, h2]; rfl⟩
    · refine .inr ⟨⟨v, List.mem_cons_self, fun x hx => hv ⟨x, hx⟩⟩, ?_⟩
      rw [numList_cons]
      cases v with
      | num x => exact absurd ⟨x, rfl⟩ hv
      | _ => rfl

theorem numList_ok_iff (L : List Value) (ns : List F64) :
    numList L = .ok ns ↔ L = ns.map Value.num := by
  constructor
  · intro h
    rcases numList_cases L with ⟨ms, h1, h2⟩ | ⟨_, h2⟩
    · rw [h2] at h; cases h; exact h1
    · rw [h2] at h; cases h
  · intro h; rw [h, numList_map_num]

theorem numList_err_of_mem (L : List Value) (v : Value) (hv : v ∈ L) (hn : ∀ x, v ≠ .num x) :
    numList L = .err .type_ := by
  rcases numList_cases L with ⟨ns, h1, _⟩ | ⟨_, h2⟩
  · rw [h1, List.mem_map] at hv
    obtain ⟨x, _, hx⟩ := hv
    exact absurd hx.symm (hn x)
  · exact h2

theorem aggArgs_list (L : List Value) : aggArgs [.list L] = numList L := rfl
theorem aggArgs_nil : aggArgs [] = .ok [] := rfl
theorem aggArgs_cons_cons (a b : Value) (r : List Value) :
    aggArgs (a :: b :: r) = numList (a :: b :: r) := by
  cases a <;> rfl

theorem numList_single (v : Value) : numList [v] = (asNumber v).bind fun x => .ok [x] := by
  rw [numList_cons]; cases v <;> rfl

theorem aggArgs_single (v : Value) (h : ∀ xs, v ≠ .list xs) :
    aggArgs [v] = (asNumber v).bind fun x => .ok [x] := by
  cases v with
  | list xs => exact absurd rfl (h xs)
  | _ => rfl

theorem aggArgs_single_num (x : F64) : aggArgs [.num x] = .ok [x] := rfl

theorem aggArgs_single_err (v : Value) (h : ∀ xs, v ≠ .list xs) (hn : ∀ x, v ≠ .num x) :
    aggArgs [v] = .err .type_ := by
  rw [aggArgs_single v h]
  cases v with
  | num x => exact absurd rfl (hn x)
  | _ => rfl

/-- both calling conventions hand the same numbers to the aggregate, except for a
    one-element list whose element is itself a list -/
theorem aggArgs_list_eq (L : List Value) (h : L.length ≠ 1 ∨ ∃ v, L = [v] ∧ ∀ xs, v ≠ .list xs) :
    aggArgs [.list L] = aggArgs L := by
  rw [aggArgs_list]
  match L, h with
  | [], _ => rfl
  | [v], .inl h => exact absurd rfl h
  | [v], .inr ⟨w, hw, hl⟩ =>
    cases hw
    rw [aggArgs_single _ hl, numList_single]
  | a :: b :: r, _ => rw [aggArgs_cons_cons]

theorem aggArgs_map_num (ns : List F64) : aggArgs (ns.map Value.num) = .ok ns := by
  match ns with
  | [] => rfl
  | [x] => rfl
  | a :: b :: r =>
    rw [List.map_cons, List.map_cons, aggArgs_cons_cons, ← List.map_cons, ← List.map_cons,
      numList_map_num]

theorem aggArgs_cases (args : List Value) :
    (∃ ns, aggArgs args = .ok ns) ∨ aggArgs args = .err .type_ := by
  match args with
  | [] => exact .inl ⟨[], rfl⟩
  | [v] =>
    by_cases hl : ∃ xs, v = .list xs
    · obtain ⟨xs, rfl⟩ := hl
      rw [aggArgs_list]
      rcases numList_cases xs with ⟨ns, _, h⟩ | ⟨_, h⟩
      · exact .inl ⟨ns, h⟩
      · exact .inr h
    · have hl' : ∀ xs, v ≠ .list xs := fun xs hx => hl ⟨xs, hx⟩
      rw [aggArgs_single v hl']
      cases v with
      | num x => exact .inl ⟨[x], rfl⟩
      | _ => exact .inr rfl
  | a :: b :: r =>
    rw [aggArgs_cons_cons]
    rcases numList_cases (a :: b :: r) with ⟨ns, _, h⟩ | ⟨_, h⟩
    · exact .inl ⟨ns, h⟩
    · exact .inr h

theorem aggThen_congr {a b : List Value} (h : aggArgs a = aggArgs b) (f : List F64 → F64) :
    aggThen a f = aggThen b f := by
  simp only [aggThen, h]

theorem aggThen_of_ok {args : List Value} {ns : List F64} (h : aggArgs args = .ok ns)
    (hne : ns ≠ []) (f : List F64 → F64) : aggThen args f = .ok (.num (f ns)) := by
  have : ns.isEmpty = false := by cases ns with | nil => exact absurd rfl hne | cons _ _ => rfl
  simp only [aggThen, h, Outcome.bind, this]
  rfl

theorem aggThen_of_empty {args : List Value} (h : aggArgs args = .ok []) (f : List F64 → F64) :
    aggThen args f = .err .domain := by
  simp only [aggThen, h, Outcome.bind]
  rfl

theorem aggThen_ok_inv {args : List Value} {f : List F64 → F64} {v : Value}
    (h : aggThen args f = .ok v) : ∃ ns, aggArgs args = .ok ns ∧ ns ≠ [] ∧ v = .num (f ns) := by
  unfold aggThen at h
  cases ha : aggArgs args with
  | ok ns =>
    rw [ha] at h
    simp only [Outcome.bind] at h
    cases ns with
    | nil => simp at h
    | cons x xs =>
      refine ⟨x :: xs, rfl, by simp, ?_⟩
      simp at h
      exact h.symm
  | err k => rw [ha] at h; simp [Outcome.bind] at h
  | panic s => rw [ha] at h; simp [Outcome.bind] at h
  | fuel => rw [ha] at h; simp [Outcome.bind] at h

def valueNum? : Value → Option F64
  | .num x => some x
  | _ => none

theorem filterMap_valueNum?_map (ns : List F64) :
    (ns.map Value.num).filterMap valueNum? = ns := by
  induction ns with
  | nil => rfl
  | cons x xs ih => simp [valueNum?, ih]

theorem numList_perm {L M : List Value} (h : L.Perm M) :
    (∃ ns ms, numList L = .ok ns ∧ numList M = .ok ms ∧ ns.Perm ms) ∨
    (numList L = .err .type_ ∧ numList M = .err .type_) := by
  rcases numList_cases L with ⟨ns, h1, h2⟩ | ⟨⟨v, hv, hn⟩, h2⟩
  · rcases numList_cases M with ⟨ms, h3, h4⟩ | ⟨⟨v, hv, hn⟩, _⟩
    · refine .inl ⟨ns, ms, h2, h4, ?_⟩
      rw [h1, h3] at h
      have := h.filterMap valueNum?
      rwa [filterMap_valueNum?_map, filterMap_valueNum?_map] at this
    · have := h.symm.subset hv
      rw [h1, List.mem_map] at this
      obtain ⟨x, _, hx⟩ := this
      exact absurd hx.symm (hn x)
  · exact .inr ⟨h2, numList_err_of_mem M v (h.subset hv) hn⟩

namespace F64

theorem eq_of_nbits_eq {a b : F64} (h : a.nbits = b.nbits) : a = b := by
  cases a with | mk x => cases b with | mk y =>
  simp only [nbits] at h
  exact congrArg F64.mk (UInt64.toNat_inj.mp h)

theorem nbits_inf : inf.nbits = 0x7FF0000000000000 := by decide
theorem nbits_negInf : negInf.nbits = 0xFFF0000000000000 := by decide

theorem isNaN_false_iff (x : F64) :
    x.isNaN = false ↔ (x.nbits / 2 ^ 52 % 2048 ≠ 2047 ∨ x.nbits % 2 ^ 52 = 0) := by
  unfold isNaN expField frac
  by_cases h1 : x.nbits / 2 ^ 52 % 2048 = 2047 <;> by_cases h2 : x.nbits % 2 ^ 52 = 0 <;>
    simp [h1, h2]

theorem key_eq (x : F64) :
    x.key = if x.nbits / 2 ^ 63 % 2 = 1 then - ((x.nbits % 2 ^ 63 : Nat) : Int)
      else ((x.nbits % 2 ^ 63 : Nat) : Int) := by
  simp [key, neg, mag]

theorem totalKey_eq (x : F64) :
    totalKey x = if x.nbits / 2 ^ 63 % 2 = 1 then - ((x.nbits % 2 ^ 63 : Nat) : Int) - 1
      else ((x.nbits % 2 ^ 63 : Nat) : Int) := by
  simp [totalKey, neg, mag]

theorem eq_inf_of_key_ge {x : F64} (hx : x.isNaN = false) (h : inf.key ≤ x.key) : x = inf := by
  apply eq_of_nbits_eq
  rw [nbits_inf]
  have hlt := nbits_lt x
  have hk : inf.key = 0x7FF0000000000000 := by decide
  rw [hk, key_eq] at h
  rw [isNaN_false_iff] at hx
  split at h <;> omega

theorem eq_negInf_of_key_le {x : F64} (hx : x.isNaN = false) (h : x.key ≤ negInf.key) :
    x = negInf := by
  apply eq_of_nbits_eq
  rw [nbits_negInf]
  have hlt := nbits_lt x
  have hk : negInf.key = -0x7FF0000000000000 := by decide
  rw [hk, key_eq] at h
  rw [isNaN_false_iff] at hx
  split at h <;> omega

/-- `total_cmp` order refines the IEEE order (it only adds `-0 < +0` and places NaNs) -/
theorem key_le_of_totalKey_le {a b : F64} (h : totalKey a ≤ totalKey b) : a.key ≤ b.key := by
  rw [totalKey_eq, totalKey_eq] at h
  rw [key_eq, key_eq]
  split at h <;> split at h <;> simp [*] <;> omega

theorem totalKey_inj {a b : F64} (h : totalKey a = totalKey b) : a = b := by
  apply eq_of_nbits_eq
  have ha := nbits_lt a
  have hb := nbits_lt b
  rw [totalKey_eq, totalKey_eq] at h
  split at h <;> split at h <;> omega

theorem fle_iff (a b : F64) :
    fle a b = true ↔ a.isNaN = false ∧ b.isNaN = false ∧ a.key ≤ b.key := by
  simp [fle, and_assoc]

theorem fle_of_totalKey_le {a b : F64} (ha : a.isNaN = false) (hb : b.isNaN = false)
    (h : totalKey a ≤ totalKey b) : fle a b = true :=
  (fle_iff a b).mpr ⟨ha, hb, key_le_of_totalKey_le h⟩

end F64

theorem fmin_of_not_nan {a b : F64} (ha : a.isNaN = false) (hb : b.isNaN = false) :
    fmin a b = if b.key < a.key then b else a := by
  simp [fmin, F64.flt, ha, hb]

theorem fmax_of_not_nan {a b : F64} (ha : a.isNaN = false) (hb : b.isNaN = false) :
    fmax a b = if a.key < b.key then b else a := by
  simp [fmax, F64.flt, ha, hb]

theorem fmin_nan_right {a b : F64} (ha : a.isNaN = false) (hb : b.isNaN = true) : fmin a b = a := by
  simp [fmin, ha, hb]

theorem fmax_nan_right {a b : F64} (ha : a.isNaN = false) (hb : b.isNaN = true) : fmax a b = a := by
  simp [fmax, ha, hb]

theorem inf_not_nan : F64.inf.isNaN = false := by decide
theorem negInf_not_nan : F64.negInf.isNaN = false := by decide

theorem fmin_inf_left {x : F64} (hx : x.isNaN = false) : fmin F64.inf x = x := by
  rw [fmin_of_not_nan inf_not_nan hx]
  split
  · rfl
  · exact (F64.eq_inf_of_key_ge hx (by omega)).symm

theorem fmax_negInf_left {x : F64} (hx : x.isNaN = false) : fmax F64.negInf x = x := by
  rw [fmax_of_not_nan negInf_not_nan hx]
  split
  · rfl
  · exact (F64.eq_negInf_of_key_le hx (by omega)).symm

def nonNaNs (ns : List F64) : List F64 := ns.filter fun x => !x.isNaN

theorem mem_nonNaNs {ns : List F64} {x : F64} : x ∈ nonNaNs ns ↔ x ∈ ns ∧ x.isNaN = false := by
  simp [nonNaNs]

/-- what `fmin` and `fmax` have in common: of two non-NaN numbers `f` keeps the one with the
    smaller `k` (the first on a tie), a NaN on the right is skipped, and the first non-NaN number
    replaces `seed`.  `fmin`: `k = key`, `seed = +inf`; `fmax`: `k = −key`, `seed = −inf`. -/
structure Picks (f : F64 → F64 → F64) (k : F64 → Int) (seed : F64) : Prop where
  pick : ∀ {a b : F64}, a.isNaN = false → b.isNaN = false → f a b = if k b < k a then b else a
  skip : ∀ {a b : F64}, a.isNaN = false → b.isNaN = true → f a b = a
  seed_not_nan : seed.isNaN = false
  seed_left : ∀ {x : F64}, x.isNaN = false → f seed x = x

theorem fmin_picks : Picks fmin F64.key F64.inf :=
  ⟨fmin_of_not_nan, fmin_nan_right, inf_not_nan, fmin_inf_left⟩

theorem fmax_picks : Picks fmax (fun x => -x.key) F64.negInf :=
  ⟨fun ha hb => by rw [fmax_of_not_nan ha hb]; simp only [Int.neg_lt_neg_iff],
    fmax_nan_right, negInf_not_nan, fmax_negInf_left⟩

namespace Picks

variable {f : F64 → F64 → F64} {k : F64 → Int} {seed : F64}

theorem not_nan (P : Picks f k seed) {a b : F64} (ha : a.isNaN = false) (hb : b.isNaN = false) :
    (f a b).isNaN = false := by
  rw [P.pick ha hb]; split <;> assumption

theorem foldl_spec (P : Picks f k seed) : ∀ (ns : List F64) (a : F64), a.isNaN = false →
    (∀ x ∈ ns, x.isNaN = false) →
    (ns.foldl f a = a ∨ ns.foldl f a ∈ ns) ∧ (ns.foldl f a).isNaN = false ∧
      k (ns.foldl f a) ≤ k a ∧ ∀ x ∈ ns, k (ns.foldl f a) ≤ k x
  | [], a, ha, _ => ⟨.inl rfl, ha, Int.le_refl _, fun _ h => by cases h⟩
  | y :: ys, a, ha, hns => by
    have hy : y.isNaN = false := hns y List.mem_cons_self
    have hys : ∀ x ∈ ys, x.isNaN = false := fun x hx => hns x (List.mem_cons_of_mem _ hx)
    have hf := P.pick ha hy
    obtain ⟨h1, h2, h3, h4⟩ := foldl_spec P ys (f a y) (P.not_nan ha hy) hys
    rw [List.foldl_cons]
    have hka : k (f a y) ≤ k a := by rw [hf]; split <;> omega
    have hky : k (f a y) ≤ k y := by rw [hf]; split <;> omega
    refine ⟨?_, h2, by omega, ?_⟩
    · rcases h1 with h1 | h1
      · rw [h1, hf]
        split
        · exact .inr List.mem_cons_self
        · exact .inl rfl
      · exact .inr (List.mem_cons_of_mem _ h1)
    · intro x hx
      rcases List.mem_cons.mp hx with rfl | hx
      · omega
      · exact h4 x hx

theorem foldl_nonNaNs (P : Picks f k seed) : ∀ (ns : List F64) (a : F64), a.isNaN = false →
    ns.foldl f a = (nonNaNs ns).foldl f a
  | [], _, _ => rfl
  | y :: ys, a, ha => by
    cases hy : y.isNaN with
    | true =>
      have : nonNaNs (y :: ys) = nonNaNs ys := by simp [nonNaNs, hy]
      rw [this, List.foldl_cons, P.skip ha hy]
      exact foldl_nonNaNs P ys a ha
    | false =>
      have : nonNaNs (y :: ys) = y :: nonNaNs ys := by simp [nonNaNs, hy]
      rw [this, List.foldl_cons, List.foldl_cons]
      exact foldl_nonNaNs P ys _ (P.not_nan ha hy)

theorem foldl_seed (P : Picks f k seed) (ns : List F64) :
    (nonNaNs ns = [] ∧ ns.foldl f seed = seed) ∨
    (ns.foldl f seed ∈ ns ∧ (ns.foldl f seed).isNaN = false ∧
      ∀ x ∈ ns, x.isNaN = false → k (ns.foldl f seed) ≤ k x) := by
  rw [P.foldl_nonNaNs ns _ P.seed_not_nan]
  match hns : nonNaNs ns with
  | [] => exact .inl ⟨rfl, rfl⟩
  | y :: ys =>
    have hmem : ∀ x, x ∈ y :: ys → x ∈ ns ∧ x.isNaN = false := fun x hx =>
      mem_nonNaNs.mp (hns ▸ hx)
    have hy := (hmem y List.mem_cons_self).2
    obtain ⟨h1, h2, h3, h4⟩ := P.foldl_spec ys y hy
      fun x hx => (hmem x (List.mem_cons_of_mem _ hx)).2
    rw [List.foldl_cons, P.seed_left hy]
    refine .inr ⟨(hmem _ ?_).1, h2, fun x hx hn => ?_⟩
    · rcases h1 with h1 | h1
      · rw [h1]; exact List.mem_cons_self
      · exact List.mem_cons_of_mem _ h1
    · rcases List.mem_cons.mp (hns ▸ mem_nonNaNs.mpr ⟨hx, hn⟩) with rfl | hx'
      · exact h3
      · exact h4 x hx'

theorem foldl_perm (P : Picks f k seed) {ns ms : List F64} (h : ns.Perm ms) :
    (ns.foldl f seed = seed ∧ ms.foldl f seed = seed) ∨
    ((ns.foldl f seed).isNaN = false ∧ (ms.foldl f seed).isNaN = false ∧
      k (ns.foldl f seed) = k (ms.foldl f seed)) := by
  have hp : (nonNaNs ns).Perm (nonNaNs ms) := h.filter _
  rcases P.foldl_seed ns with ⟨h1, h2⟩ | ⟨h1, h2, h3⟩
  · rcases P.foldl_seed ms with ⟨_, g2⟩ | ⟨g1, g2, _⟩
    · exact .inl ⟨h2, g2⟩
    · have hm := hp.symm.subset (mem_nonNaNs.mpr ⟨g1, g2⟩)
      rw [h1] at hm; cases hm
  · rcases P.foldl_seed ms with ⟨g1, _⟩ | ⟨g1, g2, g3⟩
    · have hm := hp.subset (mem_nonNaNs.mpr ⟨h1, h2⟩)
      rw [g1] at hm; cases hm
    · exact .inr ⟨h2, g2, Int.le_antisymm (h3 _ (h.symm.subset g1) g2) (g3 _ (h.subset h1) h2)⟩

end Picks

theorem foldl_fmin_inf_spec (ns : List F64) (hne : ns ≠ []) (hns : ∀ x ∈ ns, x.isNaN = false) :
    ns.foldl fmin F64.inf ∈ ns ∧ ∀ x ∈ ns, F64.fle (ns.foldl fmin F64.inf) x = true := by
  rcases fmin_picks.foldl_seed ns with ⟨h1, _⟩ | ⟨h1, h2, h3⟩
  · obtain ⟨y, hy⟩ := List.exists_mem_of_ne_nil ns hne
    have := mem_nonNaNs.mpr ⟨hy, hns y hy⟩
    rw [h1] at this; cases this
  · exact ⟨h1, fun x hx => (F64.fle_iff _ _).mpr ⟨h2, hns x hx, h3 x hx (hns x hx)⟩⟩

theorem foldl_fmax_negInf_spec (ns : List F64) (hne : ns ≠ []) (hns : ∀ x ∈ ns, x.isNaN = false) :
    ns.foldl fmax F64.negInf ∈ ns ∧ ∀ x ∈ ns, F64.fle x (ns.foldl fmax F64.negInf) = true := by
  rcases fmax_picks.foldl_seed ns with ⟨h1, _⟩ | ⟨h1, h2, h3⟩
  · obtain ⟨y, hy⟩ := List.exists_mem_of_ne_nil ns hne
    have := mem_nonNaNs.mpr ⟨hy, hns y hy⟩
    rw [h1] at this; cases this
  · exact ⟨h1, fun x hx =>
      (F64.fle_iff _ _).mpr ⟨hns x hx, h2, Int.neg_le_neg_iff.mp (h3 x hx (hns x hx))⟩⟩

theorem foldl_fmin_inf_general (ns : List F64) :
    (nonNaNs ns = [] ∧ ns.foldl fmin F64.inf = F64.inf) ∨
    (ns.foldl fmin F64.inf ∈ ns ∧ (ns.foldl fmin F64.inf).isNaN = false ∧
      ∀ x ∈ ns, x.isNaN = false → F64.fle (ns.foldl fmin F64.inf) x = true) :=
  (fmin_picks.foldl_seed ns).imp_right fun ⟨h1, h2, h3⟩ =>
    ⟨h1, h2, fun x hx hn => (F64.fle_iff _ _).mpr ⟨h2, hn, h3 x hx hn⟩⟩

theorem foldl_fmax_negInf_general (ns : List F64) :
    (nonNaNs ns = [] ∧ ns.foldl fmax F64.negInf = F64.negInf) ∨
    (ns.foldl fmax F64.negInf ∈ ns ∧ (ns.foldl fmax F64.negInf).isNaN = false ∧
      ∀ x ∈ ns, x.isNaN = false → F64.fle x (ns.foldl fmax F64.negInf) = true) :=
  (fmax_picks.foldl_seed ns).imp_right fun ⟨h1, h2, h3⟩ =>
    ⟨h1, h2, fun x hx hn => (F64.fle_iff _ _).mpr ⟨hn, h2, Int.neg_le_neg_iff.mp (h3 x hx hn)⟩⟩

theorem foldl_fmin_perm {ns ms : List F64} (h : ns.Perm ms) :
    F64.feq (ns.foldl fmin F64.inf) (ms.foldl fmin F64.inf) = true := by
  rcases fmin_picks.foldl_perm h with ⟨h1, h2⟩ | ⟨h1, h2, h3⟩
  · rw [h1, h2]; decide
  · simp [F64.feq, h1, h2, h3]

theorem foldl_fmax_perm {ns ms : List F64} (h : ns.Perm ms) :
    F64.feq (ns.foldl fmax F64.negInf) (ms.foldl fmax F64.negInf) = true := by
  rcases fmax_picks.foldl_perm h with ⟨h1, h2⟩ | ⟨h1, h2, h3⟩
  · rw [h1, h2]; decide
  · simp [F64.feq, h1, h2, Int.neg_inj.mp h3]

/-- the order `sortTotal` sorts by -/
def TotalLe (a b : F64) : Prop := totalKey a ≤ totalKey b

theorem insertSortedF64_perm (le : F64 → F64 → Bool) (x : F64) :
    ∀ l : List F64, (insertSortedF64 le x l).Perm (x :: l)
  | [] => List.Perm.refl _
  | y :: ys => by
    unfold insertSortedF64
    split
    · exact List.Perm.refl _
    · exact ((insertSortedF64_perm le x ys).cons y).trans (List.Perm.swap x y ys)

theorem sortTotal_cons (x : F64) (xs : List F64) :
    sortTotal (x :: xs) =
      insertSortedF64 (fun a b => totalKey a ≤ totalKey b) x (sortTotal xs) := rfl

theorem sortTotal_perm : ∀ ns : List F64, (sortTotal ns).Perm ns
  | [] => List.Perm.refl _
  | x :: xs => by
    rw [sortTotal_cons]
    exact (insertSortedF64_perm _ x _).trans ((sortTotal_perm xs).cons x)

theorem sortTotal_length (ns : List F64) : (sortTotal ns).length = ns.length :=
  (sortTotal_perm ns).length_eq

theorem mem_sortTotal {ns : List F64} {x : F64} : x ∈ sortTotal ns ↔ x ∈ ns :=
  (sortTotal_perm ns).mem_iff

theorem insertSortedF64_sorted (x : F64) : ∀ l : List F64, l.Pairwise TotalLe →
    (insertSortedF64 (fun a b => totalKey a ≤ totalKey b) x l).Pairwise TotalLe
  | [], _ => List.pairwise_singleton _ _
  | y :: ys, h => by
    unfold insertSortedF64
    have hy : ∀ {z}, z ∈ ys → TotalLe y z := fun hz => List.rel_of_pairwise_cons h hz
    split
    · next hle =>
      have hle : totalKey x ≤ totalKey y := by simpa using hle
      refine List.Pairwise.cons ?_ h
      intro z hz
      rcases List.mem_cons.mp hz with rfl | hz
      · exact hle
      · exact Int.le_trans hle (hy hz)
    · next hle =>
      have hle : totalKey y ≤ totalKey x := by
        have : ¬ totalKey x ≤ totalKey y := by simpa using hle
        omega
      refine List.Pairwise.cons ?_ (insertSortedF64_sorted x ys h.tail)
      intro z hz
      have := (insertSortedF64_perm _ x ys).subset hz
      rcases List.mem_cons.mp this with rfl | hz
      · exact hle
      · exact hy hz

theorem sortTotal_sorted : ∀ ns : List F64, (sortTotal ns).Pairwise TotalLe
  | [] => List.Pairwise.nil
  | x :: xs => by
    rw [sortTotal_cons]
    exact insertSortedF64_sorted x _ (sortTotal_sorted xs)

/-- a multiset of bit patterns has exactly one `total_cmp`-sorted arrangement -/
theorem sortTotal_eq_of_perm {ns ms : List F64} (h : ns.Perm ms) : sortTotal ns = sortTotal ms := by
  refine List.Perm.eq_of_pairwise (le := TotalLe) ?_ (sortTotal_sorted ns) (sortTotal_sorted ms)
    ((sortTotal_perm ns).trans (h.trans (sortTotal_perm ms).symm))
  intro a b _ _ h1 h2
  exact F64.totalKey_inj (Int.le_antisymm h1 h2)

theorem sortTotal_sorted_fle (ns : List F64) (hns : ∀ x ∈ ns, x.isNaN = false) :
    (sortTotal ns).Pairwise fun a b => F64.fle a b = true := by
  have h := sortTotal_sorted ns
  rw [List.pairwise_iff_forall_sublist] at h ⊢
  intro a b hab
  have ha : a ∈ sortTotal ns := hab.subset (by simp)
  have hb : b ∈ sortTotal ns := hab.subset (by simp)
  exact F64.fle_of_totalKey_le (hns a (mem_sortTotal.mp ha)) (hns b (mem_sortTotal.mp hb)) (h hab)

theorem sortTotal_getElem_le (ns : List F64) {i j : Nat} {a b : F64} (hij : i ≤ j)
    (ha : (sortTotal ns)[i]? = some a) (hb : (sortTotal ns)[j]? = some b) :
    totalKey a ≤ totalKey b := by
  have h := sortTotal_sorted ns
  obtain ⟨hi, rfl⟩ := List.getElem?_eq_some_iff.mp ha
  obtain ⟨hj, rfl⟩ := List.getElem?_eq_some_iff.mp hb
  rcases Nat.lt_or_eq_of_le hij with hlt | rfl
  · exact List.pairwise_iff_getElem.mp h i j hi hj hlt
  · exact Int.le_refl _

theorem medianOf_odd (ops : NumOps) (s : List F64) (h : s.length % 2 = 1) :
    ∃ x, s[s.length / 2]? = some x ∧ medianOf ops s = x := by
  have hlt : s.length / 2 < s.length := by omega
  refine ⟨s[s.length / 2], List.getElem?_eq_getElem hlt, ?_⟩
  have : ¬ (s.length % 2 == 0) = true := by simp [h]
  simp only [medianOf, if_neg this, List.getD_eq_getElem?_getD, List.getElem?_eq_getElem hlt,
    Option.getD_some]

theorem medianOf_even (ops : NumOps) (s : List F64) (h : s.length % 2 = 0) (hne : s ≠ []) :
    ∃ a b, s[s.length / 2 - 1]? = some a ∧ s[s.length / 2]? = some b ∧
      medianOf ops s = ops.div (ops.add a b) f64Two := by
  have hpos : 0 < s.length := List.length_pos_iff.mpr hne
  have hlt : s.length / 2 < s.length := by omega
  have hlt' : s.length / 2 - 1 < s.length := by omega
  refine ⟨s[s.length / 2 - 1], s[s.length / 2], List.getElem?_eq_getElem hlt',
    List.getElem?_eq_getElem hlt, ?_⟩
  have : (s.length % 2 == 0) = true := by simp [h]
  simp only [medianOf, if_pos this, List.getD_eq_getElem?_getD, List.getElem?_eq_getElem hlt,
    List.getElem?_eq_getElem hlt', Option.getD_some]

theorem pctOf_of_lt (ops : NumOps) (p : F64) (ns : List F64)
    (h : pctIndex ops p ns.length < ns.length) :
    ∃ x, (sortTotal ns)[pctIndex ops p ns.length]? = some x ∧ pctOf ops p ns = .ok (.num x) := by
  have hl := sortTotal_length ns
  have hlt : pctIndex ops p ns.length < (sortTotal ns).length := by rw [hl]; exact h
  refine ⟨(sortTotal ns)[pctIndex ops p ns.length], List.getElem?_eq_getElem hlt, ?_⟩
  simp only [pctOf, hl, List.getElem?_eq_getElem hlt]

theorem pctOf_of_ge (ops : NumOps) (p : F64) (ns : List F64)
    (h : ns.length ≤ pctIndex ops p ns.length) :
    pctOf ops p ns = .panic "nums[index] in percentile" := by
  have hl := sortTotal_length ns
  have : (sortTotal ns)[pctIndex ops p ns.length]? = none :=
    List.getElem?_eq_none (by rw [hl]; exact h)
  simp only [pctOf, hl, this]

/-- the two argument lists hand permuted numbers to the aggregate, or both are rejected -/
def AggPerm (a b : List Value) : Prop :=
  (∃ ns ms, aggArgs a = .ok ns ∧ aggArgs b = .ok ms ∧ ns.Perm ms) ∨
  (aggArgs a = .err .type_ ∧ aggArgs b = .err .type_)

theorem aggPerm_list {L M : List Value} (h : L.Perm M) : AggPerm [.list L] [.list M] := by
  unfold AggPerm
  rw [aggArgs_list, aggArgs_list]
  exact numList_perm h

theorem aggPerm_varargs {L M : List Value} (h : L.Perm M) : AggPerm L M := by
  by_cases h1 : L.length = 1
  · match L, h1 with
    | [v], _ =>
      have : M = [v] := List.perm_singleton.mp h.symm
      subst this
      unfold AggPerm
      by_cases hl : ∃ xs, v = .list xs
      · obtain ⟨xs, rfl⟩ := hl
        rw [aggArgs_list]
        exact numList_perm (List.Perm.refl xs)
      · have hl' : ∀ xs, v ≠ .list xs := fun xs hx => hl ⟨xs, hx⟩
        rw [← aggArgs_list_eq [v] (.inr ⟨v, rfl, hl'⟩), aggArgs_list]
        exact numList_perm (List.Perm.refl [v])
  · have h2 : M.length ≠ 1 := by rw [← h.length_eq]; exact h1
    unfold AggPerm
    rw [← aggArgs_list_eq L (.inl h1), ← aggArgs_list_eq M (.inl h2), aggArgs_list, aggArgs_list]
    exact numList_perm h

theorem aggThen_of_aggPerm {a b : List Value} (h : AggPerm a b) (f : List F64 → F64) :
    (∃ ns ms, ns.Perm ms ∧ aggThen a f = .ok (.num (f ns)) ∧ aggThen b f = .ok (.num (f ms))) ∨
    (∃ k, aggThen a f = .err k ∧ aggThen b f = .err k) := by
  rcases h with ⟨ns, ms, h1, h2, hp⟩ | ⟨h1, h2⟩
  · by_cases hne : ns = []
    · subst hne
      have : ms = [] := hp.symm.eq_nil
      subst this
      exact .inr ⟨.domain, aggThen_of_empty h1 f, aggThen_of_empty h2 f⟩
    · have hne' : ms ≠ [] := fun hm => hne (by subst hm; exact hp.eq_nil)
      exact .inl ⟨ns, ms, hp, aggThen_of_ok h1 hne f, aggThen_of_ok h2 hne' f⟩
  · refine .inr ⟨.type_, ?_, ?_⟩ <;> simp only [aggThen, h1, h2, Outcome.bind]

theorem aggThen_perm_exact {a b : List Value} (h : AggPerm a b) (f : List F64 → F64)
    (hf : ∀ ns ms, ns.Perm ms → f ns = f ms) : aggThen a f = aggThen b f := by
  rcases aggThen_of_aggPerm h f with ⟨ns, ms, hp, h1, h2⟩ | ⟨k, h1, h2⟩
  · rw [h1, h2, hf ns ms hp]
  · rw [h1, h2]

theorem callPure_agg (ops : NumOps) (name : String)
    (hname : name ∈ ["min", "max", "avg", "sum", "prod", "median"]) :
    ∃ f, ∀ args, callPure ops name args = some (aggThen args f) := by
  simp only [List.mem_cons, List.not_mem_nil, or_false] at hname
  rcases hname with rfl | rfl | rfl | rfl | rfl | rfl
  · exact ⟨_, callPure_min ops⟩
  · exact ⟨_, callPure_max ops⟩
  · exact ⟨_, callPure_avg ops⟩
  · exact ⟨_, callPure_sum ops⟩
  · exact ⟨_, callPure_prod ops⟩
  · exact ⟨_, callPure_median ops⟩

namespace F64

theorem ofNat_bits (k : Nat) (hk0 : k ≠ 0) (hk : k < 2 ^ 53) :
    ∃ j m, j ≤ 52 ∧ m = k * 2 ^ j ∧ 2 ^ 52 ≤ m ∧ m < 2 ^ 53 ∧
      ofNat k = ofNatBits ((1075 - j) * 2 ^ 52 + (m - 2 ^ 52)) := by
  have hL : k.log2 < 53 := (Nat.log2_lt hk0).mpr hk
  have h1 : 2 ^ k.log2 ≤ k := Nat.log2_self_le hk0
  have h2 : k < 2 ^ (k.log2 + 1) := Nat.lt_log2_self
  have hm1 : 2 ^ 52 ≤ k * 2 ^ (52 - k.log2) := by
    calc 2 ^ 52 = 2 ^ k.log2 * 2 ^ (52 - k.log2) := by rw [← Nat.pow_add]; congr 1; omega
      _ ≤ k * 2 ^ (52 - k.log2) := Nat.mul_le_mul_right _ h1
  have hm2 : k * 2 ^ (52 - k.log2) < 2 ^ 53 := by
    calc k * 2 ^ (52 - k.log2) < 2 ^ (k.log2 + 1) * 2 ^ (52 - k.log2) :=
          Nat.mul_lt_mul_of_pos_right h2 (Nat.two_pow_pos _)
      _ = 2 ^ 53 := by rw [← Nat.pow_add]; congr 1; omega
  refine ⟨52 - k.log2, k * 2 ^ (52 - k.log2), by omega, rfl, hm1, hm2, ?_⟩
  generalize hj : 52 - k.log2 = j at *
  unfold ofNat
  by_cases hj0 : j = 0
  · subst hj0
    have := ofRatio_normal_nonneg false k 0 (by simpa using hm1) (by simpa using hm2) (by omega)
    simp only [Nat.pow_zero, Nat.mul_one] at this ⊢
    rw [this]; simp
  · have hs := ofRatio_scale_two_pow false k 1 j (by decide)
    rw [Nat.one_mul] at hs
    rw [← hs, ofRatio_normal_neg false _ j hm1 hm2 (by omega) (by omega)]
    simp

/-- `k·2^j` is the 53-bit significand of `k as f64` -/
theorem ofNat_fields (k : Nat) (hk0 : k ≠ 0) (hk : k < 2 ^ 53) :
    ∃ j, j ≤ 52 ∧ (ofNat k).neg = false ∧ (ofNat k).expField = 1075 - j ∧
      (ofNat k).ratio = (k * 2 ^ j, 2 ^ j) := by
  obtain ⟨j, m, hj, hm, hm1, hm2, hb⟩ := ofNat_bits k hk0 hk
  have hn : (ofNat k).nbits = (1075 - j) * 2 ^ 52 + (m - 2 ^ 52) := by
    rw [hb, nbits_ofNatBits _ (by omega)]
  have hE : (ofNat k).expField = 1075 - j := by unfold expField; rw [hn]; omega
  have hF : (ofNat k).frac + 2 ^ 52 = m := by unfold frac; rw [hn]; omega
  have hneg : (ofNat k).neg = false := by
    unfold neg; rw [hn]
    exact decide_eq_false (by omega)
  refine ⟨j, hj, hneg, hE, ?_⟩
  by_cases hj0 : j = 0
  · subst hj0
    rw [ratio_normal_nonneg _ (by omega), hE, hF, hm]
    simp
  · rw [ratio_normal_neg _ (by omega) (by omega), hE, hF, hm,
      show 1075 - (1075 - j) = j by omega]

theorem ofNat_zero : ofNat 0 = zero := by unfold ofNat; rw [ofRatio_zero]; rfl

theorem toU64_zero : zero.toU64 = 0 := by
  have ht : zero.truncInt = 0 := by
    unfold truncInt
    rw [ratio_subnormal zero (by decide)]
    have h1 : zero.frac = 0 := by decide
    have h2 : zero.neg = false := by decide
    simp only [h1, h2, Nat.zero_div]
    rfl
  have h3 : zero.isNaN = false := by decide
  have h4 : zero.isInf = false := by decide
  unfold toU64
  simp only [h3, h4, ht]
  rfl

theorem toU64_ofNat (k : Nat) (hk : k < 2 ^ 53) : (ofNat k).toU64 = k := by
  by_cases hk0 : k = 0
  · subst hk0
    rw [ofNat_zero, toU64_zero]
  · obtain ⟨j, hj, hneg, hE, hr⟩ := ofNat_fields k hk0 hk
    obtain ⟨_, hnan, hinf⟩ := not_special_of_expField_ne (x := ofNat k) (by omega)
    have ht : (ofNat k).truncInt = (k : Int) := by
      unfold truncInt
      simp only [hneg, hr, Nat.mul_div_cancel _ (Nat.two_pow_pos j)]
      rfl
    unfold toU64
    have a1 : ¬ ((k : Int) < 0) := by omega
    have a2 : ¬ ((k : Int) > 2 ^ 64 - 1) := by omega
    simp only [hnan, hinf, ht, Bool.false_eq_true, if_false, if_neg a1, if_neg a2]
    exact Int.toNat_natCast k

/-- the exact magnitude of a finite pattern times 2^1074 -/
def scaledVal (x : F64) : Nat :=
  if x.expField = 0 then x.frac else (x.frac + 2 ^ 52) * 2 ^ (x.expField - 1)

theorem ratio_div_eq_scaledVal (x : F64) : x.ratio.1 / x.ratio.2 = x.scaledVal / 2 ^ 1074 := by
  unfold scaledVal
  by_cases h0 : x.expField = 0
  · rw [ratio_subnormal x h0, if_pos h0]
  · rw [if_neg h0]
    by_cases h1 : 1075 ≤ x.expField
    · rw [ratio_normal_nonneg x h1, Nat.div_one]
      have : x.expField - 1 = (x.expField - 1075) + 1074 := by omega
      rw [this, Nat.pow_add, ← Nat.mul_assoc, Nat.mul_div_cancel _ (Nat.two_pow_pos 1074)]
    · rw [ratio_normal_neg x (by omega) (by omega)]
      have : (1074 : Nat) = (1075 - x.expField) + (x.expField - 1) := by omega
      rw [this, Nat.pow_add, Nat.mul_div_mul_right _ _ (Nat.two_pow_pos _)]

theorem mag_eq_fields (x : F64) : x.mag = x.expField * 2 ^ 52 + x.frac := by
  unfold mag expField frac
  omega

theorem expField_lt (x : F64) : x.expField < 2048 := Nat.mod_lt _ (by decide)

theorem scaledVal_mono {a b : F64} (h : a.mag ≤ b.mag) : a.scaledVal ≤ b.scaledVal := by
  rw [mag_eq_fields, mag_eq_fields] at h
  have hfa := frac_lt a
  have hfb := frac_lt b
  unfold scaledVal
  by_cases he : a.expField = b.expField
  · rw [he] at h ⊢
    have hf : a.frac ≤ b.frac := by omega
    split
    · exact hf
    · exact Nat.mul_le_mul_right _ (by omega)
  · have hlt : a.expField < b.expField := by omega
    have hb0 : ¬ b.expField = 0 := by omega
    rw [if_neg hb0]
    have hB : 2 ^ 52 * 2 ^ (b.expField - 1) ≤ (b.frac + 2 ^ 52) * 2 ^ (b.expField - 1) :=
      Nat.mul_le_mul_right _ (by omega)
    split
    · have : 1 ≤ 2 ^ (b.expField - 1) := Nat.two_pow_pos _
      calc a.frac ≤ 2 ^ 52 * 1 := by omega
        _ ≤ 2 ^ 52 * 2 ^ (b.expField - 1) := Nat.mul_le_mul_left _ this
        _ ≤ _ := hB
    · next ha0 =>
      have h1 : (a.frac + 2 ^ 52) * 2 ^ (a.expField - 1) ≤ 2 ^ 53 * 2 ^ (a.expField - 1) :=
        Nat.mul_le_mul_right _ (by omega)
      have h2 : 2 ^ 53 * 2 ^ (a.expField - 1) = 2 ^ 52 * 2 ^ a.expField := by
        rw [← Nat.pow_add, ← Nat.pow_add]; congr 1; omega
      have h3 : 2 ^ 52 * 2 ^ a.expField ≤ 2 ^ 52 * 2 ^ (b.expField - 1) :=
        Nat.mul_le_mul_left _ (Nat.pow_le_pow_right (by decide) (by omega))
      omega

theorem toU64_eq (x : F64) (hx : x.isNaN = false) :
    x.toU64 = if x.neg then 0 else if x.isInf then 2 ^ 64 - 1
      else min (x.scaledVal / 2 ^ 1074) (2 ^ 64 - 1) := by
  unfold toU64 truncInt
  simp only [hx, Bool.false_eq_true, if_false, ratio_div_eq_scaledVal]
  generalize x.scaledVal / 2 ^ 1074 = q
  simp only [Int.ofNat_eq_natCast]
  cases x.neg <;> cases x.isInf <;> simp only [Bool.false_eq_true, if_false, if_true] <;>
    (try split) <;> (try split) <;> omega

/-- `as u64` is monotone in the IEEE order.  Signs first: a negative `a` casts to 0; a
    non-negative `a` below a negative `b` is a zero; for two non-negative numbers the order
    of the keys is the order of the magnitudes `mag`, and the cast is `scaledVal / 2^1074`
    capped at `2^64 − 1` (`∞` to the cap), monotone by `scaledVal_mono`. -/
theorem toU64_mono {a b : F64} (ha : a.isNaN = false) (hb : b.isNaN = false) (h : a.key ≤ b.key) :
    a.toU64 ≤ b.toU64 := by
  rw [toU64_eq a ha, toU64_eq b hb]
  cases hna : a.neg with
  | true => simp only [↓reduceIte]; exact Nat.zero_le _
  | false =>
    simp only [Bool.false_eq_true, if_false]
    have hka : a.key = a.mag := by simp [key, hna]
    have hfa := frac_lt a
    have hfb := frac_lt b
    have hea := expField_lt a
    have heb := expField_lt b
    have hma := mag_eq_fields a
    have hmb := mag_eq_fields b
    cases hnb : b.neg with
    | true =>
      have hkb : b.key = - (b.mag : Int) := by simp [key, hnb]
      have hm0 : a.mag = 0 := by omega
      have he0 : a.expField = 0 := by omega
      have hf0 : a.frac = 0 := by omega
      have hinf : a.isInf = false := by simp [isInf, he0]
      have hs : a.scaledVal = 0 := by simp [scaledVal, he0, hf0]
      simp only [hinf, hs, Bool.false_eq_true, if_false, Nat.zero_div, Nat.zero_min]
      exact Nat.zero_le _
    | false =>
      have hkb : b.key = b.mag := by simp [key, hnb]
      have hm : a.mag ≤ b.mag := by omega
      simp only [Bool.false_eq_true, if_false]
      cases hib : b.isInf with
      | true =>
        simp only [if_true]
        split
        · exact Nat.le_refl _
        · exact Nat.min_le_right _ _
      | false =>
        have hia : a.isInf = false := by
          cases hia : a.isInf with
          | false => rfl
          | true =>
            exfalso
            simp only [isInf, Bool.and_eq_true, decide_eq_true_eq] at hia
            have : b.expField = 2047 := by omega
            have hbf : b.frac ≠ 0 := by
              intro hz; simp [isInf, this, hz] at hib
            simp [isNaN, this, hbf] at hb
        simp only [hia, Bool.false_eq_true, if_false]
        have := Nat.div_le_div_right (c := 2 ^ 1074) (scaledVal_mono hm)
        omega


theorem fle_trans {a b c : F64} (h1 : fle a b = true) (h2 : fle b c = true) : fle a c = true := by
  rw [fle_iff] at *
  exact ⟨h1.1, h2.2.1, by omega⟩

theorem fle_zero_ofNat (k : Nat) (hk : k < 2 ^ 53) : fle zero (ofNat k) = true := by
  by_cases hk0 : k = 0
  · subst hk0; rw [ofNat_zero]; decide
  · obtain ⟨j, hj, hneg, hE, _⟩ := ofNat_fields k hk0 hk
    have hnan := (not_special_of_expField_ne (x := ofNat k) (by omega)).2.1
    have hkey : (ofNat k).key = (ofNat k).mag := by simp [key, hneg]
    have hz : zero.key = 0 := by decide
    rw [fle_iff]
    exact ⟨by decide, hnan, by omega⟩

end F64

end Blots
