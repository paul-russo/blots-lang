import Blots.Model.Num
/-
  Order facts about IEEE doubles, proved on bit patterns: on non-NaN patterns `feq` is an
  equivalence, `flt` a strict order, `pcmp` a total comparison that agrees with both
  (`pcmp_eq`: it is the comparison of the sign-magnitude keys).

  Decimal text of naturals: `natDigits n` is `Nat.toDigits 10 n` (non-empty, digits, no
  leading zero for `n > 0`), `digitsVal` reads it back and is positional
  (`digitsVal_append`, leading / trailing zeros).
-/
namespace Blots.F64

theorem feq_refl {a : F64} (h : a.isNaN = false) : feq a a = true := by
  simp [feq, h]

theorem feq_comm (a b : F64) : feq a b = feq b a := by
  simp only [feq]
  cases a.isNaN <;> cases b.isNaN <;> simp [Bool.beq_comm]

theorem feq_trans {a b c : F64} (h1 : feq a b = true) (h2 : feq b c = true) : feq a c = true := by
  simp only [feq, Bool.and_eq_true, Bool.not_eq_true', beq_iff_eq] at *
  obtain ⟨⟨ha, _⟩, hab⟩ := h1
  obtain ⟨⟨_, hc⟩, hbc⟩ := h2
  exact ⟨⟨ha, hc⟩, hab.trans hbc⟩

theorem pcmp_eq (a b : F64) :
    pcmp a b = if a.isNaN || b.isNaN then none else some (compare a.key b.key) := by
  unfold pcmp
  split
  · rfl
  · rw [show compare a.key b.key = compareOfLessAndEq a.key b.key from rfl, compareOfLessAndEq]
    split
    · rfl
    · split <;> rfl

theorem pcmp_isSome {a b : F64} (ha : a.isNaN = false) (hb : b.isNaN = false) :
    ∃ o, pcmp a b = some o := by
  rw [pcmp_eq, ha, hb]
  exact ⟨_, rfl⟩

theorem pcmp_none_iff (a b : F64) : pcmp a b = none ↔ (a.isNaN = true ∨ b.isNaN = true) := by
  rw [pcmp_eq]
  cases a.isNaN <;> cases b.isNaN <;> simp

theorem pcmp_eq_iff_feq (a b : F64) : pcmp a b = some .eq ↔ feq a b = true := by
  rw [pcmp_eq, feq]
  cases a.isNaN <;> cases b.isNaN <;> simp

theorem pcmp_lt_iff (a b : F64) : pcmp a b = some .lt ↔ flt a b = true := by
  rw [pcmp_eq, flt]
  cases a.isNaN <;> cases b.isNaN <;> simp [Int.compare_eq_lt]

theorem pcmp_gt_iff (a b : F64) : pcmp a b = some .gt ↔ flt b a = true := by
  rw [pcmp_eq, flt]
  cases a.isNaN <;> cases b.isNaN <;> simp [Int.compare_eq_gt]

theorem pcmp_swap (a b : F64) : pcmp b a = (pcmp a b).map Ordering.swap := by
  rw [pcmp_eq, pcmp_eq, Bool.or_comm, ← Int.compare_swap a.key b.key]
  split <;> rfl

theorem pcmp_trans_lt {a b c : F64} (h1 : pcmp a b = some .lt) (h2 : pcmp b c = some .lt) :
    pcmp a c = some .lt := by
  rw [pcmp_lt_iff] at *
  simp only [flt, Bool.and_eq_true, Bool.not_eq_true', decide_eq_true_eq] at *
  obtain ⟨⟨ha, _⟩, hab⟩ := h1
  obtain ⟨⟨_, hc⟩, hbc⟩ := h2
  exact ⟨⟨ha, hc⟩, by omega⟩

theorem pcmp_congr_right {b c : F64} (h : pcmp b c = some .eq) (a : F64) : pcmp a b = pcmp a c := by
  rw [pcmp_eq_iff_feq] at h
  simp only [feq, Bool.and_eq_true, Bool.not_eq_true', beq_iff_eq] at h
  obtain ⟨⟨hb, hc⟩, hk⟩ := h
  simp only [pcmp, hb, hc, hk]

theorem pcmp_congr_left {b c : F64} (h : pcmp b c = some .eq) (a : F64) : pcmp b a = pcmp c a := by
  rw [pcmp_eq_iff_feq] at h
  simp only [feq, Bool.and_eq_true, Bool.not_eq_true', beq_iff_eq] at h
  obtain ⟨⟨hb, hc⟩, hk⟩ := h
  simp only [pcmp, hb, hc, hk]

theorem isDigit_iff (c : Char) : isDigit c = true ↔ 48 ≤ c.toNat ∧ c.toNat ≤ 57 := by
  simp only [isDigit, Bool.and_eq_true, decide_eq_true_eq, Char.le_def, UInt32.le_iff_toNat_le]
  exact Iff.rfl

theorem isDigit_eq_core (c : Char) : isDigit c = c.isDigit := by
  simp only [isDigit, Char.isDigit, Char.le_def, ge_iff_le]

theorem digitsVal_eq_ofDigitChars (cs : List Char) : digitsVal cs = Nat.ofDigitChars 10 cs 0 := by
  have h : (fun (a : Nat) (c : Char) => a * 10 + (c.toNat - 48)) =
      (fun sofar c => 10 * sofar + (c.toNat - '0'.toNat)) := by
    funext a c; rw [Nat.mul_comm]; rfl
  simp only [digitsVal, Nat.ofDigitChars, h]

theorem natDigits_toList (n : Nat) : (natDigits n).toList = Nat.toDigits 10 n := by
  simp only [natDigits, Nat.toString_eq_repr, Nat.repr_eq_ofList_toDigits, String.toList_ofList]

theorem natDigits_toList_ne_nil (n : Nat) : (natDigits n).toList ≠ [] := by
  rw [natDigits_toList]; exact Nat.toDigits_ne_nil

theorem natDigits_all_isDigit (n : Nat) : ∀ c ∈ (natDigits n).toList, isDigit c = true := by
  intro c hc
  rw [natDigits_toList] at hc
  rw [isDigit_eq_core]
  exact Nat.isDigit_of_mem_toDigits (by decide) (by decide) hc

theorem digitsVal_natDigits (n : Nat) : digitsVal (natDigits n).toList = n := by
  rw [natDigits_toList, digitsVal_eq_ofDigitChars]
  exact Nat.ofDigitChars_toDigits (by decide) (by decide)

theorem foldl_digits (a : Nat) (b : List Char) :
    b.foldl (fun a c => a * 10 + (c.toNat - 48)) a =
      a * 10 ^ b.length + b.foldl (fun a c => a * 10 + (c.toNat - 48)) 0 := by
  induction b generalizing a with
  | nil => simp
  | cons c t ih =>
    simp only [List.foldl_cons, List.length_cons]
    rw [ih (a * 10 + (c.toNat - 48)), ih (0 * 10 + (c.toNat - 48))]
    rw [Nat.pow_succ, Nat.zero_mul, Nat.zero_add, Nat.add_mul, Nat.add_assoc, Nat.mul_assoc, Nat.mul_comm 10]

theorem digitsVal_append (a b : List Char) :
    digitsVal (a ++ b) = digitsVal a * 10 ^ b.length + digitsVal b := by
  simp only [digitsVal, List.foldl_append]
  exact foldl_digits _ _

theorem digitsVal_replicate_zero (n : Nat) : digitsVal (List.replicate n '0') = 0 := by
  induction n with
  | zero => rfl
  | succ n ih =>
    rw [List.replicate_succ, ← List.singleton_append, digitsVal_append, ih,
      show digitsVal ['0'] = 0 from rfl, Nat.zero_mul]

theorem digitsVal_zeros_append (n : Nat) (ds : List Char) :
    digitsVal (List.replicate n '0' ++ ds) = digitsVal ds := by
  rw [digitsVal_append, digitsVal_replicate_zero, Nat.zero_mul, Nat.zero_add]

theorem digitsVal_append_zeros (ds : List Char) (n : Nat) :
    digitsVal (ds ++ List.replicate n '0') = digitsVal ds * 10 ^ n := by
  rw [digitsVal_append, digitsVal_replicate_zero, Nat.add_zero, List.length_replicate]

theorem all_isDigit_replicate_zero (n : Nat) : ∀ c ∈ List.replicate n '0', isDigit c = true := by
  intro c hc
  rw [List.eq_of_mem_replicate hc]; decide

theorem digitChar_ne_zero : ∀ n : Fin 10, n.val ≠ 0 → Nat.digitChar n.val ≠ '0' := by decide

theorem toDigits_head_ne_zero (n : Nat) (hn : 0 < n) : (Nat.toDigits 10 n).head? ≠ some '0' := by
  induction n using Nat.strongRecOn with
  | _ n ih =>
    rw [Nat.toDigits_eq_if (by decide)]
    split
    · next hlt => simpa using digitChar_ne_zero ⟨n, hlt⟩ (Nat.pos_iff_ne_zero.mp hn)
    · next hge =>
      have h := ih (n / 10) (by omega) (by omega)
      cases hl : Nat.toDigits 10 (n / 10) with
      | nil => exact absurd hl Nat.toDigits_ne_nil
      | cons a t => rw [hl] at h; simpa using h

end Blots.F64
