import Blots.Lemmas.NumSpec
/-
  Helper lemmas for C16 / C20 about the literal conversion (`Model/NumText.lean`) and the
  path selection of `format_display_number` (`Model/Display.lean`).
-/
namespace Blots.NumText

open Blots Blots.NumSpec

theorem digitsRadix_eq (radix : Nat) :
    ∀ (ds : List Char) (vs : List Nat) (acc : Nat),
      ds.map (digitOf radix) = vs.map some →
      digitsRadix radix ds acc = some (vs.foldl (fun a d => a * radix + d) acc) := by
  intro ds
  induction ds with
  | nil =>
    intro vs acc h
    cases vs with
    | nil => rfl
    | cons v vs => simp at h
  | cons c cs ih =>
    intro vs acc h
    cases vs with
    | nil => simp at h
    | cons v vs =>
      simp only [List.map_cons, List.cons.injEq] at h
      obtain ⟨hc, hrest⟩ := h
      simp only [digitsRadix, hc, List.foldl_cons]
      exact ih vs _ hrest

theorem digitOf_ne_sign (radix : Nat) (c : Char) (v : Nat) (h : digitOf radix c = some v) :
    c ≠ '-' ∧ c ≠ '+' := by
  constructor
  · intro hc
    subst hc
    simp [digitOf, hexVal] at h
  · intro hc
    subst hc
    simp [digitOf, hexVal] at h

theorem fromStrRadixI64_unsigned (radix : Nat) (c : Char) (cs : List Char) (h1 : c ≠ '-') (h2 : c ≠ '+') :
    fromStrRadixI64 radix (c :: cs) =
      match digitsRadix radix (c :: cs) 0 with
      | none => none
      | some n => if (Int.ofNat n) < -(2 ^ 63) || (Int.ofNat n) > 2 ^ 63 - 1 then none else some (Int.ofNat n) := by
  unfold fromStrRadixI64
  simp only [List.isEmpty_cons, Bool.false_eq_true, ↓reduceIte]
  split
  · rename_i h; simp only [List.cons.injEq] at h; exact absurd h.1 h1
  · rename_i h; simp only [List.cons.injEq] at h; exact absurd h.1 h2
  · cases digitsRadix radix (c :: cs) 0 <;> simp

theorem fromStrRadixI64_digits (radix : Nat) (ds : List Char) (vs : List Nat)
    (hne : ds ≠ []) (hdig : ds.map (digitOf radix) = vs.map some) :
    fromStrRadixI64 radix ds =
      if radixValue radix vs < 2 ^ 63 then some (Int.ofNat (radixValue radix vs)) else none := by
  cases ds with
  | nil => exact absurd rfl hne
  | cons c cs =>
    cases vs with
    | nil => simp at hdig
    | cons v vs' =>
      have hc : digitOf radix c = some v := by
        simp only [List.map_cons, List.cons.injEq] at hdig
        exact hdig.1
      obtain ⟨h1, h2⟩ := digitOf_ne_sign radix c v hc
      rw [fromStrRadixI64_unsigned radix c cs h1 h2, digitsRadix_eq radix (c :: cs) (v :: vs') 0 hdig]
      simp only [radixValue]
      by_cases hlt : List.foldl (fun a d => a * radix + d) 0 (v :: vs') < 2 ^ 63
      · simp only [hlt, ↓reduceIte]
        rw [if_neg]
        simp only [Bool.or_eq_true, decide_eq_true_eq, Int.ofNat_eq_natCast]
        omega
      · simp only [hlt, ↓reduceIte]
        rw [if_pos]
        simp only [Bool.or_eq_true, decide_eq_true_eq, Int.ofNat_eq_natCast]
        omega

theorem removeUnderscores_idem (cs : List Char) :
    removeUnderscores (removeUnderscores cs) = removeUnderscores cs := by
  simp [removeUnderscores, List.filter_filter]

theorem ofInt_natCast (n : Nat) : F64.ofInt (n : Int) = F64.ofRatio false n 1 := by
  have h : ¬ ((n : Int) < 0) := by omega
  simp [F64.ofInt, h]

def signPrefix : Option Bool → List Char
  | none => []
  | some false => ['+']
  | some true => ['-']

theorem radixSplit_b (sg : Option Bool) (body : List Char) :
    radixSplit 'b' (signPrefix sg ++ '0' :: 'b' :: body) = some (sg == some true, body) := by
  rcases sg with _ | _ | _ <;> simp [signPrefix, radixSplit]

theorem radixSplit_x (sg : Option Bool) (body : List Char) :
    radixSplit 'x' (signPrefix sg ++ '0' :: 'x' :: body) = some (sg == some true, body) := by
  rcases sg with _ | _ | _ <;> simp [signPrefix, radixSplit]

theorem radixSplit_b_of_x (sg : Option Bool) (body : List Char) :
    radixSplit 'b' (signPrefix sg ++ '0' :: 'x' :: body) = none := by
  rcases sg with _ | _ | _ <;> simp [signPrefix, radixSplit]

theorem literalValue_binary (sg : Option Bool) (body : List Char) (vs : List Nat)
    (hne : removeUnderscores body ≠ [])
    (hdig : (removeUnderscores body).map (digitOf 2) = vs.map some) :
    literalValue (String.ofList (signPrefix sg ++ '0' :: 'b' :: body)) =
      if radixValue 2 vs < 2 ^ 63
      then some (mulSign (sg == some true) (F64.ofRatio false (radixValue 2 vs) 1)) else none := by
  unfold literalValue
  simp only [String.toList_ofList, radixSplit_b, fromStrRadixI64_digits 2 _ vs hne hdig]
  by_cases hlt : radixValue 2 vs < 2 ^ 63 <;> simp [hlt, ofInt_natCast]

theorem literalValue_hex (sg : Option Bool) (body : List Char) (vs : List Nat)
    (hne : removeUnderscores body ≠ [])
    (hdig : (removeUnderscores body).map (digitOf 16) = vs.map some) :
    literalValue (String.ofList (signPrefix sg ++ '0' :: 'x' :: body)) =
      if radixValue 16 vs < 2 ^ 63
      then some (mulSign (sg == some true) (F64.ofRatio false (radixValue 16 vs) 1)) else none := by
  unfold literalValue
  simp only [String.toList_ofList, radixSplit_b_of_x, radixSplit_x, fromStrRadixI64_digits 16 _ vs hne hdig]
  by_cases hlt : radixValue 16 vs < 2 ^ 63 <;> simp [hlt, ofInt_natCast]

theorem literalValue_decimal (cs : List Char) (hb : radixSplit 'b' cs = none) (hx : radixSplit 'x' cs = none) :
    literalValue (String.ofList cs) = F64.parseDec (String.ofList (removeUnderscores cs)) := by
  unfold literalValue
  simp only [String.toList_ofList, hb, hx]


end Blots.NumText

namespace Blots.Display

open Blots

theorem formatDisplayNumber_nan (ops : NumOps) (x : F64) (h : x.isNaN = true) :
    formatDisplayNumber ops x = "NaN".toList := by
  simp [formatDisplayNumber, h]

theorem isNaN_false_of_isInf {x : F64} (h : x.isInf = true) : x.isNaN = false := by
  simp only [F64.isInf, F64.isNaN, Bool.and_eq_true, decide_eq_true_eq] at *
  simp [h.2]

theorem formatDisplayNumber_inf (ops : NumOps) (x : F64) (h : x.isInf = true) :
    formatDisplayNumber ops x = (if x.neg then "-Infinity".toList else "Infinity".toList) := by
  have hn := isNaN_false_of_isInf h
  cases hneg : x.neg <;> simp [formatDisplayNumber, h, hn, hneg]

theorem path_spec (x : F64) :
    match path x with
    | .nan => x.isNaN = true
    | .inf => x.isNaN = false ∧ x.isInf = true
    | .zero => x.isNaN = false ∧ x.isInf = false ∧ F64.feq x F64.zero = true
    | .scientific => x.isNaN = false ∧ x.isInf = false ∧ F64.feq x F64.zero = false ∧
        (F64.fle lowThreshold x.abs && F64.flt x.abs highThreshold) = false
    | .integer => x.isNaN = false ∧ x.isInf = false ∧ F64.feq x F64.zero = false ∧
        (F64.fle lowThreshold x.abs && F64.flt x.abs highThreshold) = true ∧
        (x.isIntegral && F64.flt x.abs twoPow53) = true
    | .fraction => x.isNaN = false ∧ x.isInf = false ∧ F64.feq x F64.zero = false ∧
        (F64.fle lowThreshold x.abs && F64.flt x.abs highThreshold) = true ∧
        (x.isIntegral && F64.flt x.abs twoPow53) = false := by
  unfold path
  cases x.isNaN
  · cases x.isInf
    · cases F64.feq x F64.zero
      · cases (F64.fle lowThreshold x.abs && F64.flt x.abs highThreshold)
        · simp
        · cases (x.isIntegral && F64.flt x.abs twoPow53) <;> simp
      · simp
    · simp
  · simp

theorem formatDisplayNumber_integer (ops : NumOps) (x : F64) (h : path x = .integer) :
    formatDisplayNumber ops x = formatIntegerWithSeparators x.toI64 := by
  have hp := path_spec x
  rw [h] at hp
  obtain ⟨h1, h2, h3, h4, h5⟩ := hp
  unfold formatDisplayNumber formatStandard
  simp only [h1, h2, h3, h4, h5]
  simp

theorem formatDisplayNumber_scientific (ops : NumOps) (x : F64) (h : path x = .scientific) :
    formatDisplayNumber ops x = formatScientific x := by
  have hp := path_spec x
  rw [h] at hp
  obtain ⟨h1, h2, h3, h4⟩ := hp
  unfold formatDisplayNumber
  simp only [h1, h2, h3, h4]
  simp

theorem formatDisplayNumber_fraction (ops : NumOps) (x : F64) (h : path x = .fraction) :
    formatDisplayNumber ops x =
      addThousandSeparators (formatFloatSignificant ops (roundToSignificantFigures ops x 15) 15) ∧
    x.isNaN = false ∧ x.isInf = false ∧ F64.feq x F64.zero = false := by
  have hp := path_spec x
  rw [h] at hp
  obtain ⟨h1, h2, h3, h4, h5⟩ := hp
  refine ⟨?_, h1, h2, h3⟩
  unfold formatDisplayNumber formatStandard
  simp only [h1, h2, h3, h4, h5]
  simp

end Blots.Display
