import Blots.Model.ExprPeg
import Blots.Lemmas.ExprPegFuel
import Blots.Lemmas.IdentLemmas
import Blots.Lemmas.PrattRoundTrip
import Blots.Lemmas.SrcNumber
import Blots.Lemmas.PrintLemmas
/-
  Text-level lemmas for the PEG model of `expression` (C10), part 1: the pieces.
    (0) layout strings `Lay` and what `layoutStar` / `layoutPlus` / `wsPlus` / `nlStar` /
        `skipWs` do on them;
    (1) ordered choice over operator literals (`hitBad`, `firstRule_hit`);
    (2) the operator tables (`symOk`, `wordOk`, `symPostOk`: whole-table facts by evaluation);
    (3) `infix_usage` on an operator with its layout, and at a closing bracket / comma;
    (4) prefix operators, "no postfix operator here" (`postNone`);
    (5) the layout inside `access`, `call_list` and `list`;
    (6) the atoms of the fragment (`atomOk`, `atom_word`), string literals;
    (7) the head of a lambda and of an assignment: where none starts, and on given texts;
    (8) the keywords of a conditional;
    (9) the head of a do-block.
  Part 2 (`Lemmas/ExprPegLemmas.lean`), sections (10)–(18): concrete syntax trees and the round
  trip.
-/
namespace Blots.ExprPeg
open Blots.Ident

/-! ### (0) layout strings -/

/-- the layout atoms the theorems range over: space, tab, line feed, CR LF.  (The grammar's
    NEWLINE also admits an `inline_comment` before the line break; comments are part of the
    model (`newline`) but are left out of the layout theorems: a comment directly after `/`
    would read `///…`, which the grammar takes as a comment, not as the operator.) -/
inductive LayAtom where
  | sp | tab | lf | crlf
  deriving DecidableEq, Repr

abbrev Lay := List LayAtom

def LayAtom.chars : LayAtom → List Char
  | .sp => [' ']
  | .tab => ['\t']
  | .lf => ['\n']
  | .crlf => ['\r', '\n']

/-- WHITESPACE atoms (the only ones allowed after a word operator) -/
def LayAtom.isWs : LayAtom → Bool
  | .sp | .tab => true
  | _ => false

def layChars : Lay → List Char
  | [] => []
  | a :: l => a.chars ++ layChars l

theorem layChars_append (a b : Lay) : layChars (a ++ b) = layChars a ++ layChars b := by
  induction a with
  | nil => rfl
  | cons x a ih => simp [layChars, ih]

/-- a character that can follow layout in the fragment without being layout itself: not a
    blank, not part of a line break, not `/` (which could start a comment) -/
def notLayoutStart (c : Char) : Bool := !(c == ' ' || c == '\t' || c == '\n' || c == '\r' || c == '/')

theorem isWs_of_notLayoutStart {c : Char} (h : notLayoutStart c = true) : isWs c = false := by
  simp only [notLayoutStart, Bool.not_eq_true', Bool.or_eq_false_iff, beq_eq_false_iff_ne,
    ne_eq] at h
  simp [isWs, h.1.1.1.1, h.1.1.1.2]

theorem layoutAtom_atom (a : LayAtom) (rest : List Char) :
    layoutAtom (a.chars ++ rest) = some rest := by
  cases a <;> simp [LayAtom.chars, layoutAtom, orElse, whitespace, isWs, newline, inlineComment,
    plainNewline, lit]

theorem layoutAtom_nil : layoutAtom [] = none := by
  simp [layoutAtom, orElse, whitespace, newline, inlineComment, plainNewline, lit]

theorem layoutAtom_none {c : Char} {r : List Char} (h : notLayoutStart c = true) :
    layoutAtom (c :: r) = none := by
  simp only [notLayoutStart, Bool.not_eq_true', Bool.or_eq_false_iff, beq_eq_false_iff_ne, ne_eq] at h
  obtain ⟨⟨⟨⟨h1, h2⟩, h3⟩, h4⟩, h5⟩ := h
  have e1 : ¬ ('/' = c) := fun e => h5 e.symm
  have e2 : ¬ ('\r' = c) := fun e => h4 e.symm
  have e3 : ¬ ('\n' = c) := fun e => h3 e.symm
  simp [layoutAtom, orElse, whitespace, isWs, newline, inlineComment, plainNewline, lit, h1, h2,
    e1, e2, e3]

theorem layoutAtom_slash {c : Char} {r : List Char} (h : c ≠ '/') :
    layoutAtom ('/' :: c :: r) = none := by
  have e1 : ¬ ('/' = c) := fun e => h e.symm
  simp [layoutAtom, orElse, whitespace, isWs, newline, inlineComment, plainNewline, lit, e1]

theorem star_lay_run (e : List Char → Option (List Char))
    (he : ∀ (a : LayAtom) rest, e (a.chars ++ rest) = some rest) (n : Nat) (l : Lay)
    (rest : List Char) (hn : l.length < n) (hr : e rest = none) :
    star e n (layChars l ++ rest) = rest := by
  induction n generalizing l with
  | zero => exact absurd hn (Nat.not_lt_zero _)
  | succ m ih =>
    cases l with
    | nil => simp [layChars, star, hr]
    | cons a l =>
      simp only [layChars, List.append_assoc, star, he]
      exact ih l (by simp only [List.length_cons] at hn; omega)

theorem LayAtom.chars_length_pos (a : LayAtom) : 0 < a.chars.length := by
  cases a <;> simp [LayAtom.chars]

theorem layChars_length (l : Lay) : l.length ≤ (layChars l).length := by
  induction l with
  | nil => simp [layChars]
  | cons a l ih =>
    have := a.chars_length_pos
    simp only [layChars, List.length_cons, List.length_append]; omega

theorem layoutStar_run (l : Lay) (rest : List Char) (hr : layoutAtom rest = none) :
    layoutStar (layChars l ++ rest) = rest := by
  unfold layoutStar
  apply star_lay_run _ layoutAtom_atom _ _ _ _ hr
  have := layChars_length l
  simp only [List.length_append]; omega

theorem layoutPlus_run (l : Lay) (hl : l ≠ []) (rest : List Char) (hr : layoutAtom rest = none) :
    layoutPlus (layChars l ++ rest) = some rest := by
  cases l with
  | nil => exact absurd rfl hl
  | cons a l =>
    simp only [layoutPlus, layChars, List.append_assoc, layoutAtom_atom, Option.map_some,
      layoutStar_run l rest hr]

theorem layoutPlus_none {cs : List Char} (h : layoutAtom cs = none) : layoutPlus cs = none := by
  simp [layoutPlus, h]

def wsOnly (l : Lay) : Bool := l.all LayAtom.isWs

theorem wsPlus_run (l : Lay) (hl : l ≠ []) (hw : wsOnly l = true) (c : Char) (rest : List Char)
    (hc : isWs c = false) : wsPlus (layChars l ++ c :: rest) = some (c :: rest) := by
  have key : ∀ l : Lay, wsOnly l = true → (layChars l ++ c :: rest).dropWhile isWs = c :: rest := by
    intro l
    induction l with
    | nil => intro _; simp [layChars, hc]
    | cons a l ih =>
      intro h
      simp only [wsOnly, List.all_cons, Bool.and_eq_true] at h
      have := ih h.2
      cases a <;> simp_all [LayAtom.isWs, LayAtom.chars, layChars, isWs]
  cases l with
  | nil => exact absurd rfl hl
  | cons a l =>
    simp only [wsOnly, List.all_cons, Bool.and_eq_true] at hw
    have := key l hw.2
    cases a <;> simp_all [LayAtom.isWs, LayAtom.chars, layChars, wsPlus, plus, isWs]

/-- The first character of `layChars b ++ c :: tl` has every property `P` that the four layout
    characters and `c` have.  This is how a fact about the character behind a layout string is
    carried to the front of the layout string. -/
theorem lay_head (b : Lay) (c : Char) (tl : List Char) (P : Char → Prop)
    (h1 : P ' ') (h2 : P '\t') (h3 : P '\n') (h4 : P '\r') (hc : P c) :
    ∃ d tl', layChars b ++ c :: tl = d :: tl' ∧ P d := by
  cases b with
  | nil => exact ⟨c, tl, rfl, hc⟩
  | cons a b => cases a <;> simp [layChars, LayAtom.chars, *]

/-! ### (1) ordered choice over operator literals -/

theorem firstRule_none_of_heads {L : List (String × List Char)} {c : Char} {tl : List Char}
    (h : ∀ x ∈ L, ∃ a t, x.2 = a :: t ∧ a ≠ c) : firstRule L (c :: tl) = none := by
  induction L with
  | nil => rfl
  | cons x L ih =>
    obtain ⟨r', s'⟩ := x
    obtain ⟨a, t, e, hne⟩ := h (r', s') List.mem_cons_self
    simp only at e
    subst e
    simp only [firstRule, lit, hne, if_false]
    exact ih (fun y hy => h y (List.mem_cons_of_mem _ hy))

theorem firstRule_nil (L : List (String × List Char)) (h : ∀ x ∈ L, x.2 ≠ []) :
    firstRule L [] = none := by
  induction L with
  | nil => rfl
  | cons x L ih =>
    obtain ⟨r', s'⟩ := x
    have : s' ≠ [] := h (r', s') List.mem_cons_self
    cases s' with
    | nil => exact absurd rfl this
    | cons a t =>
      simp only [firstRule, lit]
      exact ih (fun y hy => h y (List.mem_cons_of_mem _ hy))

/-- For the literal `s` of `rule` in the ordered choice `L`: the characters that, directly
    after `s`, would let an alternative listed before it match instead (`none`: `s` is not
    reachable at all — an earlier literal is a prefix of it, or it is not in the list). -/
def hitBad : List (String × List Char) → String → List Char → Option (List Char)
  | [], _, _ => none
  | (r', s') :: more, rule, s =>
    if s' = s then (if r' = rule then some [] else none)
    else if (lit s' s).isSome then none
    else
      match lit s s' with
      | some (c :: _) => (hitBad more rule s).map (c :: ·)
      | _ => hitBad more rule s

theorem firstRule_hit {L : List (String × List Char)} {rule : String} {s bad : List Char}
    {c : Char} {tl : List Char} (h : hitBad L rule s = some bad) (hc : c ∉ bad) :
    firstRule L (s ++ c :: tl) = some (rule, c :: tl) := by
  induction L generalizing bad with
  | nil => simp [hitBad] at h
  | cons x L ih =>
    obtain ⟨r', s'⟩ := x
    simp only [hitBad] at h
    by_cases e : s' = s
    · subst e
      simp only [if_true] at h
      split at h
      · rename_i hr; subst hr
        simp [firstRule, lit_append]
      · cases h
    · simp only [e, if_false] at h
      split at h
      · cases h
      · rename_i hpre
        have hno : lit s' (s ++ c :: tl) = none := by
          cases hl : lit s' (s ++ c :: tl) with
          | none => rfl
          | some r =>
            exfalso
            have he := lit_eq_some.mp hl
            rcases List.append_eq_append_iff.mp he with ⟨a', hsa, hra⟩ | ⟨c', hsc, _⟩
            · cases a' with
              | nil => simp only [List.append_nil] at hsa; exact e hsa
              | cons x a'' =>
                simp only [List.cons_append, List.cons.injEq] at hra
                obtain ⟨rfl, _⟩ := hra
                have hls : lit s s' = some (c :: a'') := lit_eq_some.mpr hsa
                rw [hls] at h
                simp only [Option.map_eq_some_iff] at h
                obtain ⟨b', _, rfl⟩ := h
                exact hc List.mem_cons_self
            · have : lit s' s = some c' := lit_eq_some.mpr hsc
              rw [this] at hpre
              exact hpre rfl
        simp only [firstRule, hno]
        split at h
        · simp only [Option.map_eq_some_iff] at h
          obtain ⟨b', hb, rfl⟩ := h
          exact ih hb (fun hm => hc (List.mem_cons_of_mem _ hm))
        · exact ih h hc

/-! ### (2) the operator tables -/

/-- the word operators (`natural_infix_op`) -/
def isWordOp (op : BinOp) : Bool := Gen.naturalOrder.contains (PrattRT.ruleOf op)

def spell (op : BinOp) : List Char := (opSpelling op).toList

/-- every literal of the list starts with a character other than `c` -/
def headsNe (L : List (String × List Char)) (c : Char) : Bool :=
  L.all fun x => match x.2 with | [] => false | a :: _ => a != c

/-- A symbol operator.  Its literal is reached in the ordered choice `infixLits`, and only an `=`
    directly behind it would let an earlier alternative match instead (`<` / `<=`): it is read in
    front of anything but `=`.  Its first character is not layout (`/` on its own is the
    exception: `//` opens a comment), continues no word, and starts no word operator. -/
def symOk (op : BinOp) : Bool :=
  (match hitBad infixLits (PrattRT.ruleOf op) (spell op) with
   | some bad => bad.all (· == '=')
   | none => false) &&
  (match spell op with
   | [] => false
   | h :: t =>
     (notLayoutStart h || (h == '/' && t.isEmpty)) && !isIdentChar h && headsNe naturalLits h)

/-- A word operator.  Its literal is reached in the ordered choice `naturalLits`, and only
    characters other than blank and tab directly behind it would let an earlier alternative match
    instead: it is read in front of a blank or a tab.  Its first character is not layout. -/
def wordOk (op : BinOp) : Bool :=
  (match hitBad naturalLits (PrattRT.ruleOf op) (spell op) with
   | some bad => bad.all (fun c => !isWs c)
   | none => false) &&
  (match spell op with
   | [] => false
   | h :: _ => notLayoutStart h)

theorem all_opFacts :
    (BinOp.all.all fun op => if isWordOp op then wordOk op else symOk op) = true := by
  decide +kernel

theorem symOk_of (op : BinOp) (h : isWordOp op = false) : symOk op = true := by
  have := List.all_eq_true.mp all_opFacts op (PrattRT.BinOp.mem_all op)
  simpa [h] using this

theorem wordOk_of (op : BinOp) (h : isWordOp op = true) : wordOk op = true := by
  have := List.all_eq_true.mp all_opFacts op (PrattRT.BinOp.mem_all op)
  simpa [h] using this

/-- a symbol operator directly behind its left operand is not taken for a postfix operator:
    it does not start with `(` or `[`, and after a leading `.` no identifier follows -/
def symPostOk (op : BinOp) : Bool :=
  match spell op with
  | [] => false
  | h :: t =>
    h != '(' && h != '[' &&
      (h != '.' || (match t with | c :: _ => !isIdentStart c | [] => false))

theorem all_symPostOk : (BinOp.all.all fun op => isWordOp op || symPostOk op) = true := by
  decide +kernel

theorem symPostOk_of (op : BinOp) (h : isWordOp op = false) : symPostOk op = true := by
  have := List.all_eq_true.mp all_symPostOk op (PrattRT.BinOp.mem_all op)
  simpa [h] using this

/-- the `via` / `into` / `where` operators: not admitted at the top level of a lambda body -/
def isChain (op : BinOp) : Bool := op == .via || op == .into || op == .where_

def natTable (lam : Bool) : List (String × List Char) := if lam then lamNaturalLits else naturalLits

/-- the first condition of `wordOk` for `lamNaturalLits`, the table of `lambda_infix_usage` -/
def wordOkL (op : BinOp) : Bool :=
  match hitBad lamNaturalLits (PrattRT.ruleOf op) (spell op) with
  | some bad => bad.all (fun c => !isWs c)
  | none => false

theorem all_opFactsL :
    (BinOp.all.all fun op => !(isWordOp op && !isChain op) || wordOkL op) = true := by
  decide +kernel

theorem wordOkL_of (op : BinOp) (h : isWordOp op = true) (hc : isChain op = false) :
    wordOkL op = true := by
  have := List.all_eq_true.mp all_opFactsL op (PrattRT.BinOp.mem_all op)
  simpa [h, hc] using this

theorem lamNaturalLits_sub : ∀ x ∈ lamNaturalLits, x ∈ naturalLits := by decide +kernel
theorem lamNaturalLits_ne : ∀ x ∈ lamNaturalLits, x.2 ≠ [] :=
  litsNonempty_ne lamNaturalLits_nonempty

theorem prefixLits_eq : prefixLits = [("negation", ['-']), ("invert", ['!'])] := by decide +kernel
theorem naturalPrefixLits_eq : naturalPrefixLits = [("natural_not", ['n', 'o', 't'])] := by
  decide +kernel
theorem postfixLits_eq : postfixLits = [("factorial", ['!'])] := by decide +kernel
theorem infixLits_ne : ∀ x ∈ infixLits, x.2 ≠ [] := litsNonempty_ne infixLits_nonempty
theorem naturalLits_ne : ∀ x ∈ naturalLits, x.2 ≠ [] :=
  litsNonempty_ne naturalLits_nonempty

theorem headsNe_lam {c : Char} (h : headsNe naturalLits c = true) :
    headsNe lamNaturalLits c = true := by
  simp only [headsNe, List.all_eq_true] at h ⊢
  exact fun x hx => h x (lamNaturalLits_sub x hx)

theorem headsNe_nat (lam : Bool) {c : Char} (h : headsNe naturalLits c = true) :
    headsNe (natTable lam) c = true := by
  cases lam
  · exact h
  · exact headsNe_lam h

theorem firstRule_none_of_headsNe {L : List (String × List Char)} {c : Char} {tl : List Char}
    (h : headsNe L c = true) : firstRule L (c :: tl) = none := by
  apply firstRule_none_of_heads
  intro x hx
  have := List.all_eq_true.mp h x hx
  split at this
  · cases this
  · rename_i a t e; exact ⟨a, t, e, by simpa using this⟩

/-- first character of an operand text: a prefix operator, an opening parenthesis or bracket
    (a list), a quote (a string literal), a brace (a record), or the first character of a word /
    number -/
def startChar (c : Char) : Bool :=
  c == '-' || c == '!' || c == '(' || c == '[' || c == '"' || c == '\'' || c == '{' || isIdentChar c

theorem isIdentChar_cases {c : Char} (h : isIdentChar c = true) :
    c ≠ ' ' ∧ c ≠ '\t' ∧ c ≠ '\n' ∧ c ≠ '\r' ∧ c ≠ '/' ∧ c ≠ '=' ∧ c ≠ '!' ∧ c ≠ '-' ∧ c ≠ '(' ∧
      c ≠ ')' := by
  refine ⟨?_, ?_, ?_, ?_, ?_, ?_, ?_, ?_, ?_, ?_⟩ <;> (intro e; subst e; revert h; decide)

theorem ne_of_identChar {c d : Char} (h : isIdentChar c = true) (hd : isIdentChar d = false) :
    c ≠ d := by
  intro e; subst e; rw [h] at hd; cases hd

theorem notLayoutStart_of_identChar {x : Char} (hc : isIdentChar x = true) :
    notLayoutStart x = true := by
  obtain ⟨h1, h2, h3, h4, h5, _⟩ := isIdentChar_cases hc
  simp [notLayoutStart, *]

theorem startChar_facts {c : Char} (h : startChar c = true) :
    notLayoutStart c = true ∧ c ≠ '=' ∧ c ≠ '/' ∧ isWs c = false ∧ c ≠ ')' := by
  simp only [startChar, Bool.or_eq_true, beq_iff_eq] at h
  rcases h with ((((((h | h) | h) | h) | h) | h) | h) | h
  · subst h; decide
  · subst h; decide
  · subst h; decide
  · subst h; decide
  · subst h; decide
  · subst h; decide
  · subst h; decide
  · obtain ⟨h1, h2, h3, h4, h5, h6, _, _, _, h10⟩ := isIdentChar_cases h
    simp [notLayoutStart, isWs, *]

/-! ### (3) `infix_usage` on an operator with its layout -/

theorem infixUsage_alt2 {lam : Bool} {cs : List Char}
    (h : ∀ r, layoutPlus cs = some r → firstRule (natTable lam) r = none) :
    infixUsage lam cs = (firstRule infixLits (layoutStar cs)).map fun x => (x.1, layoutStar x.2) := by
  unfold infixUsage natTable at *
  cases hp : layoutPlus cs with
  | none =>
    simp only []
    cases firstRule infixLits (layoutStar cs) with
    | none => rfl
    | some x => obtain ⟨_, _⟩ := x; rfl
  | some r =>
    simp only [h r hp]
    cases firstRule infixLits (layoutStar cs) with
    | none => rfl
    | some x => obtain ⟨_, _⟩ := x; rfl

theorem infixUsage_sym (lam : Bool) (op : BinOp) (hw : isWordOp op = false) (a b : Lay) (c : Char)
    (tl : List Char) (hc : startChar c = true) :
    infixUsage lam (layChars a ++ (spell op ++ (layChars b ++ c :: tl))) =
      some (PrattRT.ruleOf op, c :: tl) := by
  have hs := symOk_of op hw
  obtain ⟨hc1, hc2, hc3, _, _⟩ := startChar_facts hc
  simp only [symOk, Bool.and_eq_true] at hs
  obtain ⟨hs1, hs2⟩ := hs
  obtain ⟨d, tl', hX, hd1, hd2⟩ := lay_head b c tl (fun d => d ≠ '=' ∧ d ≠ '/')
    (by decide) (by decide) (by decide) (by decide) ⟨hc2, hc3⟩
  have hinf : firstRule infixLits (spell op ++ (layChars b ++ c :: tl)) =
      some (PrattRT.ruleOf op, layChars b ++ c :: tl) := by
    split at hs1
    · rename_i bad hbad
      rw [hX]
      apply firstRule_hit hbad
      intro hm
      have := List.all_eq_true.mp hs1 d hm
      exact hd1 (by simpa using this)
    · cases hs1
  have hLS : layoutStar (layChars b ++ c :: tl) = c :: tl := layoutStar_run b _ (layoutAtom_none hc1)
  split at hs2
  · cases hs2
  · rename_i h t hsp
    simp only [Bool.and_eq_true, Bool.or_eq_true, beq_iff_eq, List.isEmpty_iff,
      Bool.not_eq_true'] at hs2
    obtain ⟨⟨hl, _⟩, hnat⟩ := hs2
    have hLA : layoutAtom (spell op ++ (layChars b ++ c :: tl)) = none := by
      rw [hsp]
      rcases hl with hl | ⟨rfl, rfl⟩
      · exact layoutAtom_none hl
      · rw [List.cons_append, List.nil_append, hX]; exact layoutAtom_slash hd2
    have hNA : firstRule (natTable lam) (spell op ++ (layChars b ++ c :: tl)) = none := by
      rw [hsp, List.cons_append]
      exact firstRule_none_of_headsNe (headsNe_nat lam hnat)
    have hpl : ∀ r, layoutPlus (layChars a ++ (spell op ++ (layChars b ++ c :: tl))) = some r →
        firstRule (natTable lam) r = none := by
      intro r hr
      cases a with
      | nil => simp only [layChars, List.nil_append, layoutPlus_none hLA] at hr; cases hr
      | cons x a =>
        rw [layoutPlus_run (x :: a) (by simp) _ hLA] at hr
        cases hr; exact hNA
    rw [infixUsage_alt2 hpl, layoutStar_run a _ hLA, hinf]
    simp only [Option.map_some, hLS]

theorem infixUsage_word (lam : Bool) (op : BinOp) (hw : isWordOp op = true)
    (hlam : lam = true → isChain op = false) (a b : Lay) (c : Char)
    (tl : List Char) (ha : a ≠ []) (hb : b ≠ []) (hbw : wsOnly b = true) (hc : startChar c = true) :
    infixUsage lam (layChars a ++ (spell op ++ (layChars b ++ c :: tl))) =
      some (PrattRT.ruleOf op, c :: tl) := by
  have hs := wordOk_of op hw
  obtain ⟨_, _, _, hc4, _⟩ := startChar_facts hc
  simp only [wordOk, Bool.and_eq_true] at hs
  obtain ⟨hs1, hs2⟩ := hs
  obtain ⟨d, tl', hX, hd⟩ : ∃ d tl', layChars b ++ c :: tl = d :: tl' ∧ isWs d = true := by
    cases b with
    | nil => exact absurd rfl hb
    | cons x b =>
      simp only [wsOnly, List.all_cons, Bool.and_eq_true] at hbw
      cases x <;> simp_all [LayAtom.isWs, layChars, LayAtom.chars, isWs]
  have hnat : firstRule (natTable lam) (spell op ++ (layChars b ++ c :: tl)) =
      some (PrattRT.ruleOf op, layChars b ++ c :: tl) := by
    cases lam with
    | false =>
      split at hs1
      · rename_i bad hbad
        rw [hX]
        apply firstRule_hit hbad
        intro hm
        have := List.all_eq_true.mp hs1 d hm
        simp [hd] at this
      · cases hs1
    | true =>
      have hl := wordOkL_of op hw (hlam rfl)
      unfold wordOkL at hl
      split at hl
      · rename_i bad hbad
        rw [hX]
        apply firstRule_hit hbad
        intro hm
        have := List.all_eq_true.mp hl d hm
        simp [hd] at this
      · cases hl
  split at hs2
  · cases hs2
  · rename_i h t hsp
    have hLA : layoutAtom (spell op ++ (layChars b ++ c :: tl)) = none := by
      rw [hsp]; exact layoutAtom_none hs2
    unfold natTable at hnat
    simp only [infixUsage, layoutPlus_run a ha _ hLA, hnat, wsPlus_run b hb hbw c tl hc4,
      Option.map_some]

theorem layoutStar_nil : layoutStar [] = [] := by
  simp [layoutStar, star, layoutAtom_nil]

theorem infixUsage_nil (lam : Bool) : infixUsage lam [] = none := by
  simp [infixUsage, layoutPlus, layoutAtom_nil, layoutStar_nil,
    firstRule_nil _ infixLits_ne]

/-- the characters that end an expression inside brackets -/
def stopChar (c : Char) : Bool := c == ')' || c == ',' || c == ']' || c == '}'

theorem stopChar_ne {c d : Char} (h : stopChar c = true) (hd : stopChar d = false) : c ≠ d :=
  fun e => by rw [e, hd] at h; cases h

theorem ne_of_not_identStart {c d : Char} (h : isIdentStart c = false) (hd : isIdentStart d = true) :
    c ≠ d := fun e => by rw [e, hd] at h; cases h

theorem stop_heads {c : Char} (h : stopChar c = true) :
    headsNe infixLits c = true ∧ headsNe naturalLits c = true ∧ notLayoutStart c = true ∧
      isIdentChar c = false ∧ isWs c = false := by
  simp only [stopChar, Bool.or_eq_true, beq_iff_eq] at h
  rcases h with ((rfl | rfl) | rfl) | rfl <;> decide +kernel

theorem infixUsage_none_of_heads (lam : Bool) (b : Lay) (c : Char) (rest : List Char)
    (hh1 : headsNe infixLits c = true) (hh2 : headsNe naturalLits c = true)
    (hh3 : notLayoutStart c = true) : infixUsage lam (layChars b ++ c :: rest) = none := by
  have hLA : layoutAtom (c :: rest) = none := layoutAtom_none hh3
  have h1 : firstRule (natTable lam) (c :: rest) = none :=
    firstRule_none_of_headsNe (headsNe_nat lam hh2)
  have h2 : firstRule infixLits (c :: rest) = none := firstRule_none_of_headsNe hh1
  have hpl : ∀ r, layoutPlus (layChars b ++ c :: rest) = some r →
      firstRule (natTable lam) r = none := by
    intro r hr
    cases b with
    | nil => simp only [layChars, List.nil_append, layoutPlus_none hLA] at hr; cases hr
    | cons x b =>
      rw [layoutPlus_run (x :: b) (by simp) _ hLA] at hr
      cases hr; exact h1
  rw [infixUsage_alt2 hpl, layoutStar_run b _ hLA, h2]
  rfl

theorem infixUsage_stop (lam : Bool) (b : Lay) (c : Char) (rest : List Char)
    (hc : stopChar c = true) : infixUsage lam (layChars b ++ c :: rest) = none := by
  obtain ⟨hh1, hh2, hh3, _, _⟩ := stop_heads hc
  exact infixUsage_none_of_heads lam b c rest hh1 hh2 hh3

/-! ### (4) prefix and postfix operators -/

theorem prefixUsage_minus (X : List Char) : prefixUsage ('-' :: X) = some (.pre "negation", X) := by
  simp [prefixUsage, naturalPrefixLits_eq, prefixLits_eq, firstRule, lit]

theorem prefixUsage_bang (X : List Char) : prefixUsage ('!' :: X) = some (.pre "invert", X) := by
  simp [prefixUsage, naturalPrefixLits_eq, prefixLits_eq, firstRule, lit]

theorem prefixUsage_none_of_head {c : Char} (X : List Char) (h1 : isIdentStart c = false)
    (h2 : c ≠ '-') (h3 : c ≠ '!') : prefixUsage (c :: X) = none := by
  have e1 : ¬ ('n' = c) := fun e => by rw [← e] at h1; cases h1
  have e2 : ¬ ('-' = c) := fun e => h2 e.symm
  have e3 : ¬ ('!' = c) := fun e => h3 e.symm
  simp [prefixUsage, naturalPrefixLits_eq, prefixLits_eq, firstRule, lit, e1, e2, e3]

theorem prefixStar_cons {c : Char} {X : List Char} {it : PItem}
    (h : prefixUsage (c :: X) = some (it, X)) :
    prefixStar (c :: X) = (it :: (prefixStar X).1, (prefixStar X).2) := by
  simp [prefixStar, starItems, h]

theorem prefixStar_none {cs : List Char} (h : prefixUsage cs = none) : prefixStar cs = ([], cs) := by
  simp [prefixStar, starItems, h]

theorem spreadLit_eq : spreadLit = ['.', '.', '.'] := by decide +kernel

theorem firstRule_postfix_none {c : Char} (X : List Char) (h : c ≠ '!') :
    firstRule postfixLits (c :: X) = none := by
  have : ¬ ('!' = c) := fun e => h e.symm
  simp [postfixLits_eq, firstRule, lit, this]

theorem firstRule_postfix_nil : firstRule postfixLits [] = none := by
  simp [postfixLits_eq, firstRule, lit]

theorem firstRule_postfix_bang (X : List Char) :
    firstRule postfixLits ('!' :: X) = some ("factorial", X) := by
  simp [postfixLits_eq, firstRule, lit]

theorem identifier_none_of_start {c : Char} (X : List Char) (h : isIdentStart c = false) :
    identifier (c :: X) = none := by
  have : nameBody (c :: X) = none := by simp [nameBody, plus, h]
  simp only [identifier, this]
  split <;> rfl

/-- no postfix operator starts here -/
def postNone : List Char → Prop
  | [] => True
  | d :: tl => d ≠ '!' ∧ d ≠ '[' ∧ d ≠ '(' ∧ (d = '.' → identifier tl = none)

theorem postOpR_none {cs : List Char} (h : postNone cs) (f : Nat) : postOpR (f + 1) cs = .fail := by
  rw [postOpR_succ]
  cases cs with
  | nil => simp only [firstRule_postfix_nil, Res.ofOpt]
  | cons d tl =>
    obtain ⟨h1, h2, h3, h4⟩ := h
    simp only [firstRule_postfix_none tl h1, Res.ofOpt]
    split
    · rename_i r1 heq; simp only [List.cons.injEq] at heq; exact absurd heq.1 h2
    · rename_i r1 heq; simp only [List.cons.injEq] at heq; exact absurd heq.1 h3
    · rename_i r1 heq
      simp only [List.cons.injEq] at heq
      obtain ⟨rfl, rfl⟩ := heq
      simp only [h4 rfl]
    · rfl

theorem postR_none {cs : List Char} (h : postNone cs) (f : Nat) :
    postR (f + 2) cs = .ok ([], cs) := by
  rw [postR_succ, postOpR_none h]; rfl

theorem postNone_of_char {d : Char} {tl : List Char} (h1 : d ≠ '!') (h2 : d ≠ '[') (h3 : d ≠ '(')
    (h4 : d ≠ '.') : postNone (d :: tl) := ⟨h1, h2, h3, fun e => absurd e h4⟩

theorem postNone_lay (b : Lay) (c : Char) (tl : List Char) (hc : postNone (c :: tl)) :
    postNone (layChars b ++ c :: tl) := by
  cases b with
  | nil => exact hc
  | cons a b => cases a <;> exact postNone_of_char (by decide) (by decide) (by decide) (by decide)

/-! ### (5) layout inside brackets -/

theorem newline_atom {a : LayAtom} (h : a.isWs = false) (rest : List Char) :
    newline (a.chars ++ rest) = some rest := by
  cases a <;> simp [LayAtom.isWs] at h <;>
    simp [LayAtom.chars, newline, inlineComment, plainNewline, orElse, lit]

theorem newline_none_of_layoutAtom {cs : List Char} (h : layoutAtom cs = none) : newline cs = none := by
  simp only [layoutAtom, orElse] at h
  split at h
  · cases h
  · exact h

/-- line breaks only (what `NEWLINE*` admits in the atomic `access`) -/
def nlOnly (l : Lay) : Bool := l.all fun a => !a.isWs

theorem star_newline_run (n : Nat) (l : Lay) (rest : List Char) (hn : l.length < n)
    (hl : nlOnly l = true) (hr : newline rest = none) :
    star newline n (layChars l ++ rest) = rest := by
  induction n generalizing l with
  | zero => exact absurd hn (Nat.not_lt_zero _)
  | succ m ih =>
    cases l with
    | nil => simp [layChars, star, hr]
    | cons a l =>
      simp only [nlOnly, List.all_cons, Bool.and_eq_true, Bool.not_eq_true'] at hl
      simp only [layChars, List.append_assoc, star, newline_atom hl.1]
      exact ih l (by simp only [List.length_cons] at hn; omega) (by simpa [nlOnly] using hl.2)

theorem nlStar_run (l : Lay) (rest : List Char) (hl : nlOnly l = true) (hr : newline rest = none) :
    nlStar (layChars l ++ rest) = rest := by
  unfold nlStar
  apply star_newline_run _ _ _ _ hl hr
  have := layChars_length l
  simp only [List.length_append]; omega

theorem skipWs_run (l : Lay) (hw : wsOnly l = true) (c : Char) (rest : List Char)
    (hc : isWs c = false) : skipWs (layChars l ++ c :: rest) = c :: rest := by
  induction l with
  | nil => simp [skipWs, layChars, hc]
  | cons a l ih =>
    simp only [wsOnly, List.all_cons, Bool.and_eq_true] at hw
    have := ih hw.2
    cases a <;> simp_all [LayAtom.isWs, LayAtom.chars, layChars, skipWs, isWs]

theorem skipWs_lay (l : Lay) (c : Char) (rest : List Char) (hc : isWs c = false) :
    ∃ l', skipWs (layChars l ++ c :: rest) = layChars l' ++ c :: rest := by
  induction l with
  | nil => exact ⟨[], by simp [skipWs, layChars, hc]⟩
  | cons a l ih =>
    obtain ⟨l', h'⟩ := ih
    cases a
    · exact ⟨l', by simpa [skipWs, layChars, LayAtom.chars, List.dropWhile, isWs] using h'⟩
    · exact ⟨l', by simpa [skipWs, layChars, LayAtom.chars, List.dropWhile, isWs] using h'⟩
    · exact ⟨.lf :: l, by simp [skipWs, layChars, LayAtom.chars, isWs]⟩
    · exact ⟨.crlf :: l, by simp [skipWs, layChars, LayAtom.chars, isWs]⟩

theorem trailComma_other {cs : List Char} (h : ∀ r, cs ≠ ',' :: r) : trailComma cs = cs := by
  unfold trailComma
  split
  · rename_i r; exact absurd rfl (h r)
  · rfl

theorem wnAtom_atom (a : LayAtom) (rest : List Char) : wnAtom (a.chars ++ rest) = some rest := by
  cases a <;> simp [LayAtom.chars, wnAtom, orElse, whitespace, isWs, plainNewline, lit]

theorem inlineComment_atom (a : LayAtom) (rest : List Char) :
    inlineComment (a.chars ++ rest) = none := by
  cases a <;> simp [LayAtom.chars, inlineComment, lit]

theorem gAtom_atom (a : LayAtom) (rest : List Char) : gAtom (a.chars ++ rest) = some rest := by
  simp only [gAtom, inlineComment_atom, wnAtom_atom]

theorem hAtom_atom (a : LayAtom) (rest : List Char) : hAtom (a.chars ++ rest) = some rest := by
  simp only [hAtom, inlineComment_atom, wnAtom_atom]

theorem list_atoms_none {c : Char} {r : List Char} (h : notLayoutStart c = true) :
    wnAtom (c :: r) = none ∧ gAtom (c :: r) = none ∧ hAtom (c :: r) = none ∧
      inlineComment (c :: r) = none := by
  simp only [notLayoutStart, Bool.not_eq_true', Bool.or_eq_false_iff, beq_eq_false_iff_ne, ne_eq] at h
  obtain ⟨⟨⟨⟨h1, h2⟩, h3⟩, h4⟩, h5⟩ := h
  have e1 : ¬ ('/' = c) := fun e => h5 e.symm
  have e2 : ¬ ('\r' = c) := fun e => h4 e.symm
  have e3 : ¬ ('\n' = c) := fun e => h3 e.symm
  have hw : wnAtom (c :: r) = none := by
    simp [wnAtom, orElse, whitespace, isWs, plainNewline, lit, h1, h2, e2, e3]
  have hc : inlineComment (c :: r) = none := by simp [inlineComment, lit, e1]
  exact ⟨hw, by simp only [gAtom, hc, hw], by simp only [hAtom, hc, hw], hc⟩

theorem wnStar_run (l : Lay) {c : Char} (rest : List Char) (hc : notLayoutStart c = true) :
    wnStar (layChars l ++ c :: rest) = c :: rest := by
  unfold wnStar
  apply star_lay_run _ wnAtom_atom _ _ _ _ (list_atoms_none hc).1
  have := layChars_length l
  simp only [List.length_append]; omega

theorem gapG_run (l : Lay) {c : Char} (rest : List Char) (hc : notLayoutStart c = true) :
    gapG (layChars l ++ c :: rest) = c :: rest := by
  unfold gapG
  apply star_lay_run _ gAtom_atom _ _ _ _ (list_atoms_none hc).2.1
  have := layChars_length l
  simp only [List.length_append]; omega

theorem gapH_run (l : Lay) {c : Char} (rest : List Char) (hc : notLayoutStart c = true) :
    gapH (layChars l ++ c :: rest) = c :: rest := by
  unfold gapH
  apply star_lay_run _ hAtom_atom _ _ _ _ (list_atoms_none hc).2.2.1
  have := layChars_length l
  simp only [List.length_append]; omega

theorem itemTrail_ws (w : Lay) (hw : wsOnly w = true) {c : Char} (rest : List Char)
    (hc : notLayoutStart c = true) : itemTrail (layChars w ++ c :: rest) = c :: rest := by
  have hws := isWs_of_notLayoutStart hc
  unfold itemTrail
  rw [skipWs_run w hw c rest hws, (list_atoms_none hc).2.2.2]

theorem itemTrail_lay (l : Lay) {c : Char} (rest : List Char) (hc : notLayoutStart c = true) :
    ∃ l', itemTrail (layChars l ++ c :: rest) = layChars l' ++ c :: rest ∧
      skipWs (layChars l' ++ c :: rest) = layChars l' ++ c :: rest := by
  have hws := isWs_of_notLayoutStart hc
  induction l with
  | nil =>
    refine ⟨[], ?_, by simp [skipWs, layChars, hws]⟩
    unfold itemTrail
    simp only [layChars, List.nil_append]
    have : skipWs (c :: rest) = c :: rest := by simp [skipWs, List.dropWhile, hws]
    rw [this, (list_atoms_none hc).2.2.2]
  | cons a l ih =>
    obtain ⟨l', h1, h2⟩ := ih
    cases a
    · refine ⟨l', ?_, h2⟩
      unfold itemTrail at h1 ⊢
      simpa [skipWs, layChars, LayAtom.chars, List.dropWhile, isWs] using h1
    · refine ⟨l', ?_, h2⟩
      unfold itemTrail at h1 ⊢
      simpa [skipWs, layChars, LayAtom.chars, List.dropWhile, isWs] using h1
    · refine ⟨.lf :: l, ?_, by simp [skipWs, layChars, LayAtom.chars, isWs]⟩
      unfold itemTrail
      simp [skipWs, layChars, LayAtom.chars, isWs, inlineComment, lit]
    · refine ⟨.crlf :: l, ?_, by simp [skipWs, layChars, LayAtom.chars, isWs]⟩
      unfold itemTrail
      simp [skipWs, layChars, LayAtom.chars, isWs, inlineComment, lit]

theorem prefixUsage_word {w rest : List Char} (hne : w ≠ []) (hw : ∀ x ∈ w, isIdentChar x = true)
    (hnot : w ≠ ['n', 'o', 't']) (hb : Boundary rest) : prefixUsage (w ++ rest) = none := by
  have h2 : firstRule prefixLits (w ++ rest) = none := by
    cases w with
    | nil => exact absurd rfl hne
    | cons c w =>
      have h7 : c ≠ '!' := ne_of_identChar (hw c List.mem_cons_self) (by decide)
      have h8 : c ≠ '-' := ne_of_identChar (hw c List.mem_cons_self) (by decide)
      rw [prefixLits_eq, List.cons_append]
      apply firstRule_none_of_heads
      intro x hx
      simp only [List.mem_cons, List.not_mem_nil, or_false] at hx
      rcases hx with rfl | rfl
      · exact ⟨'-', [], rfl, fun e => h8 e.symm⟩
      · exact ⟨'!', [], rfl, fun e => h7 e.symm⟩
  unfold prefixUsage
  cases hf : firstRule naturalPrefixLits (w ++ rest) with
  | none => simp only [h2, Option.map_none]
  | some x =>
    obtain ⟨rule, r⟩ := x
    obtain ⟨s, hs, he⟩ := firstRule_some hf
    rw [naturalPrefixLits_eq] at hs
    simp only [List.mem_cons, Prod.mk.injEq, List.not_mem_nil, or_false] at hs
    obtain ⟨_, rfl⟩ := hs
    -- `r` starts with an identifier character or `w` would be `not`
    have : wsPlus r = none := by
      rcases List.append_eq_append_iff.mp he with ⟨a', hsa, hra⟩ | ⟨c', hwc, hrc⟩
      · cases a' with
        | nil => simp only [List.append_nil] at hsa; exact absurd hsa.symm hnot
        | cons x a' =>
          exfalso
          have hx : isIdentChar x = true := by
            have : x ∈ ['n', 'o', 't'] := by rw [hsa]; simp
            revert this; simp only [List.mem_cons, List.not_mem_nil, or_false]
            rintro (rfl | rfl | rfl) <;> decide
          have := boundary_class hb isIdentChar (fun _ h => h) x (a' ++ r) (by simpa using hra)
          rw [hx] at this; cases this
      · cases c' with
        | nil => simp only [List.append_nil] at hwc; exact absurd hwc hnot
        | cons x c' =>
          subst hrc
          have hx : isIdentChar x = true := hw x (by simp [hwc])
          obtain ⟨h1, h2, _⟩ := isIdentChar_cases hx
          simp [wsPlus, plus, isWs, h1, h2]
    simp only [this, Option.map_none, h2]

/-! ### (6) the atoms of the fragment -/

def isBuiltinName (n : String) : Bool := (Gen.fromIdent.find? (fun r => r.1 == n)).isSome

/-- the terms of the fragment: identifiers that are not reserved words (a built-in function
    name is the `builtin` node), non-negative integer literals below 10^15 (printed as plain
    digits), `true` / `false` / `null` -/
def atomOk : Expr → Bool
  | .ident n => identShape n.toList && !Gen.grammarReserved.contains n && !isBuiltinName n
  | .builtin n => isBuiltinName n
  | .bool _ => true
  | .null => true
  | .num x => x.isFinite && x.isIntegral && !x.neg && F64.flt x.abs f64_1e15
  | _ => false

def atomText (e : Expr) : List Char := (exprToSource e).toList

theorem consumed_append (w rest : List Char) : consumed (w ++ rest) rest = w := by
  simp [consumed]

def builtinRowOk (r : String × String) : Bool :=
  identShape r.1.toList && !Gen.grammarReserved.contains r.1 &&
    (match nameTerm r.1 with | .builtin m => m == r.1 | _ => false)

theorem all_builtinRowOk : Gen.fromIdent.all builtinRowOk = true := by decide +kernel

theorem builtin_facts {n : String} (h : isBuiltinName n = true) :
    IdentShape n.toList ∧ n ∉ Gen.grammarReserved ∧ nameTerm n = .builtin n := by
  unfold isBuiltinName at h
  cases hf : Gen.fromIdent.find? (fun r => r.1 == n) with
  | none => rw [hf] at h; cases h
  | some r =>
    have hm := List.mem_of_find?_eq_some hf
    have hp := List.find?_some hf
    simp only [beq_iff_eq] at hp
    have := List.all_eq_true.mp all_builtinRowOk r hm
    simp only [builtinRowOk, Bool.and_eq_true, Bool.not_eq_true', hp] at this
    obtain ⟨⟨h1, h2⟩, h3⟩ := this
    refine ⟨h1, by simpa using h2, ?_⟩
    split at h3
    · rename_i m hm'; rw [hm']; simp only [beq_iff_eq] at h3; rw [h3]
    · cases h3

theorem isDigit_val {d : Char} (h : isDigit d = true) : 48 ≤ d.toNat ∧ d.toNat ≤ 57 := by
  simp only [isDigit, Bool.and_eq_true, decide_eq_true_eq, Char.le_def, UInt32.le_iff_toNat_le] at h
  exact h

theorem isDigit_not_start {d : Char} (h : isDigit d = true) : isIdentStart d = false := by
  have ⟨h1, h2⟩ := isDigit_val h
  have hu : d ≠ '_' := by intro e; subst e; revert h; decide
  simp only [isIdentStart, isAlpha, isUnderscore, Bool.or_eq_false_iff, Bool.and_eq_false_iff,
    decide_eq_false_iff_not, Char.le_def, UInt32.le_iff_toNat_le, beq_eq_false_iff_ne, ne_eq]
  refine ⟨⟨?_, ?_⟩, hu⟩
  · left; show ¬ (97 ≤ d.toNat); omega
  · left; show ¬ (65 ≤ d.toNat); omega

theorem dropWhile_all_true {p : Char → Bool} {l : List Char} (h : ∀ c ∈ l, p c = true) :
    l.dropWhile p = [] := by
  induction l with
  | nil => rfl
  | cons a l ih =>
    simp only [List.dropWhile, h a List.mem_cons_self]
    exact ih (fun c hc => h c (List.mem_cons_of_mem _ hc))

theorem firstLit_none_of_heads {L : List (List Char)} {c : Char} {tl : List Char}
    (h : ∀ s ∈ L, ∃ a t, s = a :: t ∧ a ≠ c) : firstLit L (c :: tl) = none := by
  induction L with
  | nil => rfl
  | cons s L ih =>
    obtain ⟨a, t, rfl, hne⟩ := h s List.mem_cons_self
    simp only [firstLit, lit, hne, if_false]
    exact ih (fun y hy => h y (List.mem_cons_of_mem _ hy))

def quoteChar (dq : Bool) : Char := if dq then '"' else '\''

/-- the model's `string` rule is the one the printer lemmas (C07) are stated for -/
theorem stringRule_eq_readString (cs : List Char) : stringRule cs = PrintL.readString cs := by
  cases cs <;> rfl

theorem stringRule_nil : stringRule [] = none := rfl

theorem stringRule_none_of_head {c : Char} (X : List Char) (h1 : c ≠ '"') (h2 : c ≠ '\'') :
    stringRule (c :: X) = none := by
  simp [stringRule, h1, h2]

theorem isIdentChar_not_quote {c : Char} (h : isIdentChar c = true) : c ≠ '"' ∧ c ≠ '\'' := by
  refine ⟨?_, ?_⟩ <;> (intro e; subst e; revert h; decide)

theorem stringRule_none_word {w : List Char} (hne : w ≠ [])
    (hall : ∀ x ∈ w, isIdentChar x = true) (rest : List Char) : stringRule (w ++ rest) = none := by
  cases w with
  | nil => exact absurd rfl hne
  | cons c w =>
    obtain ⟨h1, h2⟩ := isIdentChar_not_quote (hall c List.mem_cons_self)
    exact stringRule_none_of_head _ h1 h2

theorem stringRule_quoted (dq : Bool) (s rest : List Char) (h : quoteChar dq ∉ s) :
    stringRule (quoteChar dq :: (s ++ quoteChar dq :: rest)) = some (s, rest) := by
  rw [stringRule_eq_readString]
  exact PrintL.readString_quoted _ (by cases dq <;> simp [quoteChar]) s rest h

theorem keywords_none_of_head {c : Char} (X : List Char) (h : isIdentStart c = false) :
    boolRule (c :: X) = none ∧ nullRule (c :: X) = none := by
  have hne : ∀ d, isIdentStart d = true → d ≠ c := fun d hd e => by rw [e, h] at hd; cases hd
  constructor
  · have : firstLit [trueLit, falseLit] (c :: X) = none := by
      apply firstLit_none_of_heads
      intro s hs
      simp only [List.mem_cons, List.not_mem_nil, or_false] at hs
      rcases hs with rfl | rfl
      · exact ⟨'t', _, rfl, hne _ (by decide)⟩
      · exact ⟨'f', _, rfl, hne _ (by decide)⟩
    simp [boolRule, keyword, this]
  · have : firstLit [nullLit] (c :: X) = none := by
      apply firstLit_none_of_heads
      intro s hs
      simp only [List.mem_cons, List.not_mem_nil, or_false] at hs
      subst hs
      exact ⟨'n', _, rfl, hne _ (by decide)⟩
    simp [nullRule, keyword, this]

theorem num_atomText {x : F64} (h : atomOk (.num x) = true) :
    (∀ c ∈ atomText (.num x), isDigit c = true) ∧ atomText (.num x) ≠ [] ∧
      NumText.literalValue (String.ofList (atomText (.num x))) = some x := by
  simp only [atomOk, Bool.and_eq_true, Bool.not_eq_true'] at h
  obtain ⟨⟨⟨hf, hi⟩, hn⟩, hlt⟩ := h
  have hinf := F64.isInf_of_isFinite x hf
  have hsrc : exprToSource (.num x) = x.toFixed 0 := by
    simp only [exprToSource, exprSrc]
    exact PrintL.numberToSource_int x (by simp [hinf]) hi hlt
  have hfix := F64.toFixed_zero_of_integral x hf (F64.ratio_integral_of_isIntegral x hi)
  simp only [hn, Bool.false_eq_true, if_false, String.empty_append] at hfix
  have ht : atomText (.num x) = (F64.natDigits (x.ratio.1 / x.ratio.2)).toList := by
    simp only [atomText, hsrc, hfix]
  have hdig : ∀ c ∈ atomText (.num x), isDigit c = true := by
    rw [ht]; exact F64.natDigits_all_isDigit _
  refine ⟨hdig, by rw [ht]; exact F64.natDigits_toList_ne_nil _, ?_⟩
  rw [NumText.literalValue_plain _ (fun c hc => Or.inl (hdig c hc))]
  simp only [atomText, String.ofList_toList, hsrc]
  exact F64.parseDec_toFixed_zero x hf hi

theorem not_mem_reservedLits {n : String} (h : n ∉ Gen.grammarReserved) : n.toList ∉ reservedLits :=
  fun hm => h (by have := mem_reservedLits.mp hm; rwa [String.ofList_toList] at this)

theorem atom_name {e : Expr} {n : String} (he : e = .ident n ∨ e = .builtin n)
    (h : atomOk e = true) :
    atomText e = n.toList ∧ IdentShape n.toList ∧ n ∉ Gen.grammarReserved ∧ nameTerm n = e := by
  rcases he with rfl | rfl
  · simp only [atomOk, Bool.and_eq_true, Bool.not_eq_true'] at h
    obtain ⟨⟨hs, hr⟩, hb⟩ := h
    refine ⟨by simp [atomText, exprToSource, exprSrc, lookupAL], hs, by simpa using hr, ?_⟩
    unfold isBuiltinName at hb
    simp only [Option.isSome_eq_false_iff, Option.isNone_iff_eq_none] at hb
    simp [nameTerm, hb]
  · simp only [atomOk] at h
    obtain ⟨hw, hres, hname⟩ := builtin_facts h
    exact ⟨by simp [atomText, exprToSource, exprSrc], hw, hres, hname⟩

theorem atom_word_of_name {e : Expr} {n : String}
    (h : atomText e = n.toList ∧ IdentShape n.toList ∧ n ∉ Gen.grammarReserved ∧ nameTerm n = e) :
    atomText e ≠ [] ∧ (∀ x ∈ atomText e, isIdentChar x = true) ∧ atomText e ≠ ['n', 'o', 't'] ∧
      ∀ rest, Boundary rest → termAtom (atomText e ++ rest) = some (e, rest) := by
  obtain ⟨ht, hw, hres, hname⟩ := h
  have hnot := not_mem_reservedLits hres
  rw [ht]
  refine ⟨hw.ne_nil, hw.all, ?_, ?_⟩
  · intro e
    apply hres
    have : n = "not" := by rw [← String.ofList_toList (s := n), e]
    rw [this]; decide
  · intro rest hbd
    simp only [termAtom, boolRule_none hw hnot hbd, stringRule_none_word hw.ne_nil hw.all,
      nullRule_none hw hnot hbd, identifier_run hw hnot hbd, consumed_append,
      String.ofList_toList, hname]

theorem atom_word {e : Expr} (h : atomOk e = true) :
    atomText e ≠ [] ∧ (∀ x ∈ atomText e, isIdentChar x = true) ∧ atomText e ≠ ['n', 'o', 't'] ∧
      ∀ rest, Boundary rest → termAtom (atomText e ++ rest) = some (e, rest) := by
  cases e with
  | ident n => exact atom_word_of_name (atom_name (.inl rfl) h)
  | builtin n => exact atom_word_of_name (atom_name (.inr rfl) h)
  | bool b =>
    cases b with
    | true =>
      have ht : atomText (.bool true) = trueLit := by
        simp [atomText, exprToSource, exprSrc, trueLit]
      rw [ht]
      refine ⟨by decide, by decide, by decide, ?_⟩
      intro rest hbd
      have hf : firstLit [trueLit, falseLit] (trueLit ++ rest) = some (trueLit, rest) := by
        simp [firstLit, lit_append]
      simp [termAtom, boolRule, keyword_of_firstLit hf hbd]
    | false =>
      have ht : atomText (.bool false) = falseLit := by
        simp [atomText, exprToSource, exprSrc, falseLit]
      rw [ht]
      refine ⟨by decide, by decide, by decide, ?_⟩
      intro rest hbd
      have hf : firstLit [trueLit, falseLit] (falseLit ++ rest) = some (falseLit, rest) := by
        have : lit trueLit (falseLit ++ rest) = none := by simp [trueLit, falseLit, lit]
        simp [firstLit, this, lit_append]
      have hne : (falseLit == trueLit) = false := by decide
      simp [termAtom, boolRule, keyword_of_firstLit hf hbd, hne]
  | null =>
    have ht : atomText .null = nullLit := by simp [atomText, exprToSource, exprSrc, nullLit]
    rw [ht]
    refine ⟨by decide, by decide, by decide, ?_⟩
    intro rest hbd
    have hb : boolRule (nullLit ++ rest) = none := by
      have : firstLit [trueLit, falseLit] (nullLit ++ rest) = none := by
        simp [firstLit, trueLit, falseLit, nullLit, lit]
      simp [boolRule, keyword, this]
    have hf : firstLit [nullLit] (nullLit ++ rest) = some (nullLit, rest) := by
      simp [firstLit, lit_append]
    have hs : stringRule (nullLit ++ rest) = none :=
      stringRule_none_word (w := nullLit) (by decide) (by decide) rest
    simp [termAtom, hb, hs, nullRule, keyword_of_firstLit hf hbd]
  | num x =>
    obtain ⟨hdig, hne, hval⟩ := num_atomText h
    refine ⟨hne, fun c hc => digit_identChar c (hdig c hc), ?_, ?_⟩
    · intro e
      have := hdig 'n' (by rw [e]; simp)
      revert this; decide
    · intro rest hbd
      generalize atomText (.num x) = ds at hdig hne hval
      cases ds with
      | nil => exact absurd rfl hne
      | cons d ds =>
        have hd := hdig d List.mem_cons_self
        have hds : ∀ c ∈ ds, isDigit c = true := fun c hc => hdig c (List.mem_cons_of_mem _ hc)
        obtain ⟨hb, hnl⟩ := keywords_none_of_head (ds ++ rest) (isDigit_not_start hd)
        have hpl : plus isDigit (d :: (ds ++ rest)) = some rest := by
          have h1 := dropWhile_append_of_boundary isDigit ds rest
            (boundary_class hbd _ digit_identChar)
          have h2 : ds.dropWhile isDigit = [] := dropWhile_all_true hds
          simp [plus, hd, h1, h2]
        have hcons : consumed (d :: (ds ++ rest)) rest = d :: ds := consumed_append (d :: ds) rest
        have hstr : stringRule (d :: (ds ++ rest)) = none :=
          stringRule_none_of_head _ (by intro e; subst e; revert hd; decide)
            (by intro e; subst e; revert hd; decide)
        simp only [List.cons_append, termAtom, hb, hstr, hnl,
          identifier_none_of_start _ (isDigit_not_start hd), hpl, hcons, hval, Option.map_some]
  | _ => simp [atomOk] at h



theorem atom_ident {e : Expr} (h : atomOk e = true) :
    (∃ n : String, atomText e = n.toList ∧ IdentShape n.toList ∧ n.toList ∉ reservedLits) ∨
      (∀ X, Boundary X → identifier (atomText e ++ X) = none) := by
  cases e with
  | ident n =>
    obtain ⟨ht, hw, hres, _⟩ := atom_name (.inl rfl) h
    exact Or.inl ⟨n, ht, hw, not_mem_reservedLits hres⟩
  | builtin n =>
    obtain ⟨ht, hw, hres, _⟩ := atom_name (.inr rfl) h
    exact Or.inl ⟨n, ht, hw, not_mem_reservedLits hres⟩
  | bool b =>
    refine Or.inr fun X hb => ?_
    cases b with
    | true =>
      have ht : atomText (.bool true) = trueLit := by
        simp [atomText, exprToSource, exprSrc, trueLit]
      have hf : firstLit reservedLits (trueLit ++ X) = some (trueLit, X) := by
        simp [firstLit, reservedLits, Gen.grammarReserved, trueLit, lit]
      simp [ht, identifier, keyword_of_firstLit hf hb]
    | false =>
      have ht : atomText (.bool false) = falseLit := by
        simp [atomText, exprToSource, exprSrc, falseLit]
      have hf : firstLit reservedLits (falseLit ++ X) = some (falseLit, X) := by
        simp [firstLit, reservedLits, Gen.grammarReserved, falseLit, lit]
      simp [ht, identifier, keyword_of_firstLit hf hb]
  | null =>
    refine Or.inr fun X hb => ?_
    have ht : atomText .null = nullLit := by simp [atomText, exprToSource, exprSrc, nullLit]
    have hf : firstLit reservedLits (nullLit ++ X) = some (nullLit, X) := by
      simp [firstLit, reservedLits, Gen.grammarReserved, nullLit, lit]
    simp [ht, identifier, keyword_of_firstLit hf hb]
  | num x =>
    refine Or.inr fun X _ => ?_
    obtain ⟨hdig, hne, _⟩ := num_atomText h
    cases hd : atomText (.num x) with
    | nil => exact absurd hd hne
    | cons d ds =>
      rw [List.cons_append]
      exact identifier_none_of_start _ (isDigit_not_start (hdig d (by rw [hd]; exact List.mem_cons_self)))
  | _ => simp [atomOk] at h

/-! ### (7) the head of a lambda: where no lambda starts -/

def arrowAt (cs : List Char) : Prop := ∃ r, skipWs cs = '=' :: '>' :: r

/-- `=` follows (after blanks) only as the start of `==`: the name in front of this text starts
    no assignment (`assignment` takes `name =` and then fails at the second `=`) -/
def NoAsg (rest : List Char) : Prop := ∀ r, skipWs rest = '=' :: r → ∃ r', r = '=' :: r'

/-- neither `=>` nor `? =>` follows: no lambda head ends in front of this text — and no `=`
    that would make the name in front of it the target of an assignment -/
def NoLam (rest : List Char) : Prop :=
  (¬ arrowAt rest ∧ ∀ r1, skipWs rest = '?' :: r1 → ¬ arrowAt r1) ∧ NoAsg rest

theorem lit_arrow_none {cs : List Char} (h : ¬ arrowAt cs) : lit ['=', '>'] (skipWs cs) = none := by
  cases hl : lit ['=', '>'] (skipWs cs) with
  | none => rfl
  | some r => exact absurd ⟨r, by simpa using lit_eq_some.mp hl⟩ h

theorem skipWs_head {c : Char} (r : List Char) (h : isWs c = false) : skipWs (c :: r) = c :: r := by
  simp [skipWs, List.dropWhile, h]

theorem skipWs_ws {c : Char} (r : List Char) (h : isWs c = true) : skipWs (c :: r) = skipWs r := by
  simp [skipWs, List.dropWhile, h]

theorem skipWs_nil : skipWs [] = [] := rfl

theorem noLam_of_head {c : Char} {r : List Char} (hw : isWs c = false) (h1 : c ≠ '=') (h2 : c ≠ '?') :
    NoLam (c :: r) := by
  refine ⟨⟨?_, ?_⟩, ?_⟩
  · rintro ⟨r', hr⟩
    rw [skipWs_head r hw] at hr
    simp only [List.cons.injEq] at hr
    exact h1 hr.1
  · intro r1 hr
    rw [skipWs_head r hw] at hr
    simp only [List.cons.injEq] at hr
    exact absurd hr.1 h2
  · intro r1 hr
    rw [skipWs_head r hw] at hr
    simp only [List.cons.injEq] at hr
    exact absurd hr.1 h1

theorem noLam_nil : NoLam [] :=
  ⟨⟨fun ⟨r, hr⟩ => by simp [skipWs] at hr, fun r1 hr => by simp [skipWs] at hr⟩,
    fun r1 hr => by simp [skipWs] at hr⟩

theorem noLam_lay (l : Lay) {X : List Char} (h : NoLam X) : NoLam (layChars l ++ X) := by
  induction l with
  | nil => exact h
  | cons a l ih =>
    cases a
    · have e : skipWs (layChars (LayAtom.sp :: l) ++ X) = skipWs (layChars l ++ X) := by
        simp only [layChars, LayAtom.chars, List.cons_append, List.nil_append]
        exact skipWs_ws _ (by decide)
      exact ⟨⟨fun ⟨r, hr⟩ => ih.1.1 ⟨r, e ▸ hr⟩, fun r1 hr => ih.1.2 r1 (e ▸ hr)⟩,
        fun r1 hr => ih.2 r1 (e ▸ hr)⟩
    · have e : skipWs (layChars (LayAtom.tab :: l) ++ X) = skipWs (layChars l ++ X) := by
        simp only [layChars, LayAtom.chars, List.cons_append, List.nil_append]
        exact skipWs_ws _ (by decide)
      exact ⟨⟨fun ⟨r, hr⟩ => ih.1.1 ⟨r, e ▸ hr⟩, fun r1 hr => ih.1.2 r1 (e ▸ hr)⟩,
        fun r1 hr => ih.2 r1 (e ▸ hr)⟩
    · simp only [layChars, LayAtom.chars, List.cons_append, List.nil_append]
      exact noLam_of_head (by decide) (by decide) (by decide)
    · simp only [layChars, LayAtom.chars, List.cons_append, List.nil_append]
      exact noLam_of_head (by decide) (by decide) (by decide)

/-- A symbol operator behind a name is taken neither for the end of an argument list (it does
    not start with `,`, `)` or a blank), nor for `=>` or the `=` of an assignment (one that starts
    with `=` goes on with a second `=`), nor for the `?` of an optional parameter (one that starts
    with `?` goes on with a second `?`). -/
def symLamOk (op : BinOp) : Bool :=
  match spell op with
  | [] => false
  | h :: t =>
    h != ',' && h != ')' && !isWs h &&
      (h != '=' || (match t with | c :: _ => c == '=' | [] => false)) &&
      (h != '?' || (match t with | c :: _ => c == '?' | [] => false))

theorem all_symLamOk : (BinOp.all.all fun op => isWordOp op || symLamOk op) = true := by
  decide +kernel

theorem symLamOk_of (op : BinOp) (h : isWordOp op = false) : symLamOk op = true := by
  have := List.all_eq_true.mp all_symLamOk op (PrattRT.BinOp.mem_all op)
  simpa [h] using this

theorem noLam_sym (op : BinOp) (hw : isWordOp op = false) (X : List Char) :
    NoLam (spell op ++ X) := by
  have h := symLamOk_of op hw
  unfold symLamOk at h
  split at h
  · cases h
  · rename_i hd t hsp
    simp only [Bool.and_eq_true, bne_iff_ne, ne_eq, Bool.not_eq_true', Bool.or_eq_true] at h
    obtain ⟨⟨⟨⟨_, _⟩, hws⟩, he⟩, hq⟩ := h
    rw [hsp, List.cons_append]
    refine ⟨⟨?_, ?_⟩, ?_⟩
    · rintro ⟨r, hr⟩
      rw [skipWs_head _ hws] at hr
      simp only [List.cons.injEq] at hr
      obtain ⟨rfl, hr2⟩ := hr
      rcases he with he | he
      · exact he rfl
      · cases t with
        | nil => cases he
        | cons c t' =>
          simp only [List.cons_append, List.cons.injEq] at hr2
          simp only [beq_iff_eq] at he
          subst he
          exact absurd hr2.1 (by decide)
    rotate_left
    · intro r hr
      rw [skipWs_head _ hws] at hr
      simp only [List.cons.injEq] at hr
      obtain ⟨rfl, rfl⟩ := hr
      rcases he with he | he
      · exact absurd rfl he
      · cases t with
        | nil => cases he
        | cons c t' =>
          simp only [beq_iff_eq] at he
          subst he
          exact ⟨t' ++ X, rfl⟩
    · intro r1 hr
      rw [skipWs_head _ hws] at hr
      simp only [List.cons.injEq] at hr
      obtain ⟨rfl, rfl⟩ := hr
      rcases hq with hq | hq
      · exact absurd rfl hq
      · cases t with
        | nil => cases hq
        | cons c t' =>
          simp only [beq_iff_eq] at hq
          subst hq
          rintro ⟨r, hr⟩
          rw [List.cons_append, skipWs_head _ (by decide)] at hr
          simp only [List.cons.injEq] at hr
          exact absurd hr.1 (by decide)

/-- an argument name (`identifier`): identifier-shaped, not a reserved word -/
def nameOk (n : String) : Bool := identShape n.toList && !Gen.grammarReserved.contains n

theorem nameOk_facts {n : String} (h : nameOk n = true) :
    IdentShape n.toList ∧ n.toList ∉ reservedLits := by
  simp only [nameOk, Bool.and_eq_true, Bool.not_eq_true'] at h
  refine ⟨h.1, fun hm => ?_⟩
  have := mem_reservedLits.mp hm
  rw [String.ofList_toList] at this
  simp [this] at h

theorem nameOk_of_shape {n : String} (hw : IdentShape n.toList) (hnot : n.toList ∉ reservedLits) :
    nameOk n = true := by
  simp only [nameOk, Bool.and_eq_true, Bool.not_eq_true']
  refine ⟨hw, ?_⟩
  cases hc : Gen.grammarReserved.contains n with
  | false => rfl
  | true => exact absurd (mem_reservedLits.mpr (by rw [String.ofList_toList]; simpa using hc)) hnot

theorem argumentR_req {n : String} (hn : nameOk n = true) {Y : List Char} (hb : Boundary Y)
    (hq : ∀ r, skipWs Y ≠ '?' :: r) : argumentR (n.toList ++ Y) = some (.req n, Y) := by
  obtain ⟨hw, hnot⟩ := nameOk_facts hn
  -- the side condition of the second `match` alternative is discharged from `hq`
  simp only [argumentR, identifier_run hw hnot hb, consumed_append, String.ofList_toList]

theorem argumentR_opt {n : String} (hn : nameOk n = true) (Y : List Char) :
    argumentR (n.toList ++ '?' :: Y) = some (.opt n, Y) := by
  obtain ⟨hw, hnot⟩ := nameOk_facts hn
  have hb : Boundary ('?' :: Y) := by simp [Boundary, boundary, isIdentChar, isAlpha, isDigit, isUnderscore]
  simp only [argumentR, identifier_run hw hnot hb, consumed_append, String.ofList_toList,
    skipWs_head Y (c := '?') (by decide)]

theorem argumentR_rest {n : String} (hn : nameOk n = true) {Y : List Char} (hb : Boundary Y) :
    argumentR (spreadLit ++ (n.toList ++ Y)) = some (.rest n, Y) := by
  obtain ⟨hw, hnot⟩ := nameOk_facts hn
  have hid : identifier (spreadLit ++ (n.toList ++ Y)) = none := by
    rw [spreadLit_eq]; exact identifier_none_of_start _ (by decide)
  have hsk : skipWs (n.toList ++ Y) = n.toList ++ Y := by
    cases hn' : n.toList with
    | nil => exact absurd hn' hw.ne_nil
    | cons c t =>
      have hc := hw.all c (by rw [hn']; exact List.mem_cons_self)
      have : isWs c = false := by
        obtain ⟨h1, h2, _⟩ := isIdentChar_cases hc
        simp [isWs, h1, h2]
      rw [List.cons_append]; exact skipWs_head _ this
  simp only [argumentR, hid, lit_append, hsk, identifier_run hw hnot hb, consumed_append,
    String.ofList_toList]



theorem lambdaHead_of_argument {cs r : List Char} {a : LArg} (h : argumentR cs = some (a, r))
    (hn : ¬ arrowAt r) : lambdaHead cs = none := by
  simp only [lambdaHead, argumentList, h, lit_arrow_none hn, Option.map_none]

theorem lambdaHead_noarg {cs : List Char} (h : argumentR cs = none) (hp : ∀ r, cs ≠ '(' :: r) :
    lambdaHead cs = none := by
  -- the side condition of the last `match` alternative (not `(`) is discharged from `hp`
  simp only [lambdaHead, argumentList, h]

theorem lambdaHead_name' {n : String} (hn : nameOk n = true) {rest : List Char} (hb : Boundary rest)
    (hl : ¬ arrowAt rest ∧ ∀ r1, skipWs rest = '?' :: r1 → ¬ arrowAt r1) :
    lambdaHead (n.toList ++ rest) = none := by
  obtain ⟨hw, hnot⟩ := nameOk_facts hn
  cases hs : skipWs rest with
  | nil =>
    exact lambdaHead_of_argument (argumentR_req hn hb (by rw [hs]; intro r e; cases e)) hl.1
  | cons c r1 =>
    by_cases hc : c = '?'
    · subst hc
      have : argumentR (n.toList ++ rest) = some (.opt n, r1) := by
        simp only [argumentR, identifier_run hw hnot hb, hs, consumed_append, String.ofList_toList]
      exact lambdaHead_of_argument this (hl.2 r1 hs)
    · refine lambdaHead_of_argument (argumentR_req hn hb ?_) hl.1
      rw [hs]; intro r e; simp only [List.cons.injEq] at e; exact hc e.1

theorem lambdaHead_name {n : String} (hn : nameOk n = true) {rest : List Char} (hb : Boundary rest)
    (hl : NoLam rest) : lambdaHead (n.toList ++ rest) = none :=
  lambdaHead_name' hn hb hl.1

theorem lambdaHead_none_of_ident {c : Char} {tl : List Char} (hid : identifier (c :: tl) = none)
    (hdot : c ≠ '.') (hp : c ≠ '(') : lambdaHead (c :: tl) = none := by
  refine lambdaHead_noarg ?_ (fun r e => by simp only [List.cons.injEq] at e; exact hp e.1)
  have : ¬ ('.' = c) := fun e => hdot e.symm
  simp [argumentR, hid, spreadLit_eq, lit, this]

theorem lambdaHead_nonname {c : Char} {tl : List Char} (hid : identifier (c :: tl) = none)
    (hc : isIdentChar c = true) : lambdaHead (c :: tl) = none :=
  lambdaHead_none_of_ident hid (by intro e; subst e; revert hc; decide)
    (ne_of_identChar hc (by decide))

theorem asgHead_none_of_ident {cs : List Char} (h : identifier cs = none) : asgHead cs = none := by
  simp only [asgHead, h]

theorem asgHead_none_of_start {c : Char} (X : List Char) (h : isIdentStart c = false) :
    asgHead (c :: X) = none := asgHead_none_of_ident (identifier_none_of_start X h)

theorem asgHead_name_eq {n : String} (hn : nameOk n = true) {rest : List Char} (hb : Boundary rest)
    {r' : List Char} (hs : skipWs rest = '=' :: r') :
    asgHead (n.toList ++ rest) = some (n, skipWs r') := by
  obtain ⟨hw, hnot⟩ := nameOk_facts hn
  simp only [asgHead, identifier_run hw hnot hb, consumed_append, String.ofList_toList, hs]

theorem asgHead_name_none {n : String} (hn : nameOk n = true) {rest : List Char} (hb : Boundary rest)
    (hs : ∀ r', skipWs rest ≠ '=' :: r') : asgHead (n.toList ++ rest) = none := by
  obtain ⟨hw, hnot⟩ := nameOk_facts hn
  -- the side condition of the catch-all alternative is discharged from `hs`
  simp only [asgHead, identifier_run hw hnot hb]

theorem asgHead_name_noLam {n : String} (hn : nameOk n = true) {rest : List Char}
    (hb : Boundary rest) (hl : NoLam rest) :
    ∀ m r, asgHead (n.toList ++ rest) = some (m, r) → ∃ r', r = '=' :: r' := by
  intro m r h
  by_cases hs : ∃ r', skipWs rest = '=' :: r'
  · obtain ⟨r', hs⟩ := hs
    obtain ⟨r'', rfl⟩ := hl.2 r' hs
    rw [asgHead_name_eq hn hb hs] at h
    simp only [Option.some.injEq, Prod.mk.injEq] at h
    rw [skipWs_head _ (by decide)] at h
    exact ⟨r'', h.2.symm⟩
  · rw [asgHead_name_none hn hb (fun r' e => hs ⟨r', e⟩)] at h
    cases h

theorem boundary_lay (b : Lay) {c : Char} (rest : List Char) (h : isIdentChar c = false) :
    Boundary (layChars b ++ c :: rest) := by
  obtain ⟨d, tl', hX, hd⟩ := lay_head b c rest (fun d => isIdentChar d = false)
    (by decide) (by decide) (by decide) (by decide) h
  rw [hX]; simp [Boundary, boundary, hd]

theorem boundary_lay_eq (w : Lay) (T : List Char) : Boundary (layChars w ++ '=' :: T) :=
  boundary_lay w T (by decide)

theorem asgHead_run {n : String} (hn : nameOk n = true) (w l : Lay) (hw : wsOnly w = true)
    (hl : wsOnly l = true) (c : Char) (rest : List Char) (hc : isWs c = false) :
    asgHead (n.toList ++ (layChars w ++ '=' :: (layChars l ++ c :: rest))) = some (n, c :: rest) := by
  rw [asgHead_name_eq hn (boundary_lay_eq w _) (skipWs_run w hw '=' _ (by decide)),
    skipWs_run l hl c rest hc]

theorem lambdaHead_asg {n : String} (hn : nameOk n = true) (w l : Lay) (hw : wsOnly w = true)
    (c : Char) (rest : List Char) (hc : c ≠ '>') :
    lambdaHead (n.toList ++ (layChars w ++ '=' :: (layChars l ++ c :: rest))) = none := by
  refine lambdaHead_name' hn (boundary_lay_eq w _) ⟨?_, ?_⟩
  · rintro ⟨r, hr⟩
    rw [skipWs_run w hw '=' _ (by decide)] at hr
    simp only [List.cons.injEq, true_and] at hr
    obtain ⟨d, tl', hX, hd⟩ := lay_head l c rest (fun d => d ≠ '>')
      (by decide) (by decide) (by decide) (by decide) hc
    rw [hX] at hr
    simp only [List.cons.injEq] at hr
    exact hd hr.1
  · intro r1 hr
    rw [skipWs_run w hw '=' _ (by decide)] at hr
    simp only [List.cons.injEq] at hr
    exact absurd hr.1 (by decide)

theorem lay_head_ne_comma (l : Lay) {c : Char} (rest : List Char) (hc : c ≠ ',') :
    ∀ r, layChars l ++ c :: rest ≠ ',' :: r := by
  intro r
  obtain ⟨d, tl', hX, hd⟩ := lay_head l c rest (fun d => d ≠ ',')
    (by decide) (by decide) (by decide) (by decide) hc
  rw [hX]; intro e; simp only [List.cons.injEq] at e; exact hd e.1

theorem callClose_fail (l : Lay) {d : Char} (tl : List Char) (h1 : layoutAtom (d :: tl) = none)
    (h2 : isWs d = false) (h3 : d ≠ ',') (h4 : d ≠ ')') :
    callClose (layChars l ++ d :: tl) = none := by
  obtain ⟨l', hl'⟩ := skipWs_lay l d tl h2
  simp only [callClose, hl', trailComma_other (lay_head_ne_comma l' tl h3), layoutStar_run l' _ h1]
  split
  · rename_i r heq; simp only [List.cons.injEq] at heq; exact absurd heq.1 h4
  · rfl

theorem argumentsTail_stop (n : Nat) (l : Lay) {d : Char} (tl : List Char) (h2 : isWs d = false)
    (h3 : d ≠ ',') : argumentsTail n (layChars l ++ d :: tl) = ([], layChars l ++ d :: tl) := by
  cases n with
  | zero => rfl
  | succ n =>
    obtain ⟨l', hl'⟩ := skipWs_lay l d tl h2
    simp only [argumentsTail, hl']
    split
    · rename_i r heq; exact absurd heq (lay_head_ne_comma l' tl h3 r)
    · rfl


/-! ### (8) the keywords of a conditional -/

theorem termAtom_if : termAtom ['i', 'f'] = none := by decide +kernel

theorem atomText_ne_if {e : Expr} (h : atomOk e = true) : atomText e ≠ ['i', 'f'] := by
  intro he
  have := (atom_word h).2.2.2 [] rfl
  rw [List.append_nil, he, termAtom_if] at this
  cases this

theorem ifHead_none_of_head {c : Char} (tl : List Char) (h : c ≠ 'i') : ifHead (c :: tl) = none := by
  have : ¬ ('i' = c) := fun e => h e.symm
  simp [ifHead, lit, this]

theorem lit_word {kw w rest r : List Char} (hkw : ∀ x ∈ kw, isIdentChar x = true)
    (hall : ∀ x ∈ w, isIdentChar x = true) (hne : w ≠ kw) (hb : Boundary rest)
    (hl : lit kw (w ++ rest) = some r) : ∃ c tl, r = c :: tl ∧ isIdentChar c = true := by
  rcases List.append_eq_append_iff.mp (lit_eq_some.mp hl) with ⟨a, rfl, rfl⟩ | ⟨a, rfl, rfl⟩
  · cases a with
    | nil => exact absurd (List.append_nil w).symm hne
    | cons x a =>
      have := boundary_class hb isIdentChar (fun _ h => h) x (a ++ r) rfl
      rw [hkw x (by simp)] at this
      cases this
  · cases a with
    | nil => exact absurd (List.append_nil kw) hne
    | cons x a => exact ⟨x, a ++ rest, rfl, hall x (by simp)⟩

theorem ifHead_word {w rest : List Char} (hall : ∀ x ∈ w, isIdentChar x = true)
    (hne : w ≠ ['i', 'f']) (hb : Boundary rest) : ifHead (w ++ rest) = none := by
  unfold ifHead
  cases hl : lit ['i', 'f'] (w ++ rest) with
  | none => rfl
  | some r =>
    obtain ⟨c, tl, rfl, hc⟩ := lit_word (by decide) hall hne hb hl
    obtain ⟨h1, h2, _⟩ := isIdentChar_cases hc
    simp [wsPlus, plus, isWs, h1, h2]

theorem ifHead_run (w : Lay) (hw : w ≠ []) (hws : wsOnly w = true) (x : Char) (tl : List Char)
    (hx : isWs x = false) : ifHead ('i' :: 'f' :: (layChars w ++ x :: tl)) = some (x :: tl) := by
  simp only [ifHead, lit, if_true, wsPlus_run w hw hws x tl hx]

theorem kw_layoutAtom {kw : List Char} (h : kw = thenLit ∨ kw = elseLit) (T : List Char) :
    layoutAtom (kw ++ T) = none := by
  rcases h with rfl | rfl
  · exact layoutAtom_none (c := 't') (by decide)
  · exact layoutAtom_none (c := 'e') (by decide)

theorem kwGap_run {kw : List Char} (h : kw = thenLit ∨ kw = elseLit) (l1 l2 : Lay) (h1 : l1 ≠ [])
    (h2 : l2 ≠ []) (X : List Char) (hX : layoutAtom X = none) :
    kwGap kw (layChars l1 ++ (kw ++ (layChars l2 ++ X))) = some X := by
  simp only [kwGap, layoutPlus_run l1 h1 _ (kw_layoutAtom h _), lit_append, layoutPlus_run l2 h2 X hX]

theorem kw_heads :
    headsNe infixLits 't' = true ∧ headsNe naturalLits 't' = true ∧
      headsNe infixLits 'e' = true ∧ headsNe naturalLits 'e' = true := by decide +kernel

theorem infixUsage_kw (lam : Bool) {kw : List Char} (h : kw = thenLit ∨ kw = elseLit) (l : Lay)
    (T : List Char) : infixUsage lam (layChars l ++ (kw ++ T)) = none := by
  rcases h with rfl | rfl
  · exact infixUsage_none_of_heads lam l 't' _ kw_heads.1 kw_heads.2.1 (by decide)
  · exact infixUsage_none_of_heads lam l 'e' _ kw_heads.2.2.1 kw_heads.2.2.2 (by decide)

/-! ### (9) the head of a do-block: where none starts -/

theorem termAtom_do : termAtom ['d', 'o'] = none := by decide +kernel

theorem atomText_ne_do {e : Expr} (h : atomOk e = true) : atomText e ≠ ['d', 'o'] := by
  intro he
  have := (atom_word h).2.2.2 [] rfl
  rw [List.append_nil, he, termAtom_do] at this
  cases this

theorem doHead_none_of_head {c : Char} (tl : List Char) (h : c ≠ 'd') : doHead (c :: tl) = none := by
  have : ¬ ('d' = c) := fun e => h e.symm
  simp [doHead, lit, this]

theorem wnAtom_identChar {c : Char} (tl : List Char) (h : isIdentChar c = true) :
    wnAtom (c :: tl) = none := by
  obtain ⟨h1, h2, h3, h4, _⟩ := isIdentChar_cases h
  have e2 : ¬ ('\r' = c) := fun e => h4 e.symm
  have e3 : ¬ ('\n' = c) := fun e => h3 e.symm
  simp [wnAtom, orElse, whitespace, isWs, plainNewline, lit, h1, h2, e2, e3]

theorem doHead_word {w rest : List Char} (hall : ∀ x ∈ w, isIdentChar x = true)
    (hne : w ≠ ['d', 'o']) (hb : Boundary rest) : doHead (w ++ rest) = none := by
  unfold doHead
  cases hl : lit ['d', 'o'] (w ++ rest) with
  | none => rfl
  | some r =>
    obtain ⟨c, tl, rfl, hc⟩ := lit_word (by decide) hall hne hb hl
    simp [wnPlus, wnAtom_identChar _ hc]

end Blots.ExprPeg
