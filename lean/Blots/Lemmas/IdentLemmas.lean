import Blots.Model.Ident
/-
  Lemmas about the PEG word recognisers of `Blots/Model/Ident.lean` (C10, names).
  The general facts hold for any list of keyword literals made of identifier characters.
  The generated table `Gen.grammarReserved` enters through `reservedLits_identChars`,
  `reserved_identShape` and `literal_lits_reserved`, all by evaluation; proofs further down
  the import chain also unfold it where they need a concrete reserved word (`true`, `if`,
  `do`, `return`, …).
-/
namespace Blots.Ident

def identShape : List Char → Bool
  | [] => false
  | c :: cs => isIdentStart c && cs.all isIdentChar

/-- `w` is identifier-shaped: nonempty, starts with an ASCII letter or `_`, and consists of
    ASCII letters, digits and `_` only -/
def IdentShape (w : List Char) : Prop := identShape w = true

instance (w : List Char) : Decidable (IdentShape w) :=
  inferInstanceAs (Decidable (identShape w = true))

def boundary : List Char → Bool
  | [] => true
  | c :: _ => !isIdentChar c

/-- where a word ends: `identifier_rest` fails on `rest` (`identRest_boundary`) -/
def Boundary (rest : List Char) : Prop := boundary rest = true

instance (r : List Char) : Decidable (Boundary r) :=
  inferInstanceAs (Decidable (boundary r = true))

theorem isIdentStart_isIdentChar {c : Char} (h : isIdentStart c = true) : isIdentChar c = true := by
  simp only [isIdentStart, isIdentChar, Bool.or_eq_true] at *
  cases h with
  | inl h => exact Or.inl (Or.inl h)
  | inr h => exact Or.inr h

theorem IdentShape.all {w : List Char} (h : IdentShape w) : ∀ x ∈ w, isIdentChar x = true := by
  cases w with
  | nil => simp [IdentShape, identShape] at h
  | cons c cs =>
    simp only [IdentShape, identShape, Bool.and_eq_true, List.all_eq_true] at h
    intro x hx
    cases hx with
    | head => exact isIdentStart_isIdentChar h.1
    | tail _ hx => exact h.2 x hx

theorem IdentShape.ne_nil {w : List Char} (h : IdentShape w) : w ≠ [] := by
  intro e; subst e; simp [IdentShape, identShape] at h

theorem lit_eq_some {s cs r : List Char} : lit s cs = some r ↔ cs = s ++ r := by
  induction s generalizing cs with
  | nil => simp [lit, eq_comm]
  | cons a s ih =>
    cases cs with
    | nil => simp [lit]
    | cons c cs =>
      by_cases h : a = c
      · subst h; simp [lit, ih]
      · simp only [lit, h, if_false, List.cons_append, List.cons.injEq]
        constructor
        · intro h'; cases h'
        · intro h'; exact absurd h'.1.symm h

theorem lit_append (s r : List Char) : lit s (s ++ r) = some r := lit_eq_some.mpr rfl

theorem firstLit_some {L : List (List Char)} {cs s r : List Char}
    (h : firstLit L cs = some (s, r)) : s ∈ L ∧ cs = s ++ r := by
  induction L with
  | nil => simp [firstLit] at h
  | cons a L ih =>
    simp only [firstLit] at h
    cases hl : lit a cs with
    | some r' =>
      rw [hl] at h
      simp only [Option.some.injEq, Prod.mk.injEq] at h
      obtain ⟨rfl, rfl⟩ := h
      exact ⟨List.mem_cons_self, lit_eq_some.mp hl⟩
    | none =>
      rw [hl] at h
      exact ⟨List.mem_cons_of_mem _ (ih h).1, (ih h).2⟩

theorem dropWhile_append_of_boundary (p : Char → Bool) (u rest : List Char)
    (h : ∀ c r, rest = c :: r → p c = false) :
    (u ++ rest).dropWhile p = u.dropWhile p ++ rest := by
  induction u with
  | nil =>
    cases rest with
    | nil => rfl
    | cons c r => simp [List.dropWhile, h c r rfl]
  | cons a u ih =>
    by_cases ha : p a = true
    · simp [List.dropWhile, ha, ih]
    · simp [List.dropWhile, ha]

theorem boundary_class {rest : List Char} (hb : Boundary rest) (p : Char → Bool)
    (hp : ∀ c, p c = true → isIdentChar c = true) : ∀ c r, rest = c :: r → p c = false := by
  intro c r e
  subst e
  simp only [Boundary, boundary, Bool.not_eq_true'] at hb
  cases hpc : p c with
  | false => rfl
  | true => rw [hp c hpc] at hb; cases hb

theorem alpha_identChar (c : Char) (h : isAlpha c = true) : isIdentChar c = true := by
  simp [isIdentChar, h]
theorem digit_identChar (c : Char) (h : isDigit c = true) : isIdentChar c = true := by
  simp [isIdentChar, h]
theorem underscore_identChar (c : Char) (h : isUnderscore c = true) : isIdentChar c = true := by
  simp [isIdentChar, h]

theorem dropWhile_all {p q : Char → Bool} {u : List Char} (h : ∀ x ∈ u, q x = true) :
    ∀ x ∈ u.dropWhile p, q x = true :=
  fun x hx => h x ((List.dropWhile_sublist p).subset hx)

theorem dropWhile_length_le (p : Char → Bool) (u : List Char) : (u.dropWhile p).length ≤ u.length :=
  (List.dropWhile_sublist p).length_le

theorem identRest_run {c : Char} {u rest : List Char} (hc : isIdentChar c = true)
    (hu : ∀ x ∈ u, isIdentChar x = true) (hb : Boundary rest) :
    ∃ u', (∀ x ∈ u', isIdentChar x = true) ∧ u'.length ≤ u.length ∧
      identRest (c :: (u ++ rest)) = some (u' ++ rest) := by
  by_cases ha : isAlpha c = true
  · refine ⟨u.dropWhile isAlpha, dropWhile_all hu, dropWhile_length_le _ _, ?_⟩
    simp [identRest, orElse, plus, ha,
      dropWhile_append_of_boundary isAlpha u rest (boundary_class hb _ alpha_identChar)]
  · by_cases hd : isDigit c = true
    · refine ⟨u.dropWhile isDigit, dropWhile_all hu, dropWhile_length_le _ _, ?_⟩
      simp [identRest, orElse, plus, ha, hd,
        dropWhile_append_of_boundary isDigit u rest (boundary_class hb _ digit_identChar)]
    · have hus : isUnderscore c = true := by
        simp only [isIdentChar, Bool.or_eq_true] at hc
        rcases hc with (h | h) | h
        · exact absurd h ha
        · exact absurd h hd
        · exact h
      refine ⟨u.dropWhile isUnderscore, dropWhile_all hu, dropWhile_length_le _ _, ?_⟩
      simp [identRest, orElse, plus, ha, hd, hus,
        dropWhile_append_of_boundary isUnderscore u rest (boundary_class hb _ underscore_identChar)]

theorem identRest_boundary {rest : List Char} (hb : Boundary rest) : identRest rest = none := by
  cases rest with
  | nil => rfl
  | cons c r =>
    simp only [Boundary, boundary, Bool.not_eq_true', isIdentChar, Bool.or_eq_false_iff] at hb
    simp [identRest, orElse, plus, hb.1.1, hb.1.2, hb.2]

theorem identRest_not_isNone {c : Char} {r : List Char} (hc : isIdentChar c = true) :
    (identRest (c :: r)).isNone = false := by
  by_cases ha : isAlpha c = true
  · simp [identRest, orElse, plus, ha]
  · by_cases hd : isDigit c = true
    · simp [identRest, orElse, plus, ha, hd]
    · have hus : isUnderscore c = true := by
        simp only [isIdentChar, Bool.or_eq_true] at hc
        rcases hc with (h | h) | h
        · exact absurd h ha
        · exact absurd h hd
        · exact h
      simp [identRest, orElse, plus, ha, hd, hus]

theorem star_identRest_run (n : Nat) (u rest : List Char) (hn : u.length < n)
    (hu : ∀ x ∈ u, isIdentChar x = true) (hb : Boundary rest) :
    star identRest n (u ++ rest) = rest := by
  induction n generalizing u with
  | zero => exact absurd hn (Nat.not_lt_zero _)
  | succ m ih =>
    cases u with
    | nil => simp [star, identRest_boundary hb]
    | cons c u1 =>
      obtain ⟨u', hu', hlen, h⟩ := identRest_run (c := c) (u := u1) (rest := rest)
        (hu c List.mem_cons_self) (fun x hx => hu x (List.mem_cons_of_mem _ hx)) hb
      simp only [List.cons_append, star, h]
      apply ih u' _ hu'
      simp only [List.length_cons] at hn
      omega

theorem nameBody_run {w rest : List Char} (hw : IdentShape w) (hb : Boundary rest) :
    nameBody (w ++ rest) = some rest := by
  cases w with
  | nil => exact absurd rfl hw.ne_nil
  | cons c cs =>
    have hall := hw.all
    simp only [IdentShape, identShape, Bool.and_eq_true] at hw
    have hd := dropWhile_append_of_boundary isIdentStart cs rest
      (boundary_class hb _ (fun c h => isIdentStart_isIdentChar h))
    simp only [nameBody, List.cons_append, plus, hw.1, if_true, hd]
    congr 1
    apply star_identRest_run
    · simp only [List.length_append]; omega
    · exact dropWhile_all (fun x hx => hall x (List.mem_cons_of_mem _ hx))
    · exact hb

theorem keyword_none {L : List (List Char)} {w rest : List Char}
    (hL : ∀ s ∈ L, ∀ x ∈ s, isIdentChar x = true) (hw : ∀ x ∈ w, isIdentChar x = true)
    (hnot : w ∉ L) (hb : Boundary rest) : keyword L (w ++ rest) = none := by
  unfold keyword
  cases hf : firstLit L (w ++ rest) with
  | none => rfl
  | some sr =>
    obtain ⟨s, r⟩ := sr
    obtain ⟨hs, he⟩ := firstLit_some hf
    have : (identRest r).isNone = false := by
      rcases List.append_eq_append_iff.mp he with ⟨a', hsa, hra⟩ | ⟨c', hwc, hrc⟩
      · -- the keyword reaches beyond the word: its next character would start `rest`
        cases a' with
        | nil => simp only [List.append_nil] at hsa; exact absurd (hsa ▸ hs) hnot
        | cons x a' =>
          exfalso
          have hx : isIdentChar x = true := hL s hs x (by simp [hsa])
          have := boundary_class hb isIdentChar (fun _ h => h) x (a' ++ r) (by simpa using hra)
          rw [hx] at this; cases this
      · cases c' with
        | nil => simp only [List.append_nil] at hwc; exact absurd (hwc ▸ hs) hnot
        | cons x c' =>
          subst hrc
          exact identRest_not_isNone (hw x (by simp [hwc]))
    simp [this]

theorem keyword_of_firstLit {L : List (List Char)} {cs s r : List Char}
    (hf : firstLit L cs = some (s, r)) (hb : Boundary r) : keyword L cs = some (s, r) := by
  simp [keyword, hf, identRest_boundary hb]

theorem reservedLits_identChars : ∀ s ∈ reservedLits, ∀ x ∈ s, isIdentChar x = true := by
  have h : (reservedLits.all fun s => s.all isIdentChar) = true := by decide +kernel
  simpa [List.all_eq_true] using h

theorem mem_reservedLits {w : List Char} : w ∈ reservedLits ↔ String.ofList w ∈ Gen.grammarReserved := by
  simp only [reservedLits, List.mem_map]
  constructor
  · rintro ⟨s, hs, rfl⟩; simpa [String.ofList_toList] using hs
  · intro h; exact ⟨_, h, String.toList_ofList⟩

theorem literal_lits_reserved :
    trueLit ∈ reservedLits ∧ falseLit ∈ reservedLits ∧ nullLit ∈ reservedLits := by decide +kernel

theorem IdentShape.append {w t : List Char} (hw : IdentShape w)
    (ht : ∀ x ∈ t, isIdentChar x = true) : IdentShape (w ++ t) := by
  cases w with
  | nil => exact absurd rfl hw.ne_nil
  | cons c cs =>
    simp only [IdentShape, identShape, Bool.and_eq_true, List.all_eq_true, List.cons_append,
      List.mem_append] at *
    exact ⟨hw.1, fun x hx => hx.elim (hw.2 x) (ht x)⟩

theorem reserved_identShape : ∀ r ∈ Gen.grammarReserved, IdentShape r.toList := by
  decide +kernel

theorem identifier_run {w rest : List Char} (hw : IdentShape w) (hnot : w ∉ reservedLits)
    (hb : Boundary rest) : identifier (w ++ rest) = some rest := by
  simp [identifier, keyword_none reservedLits_identChars hw.all hnot hb, nameBody_run hw hb]

theorem inputReference_run {w rest : List Char} (hw : IdentShape w) (hb : Boundary rest) :
    inputReference ('#' :: (w ++ rest)) = some rest := by
  simp [inputReference, lit, nameBody_run hw hb]

theorem boolRule_none {w rest : List Char} (hw : IdentShape w) (hnot : w ∉ reservedLits)
    (hb : Boundary rest) : boolRule (w ++ rest) = none := by
  have hk : keyword [trueLit, falseLit] (w ++ rest) = none := by
    apply keyword_none _ hw.all _ hb
    · intro s hs
      apply reservedLits_identChars
      rcases List.mem_cons.mp hs with rfl | hs
      · exact literal_lits_reserved.1
      · rcases List.mem_cons.mp hs with rfl | hs
        · exact literal_lits_reserved.2.1
        · cases hs
    · intro hm
      rcases List.mem_cons.mp hm with rfl | hm
      · exact hnot literal_lits_reserved.1
      · rcases List.mem_cons.mp hm with rfl | hm
        · exact hnot literal_lits_reserved.2.1
        · cases hm
  simp [boolRule, hk]

theorem nullRule_none {w rest : List Char} (hw : IdentShape w) (hnot : w ∉ reservedLits)
    (hb : Boundary rest) : nullRule (w ++ rest) = none := by
  have hk : keyword [nullLit] (w ++ rest) = none := by
    apply keyword_none _ hw.all _ hb
    · intro s hs
      apply reservedLits_identChars
      rcases List.mem_cons.mp hs with rfl | hs
      · exact literal_lits_reserved.2.2
      · cases hs
    · intro hm
      rcases List.mem_cons.mp hm with rfl | hm
      · exact hnot literal_lits_reserved.2.2
      · cases hm
  simp [nullRule, hk]

theorem inputReference_none_of_identShape {w rest : List Char} (hw : IdentShape w) :
    inputReference (w ++ rest) = none := by
  cases w with
  | nil => exact absurd rfl hw.ne_nil
  | cons c cs =>
    simp only [IdentShape, identShape, Bool.and_eq_true] at hw
    have hc : ¬ ('#' = c) := by
      intro e; subst e; exact absurd hw.1 (by decide)
    simp [inputReference, lit, hc]

theorem termStart_run {w rest : List Char} (hw : IdentShape w) (hnot : w ∉ reservedLits)
    (hb : Boundary rest) : termStart (w ++ rest) = some (.ident, rest) := by
  simp [termStart, boolRule_none hw hnot hb, nullRule_none hw hnot hb,
    inputReference_none_of_identShape hw, identifier_run hw hnot hb]

theorem termStart_input_run {w rest : List Char} (hw : IdentShape w) (hb : Boundary rest) :
    termStart ('#' :: (w ++ rest)) = some (.input, rest) := by
  have h1 : boolRule ('#' :: (w ++ rest)) = none := by
    simp [boolRule, keyword, firstLit, trueLit, falseLit, lit]
  have h2 : nullRule ('#' :: (w ++ rest)) = none := by
    simp [nullRule, keyword, firstLit, nullLit, lit]
  simp [termStart, h1, h2, inputReference_run hw hb]

end Blots.Ident
