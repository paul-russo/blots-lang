import Blots.Model.Eval
import Blots.Model.Data
import Blots.Lemmas.Num
import Blots.Lemmas.ValueEq
import Blots.Lemmas.ValueOrder
import Blots.Lemmas.ToyOps
/-
  Laws of the list / string / record helpers used by the built-ins (`mergeBy`, `mergeSortBy`,
  `sortLt`, `uniqueBy`, `chunkList`, `zipRows`, `indexOf`, `splitOnL`, …).  Used by
  `Props/C14.lean`.
-/
namespace Blots

theorem mergeBy_perm {α} (lt : α → α → Bool) : ∀ (l r : List α), (mergeBy lt l r).Perm (l ++ r)
  | [], r => by simp [mergeBy]
  | a :: l, [] => by simp [mergeBy]
  | a :: l, b :: r => by
    rw [mergeBy]
    split
    · have h := mergeBy_perm lt (a :: l) r
      exact (h.cons b).trans List.perm_middle.symm
    · exact (mergeBy_perm lt l (b :: r)).cons a
termination_by l r => l.length + r.length

theorem mergeSortBy_perm {α} (lt : α → α → Bool) : ∀ (n : Nat) (xs : List α), (mergeSortBy lt n xs).Perm xs
  | 0, xs => by simp [mergeSortBy]
  | n + 1, xs => by
    rw [mergeSortBy]
    split
    · exact List.Perm.refl _
    · refine (mergeBy_perm lt _ _).trans ?_
      have h1 := mergeSortBy_perm lt n (xs.take (xs.length / 2))
      have h2 := mergeSortBy_perm lt n (xs.drop (xs.length / 2))
      exact (h1.append h2).trans (by rw [List.take_append_drop])

theorem mergeSortBy_length {α} (lt : α → α → Bool) (n : Nat) (xs : List α) :
    (mergeSortBy lt n xs).length = xs.length := (mergeSortBy_perm lt n xs).length_eq

theorem mem_mergeSortBy {α} (lt : α → α → Bool) (n : Nat) (xs : List α) (a : α) :
    a ∈ mergeSortBy lt n xs ↔ a ∈ xs := (mergeSortBy_perm lt n xs).mem_iff

/-! `lt b a` is the question the Rust code asks ("is the right head strictly smaller?").
  `P` singles out the elements on which `lt` behaves like a strict weak order:
  asymmetric, and `b < a`, `¬ c < a` imply `b < c`. -/

structure WeakOrderOn {α} (lt : α → α → Bool) (P : α → Prop) : Prop where
  asym : ∀ a b, P a → P b → lt a b = true → lt b a = false
  ntrans : ∀ a b c, P a → P b → P c → lt b a = true → lt c a = false → lt b c = true

theorem WeakOrderOn.le_trans {α} {lt : α → α → Bool} {P : α → Prop} (h : WeakOrderOn lt P)
    {a b c : α} (ha : P a) (hb : P b) (hc : P c) (h1 : lt b a = false) (h2 : lt c b = false) :
    lt c a = false := by
  cases hca : lt c a with
  | false => rfl
  | true =>
    have := h.ntrans a c b ha hc hb hca h1
    rw [this] at h2; exact h2

/-- non-decreasing: no later element is strictly smaller than an earlier one -/
def SortedBy {α} (lt : α → α → Bool) (xs : List α) : Prop :=
  xs.Pairwise (fun a b => lt b a = false)

/-- insert before the first element that is not strictly smaller -/
def orderedInsertBy {α} (lt : α → α → Bool) (x : α) : List α → List α
  | [] => [x]
  | y :: ys => if lt y x then y :: orderedInsertBy lt x ys else x :: y :: ys

/-- the reference stable sort: insertion from the right -/
def stableRef {α} (lt : α → α → Bool) (xs : List α) : List α := xs.foldr (orderedInsertBy lt) []

theorem orderedInsertBy_perm {α} (lt : α → α → Bool) (x : α) :
    ∀ ys : List α, (orderedInsertBy lt x ys).Perm (x :: ys)
  | [] => by simp [orderedInsertBy]
  | y :: ys => by
    rw [orderedInsertBy]
    split
    · exact ((orderedInsertBy_perm lt x ys).cons y).trans (List.Perm.swap x y ys)
    · exact List.Perm.refl _

theorem stableRef_perm {α} (lt : α → α → Bool) : ∀ xs : List α, (stableRef lt xs).Perm xs
  | [] => by simp [stableRef]
  | x :: xs => by
    have ih := stableRef_perm lt xs
    simp only [stableRef, List.foldr_cons] at ih ⊢
    exact (orderedInsertBy_perm lt x _).trans (ih.cons x)

/-- inserting keeps the members of a class of mutually non-smaller elements in order: the
    elements the new one passes are strictly smaller, so not in its class -/
theorem orderedInsertBy_filter {α} {lt : α → α → Bool} (p : α → Bool)
    (hp : ∀ x y, p x = true → p y = true → lt x y = false) (x : α) :
    ∀ ys : List α, (orderedInsertBy lt x ys).filter p = (x :: ys).filter p
  | [] => rfl
  | y :: ys => by
    rw [orderedInsertBy]
    split
    · rename_i hyx
      rw [List.filter_cons, orderedInsertBy_filter p hp x ys]
      cases hpy : p y with
      | false => simp [List.filter_cons, hpy]
      | true =>
        have hpx : p x = false := by
          cases hpx : p x with
          | false => rfl
          | true => rw [hp y x hpy hpx] at hyx; cases hyx
        simp [hpx, hpy]
    · rfl

theorem stableRef_filter {α} {lt : α → α → Bool} (p : α → Bool)
    (hp : ∀ x y, p x = true → p y = true → lt x y = false) :
    ∀ xs : List α, (stableRef lt xs).filter p = xs.filter p
  | [] => rfl
  | x :: xs => by
    show (orderedInsertBy lt x (stableRef lt xs)).filter p = _
    rw [orderedInsertBy_filter p hp, List.filter_cons, List.filter_cons, stableRef_filter p hp xs]

theorem orderedInsertBy_sorted {α} {lt : α → α → Bool} {P : α → Prop} (h : WeakOrderOn lt P)
    {x : α} (hx : P x) : ∀ ys : List α, (∀ y ∈ ys, P y) → SortedBy lt ys →
      SortedBy lt (orderedInsertBy lt x ys)
  | [], _, _ => List.pairwise_singleton _ _
  | y :: ys, hP, hs => by
    have hs' := List.pairwise_cons.mp hs
    have hPy := hP y List.mem_cons_self
    have hPys : ∀ z ∈ ys, P z := fun z hz => hP z (List.mem_cons_of_mem _ hz)
    rw [orderedInsertBy]
    split
    · rename_i hyx
      refine List.pairwise_cons.mpr ⟨fun z hz => ?_, orderedInsertBy_sorted h hx ys hPys hs'.2⟩
      rcases List.mem_cons.mp ((orderedInsertBy_perm lt x ys).mem_iff.mp hz) with rfl | hz
      · exact h.asym y z hPy hx hyx
      · exact hs'.1 z hz
    · rename_i hyx
      have hyx : lt y x = false := Bool.eq_false_iff.mpr hyx
      refine List.pairwise_cons.mpr ⟨fun z hz => ?_, hs⟩
      rcases List.mem_cons.mp hz with rfl | hz
      · exact hyx
      · exact h.le_trans hx hPy (hPys z hz) hyx (hs'.1 z hz)

theorem stableRef_sorted {α} {lt : α → α → Bool} {P : α → Prop} (h : WeakOrderOn lt P) :
    ∀ xs : List α, (∀ x ∈ xs, P x) → SortedBy lt (stableRef lt xs)
  | [], _ => List.Pairwise.nil
  | x :: xs, hP =>
    orderedInsertBy_sorted h (hP x List.mem_cons_self) _
      (fun y hy => hP y (List.mem_cons_of_mem _ ((stableRef_perm lt xs).mem_iff.mp hy)))
      (stableRef_sorted h xs fun y hy => hP y (List.mem_cons_of_mem _ hy))

theorem mergeBy_nil_right {α} (lt : α → α → Bool) (l : List α) : mergeBy lt l [] = l := by
  cases l <;> simp [mergeBy]

theorem stableRef_of_sorted {α} (lt : α → α → Bool) :
    ∀ xs : List α, SortedBy lt xs → stableRef lt xs = xs
  | [], _ => rfl
  | x :: ys, h => by
    have hp := List.pairwise_cons.mp h
    have ih := stableRef_of_sorted lt ys hp.2
    show orderedInsertBy lt x (stableRef lt ys) = x :: ys
    rw [ih]
    cases ys with
    | nil => rfl
    | cons y ys' =>
      have : lt y x = false := hp.1 y (by simp)
      simp [orderedInsertBy, this]

/-- inserting `x` from the left into a merge is merging with `x` inserted into the left list:
    `x` goes behind everything `< x` of either list, and in front of an equal element of the
    right list only if the merge takes the left elements first anyway -/
theorem orderedInsertBy_mergeBy {α} {lt : α → α → Bool} {P : α → Prop} (h : WeakOrderOn lt P)
    (x : α) (hx : P x) :
    ∀ (l r : List α), (∀ y ∈ l, P y) → (∀ y ∈ r, P y) →
      orderedInsertBy lt x (mergeBy lt l r) = mergeBy lt (orderedInsertBy lt x l) r
  | [], [] => by intros; simp [mergeBy, orderedInsertBy]
  | [], b :: r => by
    intro hl hr
    have ih := orderedInsertBy_mergeBy h x hx [] r hl (fun y hy => hr y (by simp [hy]))
    simp only [mergeBy, orderedInsertBy] at ih ⊢
    cases hbx : lt b x <;> simp [ih]
  | a :: l, [] => by intros; simp [mergeBy_nil_right]
  | a :: l, b :: r => by
    intro hl hr
    have hPa : P a := hl a (by simp)
    have hPb : P b := hr b (by simp)
    have ih1 := orderedInsertBy_mergeBy h x hx (a :: l) r hl (fun y hy => hr y (by simp [hy]))
    have ih2 := orderedInsertBy_mergeBy h x hx l (b :: r) (fun y hy => hl y (by simp [hy])) hr
    -- the merge takes `b` first (`b < a`) or `a` first; `x` passes `a` (`a < x`) or stops there
    cases hba : lt b a with
    | true =>
      cases hax : lt a x with
      | true =>
        -- `b < a < x`: `b` comes out first on both sides
        have hxa : lt x a = false := h.asym a x hPa hx hax
        have hbx : lt b x = true := h.ntrans a b x hPa hPb hx hba hxa
        simp only [orderedInsertBy, hax, if_true] at ih1 ⊢
        simp only [mergeBy, hba, if_true, orderedInsertBy, hbx]
        rw [ih1]
      | false =>
        simp only [orderedInsertBy, hax] at ih1 ⊢
        cases hbx : lt b x with
        | true =>
          simp only [mergeBy, hba, if_true, orderedInsertBy, hbx]
          rw [ih1]; simp [mergeBy, hbx]
        | false =>
          simp [mergeBy, hba, orderedInsertBy, hbx]
    | false =>
      cases hax : lt a x with
      | true =>
        simp [mergeBy, hba, orderedInsertBy, hax, ih2]
      | false =>
        -- `x ≤ a ≤ b`: `x` is the head on both sides
        have hbx : lt b x = false := h.le_trans hx hPa hPb hax hba
        simp [mergeBy, hba, orderedInsertBy, hax, hbx]
termination_by l r => l.length + r.length

theorem stableRef_append {α} {lt : α → α → Bool} {P : α → Prop} (h : WeakOrderOn lt P) :
    ∀ (l r : List α), (∀ y ∈ l, P y) → (∀ y ∈ r, P y) →
      stableRef lt (l ++ r) = mergeBy lt (stableRef lt l) (stableRef lt r)
  | [], r => by
    intros
    show stableRef lt r = mergeBy lt [] (stableRef lt r)
    cases stableRef lt r <;> simp [mergeBy]
  | x :: l, r => by
    intro hl hr
    have ih := stableRef_append h l r (fun y hy => hl y (by simp [hy])) hr
    have e1 : stableRef lt (x :: l ++ r) = orderedInsertBy lt x (stableRef lt (l ++ r)) := rfl
    have e2 : stableRef lt (x :: l) = orderedInsertBy lt x (stableRef lt l) := rfl
    rw [e1, e2, ih]
    exact orderedInsertBy_mergeBy h x (hl x (by simp)) _ _
      (fun y hy => hl y (by simp [(stableRef_perm lt l).mem_iff.mp hy]))
      (fun y hy => hr y ((stableRef_perm lt r).mem_iff.mp hy))

theorem mergeSortBy_eq_stableRef {α} {lt : α → α → Bool} {P : α → Prop} (h : WeakOrderOn lt P) :
    ∀ (n : Nat) (xs : List α), xs.length ≤ n → (∀ x ∈ xs, P x) →
      mergeSortBy lt n xs = stableRef lt xs
  | 0, xs => by
    intro hn _
    have : xs = [] := List.length_eq_zero_iff.mp (by omega)
    subst this; rfl
  | n + 1, xs => by
    intro hn hP
    rw [mergeSortBy]
    split
    · rename_i hlen
      match xs, hlen with
      | [], _ => rfl
      | [a], _ => rfl
      | _ :: _ :: _, hlen => simp at hlen; omega
    · have hPt : ∀ x ∈ xs.take (xs.length / 2), P x := fun x hx => hP x (List.mem_of_mem_take hx)
      have hPd : ∀ x ∈ xs.drop (xs.length / 2), P x := fun x hx => hP x (List.mem_of_mem_drop hx)
      show mergeBy lt (mergeSortBy lt n (xs.take (xs.length / 2)))
        (mergeSortBy lt n (xs.drop (xs.length / 2))) = _
      rw [mergeSortBy_eq_stableRef h n _ (by rw [List.length_take]; omega) hPt,
        mergeSortBy_eq_stableRef h n _ (by rw [List.length_drop]; omega) hPd,
        ← stableRef_append h _ _ hPt hPd, List.take_append_drop]

theorem mergeSortBy_sorted {α} {lt : α → α → Bool} {P : α → Prop} (h : WeakOrderOn lt P)
    (n : Nat) (xs : List α) (hn : xs.length ≤ n) (hP : ∀ x ∈ xs, P x) :
    SortedBy lt (mergeSortBy lt n xs) := by
  rw [mergeSortBy_eq_stableRef h n xs hn hP]; exact stableRef_sorted h xs hP

/-- stability: for every class `p` of mutually non-smaller elements the subsequence of its
    members is unchanged -/
theorem mergeSortBy_stable {α} {lt : α → α → Bool} {P : α → Prop} (h : WeakOrderOn lt P)
    (p : α → Bool) (hp : ∀ x y, p x = true → p y = true → lt x y = false)
    (n : Nat) (xs : List α) (hn : xs.length ≤ n) (hP : ∀ x ∈ xs, P x) :
    (mergeSortBy lt n xs).filter p = xs.filter p := by
  rw [mergeSortBy_eq_stableRef h n xs hn hP]; exact stableRef_filter p hp xs

/-- the elements of `xs` are mutually comparable (in particular no NaN: NaN is not comparable
    with itself) -/
def Comparable (xs : List Value) : Prop := ∀ a ∈ xs, ∀ b ∈ xs, vcmp a b ≠ none

theorem sortLt_weakOrder (xs : List Value) (hc : Comparable xs) :
    WeakOrderOn sortLt (fun v => v ∈ xs) where
  asym := by
    intro a b _ _ hab
    simp only [sortLt, beq_iff_eq] at hab
    simp [sortLt, vcmp_lt_gt hab]
  ntrans := by
    intro a b c ha _ hc' hba hca
    simp only [sortLt, beq_iff_eq] at hba
    simp only [sortLt, beq_eq_false_iff_ne, ne_eq] at hca
    simp only [sortLt, beq_iff_eq]
    cases hcmp : vcmp c a with
    | none => exact absurd hcmp (hc c hc' a ha)
    | some o =>
      cases o with
      | lt => exact absurd hcmp hca
      | eq => rw [vcmp_congr c a hcmp b]; exact hba
      | gt => exact vcmp_lt_trans b a c hba (vcmp_gt_lt hcmp)

theorem sort_sorted (l : List Value) (hc : Comparable l) :
    SortedBy sortLt (mergeSortBy sortLt l.length l) :=
  mergeSortBy_sorted (sortLt_weakOrder l hc) l.length l (Nat.le_refl _) (fun _ h => h)

theorem sort_sorted_vcmp (l : List Value) (hc : Comparable l) :
    (mergeSortBy sortLt l.length l).Pairwise
      (fun a b => vcmp a b = some .lt ∨ vcmp a b = some .eq) := by
  have hs := sort_sorted l hc
  have hmem := mem_mergeSortBy sortLt l.length l
  generalize mergeSortBy sortLt l.length l = out at hs hmem
  refine List.Pairwise.imp_of_mem ?_ hs
  intro a b ha hb hba
  have ha' := (hmem a).mp ha
  have hb' := (hmem b).mp hb
  simp only [sortLt, beq_eq_false_iff_ne, ne_eq] at hba
  cases hcmp : vcmp a b with
  | none => exact absurd hcmp (hc a ha' b hb')
  | some o =>
    cases o with
    | lt => simp
    | eq => simp
    | gt => exact absurd (vcmp_gt_lt hcmp) hba

theorem sort_stable (l : List Value) (hc : Comparable l) (v : Value) :
    (mergeSortBy sortLt l.length l).filter (fun x => vcmp x v == some .eq) =
      l.filter (fun x => vcmp x v == some .eq) := by
  refine mergeSortBy_stable (sortLt_weakOrder l hc) _ ?_ l.length l (Nat.le_refl _) (fun _ h => h)
  intro x y hx hy
  simp only [beq_iff_eq] at hx hy
  have : vcmp x y = some .eq := by rw [vcmp_congr y v hy x]; exact hx
  simp [sortLt, this]

def uniqStep (acc : List Value) (x : Value) : List Value :=
  if acc.any (fun y => veq x y) then acc else acc ++ [x]

theorem uniqueBy_eq (xs : List Value) : uniqueBy xs = xs.foldl uniqStep [] := rfl

theorem uniqFold_sublist : ∀ (xs acc : List Value), (xs.foldl uniqStep acc).Sublist (acc ++ xs)
  | [], acc => by simp
  | x :: xs, acc => by
    simp only [List.foldl_cons]
    refine (uniqFold_sublist xs (uniqStep acc x)).trans ?_
    unfold uniqStep
    split
    · exact List.Sublist.append_left (List.sublist_cons_self x xs) acc
    · simp

theorem uniqFold_prefix : ∀ (xs acc : List Value), ∀ a ∈ acc, a ∈ xs.foldl uniqStep acc
  | [], _ => by simp
  | x :: xs, acc => by
    intro a ha
    simp only [List.foldl_cons]
    refine uniqFold_prefix xs _ a ?_
    unfold uniqStep; split
    · exact ha
    · simp [ha]

theorem uniqFold_covers : ∀ (xs acc : List Value), ∀ x ∈ xs,
    x ∈ xs.foldl uniqStep acc ∨ ∃ y ∈ xs.foldl uniqStep acc, veq x y = true
  | [], _ => by simp
  | x :: xs, acc => by
    intro z hz
    simp only [List.foldl_cons]
    rcases List.mem_cons.mp hz with rfl | hz
    · by_cases h : acc.any (fun y => veq z y) = true
      · right
        obtain ⟨y, hy, hzy⟩ := List.any_eq_true.mp h
        exact ⟨y, uniqFold_prefix xs _ y (by simp [uniqStep, h, hy]), hzy⟩
      · left
        exact uniqFold_prefix xs _ z (by simp [uniqStep, h])
    · exact uniqFold_covers xs _ z hz

theorem uniqFold_pairwise : ∀ (xs acc : List Value), acc.Pairwise (fun a b => veq b a = false) →
    (xs.foldl uniqStep acc).Pairwise (fun a b => veq b a = false)
  | [], _ => by simp
  | x :: xs, acc => by
    intro h
    simp only [List.foldl_cons]
    refine uniqFold_pairwise xs _ ?_
    unfold uniqStep; split
    · exact h
    · rename_i hany
      rw [List.pairwise_append]
      refine ⟨h, by simp, ?_⟩
      intro a ha b hb
      have : b = x := by simpa using hb
      subst this
      cases hv : veq b a with
      | false => rfl
      | true => exact absurd (List.any_eq_true.mpr ⟨a, ha, hv⟩) hany

theorem uniqFold_first : ∀ (xs acc : List Value), ∀ y ∈ xs.foldl uniqStep acc,
    y ∈ acc ∨ ∃ pre post, xs = pre ++ y :: post ∧ (pre.foldl uniqStep acc).any (fun w => veq y w) = false
  | [], _ => by simp
  | x :: xs, acc => by
    intro y hy
    simp only [List.foldl_cons] at hy
    rcases uniqFold_first xs _ y hy with h | ⟨pre, post, hxs, hany⟩
    · unfold uniqStep at h
      split at h
      · exact Or.inl h
      · rename_i hacc
        rcases List.mem_append.mp h with h | h
        · exact Or.inl h
        · have : y = x := by simpa using h
          subst this
          exact Or.inr ⟨[], xs, rfl, by simpa using hacc⟩
    · exact Or.inr ⟨x :: pre, post, by simp [hxs], by simpa using hany⟩

def flattenOne : Value → List Value
  | .list inner => inner
  | v => [v]

theorem chunkList_flatten (n : Nat) (hn : 0 < n) : ∀ (fuel : Nat) (l : List Value), l.length < fuel →
    (chunkList n fuel l).flatMap flattenOne = l
  | 0, _ => by intro h; omega
  | fuel + 1, l => by
    intro h
    rw [chunkList]
    split
    · rename_i he
      simp only [List.isEmpty_iff] at he
      simp [he]
    · rename_i he
      have hne : l ≠ [] := by simpa using he
      have hpos : 0 < l.length := List.length_pos_iff.mpr hne
      rw [List.flatMap_cons, chunkList_flatten n hn fuel (l.drop n) (by rw [List.length_drop]; omega)]
      simp [flattenOne]

theorem chunkList_sizes (n : Nat) (hn : 0 < n) : ∀ (fuel : Nat) (l : List Value),
    ∀ c ∈ chunkList n fuel l, ∃ xs, c = .list xs ∧ 0 < xs.length ∧ xs.length ≤ n
  | 0, _ => by simp [chunkList]
  | fuel + 1, l => by
    intro c hc
    rw [chunkList] at hc
    split at hc
    · simp at hc
    · rename_i he
      have hne : l ≠ [] := by simpa using he
      have hpos : 0 < l.length := List.length_pos_iff.mpr hne
      rcases List.mem_cons.mp hc with rfl | hc
      · exact ⟨l.take n, rfl, by rw [List.length_take]; omega, by rw [List.length_take]; omega⟩
      · exact chunkList_sizes n hn fuel _ c hc

theorem chunkList_getElem? (n : Nat) (hn : 0 < n) : ∀ (fuel : Nat) (l : List Value) (i : Nat),
    l.length < fuel → i * n < l.length →
    (chunkList n fuel l)[i]? = some (.list ((l.drop (i * n)).take n))
  | 0, _, _ => by intro h; omega
  | fuel + 1, l, i => by
    intro h hi
    rw [chunkList]
    have hne : l.isEmpty = false := by
      cases l with
      | nil => simp at hi
      | cons _ _ => rfl
    simp only [hne]
    cases i with
    | zero => simp
    | succ i =>
      have hlt : n ≤ l.length := by
        have : n ≤ (i + 1) * n := Nat.le_mul_of_pos_left n (by omega)
        omega
      have hi' : i * n < (l.drop n).length := by
        rw [List.length_drop, Nat.add_mul] at *; omega
      have := chunkList_getElem? n hn fuel (l.drop n) i (by rw [List.length_drop]; omega) hi'
      simp only [Bool.false_eq_true, if_false, List.getElem?_cons_succ, this, List.drop_drop]
      rw [Nat.add_mul, Nat.one_mul, Nat.add_comm]

/-- `join` on character lists: the parts separated by `d` -/
def joinL (d : List Char) : List (List Char) → List Char
  | [] => []
  | [p] => p
  | p :: q :: ps => p ++ d ++ joinL d (q :: ps)

theorem intercalate_eq_joinL (d : List Char) : ∀ ps : List (List Char), d.intercalate ps = joinL d ps
  | [] => by simp [List.intercalate, joinL]
  | [p] => by simp [List.intercalate, joinL]
  | p :: q :: ps => by
    have ih := intercalate_eq_joinL d (q :: ps)
    simp only [List.intercalate] at ih ⊢
    simp [joinL, ← ih, List.intersperse]

theorem joinL_snoc2 (d : List Char) : ∀ (A : List (List Char)) (x y : List Char),
    joinL d (A ++ [x, y]) = joinL d (A ++ [x ++ d ++ y])
  | [], x, y => by simp [joinL]
  | [a], x, y => by simp [joinL]
  | a :: b :: A, x, y => by
    have ih := joinL_snoc2 d (b :: A) x y
    simp only [List.cons_append, joinL] at ih ⊢
    rw [ih]

theorem eq_append_drop_of_isPrefixL : ∀ (p s : List Char), isPrefixL p s = true → s = p ++ s.drop p.length
  | [], _ => by simp
  | _ :: _, [] => by simp [isPrefixL]
  | a :: p, b :: s => by
    intro h
    simp only [isPrefixL, Bool.and_eq_true, beq_iff_eq] at h
    obtain ⟨rfl, h⟩ := h
    have := eq_append_drop_of_isPrefixL p s h
    simp only [List.length_cons, List.drop_succ_cons, List.cons_append]
    rw [← this]

theorem splitOnL_go_join (d : List Char) (hd : d ≠ []) : ∀ (fuel : Nat) (s cur : List Char) (acc : List (List Char)),
    s.length < fuel → joinL d (splitOnL.go d fuel s cur acc) = joinL d (acc.reverse ++ [cur.reverse ++ s])
  | 0, _, _, _ => by intro h; omega
  | fuel + 1, [], cur, acc => by intro _; simp [splitOnL.go]
  | fuel + 1, c :: rest, cur, acc => by
    intro h
    rw [splitOnL.go]
    split
    · rename_i hp
      have hs := eq_append_drop_of_isPrefixL d (c :: rest) hp
      have hdl : 0 < d.length := List.length_pos_iff.mpr hd
      rw [splitOnL_go_join d hd fuel _ [] (cur.reverse :: acc)
        (by rw [List.length_drop]; simp only [List.length_cons] at h ⊢; omega)]
      simp only [List.reverse_cons, List.reverse_nil, List.nil_append, List.append_assoc]
      have := joinL_snoc2 d acc.reverse cur.reverse ((c :: rest).drop d.length)
      have e : acc.reverse ++ ([cur.reverse] ++ [List.drop d.length (c :: rest)]) =
          acc.reverse ++ [cur.reverse, List.drop d.length (c :: rest)] := by simp
      rw [e, this]
      conv => rhs; rw [hs]
      simp
    · rw [splitOnL_go_join d hd fuel rest (c :: cur) acc (by simp only [List.length_cons] at h; omega)]
      simp

theorem joinL_nil_singletons : ∀ (s : List Char), joinL [] (s.map (fun c => [c]) ++ [[]]) = s
  | [] => by simp [joinL]
  | [c] => by simp [joinL]
  | c :: c' :: s => by
    have := joinL_nil_singletons (c' :: s)
    simp only [List.map_cons, List.cons_append, joinL] at this ⊢
    simp [this]

/-- join(split(s, d), d) = s, for every delimiter (also the empty one) -/
theorem join_splitOnL (d s : List Char) : joinL d (splitOnL d s) = s := by
  unfold splitOnL
  split
  · rename_i h
    have : d = [] := by simpa using h
    subst this
    cases s with
    | nil => simp [joinL]
    | cons c s =>
      have := joinL_nil_singletons (c :: s)
      simp only [List.map_cons, List.cons_append, joinL, List.nil_append] at this ⊢
      exact this
  · rename_i h
    have hd : d ≠ [] := by simpa using h
    rw [splitOnL_go_join d hd _ s [] [] (by omega)]
    simp [joinL]



/-- the strings `split` returns, joined as `join` joins them -/
theorem join_split_strings (ops : NumOps) (s d : String) :
    d.intercalate (((splitOnL (chars d) (chars s)).map fun p => Value.str (strOfChars p)).map
      (stringifyInternal ops)) = s := by
  apply String.ext
  rw [String.toList_intercalate, intercalate_eq_joinL]
  simp only [List.map_map]
  have : (String.toList ∘ stringifyInternal ops ∘ fun p => Value.str (strOfChars p)) = id := by
    funext p; simp [stringifyInternal, stringify, strOfChars]
  rw [this, List.map_id]
  exact join_splitOnL (chars d) (chars s)

theorem zipRows_length (lists : List (List Value)) (n : Nat) : (zipRows lists n).length = n := by
  simp [zipRows]

theorem zipRows_getElem? (lists : List (List Value)) (n i : Nat) (h : i < n) :
    (zipRows lists n)[i]? = some (.list (lists.map fun l => (l[i]?).getD .null)) := by
  simp [zipRows, List.getElem?_map, List.getElem?_range h, listGetD]

theorem foldl_max_ge (lists : List (List Value)) : ∀ (m : Nat), 
    m ≤ lists.foldl (fun m l => max m l.length) m ∧
    ∀ l ∈ lists, l.length ≤ lists.foldl (fun m l => max m l.length) m := by
  induction lists with
  | nil => intro m; simp
  | cons a rest ih =>
    intro m
    simp only [List.foldl_cons]
    have := ih (max m a.length)
    refine ⟨by omega, ?_⟩
    intro l hl
    rcases List.mem_cons.mp hl with rfl | hl
    · omega
    · exact this.2 l hl

theorem foldl_max_attained (lists : List (List Value)) : ∀ (m : Nat),
    lists.foldl (fun m l => max m l.length) m = m ∨
    ∃ l ∈ lists, lists.foldl (fun m l => max m l.length) m = l.length := by
  induction lists with
  | nil => intro m; simp
  | cons a rest ih =>
    intro m
    simp only [List.foldl_cons]
    rcases ih (max m a.length) with h | ⟨l, hl, h⟩
    · rw [h]
      by_cases hm : a.length ≤ m
      · left; omega
      · right; exact ⟨a, by simp, by omega⟩
    · right; exact ⟨l, by simp [hl], h⟩

theorem indexOf_nonneg (len : Nat) (x : F64) (h : 0 ≤ x.toI64) : indexOf len x = some x.toI64.toNat := by
  simp [indexOf]; omega

theorem indexOf_neg_in (len : Nat) (x : F64) (h : x.toI64 < 0) (h2 : 0 ≤ (len : Int) + x.toI64) :
    indexOf len x = some ((len : Int) + x.toI64).toNat := by
  simp [indexOf, h]; omega

theorem indexOf_neg_out (len : Nat) (x : F64) (h2 : (len : Int) + x.toI64 < 0) :
    indexOf len x = none := by
  have : x.toI64 < 0 := by omega
  simp [indexOf, this, h2]

theorem listGetD_lt (l : List Value) (k : Nat) (h : k < l.length) : listGetD l k = l[k] := by
  simp [listGetD, h]

theorem listGetD_ge (l : List Value) (k : Nat) (h : l.length ≤ k) : listGetD l k = .null := by
  simp [listGetD, h]

theorem flattenSpreads_two_lists (a b : List Value) :
    flattenSpreads [.spread (.list a), .spread (.list b)] = a ++ b := by
  simp [flattenSpreads, spreadValues]

theorem flattenSpreads_plain (vs : List Value) (h : ∀ v ∈ vs, ∀ w, v ≠ .spread w) :
    flattenSpreads vs = vs := by
  induction vs with
  | nil => rfl
  | cons v vs ih =>
    have hv := h v (by simp)
    have := ih (fun v hv => h v (by simp [hv]))
    simp only [flattenSpreads, List.flatMap_cons] at this ⊢
    rw [this]
    cases v <;> simp at hv ⊢

theorem flattenSpreads_append (xs ys : List Value) :
    flattenSpreads (xs ++ ys) = flattenSpreads xs ++ flattenSpreads ys := by
  simp [flattenSpreads]



theorem WeakOrderOn.of_key {α β} {lt : β → β → Bool} {P : β → Prop} (h : WeakOrderOn lt P)
    (lt' : α → α → Bool) (P' : α → Prop) (key : α → β) (hk : ∀ a, P' a → P (key a))
    (hlt : ∀ a b, P' a → P' b → lt' a b = lt (key a) (key b)) : WeakOrderOn lt' P' where
  asym := by
    intro a b ha hb hab
    rw [hlt a b ha hb] at hab
    rw [hlt b a hb ha]
    exact h.asym _ _ (hk a ha) (hk b hb) hab
  ntrans := by
    intro a b c ha hb hc hba hca
    rw [hlt b a hb ha] at hba
    rw [hlt c a hc ha] at hca
    rw [hlt b c hb hc]
    exact h.ntrans _ _ _ (hk a ha) (hk b hb) (hk c hc) hba hca

/-- the key of a keyed element (`null` when the callback failed) -/
def keyOf (kv : Value × Outcome Value) : Value :=
  match kv.2 with
  | .ok k => k
  | _ => .null

def KeysOk (keyed : List (Value × Outcome Value)) : Prop := ∀ kv ∈ keyed, ∃ k, kv.2 = .ok k

theorem sortByLt_eq (a b : Value × Outcome Value) (ha : ∃ k, a.2 = .ok k) (hb : ∃ k, b.2 = .ok k) :
    sortByLt a b = sortLt (keyOf a) (keyOf b) := by
  obtain ⟨ka, hka⟩ := ha
  obtain ⟨kb, hkb⟩ := hb
  simp [sortByLt, sortLt, keyOf, hka, hkb]

theorem sortByLt_weakOrder (keyed : List (Value × Outcome Value)) (hok : KeysOk keyed)
    (hc : Comparable (keyed.map keyOf)) : WeakOrderOn sortByLt (fun kv => kv ∈ keyed) :=
  (sortLt_weakOrder _ hc).of_key sortByLt _ keyOf
    (fun a ha => List.mem_map.mpr ⟨a, ha, rfl⟩)
    (fun a b ha hb => sortByLt_eq a b (hok a ha) (hok b hb))

theorem keyCalls_fst (ops : NumOps) : ∀ (fuel : Nat) (f : Value) (l : List Value) (d : Nat) (s : ES),
    (keyCalls ops fuel f l d s).1.map (·.1) = l
  | 0, _, l, _, _ => by
    simp only [keyCalls, List.map_map]
    induction l <;> simp_all
  | _ + 1, _, [], _, _ => by simp [keyCalls]
  | fuel + 1, f, x :: xs, d, s => by
    simp only [keyCalls, List.map_cons]
    rw [keyCalls_fst ops fuel f xs d]

def isStrKey (k : String) : Value → Bool
  | .str k' => k' == k
  | _ => false

/-- the elements whose key is the string `k`, in list order -/
def groupOf (k : String) (xs ks : List Value) : List Value :=
  ((xs.zip ks).filter (fun p => isStrKey k p.2)).map (·.1)

theorem lookupAL_bump {α} (k k' : String) (v : α) (rest : List (String × α)) :
    lookupAL k' ((k, v) :: rest.filter fun kv => kv.1 != k) =
      if k = k' then some v else lookupAL k' rest := by
  rw [lookupAL]
  split
  · rfl
  · rename_i h
    rw [lookupAL_filter_key (· != k), if_pos (bne_iff_ne.mpr fun e => h e.symm)]

theorem groupOf_cons (k k0 : String) (x : Value) (xs ks : List Value) :
    groupOf k (x :: xs) (.str k0 :: ks) = if k0 = k then x :: groupOf k xs ks else groupOf k xs ks := by
  by_cases hk : k0 = k <;> simp [groupOf, isStrKey, hk]

theorem nodup_bump {α} (k : String) (v : α) {rest : List (String × α)} (h : (rest.map Prod.fst).Nodup) :
    (((k, v) :: rest.filter fun kv => kv.1 != k).map Prod.fst).Nodup :=
  List.nodup_cons.mpr ⟨by simp, (List.Sublist.map _ List.filter_sublist).nodup h⟩

/-- group_by partitions the list: one entry per distinct key, holding the elements with that
    key in list order -/
theorem groupByKeys_spec : ∀ (xs ks : List Value) (r : Frame), groupByKeys xs ks = some r →
    (r.map Prod.fst).Nodup ∧
    ∀ k, lookupAL k r = (if groupOf k xs ks = [] then none else some (.list (groupOf k xs ks)))
  | [], [], r => by intro h; cases h; exact ⟨List.nodup_nil, fun _ => rfl⟩
  | [], _ :: _, r => by intro h; cases h
  | x :: xs, [], r => by intro h; cases h
  | x :: xs, kv :: ks, r => by
    intro h
    cases kv with
    | str k0 =>
      simp only [groupByKeys, Option.map_eq_some_iff] at h
      obtain ⟨rest, hrest, rfl⟩ := h
      obtain ⟨ihn, ih⟩ := groupByKeys_spec xs ks rest hrest
      -- by `ih k0` the match sees the group of `k0` so far, or nothing
      have hl := ih k0
      by_cases hnil : groupOf k0 xs ks = []
      · simp only [hnil, if_true] at hl
        simp only [hl]
        refine ⟨List.nodup_cons.mpr ⟨(lookupAL_eq_none_iff k0 rest).mp hl, ihn⟩, fun k => ?_⟩
        rw [groupOf_cons, lookupAL, ih k]
        by_cases hk : k0 = k
        · subst hk; simp [hnil]
        · simp [hk]
      · simp only [hnil, if_false] at hl
        simp only [hl]
        refine ⟨nodup_bump k0 _ ihn, fun k => ?_⟩
        rw [groupOf_cons, lookupAL_bump, ih k]
        by_cases hk : k0 = k
        · subst hk; simp
        · simp [hk]
    | _ => cases h

theorem groupByKeys_isSome : ∀ (xs ks : List Value),
    (groupByKeys xs ks).isSome = true ↔ (xs.length = ks.length ∧ ∀ v ∈ ks, ∃ k, v = .str k)
  | [], [] => by simp [groupByKeys]
  | [], _ :: _ => by simp [groupByKeys]
  | x :: xs, [] => by simp [groupByKeys]
  | x :: xs, kv :: ks => by
    cases kv with
    | str k0 =>
      rw [groupByKeys, Option.isSome_map, groupByKeys_isSome xs ks]
      constructor
      · rintro ⟨hl, hk⟩
        refine ⟨congrArg (· + 1) hl, fun v hv => ?_⟩
        rcases List.mem_cons.mp hv with rfl | hv
        · exact ⟨k0, rfl⟩
        · exact hk v hv
      · rintro ⟨hl, hk⟩
        exact ⟨Nat.succ.inj hl, fun v hv => hk v (List.mem_cons_of_mem _ hv)⟩
    | _ =>
      constructor
      · intro h; cases h
      · rintro ⟨_, hk⟩
        obtain ⟨k, hk⟩ := hk _ List.mem_cons_self
        cases hk

/-- the value of a count: `1 + 1 + … + 1` (n ones, added with `ops.add` from the left) -/
def countF (ops : NumOps) : Nat → F64
  | 0 => F64.zero
  | 1 => F64.one
  | n + 1 => ops.add (countF ops n) F64.one

def countOf (k : String) (ks : List Value) : Nat := (ks.filter (isStrKey k)).length

theorem countOf_cons (k k0 : String) (ks : List Value) :
    countOf k (.str k0 :: ks) = if k0 = k then countOf k ks + 1 else countOf k ks := by
  by_cases hk : k0 = k <;> simp [countOf, isStrKey, hk]

theorem countByKeys_lookup (ops : NumOps) : ∀ (ks : List Value) (r : Frame), countByKeys ops ks = some r →
    ∀ k, lookupAL k r = (if countOf k ks = 0 then none else some (.num (countF ops (countOf k ks))))
  | [], r => by
    intro h k
    cases h; rfl
  | kv :: ks, r => by
    intro h k
    cases kv with
    | str k0 =>
      simp only [countByKeys, Option.map_eq_some_iff] at h
      obtain ⟨rest, hrest, rfl⟩ := h
      have ih := countByKeys_lookup ops ks rest hrest
      rw [countOf_cons, ih k0]
      by_cases hnil : countOf k0 ks = 0
      · simp only [hnil, if_true]
        rw [lookupAL, ih k]
        by_cases hk : k0 = k
        · subst hk; simp [hnil, countF]
        · simp [hk]
      · simp only [hnil, if_false]
        rw [lookupAL_bump, ih k]
        by_cases hk : k0 = k
        · subst hk
          obtain ⟨m, hm⟩ : ∃ m, countOf k0 ks = m + 1 := ⟨countOf k0 ks - 1, by omega⟩
          simp [hm, countF]
        · simp [hk]
    | _ => cases h


/-- the body of `range` after its bounds have been read -/
def rangeOf (start stop : F64) : Outcome Value :=
  if F64.flt stop start then .err .domain
  else if !start.isFinite || !stop.isFinite then .err .domain
  else
    let s := start.toI64
    let e := stop.toI64
    let diff := e - s
    let len : Int := if diff > 2 ^ 63 - 1 || diff < -(2 ^ 63) then 2 ^ 63 - 1 else diff
    if len > u32Max then .err .domain
    else .ok (.list ((List.range (e - s).toNat).map fun i => .num (F64.ofInt (s + Int.ofNat i))))

/-- the length `range` computes saturates at `i64::MAX`; it exceeds `u32::MAX` exactly when the
    difference does or has wrapped below `i64::MIN` -/
theorem rangeLen_gt (d : Int) :
    (if d > 2 ^ 63 - 1 || d < -(2 ^ 63) then (2 ^ 63 - 1 : Int) else d) > u32Max ↔
      d > u32Max ∨ d < -(2 ^ 63) := by
  unfold u32Max
  split
  · rename_i hc
    simp only [Bool.or_eq_true, decide_eq_true_eq] at hc
    omega
  · rename_i hc
    simp only [Bool.or_eq_true, decide_eq_true_eq] at hc
    omega

theorem rangeOf_exact (a b : F64) :
    rangeOf a b =
      if F64.flt b a then .err .domain
      else if !a.isFinite || !b.isFinite then .err .domain
      else if b.toI64 - a.toI64 > u32Max ∨ b.toI64 - a.toI64 < -(2 ^ 63) then .err .domain
      else .ok (.list ((List.range (b.toI64 - a.toI64).toNat).map fun i =>
        .num (F64.ofInt (a.toI64 + Int.ofNat i)))) := by
  simp only [rangeOf, rangeLen_gt]

def anyKeyFuel (keyed : List (Value × Outcome Value)) : Bool :=
  keyed.any (fun kr => match kr.2 with | .fuel => true | _ => false)

theorem callHof_sort_by (ops : NumOps) (fuel : Nat) (l : List Value) (f : Value) (depth : Nat) (s : ES) :
    callHof ops (fuel + 1) "sort_by" [.list l, f] depth s =
      if !f.isCallable then (.ok (.list l), s)
      else if anyKeyFuel (keyCalls ops fuel f l (depth + 1) s).1 then
        (.fuel, (keyCalls ops fuel f l (depth + 1) s).2)
      else
        (.ok (.list ((mergeSortBy sortByLt (keyCalls ops fuel f l (depth + 1) s).1.length
            (keyCalls ops fuel f l (depth + 1) s).1).map (·.1))),
          (keyCalls ops fuel f l (depth + 1) s).2) := by
  rw [callHof]
  simp only [List.getElem?_cons_zero, List.getElem?_cons_succ]
  cases f.isCallable <;> rfl

theorem anyKeyFuel_of_keysOk (keyed : List (Value × Outcome Value)) (h : KeysOk keyed) :
    anyKeyFuel keyed = false := by
  unfold anyKeyFuel
  rw [List.any_eq_false]
  intro kr hkr
  obtain ⟨k, hk⟩ := h kr hkr
  simp [hk]


/-- what `concat` contributes for one argument -/
def concatPiece : Value → List Value
  | .list l => l
  | .spread (.list l) => l
  | .spread (.str s) => (chars s).map fun c => .str (String.singleton c)
  | v => [v]

theorem mapM_lists (f : Value → Outcome (List Value)) (hf : ∀ l, f (.list l) = .ok l)
    (ls : List (List Value)) : Outcome.mapM' f (ls.map Value.list) = .ok ls := by
  induction ls with
  | nil => rfl
  | cons a r ih => simp [Outcome.mapM', ih, hf]

/-- `group_by` and `count_by` differ only in what they make of the keys -/
theorem callHof_keyed {ops : NumOps} {fuel : Nat} {l : List Value} {f : Value} {depth : Nat} {s : ES}
    {name : String} {g : List Value → Option Frame}
    (h : name = "group_by" ∧ g = groupByKeys l ∨ name = "count_by" ∧ g = countByKeys ops) :
    callHof ops (fuel + 1) name [.list l, f] depth s =
      (match arityOf f with
       | none => (.err .type_, s)
       | some _ =>
         (match mapCalls ops fuel f false l 0 (depth + 1) s with
          | (.ok ks, s1) =>
            (match g ks with
             | some r => (.ok (.record r), s1)
             | none => (.err .type_, s1))
          | (.err k, s1) => (.err k, s1)
          | (.panic p, s1) => (.panic p, s1)
          | (.fuel, s1) => (.fuel, s1))) := by
  rcases h with ⟨rfl, rfl⟩ | ⟨rfl, rfl⟩ <;> (rw [callHof]; rfl)

/-- what `l[x]` yields -/
def indexValue (l : List Value) (x : F64) : Value :=
  match indexOf l.length x with
  | some k => listGetD l k
  | none => .null

theorem spread_strOfChars (cs : List Char) :
    spreadValues (.str (strOfChars cs)) = cs.map fun c => .str (String.singleton c) := by
  simp [spreadValues, chars, strOfChars]

/-! `callPure` finds the built-in by comparing the name with the literals it knows.  Each equation
  below pays for that search once, on an argument list of the arity the caller has checked;
  everything said about a built-in afterwards starts from its equation. -/

section equations
variable (ops : NumOps) (v w : Value)

theorem callPure_sort : callPure ops "sort" [v] =
    some ((asList v).bind fun l => .ok (.list (mergeSortBy sortLt l.length l))) := by rfl

theorem callPure_unique : callPure ops "unique" [v] =
    some ((asList v).bind fun l => .ok (.list (uniqueBy l))) := by rfl

theorem callPure_reverse : callPure ops "reverse" [v] =
    some ((asList v).bind fun l => .ok (.list l.reverse)) := by rfl

theorem callPure_flatten : callPure ops "flatten" [v] =
    some ((asList v).bind fun l => .ok (.list (l.flatMap flattenOne))) := by rfl

theorem callPure_chunk : callPure ops "chunk" [v, w] =
    some ((asNumber w).bind fun n => if n.toU64 == 0 then .err .domain else
      (asList v).bind fun l => .ok (.list (chunkList n.toU64 (l.length + 1) l))) := by rfl

theorem callPure_len : callPure ops "len" [v] = some (match v with
    | .list l => .ok (.num (F64.ofNat l.length))
    | .str s => .ok (.num (F64.ofNat (chars s).length))
    | _ => .err .type_) := by rfl

theorem callPure_head : callPure ops "head" [v] = some (match v with
    | .list l => .ok (l.headD .null)
    | .str s => .ok (.str (strOfChars ((chars s).take 1)))
    | _ => .err .type_) := by rfl

theorem callPure_tail : callPure ops "tail" [v] = some (match v with
    | .list l => .ok (.list (l.drop 1))
    | .str s => .ok (.str (strOfChars ((chars s).drop 1)))
    | _ => .err .type_) := by rfl

theorem callPure_slice (x y : Value) : callPure ops "slice" [v, x, y] =
    some ((asNumber x).bind fun a => (asNumber y).bind fun b => match v with
      | .list l =>
        if a.toU64 ≤ b.toU64 && b.toU64 ≤ l.length then .ok (.list ((l.take b.toU64).drop a.toU64))
        else .err .domain
      | .str s =>
        if a.toU64 ≤ b.toU64 && b.toU64 ≤ (chars s).length then
          .ok (.str (strOfChars (((chars s).take b.toU64).drop a.toU64)))
        else .err .domain
      | _ => .err .type_) := by rfl

theorem callPure_keys : callPure ops "keys" [v] =
    some ((asRecord v).bind fun r => .ok (.list (r.map fun kv => .str kv.1))) := by rfl

theorem callPure_values : callPure ops "values" [v] =
    some ((asRecord v).bind fun r => .ok (.list (r.map fun kv => kv.2))) := by rfl

theorem callPure_entries : callPure ops "entries" [v] =
    some ((asRecord v).bind fun r => .ok (.list (spreadValues (.record r)))) := by rfl

theorem callPure_split : callPure ops "split" [v, w] =
    some ((asString v).bind fun s => (asString w).bind fun d =>
      .ok (.list ((splitOnL (chars d) (chars s)).map fun p => .str (strOfChars p)))) := by rfl

theorem callPure_join : callPure ops "join" [v, w] =
    some ((asString w).bind fun d => (asList v).bind fun l =>
      .ok (.str (d.intercalate (l.map (stringifyInternal ops))))) := by rfl

theorem callPure_concat (args : List Value) :
    callPure ops "concat" args = some (.ok (.list (args.flatMap concatPiece))) := by rfl

theorem callPure_zip (args : List Value) : callPure ops "zip" args =
    some (match Outcome.mapM' asList args with
      | .ok lists => .ok (.list (zipRows lists (lists.foldl (fun m l => max m l.length) 0)))
      | .err k => .err k
      | .panic s => .panic s
      | .fuel => .fuel) := by rfl

theorem callPure_range (args : List Value) : callPure ops "range" args =
    some ((match args with
      | [.num a] => .ok (F64.zero, a)
      | [.num a, .num b] => .ok (a, b)
      | _ => .err .type_ : Outcome (F64 × F64)).bind fun p => rangeOf p.1 p.2) := by rfl

end equations

end Blots
