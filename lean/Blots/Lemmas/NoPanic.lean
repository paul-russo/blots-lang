import Blots.Lemmas.EvalEqns
/-
  Helper lemmas for C01 (no `panic` outcome is reachable once arity was checked):
  `Outcome.noPanic`; the accessors and `bindParams` never panic; `callPure` does not panic when
  the argument list holds every index the arm of the name reads, and the arity of each row of the
  generated table guarantees that; the evaluator's mutual block never panics.
-/
namespace Blots

def Outcome.noPanic {α} (o : Outcome α) : Prop := ∀ p, o ≠ .panic p

/-- a `callPure` result (`none` = not a pure built-in) is not a panic -/
def PureNoPanic (o : Option (Outcome Value)) : Prop := ∀ p, o ≠ some (.panic p)

theorem PureNoPanic.some_iff {r : Outcome Value} : PureNoPanic (some r) ↔ r.noPanic :=
  ⟨fun h p hp => h p (congrArg _ hp), fun h p hp => h p (Option.some.inj hp)⟩
theorem PureNoPanic.some {r : Outcome Value} (h : r.noPanic) : PureNoPanic (some r) := some_iff.mpr h
theorem PureNoPanic.none : PureNoPanic none := by intro p hp; cases hp

namespace Outcome
@[simp] theorem noPanic_ok {α} (a : α) : (Outcome.ok a).noPanic := by intro p h; cases h
@[simp] theorem noPanic_err {α} (k : ErrKind) : (Outcome.err k : Outcome α).noPanic := by
  intro p h; cases h
@[simp] theorem noPanic_fuel {α} : (Outcome.fuel : Outcome α).noPanic := by intro p h; cases h
@[simp] theorem noPanic_panic {α} (s : String) : ¬ (Outcome.panic s : Outcome α).noPanic :=
  fun h => h s rfl
@[simp] theorem noPanic_pure {α} (a : α) : (pure a : Outcome α).noPanic := noPanic_ok a

theorem noPanic_bind {α β} {x : Outcome α} {f : α → Outcome β}
    (hx : x.noPanic) (hf : ∀ a, (f a).noPanic) : (x.bind f).noPanic := by
  cases x with
  | ok a => exact hf a
  | err k => exact noPanic_err k
  | panic s => exact absurd hx (noPanic_panic s)
  | fuel => exact noPanic_fuel

@[simp] theorem noPanic_bind_iff {α β} (x : Outcome α) (f : α → Outcome β) :
    (x.bind f).noPanic ↔ x.noPanic ∧ ∀ a, x = .ok a → (f a).noPanic := by
  cases x <;> simp [Outcome.bind]

@[simp] theorem noPanic_bind_iff' {α β} (x : Outcome α) (f : α → Outcome β) :
    (x >>= f).noPanic ↔ x.noPanic ∧ ∀ a, x = .ok a → (f a).noPanic := noPanic_bind_iff x f

@[simp] theorem ok_bind {α β} (a : α) (f : α → Outcome β) : (Outcome.ok a >>= f) = f a := rfl

theorem noPanic_ite {α} {c : Prop} [Decidable c] {x y : Outcome α} :
    (if c then x else y).noPanic ↔ (c → x.noPanic) ∧ (¬c → y.noPanic) := by
  split <;> simp [*]

theorem noPanic_mapM' {α β} (f : α → Outcome β) (hf : ∀ a, (f a).noPanic) (xs : List α) :
    (mapM' f xs).noPanic := by
  induction xs with
  | nil => simp [mapM']
  | cons x xs ih =>
    have hx := hf x
    simp only [mapM']
    split
    · split
      · exact noPanic_ok _
      · exact noPanic_err _
      · next h => exact absurd h (ih _)
      · exact noPanic_fuel
    · exact noPanic_err _
    · next h => exact absurd h (hx _)
    · exact noPanic_fuel
end Outcome

@[simp] theorem asNumber_noPanic (v : Value) : (asNumber v).noPanic := by
  cases v <;> simp only [asNumber, Outcome.noPanic_ok, Outcome.noPanic_err]
@[simp] theorem asBool_noPanic (v : Value) : (asBool v).noPanic := by
  cases v <;> simp only [asBool, Outcome.noPanic_ok, Outcome.noPanic_err]
@[simp] theorem asString_noPanic (v : Value) : (asString v).noPanic := by
  cases v <;> simp only [asString, Outcome.noPanic_ok, Outcome.noPanic_err]
@[simp] theorem asList_noPanic (v : Value) : (asList v).noPanic := by
  cases v <;> simp only [asList, Outcome.noPanic_ok, Outcome.noPanic_err]
@[simp] theorem asRecord_noPanic (v : Value) : (asRecord v).noPanic := by
  cases v <;> simp only [asRecord, Outcome.noPanic_ok, Outcome.noPanic_err]

/-- `noPanic` of a `do` block: both parts of a bind, both branches of an `if`; the accessors
    never panic.  In brackets: which `args[i]?` are `some _`, and the helpers the block calls. -/
macro "np_simp" "[" ts:Lean.Parser.Tactic.simpLemma,* "]" : tactic =>
  `(tactic| simp only [$ts,*, PureNoPanic.some_iff, Outcome.ok_bind, Outcome.noPanic_bind_iff',
      Outcome.noPanic_bind_iff, Outcome.noPanic_ite, Outcome.noPanic_pure, Outcome.noPanic_ok,
      Outcome.noPanic_err, asNumber_noPanic, asList_noPanic, asString_noPanic, asRecord_noPanic,
      true_and, and_true, implies_true])
macro "np_simp" : tactic => `(tactic| np_simp [Outcome.noPanic_fuel])

@[simp] theorem numList_noPanic (xs : List Value) : (numList xs).noPanic :=
  Outcome.noPanic_mapM' asNumber asNumber_noPanic xs

@[simp] theorem aggArgs_noPanic (args : List Value) : (aggArgs args).noPanic := by
  unfold aggArgs; split <;> np_simp [numList_noPanic]

@[simp] theorem uncheckedCmp_noPanic (name : String) (a b : Value) :
    (uncheckedCmp name a b).noPanic := by
  unfold uncheckedCmp; split <;> np_simp

@[simp] theorem checkOrdering_noPanic (o : Option Ordering) (e : List Ordering) :
    (checkOrdering o e).noPanic := by
  unfold checkOrdering; split <;> np_simp

@[simp] theorem compareOp_noPanic (op : BinOp) (a b : Value) : (compareOp op a b).noPanic := by
  unfold compareOp; split
  iterate 4 exact Outcome.noPanic_ok _
  split <;> np_simp [checkOrdering_noPanic]

@[simp] theorem logicalOperands_noPanic (a b : Value) : (logicalOperands a b).noPanic := by
  unfold logicalOperands; np_simp [asBool_noPanic]

@[simp] theorem scalarOp_noPanic (ops : NumOps) (ew : Bool) (op : BinOp) (a b : Value) :
    (scalarOp ops ew op a b).noPanic := by
  unfold scalarOp; split
  iterate 12 exact compareOp_noPanic _ _ _
  iterate 4 np_simp [logicalOperands_noPanic]
  · split <;> split <;> np_simp
  iterate 5 np_simp
  · exact Outcome.noPanic_ok _
  iterate 3 exact Outcome.noPanic_err _

@[simp] theorem elemScalar_noPanic (ops : NumOps) (op : BinOp) (lf : Bool) (v sc : Value) :
    (elemScalar ops op lf v sc).noPanic := by
  unfold elemScalar; split
  iterate 3 exact scalarOp_noPanic _ _ _ _ _
  split <;> exact scalarOp_noPanic _ _ _ _ _

@[simp] theorem zipScalar_noPanic (ops : NumOps) (op : BinOp) (xs ys : List Value) :
    (zipScalar ops op xs ys).noPanic := by
  induction xs generalizing ys with
  | nil => simp [zipScalar]
  | cons x xs ih =>
    cases ys with
    | nil => simp [zipScalar]
    | cons y ys =>
      simp only [zipScalar]
      have h1 := scalarOp_noPanic ops true op x y
      have h2 := ih ys
      split
      · split
        · exact Outcome.noPanic_ok _
        · exact h2
      · exact h1

@[simp] theorem mapScalar_noPanic (ops : NumOps) (op : BinOp) (lf : Bool) (xs : List Value)
    (sc : Value) : (mapScalar ops op lf xs sc).noPanic := by
  induction xs with
  | nil => simp [mapScalar]
  | cons x xs ih =>
    simp only [mapScalar]
    have h1 := elemScalar_noPanic ops op lf x sc
    split
    · split
      · exact Outcome.noPanic_ok _
      · exact ih
    · exact h1

theorem bindParams_go_noPanic (args : List Value) (ps : List LArg) (idx : Nat) (frame : Frame) :
    (bindParams.go args ps idx frame).noPanic := by
  induction ps generalizing idx frame with
  | nil => simp [bindParams.go]
  | cons p rest ih =>
    cases p with
    | req n =>
      simp only [bindParams.go]
      split
      · exact ih _ _
      · simp
    | opt n => simp only [bindParams.go]; exact ih _ _
    | rest n => simp only [bindParams.go]; exact ih _ _

@[simp] theorem bindParams_noPanic (ps : List LArg) (args : List Value) :
    (bindParams ps args).noPanic :=
  bindParams_go_noPanic args ps 0 []

theorem checkArity_ok_or_err (ar : Gen.Arity) (n : Nat) :
    checkArity ar n = .ok () ∨ checkArity ar n = .err .arity := by
  unfold checkArity; split <;> simp

theorem args_of_exact0 {args : List Value} (h : (Gen.Arity.exact 0).canAccept args.length = true) :
    args = [] :=
  List.eq_nil_of_length_eq_zero (beq_iff_eq.mp h)

/-- the least number of arguments a row of the table accepts -/
def Gen.Arity.least : Gen.Arity → Nat
  | .exact k => k
  | .atLeast a => a
  | .between a _ => a

theorem Gen.Arity.least_le {ar : Gen.Arity} {n : Nat} (h : ar.canAccept n = true) : ar.least ≤ n := by
  cases ar <;> simp only [canAccept, beq_iff_eq, decide_eq_true_eq, Bool.and_eq_true] at h
  · exact Nat.le_of_eq h.symm
  · exact h
  · exact h.1

/-- the float-computed index of `percentile` is in range (validated by the harness on the
    native operations; not provable for arbitrary `ops`) -/
def PercentileIndexOk (ops : NumOps) : Prop :=
  ∀ (p : F64) (n : Nat), 0 < n → F64.fle F64.zero p = true → F64.fle p hundred = true →
    (ops.round (ops.mul (ops.div p hundred) (F64.ofNat (n - 1)))).toU64 < n

theorem insertSortedF64_length (le : F64 → F64 → Bool) (x : F64) (l : List F64) :
    (insertSortedF64 le x l).length = l.length + 1 := by
  induction l with
  | nil => rfl
  | cons y ys ih => simp only [insertSortedF64]; split <;> simp [ih]

theorem sortTotal_length_np (xs : List F64) : (sortTotal xs).length = xs.length := by
  induction xs with
  | nil => rfl
  | cons x xs ih =>
    show (insertSortedF64 _ x (sortTotal xs)).length = _
    rw [insertSortedF64_length, ih]; rfl

theorem callPure_dot_go_noPanic (ops : NumOps) (xs ys : List Value) (acc : F64) :
    (callPure.go ops xs ys acc).noPanic := by
  induction xs generalizing ys acc with
  | nil => simp [callPure.go]
  | cons x xs ih =>
    cases ys with
    | nil => simp [callPure.go]
    | cons y ys => simp [callPure.go, ih]

/-- `n` arguments are enough for every `args[i]` that the arm of `name` in `callPure` reads:
    `args[0]` in any arm (`time_now`, the one name of arity 0, has none; the variadic arms read no
    index, and the bound does not hurt), `args[1]` and `args[2]` in the arms listed -/
def ArgsPresent (name : String) (n : Nat) : Prop :=
  (name ≠ "time_now" → 0 < n) ∧
  (name ∈ ["percentile", "slice", "dot", "split", "join", "replace", "includes", "chunk", "convert",
    "ugt", "ult", "ugte", "ulte"] → 1 < n) ∧
  (name ∈ ["slice", "replace", "convert"] → 2 < n)

theorem ArgsPresent.mono {name : String} {k n : Nat} (h : ArgsPresent name k) (hkn : k ≤ n) :
    ArgsPresent name n :=
  ⟨fun hn => Nat.lt_of_lt_of_le (h.1 hn) hkn, fun hn => Nat.lt_of_lt_of_le (h.2.1 hn) hkn,
    fun hn => Nat.lt_of_lt_of_le (h.2.2 hn) hkn⟩

/-- A built-in without callbacks panics only where it reads an argument that is not there (and
    `percentile` where its computed index is out of range). -/
theorem callPure_noPanic_of_length (ops : NumOps) (name : String) (args : List Value)
    (hp : name = "percentile" → PercentileIndexOk ops) (h : ArgsPresent name args.length) :
    PureNoPanic (callPure ops name args) := by
  obtain ⟨h0, h1, h2⟩ := h
  have g0 := fun hn => List.getElem?_eq_getElem (h0 hn)
  have g1 := fun hn => List.getElem?_eq_getElem (h1 hn)
  have g2 := fun hn => List.getElem?_eq_getElem (h2 hn)
  unfold callPure
  split
  -- sqrt sin cos tan asin acos atan log log10 exp abs floor ceil trunc random
  iterate 15 np_simp [g0 (by decide)]
  · -- round: `args[1]` is read unless there is exactly one argument
    np_simp [g0 (by decide)]
    intro _ _ hne
    have h1 : 1 < args.length := by
      have := h0 (by decide); simp only [beq_iff_eq] at hne; omega
    np_simp [List.getElem?_eq_getElem h1]
  -- min max avg sum prod median
  iterate 6 np_simp [aggArgs_noPanic]
  · -- percentile: the index is in range by `hp`
    np_simp [g0 (by decide), g1 (by decide), numList_noPanic]
    intro p _ l _ hr ns _ hne
    simp only [Bool.not_eq_true, Bool.not_eq_false', Bool.and_eq_true] at hr
    have hlen : 0 < (sortTotal ns).length := by
      rw [sortTotal_length_np]; exact List.length_pos_iff.mpr (mt List.isEmpty_iff.mpr hne)
    rw [List.getElem?_eq_getElem (hp rfl p _ hlen hr.1 hr.2)]
    exact Outcome.noPanic_pure _
  · -- range
    np_simp
    split <;> np_simp
  -- len head tail
  iterate 3 (np_simp [g0 (by decide)]; split <;> np_simp)
  · -- slice
    np_simp [g0 (by decide), g1 (by decide), g2 (by decide)]
    intros; split <;> np_simp
  · -- concat
    exact .some (Outcome.noPanic_ok _)
  · -- dot
    np_simp [g0 (by decide), g1 (by decide), callPure_dot_go_noPanic]
  -- unique sort reverse any all
  iterate 5 np_simp [g0 (by decide)]
  -- split join
  iterate 2 np_simp [g0 (by decide), g1 (by decide)]
  · -- replace
    np_simp [g0 (by decide), g1 (by decide), g2 (by decide)]
  -- trim uppercase lowercase
  iterate 3 np_simp [g0 (by decide)]
  · -- includes
    np_simp [g0 (by decide)]
    split <;> np_simp [g1 (by decide)]
  · -- format
    np_simp [g0 (by decide)]
    intros; split <;> np_simp
  · -- typeof
    np_simp [g0 (by decide)]
  · -- arity
    np_simp [g0 (by decide)]
    split <;> np_simp
  -- keys values entries flatten
  iterate 4 np_simp [g0 (by decide)]
  · -- zip: `mapM'` of a function that does not panic
    refine .some ?_
    split
    · exact Outcome.noPanic_ok _
    · exact Outcome.noPanic_err _
    · next s heq => exact absurd heq (Outcome.noPanic_mapM' _ (fun v => by split <;> np_simp) args s)
    · exact Outcome.noPanic_fuel
  · -- chunk
    np_simp [g0 (by decide), g1 (by decide)]
  · -- to_string
    np_simp [g0 (by decide)]; split <;> np_simp
  · -- to_number
    np_simp [g0 (by decide)]; split
    · np_simp
    · np_simp
    · np_simp; intros; split <;> np_simp
  · -- to_bool
    np_simp [g0 (by decide)]; split <;> np_simp
  · -- convert
    np_simp [g0 (by decide), g1 (by decide), g2 (by decide)]
    intros; split <;> np_simp
  -- ugt ult ugte ulte
  iterate 4 np_simp [g0 (by decide), g1 (by decide), uncheckedCmp_noPanic]
  · -- print
    have g := g0 (by decide)
    refine .some ?_
    split
    · exact Outcome.noPanic_ok _
    · split
      · exact Outcome.noPanic_ok _
      · exact Outcome.noPanic_err _
      · next hnone => rw [g] at hnone; cases hnone
  · -- not a built-in without callbacks
    exact .none

/-- every row accepts only argument lists that hold the indices its arm reads -/
theorem argsPresent_of_row : ∀ r ∈ Gen.builtins, ArgsPresent r.2.1 r.2.2.least := by
  unfold ArgsPresent; decide +kernel

theorem callPure_noPanic_of_mem (ops : NumOps) {variant name : String} {ar : Gen.Arity}
    (h : (variant, name, ar) ∈ Gen.builtins) (hp : name = "percentile" → PercentileIndexOk ops)
    (args : List Value) (ha : ar.canAccept args.length = true) :
    PureNoPanic (callPure ops name args) :=
  callPure_noPanic_of_length ops name args hp
    ((argsPresent_of_row _ h).mono (Gen.Arity.least_le ha))

theorem mem_builtins_of_builtinArity {name : String} {ar : Gen.Arity}
    (h : builtinArity name = some ar) : ∃ variant, (variant, name, ar) ∈ Gen.builtins := by
  unfold builtinArity at h
  simp only [Option.map_eq_some_iff] at h
  obtain ⟨⟨v, n, a⟩, hf, rfl⟩ := h
  have h1 := List.find?_some hf
  have h2 := List.mem_of_find?_eq_some hf
  simp only [beq_iff_eq] at h1
  subst h1
  exact ⟨v, h2⟩

/-- the names of the table are distinct: looking a row up by its name finds that row -/
theorem builtinArity_of_row : ∀ r ∈ Gen.builtins, builtinArity r.2.1 = some r.2.2 := by
  decide +kernel

theorem builtinArity_of_mem {variant name : String} {ar : Gen.Arity}
    (h : (variant, name, ar) ∈ Gen.builtins) : builtinArity name = some ar :=
  builtinArity_of_row _ h

theorem checkArity_noPanic (ar : Gen.Arity) (n : Nat) : (checkArity ar n).noPanic := by
  unfold checkArity; split <;> simp

theorem identOp_noPanic (env : List Frame) (x : String) : (identOp env x).noPanic := by
  unfold identOp; split; · simp
  split; · simp
  split <;> simp

theorem inrefOp_noPanic (env : List Frame) (f : String) : (inrefOp env f).noPanic := by
  unfold inrefOp; split <;> simp

theorem accessOp_noPanic (v iv : Value) : (accessOp v iv).noPanic := by
  unfold accessOp; split <;> first | (split <;> simp) | simp

theorem dotOp_noPanic (v : Value) (f : String) : (dotOp v f).noPanic := by
  unfold dotOp; split <;> simp

theorem unOp_noPanic (op : UnOp) (v : Value) : (unOp op v).noPanic := by
  unfold unOp; split <;> simp

theorem factOp_noPanic (ops : NumOps) (v : Value) : (factOp ops v).noPanic := by
  unfold factOp; split
  · split <;> simp
  · simp

theorem spreadOp_noPanic (v : Value) : (spreadOp v).noPanic := by
  unfold spreadOp; split <;> simp

theorem binValue_noPanic (ops : NumOps) (op : BinOp) (a b : Value) : (binValue ops op a b).noPanic := by
  unfold binValue
  split
  · exact compareOp_noPanic _ _ _
  · split
    · split
      · exact Outcome.noPanic_err _
      · exact zipScalar_noPanic _ _ _ _
    · exact mapScalar_noPanic _ _ _ _ _
    · exact mapScalar_noPanic _ _ _ _ _
    · exact scalarOp_noPanic _ _ _ _ _

/-- a run that does not end in a panic, whatever the state it ends in -/
def NP {α} (r : R α) : Prop := ∀ p s', r ≠ (.panic p, s')

namespace NP
variable {α β : Type} {s : ES}

theorem pure {o : Outcome α} (h : o.noPanic) : NP (o, s) :=
  fun p _ hc => h p (congrArg Prod.fst hc)

theorem ok {a : α} : NP (Outcome.ok a, s) := pure (Outcome.noPanic_ok a)
theorem err {k : ErrKind} : NP ((Outcome.err k : Outcome α), s) := pure (Outcome.noPanic_err k)

theorem bind {r : R α} {k : α → ES → R β} (hr : NP r) (hk : ∀ a s1, NP (k a s1)) :
    NP (R.bind r k) :=
  R.bind_post (Q := NP) (fun a s1 _ => hk a s1) (fun _ _ _ => err)
    (fun p s1 h => absurd h (hr p s1)) (fun _ _ => pure Outcome.noPanic_fuel)

theorem bindPure {o : Outcome α} {k : α → ES → R β} (ho : o.noPanic) (hk : ∀ a, o = .ok a → NP (k a s)) :
    NP (R.bind (o, s) k) :=
  match o, ho, hk with
  | .ok a, _, hk => hk a rfl
  | .err _, _, _ => err
  | .fuel, _, _ => pure Outcome.noPanic_fuel
  | .panic p, ho, _ => absurd ho (Outcome.noPanic_panic p)

theorem restore {r : R α} (hr : NP r) (g : ES → ES) : NP (r.1, g r.2) :=
  fun p _ hc => have h1 : r.1 = .panic p := congrArg Prod.fst hc; hr p r.2 (Prod.ext h1 rfl)

theorem ite {c : Prop} [Decidable c] {x y : R α} (hx : NP x) (hy : NP y) :
    NP (if c then x else y) := by split <;> assumption

end NP

/-- no function of the evaluator's mutual block returns a panic at this fuel -/
structure NPAll (ops : NumOps) (fuel : Nat) : Prop where
  eval : ∀ depth e s p s', eval ops fuel depth e s ≠ (.panic p, s')
  evalList : ∀ depth es s p s', evalList ops fuel depth es s ≠ (.panic p, s')
  evalItems : ∀ depth es s p s', evalItems ops fuel depth es s ≠ (.panic p, s')
  evalEntries : ∀ depth es acc s p s', evalEntries ops fuel depth es acc s ≠ (.panic p, s')
  evalDoStmt : ∀ depth e s p s', evalDoStmt ops fuel depth e s ≠ (.panic p, s')
  evalDo : ∀ depth stmts ret s p s', evalDo ops fuel depth stmts ret s ≠ (.panic p, s')
  callFn : ∀ fv this args depth s p s', callFn ops fuel fv this args depth s ≠ (.panic p, s')
  mapCalls : ∀ f wi xs start depth s p s', mapCalls ops fuel f wi xs start depth s ≠ (.panic p, s')
  quantCalls : ∀ f wi ie xs start depth s p s',
    quantCalls ops fuel f wi ie xs start depth s ≠ (.panic p, s')
  foldCalls : ∀ f wi acc xs start depth s p s',
    foldCalls ops fuel f wi acc xs start depth s ≠ (.panic p, s')
  keyCalls : ∀ f xs depth s kr, kr ∈ (keyCalls ops fuel f xs depth s).1 → ∀ p, kr.2 ≠ .panic p
  callHof : ∀ name args depth s p s', 2 ≤ args.length → (name = "reduce" → 3 ≤ args.length) →
    callHof ops fuel name args depth s ≠ (.panic p, s')
  evalBin : ∀ depth op a b s p s', evalBin ops fuel depth op a b s ≠ (.panic p, s')
  viaPairs : ∀ la lb depth s p s', viaPairs ops fuel la lb depth s ≠ (.panic p, s')
  whereCalls : ∀ f wi xs start depth s p s',
    whereCalls ops fuel f wi xs start depth s ≠ (.panic p, s')

section step
variable {ops : NumOps} {fuel : Nat} (h : NPAll ops fuel)
include h

theorem eval_npstep (depth : Nat) (e : Expr) (s : ES) : NP (eval ops (fuel + 1) depth e s) := by
  cases e with
  | num x => rw [eval_num]; exact NP.ok
  | str x => rw [eval_str]; exact NP.ok
  | bool b => rw [eval_bool]; exact NP.ok
  | null => rw [eval_null]; exact NP.ok
  | builtin x => rw [eval_builtin]; exact NP.ok
  | ident x =>
    rw [eval_ident]; exact NP.pure (identOp_noPanic _ _)
  | inref f => rw [eval_inref]; exact NP.pure (inrefOp_noPanic _ _)
  | list items => rw [eval_list]; exact NP.bind (h.evalItems _ _ _) fun _ _ => NP.ok
  | record es => rw [eval_record]; exact NP.bind (h.evalEntries _ _ _ _) fun _ _ => NP.ok
  | lambda args body => rw [eval_lambda]; exact NP.ite NP.err NP.ok
  | assign x v =>
    rw [eval_assign]
    exact NP.ite NP.err <| NP.ite NP.err <| NP.ite NP.err <|
      NP.bind (h.eval _ _ _) fun _ _ => NP.ite NP.err NP.ok
  | output e => rw [eval_output]; exact h.eval _ _ _
  | cond c t el =>
    rw [eval_cond]
    refine NP.bind (h.eval _ _ _) fun v s1 => ?_
    split
    · exact h.eval _ _ _
    · exact h.eval _ _ _
    · exact NP.err
  | doBlock stmts ret => rw [eval_doBlock]; exact NP.restore (h.evalDo _ _ _ _) fun s1 => { s1 with env := s1.env.drop 1 }
  | call f args =>
    rw [eval_call]
    exact NP.bind (h.eval _ _ _) fun _ _ => NP.bind (h.evalList _ _ _) fun _ _ =>
      NP.ite NP.err (h.callFn _ _ _ _ _)
  | access e i =>
    rw [eval_access]
    exact NP.bind (h.eval _ _ _) fun v _ => NP.bind (h.eval _ _ _) fun iv _ =>
      NP.pure (accessOp_noPanic v iv)
  | dot e f =>
    rw [eval_dot]; exact NP.bind (h.eval _ _ _) fun v _ => NP.pure (dotOp_noPanic v f)
  | bin op l r =>
    rw [eval_bin]; exact NP.bind (h.eval _ _ _) fun _ _ => NP.bind (h.eval _ _ _) fun _ _ => h.evalBin _ _ _ _ _
  | un op e =>
    rw [eval_un]; exact NP.bind (h.eval _ _ _) fun v _ => NP.pure (unOp_noPanic op v)
  | fact e =>
    rw [eval_fact]; exact NP.bind (h.eval _ _ _) fun v _ => NP.pure (factOp_noPanic ops v)
  | spread e =>
    rw [eval_spread]; exact NP.bind (h.eval _ _ _) fun v _ => NP.pure (spreadOp_noPanic v)

theorem evalList_npstep (depth : Nat) (es : List Expr) (s : ES) :
    NP (evalList ops (fuel + 1) depth es s) := by
  cases es with
  | nil => rw [evalList_nil]; exact NP.ok
  | cons e es =>
    rw [evalList_cons]
    exact NP.bind (h.eval _ _ _) fun _ _ => NP.bind (h.evalList _ _ _) fun _ _ => NP.ok

theorem evalItems_npstep (depth : Nat) (es : List Item) (s : ES) :
    NP (evalItems ops (fuel + 1) depth es s) := by
  rcases es with _ | ⟨⟨l, e, t⟩, es⟩
  · rw [evalItems_nil]; exact NP.ok
  · rw [evalItems_cons]
    exact NP.bind (h.eval _ _ _) fun _ _ => NP.bind (h.evalItems _ _ _) fun _ _ => NP.ok

theorem evalEntries_npstep (depth : Nat) (es : List Entry) (acc : Frame) (s : ES) :
    NP (evalEntries ops (fuel + 1) depth es acc s) := by
  rcases es with _ | ⟨⟨l, k, v, t⟩, es⟩
  · rw [evalEntries_nil]; exact NP.ok
  · cases k with
    | static k => rw [evalEntries_static]; exact NP.bind (h.eval _ _ _) fun _ _ => h.evalEntries _ _ _ _
    | dyn ke =>
      rw [evalEntries_dyn]
      refine NP.bind (h.eval _ _ _) fun kv s1 => ?_
      split
      · exact NP.bind (h.eval _ _ _) fun _ _ => h.evalEntries _ _ _ _
      · exact NP.err
    | short x =>
      rw [evalEntries_short]; split
      · exact h.evalEntries _ _ _ _
      · exact NP.err
    | spread se =>
      rw [evalEntries_spread]
      refine NP.bind (h.eval _ _ _) fun x s1 => ?_
      split <;> exact h.evalEntries _ _ _ _

theorem evalDoStmt_npstep (depth : Nat) (e : Expr) (s : ES) :
    NP (evalDoStmt ops (fuel + 1) depth e s) := by
  by_cases he : ∃ x v, e = .assign x v
  · obtain ⟨x, v, rfl⟩ := he
    rw [evalDoStmt_assign]
    exact NP.ite NP.err (NP.bind (h.eval _ _ _) fun _ _ => NP.ok)
  · rw [evalDoStmt_other _ _ _ _ _ fun x v hx => he ⟨x, v, hx⟩]; exact h.eval _ _ _

theorem evalDo_npstep (depth : Nat) (stmts : List Item) (ret : Item) (s : ES) :
    NP (evalDo ops (fuel + 1) depth stmts ret s) := by
  rcases ret with ⟨l, e, t⟩
  rcases stmts with _ | ⟨⟨l', e', t'⟩, rest⟩
  · rw [evalDo_nil]; exact h.evalDoStmt _ _ _
  · rw [evalDo_cons]; exact NP.bind (h.evalDoStmt _ _ _) fun _ _ => h.evalDo _ _ _ _

theorem mapCalls_npstep (f : Value) (wi : Bool) (xs : List Value) (start depth : Nat) (s : ES) :
    NP (mapCalls ops (fuel + 1) f wi xs start depth s) := by
  cases xs with
  | nil => rw [mapCalls_nil]; exact NP.ok
  | cons x xs =>
    rw [mapCalls_cons]
    exact NP.bind (h.callFn _ _ _ _ _) fun _ _ => NP.bind (h.mapCalls _ _ _ _ _ _) fun _ _ => NP.ok

theorem quantCalls_npstep (f : Value) (wi ie : Bool) (xs : List Value) (start depth : Nat) (s : ES) :
    NP (quantCalls ops (fuel + 1) f wi ie xs start depth s) := by
  cases xs with
  | nil => rw [quantCalls_nil]; exact NP.ok
  | cons x xs =>
    rw [quantCalls_cons]
    refine NP.bind (h.callFn _ _ _ _ _) fun v s1 => ?_
    split
    · exact NP.ite NP.ok (NP.ite NP.ok (h.quantCalls _ _ _ _ _ _ _))
    · exact NP.err

theorem foldCalls_npstep (f : Value) (wi : Bool) (acc : Value) (xs : List Value) (start depth : Nat)
    (s : ES) : NP (foldCalls ops (fuel + 1) f wi acc xs start depth s) := by
  cases xs with
  | nil => rw [foldCalls_nil]; exact NP.ok
  | cons x xs => rw [foldCalls_cons]; exact NP.bind (h.callFn _ _ _ _ _) fun _ _ => h.foldCalls _ _ _ _ _ _ _

theorem keyCalls_npstep (f : Value) (xs : List Value) (depth : Nat) (s : ES)
    (kr : Value × Outcome Value) (hk : kr ∈ (keyCalls ops (fuel + 1) f xs depth s).1) (p : String) :
    kr.2 ≠ .panic p := by
  cases xs with
  | nil => rw [keyCalls_nil] at hk; cases hk
  | cons x xs =>
    rw [keyCalls_cons, List.mem_cons] at hk
    rcases hk with rfl | hk
    · exact fun hc => h.callFn f f [x] depth s p _ (Prod.ext hc rfl)
    · exact h.keyCalls _ _ _ _ kr hk p

theorem viaPairs_npstep (la lb : List Value) (depth : Nat) (s : ES) :
    NP (viaPairs ops (fuel + 1) la lb depth s) := by
  cases la with
  | nil => rw [viaPairs_nil_left]; exact NP.ok
  | cons x xs =>
    cases lb with
    | nil => rw [viaPairs_nil_right]; exact NP.ok
    | cons f fs =>
      rw [viaPairs_cons]
      refine NP.ite NP.err <| NP.bind (h.callFn _ _ _ _ _) fun _ _ =>
        NP.bind (h.viaPairs _ _ _ _) fun r s2 => ?_
      split <;> exact NP.ok

theorem whereCalls_npstep (f : Value) (wi : Bool) (xs : List Value) (start depth : Nat) (s : ES) :
    NP (whereCalls ops (fuel + 1) f wi xs start depth s) := by
  cases xs with
  | nil => rw [whereCalls_nil]; exact NP.ok
  | cons x xs =>
    rw [whereCalls_cons]
    refine NP.bind (h.callFn _ _ _ _ _) fun v s1 => ?_
    split
    · refine NP.bind (h.whereCalls _ _ _ _ _ _) fun r s2 => ?_
      split <;> exact NP.ok
    · exact NP.err

theorem evalBin_npstep (depth : Nat) (op : BinOp) (a b : Value) (s : ES) :
    NP (evalBin ops (fuel + 1) depth op a b s) := by
  by_cases hc : isCallOp op = false
  · rw [evalBin_value _ _ _ _ _ _ _ hc]; exact NP.pure (binValue_noPanic ops _ _ _)
  · cases op <;> first | exact absurd rfl hc | skip
    · rw [evalBin_via]
      split
      · exact NP.ite NP.err (h.viaPairs _ _ _ _)
      · refine NP.ite NP.err ?_
        split
        · exact NP.err
        · exact NP.bind (h.mapCalls _ _ _ _ _ _) fun _ _ => NP.ok
      · exact NP.err
      · exact NP.ite NP.err (h.callFn _ _ _ _ _)
    · rw [evalBin_into]
      exact NP.ite NP.err (NP.ite NP.err (h.callFn _ _ _ _ _))
    · rw [evalBin_where]
      split
      · exact NP.ite NP.err NP.err
      · refine NP.ite NP.err ?_
        split
        · exact NP.err
        · exact h.whereCalls _ _ _ _ _ _
      · exact NP.err

/-- with the two arguments every higher-order built-in has, and the third of `reduce`, no
    unchecked index is out of range -/
theorem callHof_npstep (name : String) (args : List Value) (depth : Nat) (s : ES)
    (hl : 2 ≤ args.length) (hr : name = "reduce" → 3 ≤ args.length) :
    NP (callHof ops (fuel + 1) name args depth s) := by
  match args, hl with
  | lv :: f :: rest, _ =>
    by_cases hs : name = "sort_by"
    · subst hs
      rw [callHof_sort_by]
      split
      · exact NP.ite NP.ok (NP.ite (NP.pure Outcome.noPanic_fuel) NP.ok)
      · exact NP.err
    · by_cases hlv : ∃ l, lv = Value.list l
      · obtain ⟨l, rfl⟩ := hlv
        rcases isHof_cases name with rfl | rfl | rfl | rfl | rfl | rfl | rfl | rfl | hn
        · exact absurd rfl hs
        · rw [callHof_map]; split
          · exact NP.err
          · exact NP.bind (h.mapCalls _ _ _ _ _ _) fun _ _ => NP.ok
        · rw [callHof_filter]; split
          · exact NP.err
          · exact h.whereCalls _ _ _ _ _ _
        · rw [callHof_every]; split
          · exact NP.err
          · exact h.quantCalls _ _ _ _ _ _ _
        · rw [callHof_some]; split
          · exact NP.err
          · exact h.quantCalls _ _ _ _ _ _ _
        · rw [callHof_reduce]; split
          · exact NP.err
          · match rest, hr rfl with
            | init :: _, _ => exact h.foldCalls _ _ _ _ _ _ _
        · rw [callHof_group_by]; split
          · exact NP.err
          · refine NP.bind (h.mapCalls _ _ _ _ _ _) fun _ _ => ?_
            split
            · exact NP.ok
            · exact NP.err
        · rw [callHof_count_by]; split
          · exact NP.err
          · refine NP.bind (h.mapCalls _ _ _ _ _ _) fun _ _ => ?_
            split
            · exact NP.ok
            · exact NP.err
        · rw [callHof_unknown _ _ _ _ _ hn]; split <;> exact NP.err
      · rw [callHof_not_list _ _ _ _ _ hs _ _ _ fun l hl => hlv ⟨l, hl⟩]; exact NP.err

end step

/-- the rows of the higher-order built-ins: `exact 2`, and `exact 3` for `reduce` -/
theorem hof_rows : ∀ r ∈ Gen.builtins, isHof r.2.1 = true →
    2 ≤ r.2.2.least ∧ (r.2.1 = "reduce" → 3 ≤ r.2.2.least) := by
  decide +kernel

theorem hof_args_length {name : String} {ar : Gen.Arity} {n : Nat} (hh : isHof name = true)
    (ha : builtinArity name = some ar) (hc : ar.canAccept n = true) :
    2 ≤ n ∧ (name = "reduce" → 3 ≤ n) := by
  obtain ⟨v, hm⟩ := mem_builtins_of_builtinArity ha
  have hr := hof_rows _ hm hh
  have hl := Gen.Arity.least_le hc
  exact ⟨Nat.le_trans hr.1 hl, fun h => Nat.le_trans (hr.2 h) hl⟩

theorem callPure_noPanic_of_arity (ops : NumOps) (hp : PercentileIndexOk ops) {name : String}
    {ar : Gen.Arity} (ha : builtinArity name = some ar) (args : List Value)
    (hc : checkArity ar args.length = .ok ()) : PureNoPanic (callPure ops name args) := by
  obtain ⟨v, hm⟩ := mem_builtins_of_builtinArity ha
  exact callPure_noPanic_of_mem ops hm (fun _ => hp) args (checkArity_ok_iff.mp hc)

/-- a call: arity is checked before anything is indexed, and parameter binding cannot panic -/
theorem callFn_npstep {ops : NumOps} (hp : PercentileIndexOk ops) {fuel : Nat} (h : NPAll ops fuel)
    (fv this : Value) (args : List Value) (depth : Nat) (s : ES) :
    NP (callFn ops (fuel + 1) fv this args depth s) := by
  cases fv with
  | lambda id ps b sc =>
    rw [callFn_lambda]
    exact NP.bindPure (checkArity_noPanic _ _) fun _ _ => NP.ite NP.err <|
      NP.bindPure (bindParams_noPanic _ _) fun _ _ =>
        NP.restore (h.eval _ _ _) fun s1 => { s1 with env := s.env }
  | builtin name =>
    rw [callFn_builtin]
    split
    · exact NP.err
    · rename_i ar har
      refine NP.bindPure (checkArity_noPanic _ _) fun _ hc => NP.ite NP.err ?_
      split
      · rename_i hh
        have := hof_args_length hh har (checkArity_ok_iff.mp hc)
        exact fun p s' => h.callHof _ _ _ _ p s' this.1 this.2
      · split
        · rename_i r hr
          exact NP.pure fun p hp' => callPure_noPanic_of_arity ops hp har args hc p (hp' ▸ hr)
        · exact NP.err
  | _ => rw [callFn_not_callable _ _ _ _ rfl]; exact NP.err

theorem NPAll_zero (ops : NumOps) : NPAll ops 0 := by
  constructor
  case keyCalls =>
    intro f xs depth s kr hk p
    rw [keyCalls_zero, List.mem_map] at hk
    obtain ⟨x, _, rfl⟩ := hk
    exact Outcome.noPanic_fuel p
  all_goals intros; simp

theorem NPAll_succ (ops : NumOps) (hp : PercentileIndexOk ops) (fuel : Nat) (h : NPAll ops fuel) :
    NPAll ops (fuel + 1) :=
  { eval := eval_npstep h
    evalList := evalList_npstep h
    evalItems := evalItems_npstep h
    evalEntries := evalEntries_npstep h
    evalDoStmt := evalDoStmt_npstep h
    evalDo := evalDo_npstep h
    callFn := callFn_npstep hp h
    mapCalls := mapCalls_npstep h
    quantCalls := quantCalls_npstep h
    foldCalls := foldCalls_npstep h
    keyCalls := keyCalls_npstep h
    callHof := fun name args depth s p s' hl hr => callHof_npstep h name args depth s hl hr p s'
    evalBin := evalBin_npstep h
    viaPairs := viaPairs_npstep h
    whereCalls := whereCalls_npstep h }

theorem NPAll_all (ops : NumOps) (hp : PercentileIndexOk ops) : ∀ fuel, NPAll ops fuel
  | 0 => NPAll_zero ops
  | fuel + 1 => NPAll_succ ops hp fuel (NPAll_all ops hp fuel)

theorem R_noPanic_of_ne {α} {r : R α} (h : ∀ p s', r ≠ (.panic p, s')) : r.1.noPanic :=
  fun p hc => h p r.2 (Prod.ext hc rfl)
end Blots
