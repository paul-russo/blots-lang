import Blots.Lemmas.EvalEnvClosedCoin
import Blots.Lemmas.EvalFresh
/-
  C02 (4), weakening through arbitrary function application.

  `Weak ops t w fuel`: for the six expression-level functions of the evaluator, at this fuel and
  at ANY call depth (0 included): the run from the state with the extra binding `(t, w)` at the
  head of the frame at depth `k` (`addT t w k s`) is the same run — same outcome, same final
  state with the same extra binding — provided
    * every value bound in the environment is hereditarily closed (`ClosedE`),
    * the expression does not touch `t` (`touches`: read, assigned, or free in a function it
      creates; in particular if `t` is not mentioned at all), has no nested `output`, and each
      of its free names is `inputs` or bound (`FOK n`: in the first `n` frames, `n` arbitrary),
  and the result (value, environment) is closed again w.r.t. the display names of the final
  state, which only grew.  NOTHING is assumed of the new value `w`.

  Adding the binding is a change of the environment that such an expression does not observe
  (`weak_blind`), so the expression level is `exprSim_succ` of Lemmas/EvalEnvClosedCoin.lean;
  every call the expression makes (call expressions, `via` / `into` / `where`, the higher-order
  built-ins) is delegated to the closed-coincidence invariant `Coin` at `n = 0`, whose replaced
  tail is the whole caller chain: a closed callee never looks at it.
-/
namespace Blots

theorem sok_addT {t : String} (w : Value) (ht : t ≠ "inputs") (k : Nat) (s : ES)
    (hE : ClosedE s.names s.env) : SOK 0 (addAt t w k s.env) s :=
  ⟨Nat.zero_le _, envGet_addAt t w (Ne.symm ht) k s.env, hE⟩

/-- the run with the extra binding is the same run, and the result keeps the invariant -/
abbrev WSim {α} (t : String) (w : Value) (k : Nat) (C : List (Nat × String) → α → Prop) (s : ES)
    (p p' : R α) : Prop :=
  p' = (p.1, addT t w k p.2) ∧ Post C s p

/-- a run of the call group returns the caller's chain, so replacing the whole chain by the one
    with the extra binding is adding the binding -/
theorem thruC_addT {α} {C : List (Nat × String) → α → Prop} {t : String} {w : Value} {k : Nat} {s : ES}
    {p p' : R α} (h : SimC 0 (addAt t w k s.env) C s p p') : ThruC (addT t w k) C s p p' := by
  obtain ⟨e, P⟩ := h
  refine ⟨?_, P⟩
  rw [e]
  simp [retail, retailE, addT, P.env]

theorem callFn_addT (ops : NumOps) {t : String} (w : Value) (ht : t ≠ "inputs") (fuel : Nat) (fv this : Value)
    (args : List Value) (depth k : Nat) (s : ES) (hE : ClosedE s.names s.env) (hf : ClosedV s.names fv)
    (hth : ClosedV s.names this) (ha : ClosedL s.names args) :
    ThruC (addT t w k) ClosedV s (callFn ops fuel fv this args depth s)
      (callFn ops fuel fv this args depth (addT t w k s)) :=
  thruC_addT ((coin ops (addAt t w k s.env) fuel).callFn fv this args depth 0 s (sok_addT w ht k s hE) hf hth ha)

theorem evalBin_addT (ops : NumOps) {t : String} (w : Value) (ht : t ≠ "inputs") (fuel depth : Nat) (op : BinOp)
    (a b : Value) (k : Nat) (s : ES) (hE : ClosedE s.names s.env) (ha : ClosedV s.names a)
    (hb : ClosedV s.names b) :
    ThruC (addT t w k) ClosedV s (evalBin ops fuel depth op a b s) (evalBin ops fuel depth op a b (addT t w k s)) :=
  thruC_addT ((coin ops (addAt t w k s.env) fuel).evalBin depth op a b 0 s (sok_addT w ht k s hE) ha hb)

mutual
theorem touches_of_mentions (t : String) : ∀ (e : Expr), mentions t e = false → touches t e = false
  | .num _, _ | .str _, _ | .bool _, _ | .null, _ | .builtin _, _ => by simp [touches]
  | .ident n, h => by simpa [mentions, touches] using h
  | .inref _, h => by simpa [mentions, touches] using h
  | .lambda args body, h => by
    simp only [mentions, Bool.or_eq_false_iff] at h
    simp only [touches]
    cases hc : (freeVars (args.map LArg.name) body).contains t with
    | false => rfl
    | true =>
      have := freeVars_mentions body _ t (by simpa using hc)
      rw [h.2] at this; cases this
  | .assign n v, h => by
    simp only [mentions, Bool.or_eq_false_iff] at h
    simp [touches, h.1, touches_of_mentions t v h.2]
  | .bin _ l r, h => by
    simp only [mentions, Bool.or_eq_false_iff] at h
    simp [touches, touches_of_mentions t l h.1, touches_of_mentions t r h.2]
  | .un _ e, h => by simp only [mentions] at h; simp [touches, touches_of_mentions t e h]
  | .fact e, h => by simp only [mentions] at h; simp [touches, touches_of_mentions t e h]
  | .spread e, h => by simp only [mentions] at h; simp [touches, touches_of_mentions t e h]
  | .output e, h => by simp only [mentions] at h; simp [touches, touches_of_mentions t e h]
  | .dot e _, h => by simp only [mentions] at h; simp [touches, touches_of_mentions t e h]
  | .call f args, h => by
    simp only [mentions, Bool.or_eq_false_iff] at h
    simp [touches, touches_of_mentions t f h.1, touchesList_of_mentions t args h.2]
  | .access e i, h => by
    simp only [mentions, Bool.or_eq_false_iff] at h
    simp [touches, touches_of_mentions t e h.1, touches_of_mentions t i h.2]
  | .cond c a b, h => by
    simp only [mentions, Bool.or_eq_false_iff] at h
    simp [touches, touches_of_mentions t c h.1.1, touches_of_mentions t a h.1.2, touches_of_mentions t b h.2]
  | .list items, h => by simp only [mentions] at h; simp [touches, touchesItems_of_mentions t items h]
  | .record es, h => by simp only [mentions] at h; simp [touches, touchesEntries_of_mentions t es h]
  | .doBlock stmts (.mk _ re _), h => by
    simp only [mentions, mentionsItem, Bool.or_eq_false_iff] at h
    simp [touches, touchesItem, touchesItems_of_mentions t stmts h.1, touches_of_mentions t re h.2]
theorem touchesList_of_mentions (t : String) : ∀ (es : List Expr), mentionsList t es = false →
    touchesList t es = false
  | [], _ => rfl
  | e :: es, h => by
    simp only [mentionsList, Bool.or_eq_false_iff] at h
    simp [touchesList, touches_of_mentions t e h.1, touchesList_of_mentions t es h.2]
theorem touchesItems_of_mentions (t : String) : ∀ (is : List Item), mentionsItems t is = false →
    touchesItems t is = false
  | [], _ => rfl
  | .mk _ e _ :: is, h => by
    simp only [mentionsItems, mentionsItem, Bool.or_eq_false_iff] at h
    simp [touchesItems, touchesItem, touches_of_mentions t e h.1, touchesItems_of_mentions t is h.2]
theorem touchesEntries_of_mentions (t : String) : ∀ (es : List Entry), mentionsEntries t es = false →
    touchesEntries t es = false
  | [], _ => rfl
  | .mk _ k v _ :: es, h => by
    simp only [mentionsEntries, mentionsEntry, Bool.or_eq_false_iff] at h
    have hk : touchesKey t k = false := by
      cases k with
      | static _ => rfl
      | short n => simpa [mentionsKey, touchesKey] using h.1.1
      | dyn ke => exact touches_of_mentions t ke (by simpa [mentionsKey] using h.1.1)
      | spread se => exact touches_of_mentions t se (by simpa [mentionsKey] using h.1.1)
    simp [touchesEntries, touchesEntry, hk, touches_of_mentions t v h.1.2, touchesEntries_of_mentions t es h.2]
end

/-- "the state is OK" for weakening: the frame that gets the extra binding exists, every value
    bound in the environment is closed -/
structure WOK (k : Nat) (s : ES) : Prop where
  len : k < s.env.length
  cl : ClosedE s.names s.env

theorem WOK.ne {k : Nat} {s : ES} (h : WOK k s) : s.env ≠ [] := by
  intro e; have := h.len; rw [e] at this; simp at this

theorem WOK.next {α} {C : List (Nat × String) → α → Prop} {k : Nat} {s : ES} {p : R α}
    (h : WOK k s) (hp : Post C s p) : WOK k p.2 :=
  ⟨by rw [hp.keys.below.length h.ne]; exact h.len, hp.cl⟩

structure Weak (ops : NumOps) (t : String) (w : Value) (fuel : Nat) : Prop where
  eval : ∀ depth e n k s, 0 < n → WOK k s → noOutput e = true → touches t e = false →
    FOK n s.env (FreeIn · e) →
    WSim t w k ClosedV s (eval ops fuel depth e s) (eval ops fuel depth e (addT t w k s))
  evalList : ∀ depth es n k s, 0 < n → WOK k s → noOutputList es = true → touchesList t es = false →
    FOK n s.env (FreeInList · es) →
    WSim t w k ClosedL s (evalList ops fuel depth es s) (evalList ops fuel depth es (addT t w k s))
  evalItems : ∀ depth is n k s, 0 < n → WOK k s → noOutputItems is = true → touchesItems t is = false →
    FOK n s.env (FreeInItems · is) →
    WSim t w k ClosedL s (evalItems ops fuel depth is s) (evalItems ops fuel depth is (addT t w k s))
  evalEntries : ∀ depth es acc n k s, 0 < n → WOK k s → noOutputEntries es = true →
    touchesEntries t es = false → FOK n s.env (FreeInEntries · es) → ClosedR s.names acc →
    WSim t w k ClosedR s (evalEntries ops fuel depth es acc s) (evalEntries ops fuel depth es acc (addT t w k s))
  evalDoStmt : ∀ depth e n k s, 0 < n → WOK k s → noOutput e = true → touches t e = false →
    FOK n s.env (FreeIn · e) →
    WSim t w k ClosedV s (evalDoStmt ops fuel depth e s) (evalDoStmt ops fuel depth e (addT t w k s))
  evalDo : ∀ depth stmts ret n k s, 0 < n → WOK k s → noOutputItems stmts = true → noOutputItem ret = true →
    touchesItems t stmts = false → touchesItem t ret = false → FOK n s.env (FreeInDo · stmts ret) →
    WSim t w k ClosedV s (evalDo ops fuel depth stmts ret s) (evalDo ops fuel depth stmts ret (addT t w k s))

section
variable {ops : NumOps} {t : String} {w : Value}

theorem captureScope_addAt {vars : List String} (h : vars.contains t = false) (k : Nat) (E : List Frame) :
    captureScope (addAt t w k E) vars = captureScope E vars :=
  captureScope_agree fun y hy => envGet_addAt t w (fun e => by subst e; simp [hy] at h) k E

def WeakInv (k n : Nat) (s : ES) : Prop := 0 < n ∧ WOK k s

theorem weak_blind (t : String) (w : Value) (ht : t ≠ "inputs") (depth : Nat) :
    Blind depth (· = t) (addAt t w) WeakInv where
  inp := Ne.symm ht
  pos h := h.1
  cl h := h.2.cl
  ne h := h.2.ne
  next h P := ⟨h.1, h.2.next P⟩
  get _ hx _ := envGet_addAt t w hx _ _
  defd _ _ hx := alreadyDefined_addAt t w hx depth _ _
  insert _ v h hx := envInsert_addAt t w v hx _ _ h.2.len
  push h := ⟨Nat.succ_pos _, Nat.succ_lt_succ h.2.len, closedE_cons.mpr ⟨closedR_nil, h.2.cl⟩⟩
  push_env _ _ := rfl
  drop k _ _ := addAt_drop t w k _

/-- the expression level by induction on the fuel; its calls are those of `Coin` -/
theorem weak_sim (ops : NumOps) {t : String} (w : Value) (ht : t ≠ "inputs") (depth : Nat) :
    ∀ fuel, ExprSim ops depth (· = t) (addAt t w) WeakInv fuel
  | 0 => exprSim_zero (weak_blind t w ht depth)
  | fuel + 1 => exprSim_succ (weak_blind t w ht depth) (weak_sim ops w ht depth fuel)
      (fun fv args k _ s h hf ha => callFn_addT ops w ht fuel fv fv args depth k s h.2.cl hf hf ha)
      (fun op a b k _ s h ha hb => evalBin_addT ops w ht fuel depth op a b k s h.2.cl ha hb)

theorem weak (ops : NumOps) {t : String} (w : Value) (ht : t ≠ "inputs") (fuel : Nat) : Weak ops t w fuel where
  eval depth e n k s hn hS hw hm hF :=
    (weak_sim ops w ht depth fuel).eval e k n s ⟨hn, hS⟩ hw (fun _ h => h ▸ hm) hF
  evalList depth es n k s hn hS hw hm hF :=
    (weak_sim ops w ht depth fuel).evalList es k n s ⟨hn, hS⟩ hw (fun _ h => h ▸ hm) hF
  evalItems depth is n k s hn hS hw hm hF :=
    (weak_sim ops w ht depth fuel).evalItems is k n s ⟨hn, hS⟩ hw (fun _ h => h ▸ hm) hF
  evalEntries depth es acc n k s hn hS hw hm hF hacc :=
    (weak_sim ops w ht depth fuel).evalEntries es acc k n s ⟨hn, hS⟩ hw (fun _ h => h ▸ hm) hF hacc
  evalDoStmt depth e n k s hn hS hw hm hF :=
    (weak_sim ops w ht depth fuel).evalDoStmt e k n s ⟨hn, hS⟩ hw (fun _ h => h ▸ hm) hF
  evalDo depth stmts ret n k s hn hS hw1 hw2 hm1 hm2 hF :=
    (weak_sim ops w ht depth fuel).evalDo stmts ret k n s ⟨hn, hS⟩ hw1 hw2 (fun _ h => h ▸ hm1)
      (fun _ h => h ▸ hm2) hF

end

theorem fok_of_bound {E : List Frame} {P : String → Prop}
    (h : ∀ x, P x → x = "inputs" ∨ (envGet E x).isSome) : FOK E.length E P := by
  intro x hx
  refine (h x hx).imp_right ?_
  intro hb
  unfold InTop
  rw [List.take_length]
  exact hb

theorem addT_zero_top {ops : NumOps} {fuel depth : Nat} {e : Expr} {s : ES} {f : Frame} {r : List Frame}
    {t : String} {w : Value} (hs : s.env = f :: r)
    (h : eval ops fuel depth e (addT t w 0 s) =
      ((eval ops fuel depth e s).1, addT t w 0 (eval ops fuel depth e s).2)) :
    ∃ f', (eval ops fuel depth e s).2.env = f' :: r ∧
      eval ops fuel depth e { s with env := ((t, w) :: f) :: r } =
        ((eval ops fuel depth e s).1,
         { (eval ops fuel depth e s).2 with env := ((t, w) :: f') :: r }) := by
  have h0 : addT t w 0 s = { s with env := ((t, w) :: f) :: r } := by simp [addT, hs, addAt]
  rw [h0] at h
  rcases (eval_topExt ops fuel depth e s).below with he | ⟨f', he⟩
  · refine ⟨f, by rw [he, hs], ?_⟩
    rw [h]; simp [addT, he, hs, addAt]
  · refine ⟨f', by rw [he, hs]; rfl, ?_⟩
    rw [h]; simp [addT, he, hs, addAt]

theorem weak_lambda (ops : NumOps) {t : String} (w : Value) (fuel depth : Nat) (args : List LArg) (body : Expr)
    (k : Nat) (s : ES) (hm : touches t (.lambda args body) = false) :
    eval ops fuel depth (.lambda args body) (addT t w k s) =
      ((eval ops fuel depth (.lambda args body) s).1, addT t w k (eval ops fuel depth (.lambda args body) s).2) := by
  cases fuel with
  | zero => rw [eval_zero, eval_zero]
  | succ fuel =>
    simp only [touches] at hm
    rw [eval_lambda, eval_lambda, show captureScope (addT t w k s).env (freeVars (args.map LArg.name) body) =
      captureScope s.env (freeVars (args.map LArg.name) body) from captureScope_addAt hm k s.env]
    split <;> rfl

theorem weak_definition (ops : NumOps) {t : String} (w : Value) (fuel depth : Nat) (nm : String)
    (args : List LArg) (body : Expr) (k : Nat) (s : ES) (hk : k < s.env.length)
    (hm : touches t (.assign nm (.lambda args body)) = false) :
    eval ops fuel depth (.assign nm (.lambda args body)) (addT t w k s) =
      ((eval ops fuel depth (.assign nm (.lambda args body)) s).1,
       addT t w k (eval ops fuel depth (.assign nm (.lambda args body)) s).2) := by
  cases fuel with
  | zero => rw [eval_zero, eval_zero]
  | succ fuel =>
    rw [touches, Bool.or_eq_false_iff, beq_eq_false_iff_ne] at hm
    have hdef : ∀ s1 : ES, alreadyDefined depth (addT t w k s1).env nm = alreadyDefined depth s1.env nm :=
      fun s1 => alreadyDefined_addAt t w hm.1 depth k s1.env
    rw [eval_assign, eval_assign, hdef]
    show Tracks (addT t w k) _ _
    refine .ite .pure <| .ite .pure <| .ite .pure <|
      .bind (weak_lambda ops w fuel depth args body k s hm.2) fun val s1 h1 => ?_
    rw [hdef]
    exact .ite .pure (.mk (assignIn_addT t w hm.1 _ val (eval_len_lt h1 hk)) rfl)

mutual
/-- no assignment that could write the current frame: `.assign` only inside function bodies
    (run in the call's own frames) or do-blocks (whose frame is dropped afterwards) -/
def assignFree : Expr → Bool
  | .assign _ _ => false
  | .lambda _ _ => true
  | .doBlock _ _ => true
  | .bin _ l r => assignFree l && assignFree r
  | .un _ e => assignFree e
  | .fact e => assignFree e
  | .spread e => assignFree e
  | .output e => assignFree e
  | .call f args => assignFree f && assignFreeList args
  | .access e i => assignFree e && assignFree i
  | .dot e _ => assignFree e
  | .cond c a b => assignFree c && assignFree a && assignFree b
  | .list items => assignFreeItems items
  | .record es => assignFreeEntries es
  | _ => true
def assignFreeList : List Expr → Bool
  | [] => true
  | e :: es => assignFree e && assignFreeList es
def assignFreeItem : Item → Bool
  | .mk _ e _ => assignFree e
def assignFreeItems : List Item → Bool
  | [] => true
  | i :: is => assignFreeItem i && assignFreeItems is
def assignFreeEntry : Entry → Bool
  | .mk _ k v _ => assignFreeKey k && assignFree v
def assignFreeEntries : List Entry → Bool
  | [] => true
  | e :: es => assignFreeEntry e && assignFreeEntries es
def assignFreeKey : Key → Bool
  | .dyn e => assignFree e
  | .spread e => assignFree e
  | _ => true
end

/-- without such an assignment the environment is returned exactly as it was, whatever the
    outcome (the rule for `R.bind` is that of `keeps_env`) -/
theorem env_same_group (ops : NumOps) : ∀ fuel : Nat,
    (∀ depth e s, assignFree e = true → (eval ops fuel depth e s).2.env = s.env) ∧
    (∀ depth es s, assignFreeList es = true → (evalList ops fuel depth es s).2.env = s.env) ∧
    (∀ depth is s, assignFreeItems is = true → (evalItems ops fuel depth is s).2.env = s.env) ∧
    (∀ depth es acc s, assignFreeEntries es = true → (evalEntries ops fuel depth es acc s).2.env = s.env) := by
  intro fuel
  induction fuel with
  | zero => exact ⟨by intros; rw [eval_zero], by intros; rw [evalList_zero], by intros; rw [evalItems_zero],
      by intros; rw [evalEntries_zero]⟩
  | succ fuel ih =>
    obtain ⟨ihE, ihL, ihI, ihR⟩ := ih
    refine ⟨?_, ?_, ?_, ?_⟩
    · intro depth e s ha
      cases e with
      | num x => rw [eval_num]
      | str x => rw [eval_str]
      | bool x => rw [eval_bool]
      | null => rw [eval_null]
      | builtin x => rw [eval_builtin]
      | ident x => rw [eval_ident]
      | inref x => rw [eval_inref]
      | assign n v => simp [assignFree] at ha
      | lambda args body => rw [eval_lambda]; split <;> rfl
      | output e => simp only [assignFree] at ha; rw [eval_output]; exact ihE depth e s ha
      | doBlock stmts ret =>
        rw [eval_doBlock]
        exact (evalDo_keys ops fuel depth stmts ret { s with env := [] :: s.env }).below.drop_push
      | list items =>
        simp only [assignFree] at ha
        rw [eval_list]; exact keeps_env.bindFrom (ihI depth items s ha) fun _ _ h => h
      | record es =>
        simp only [assignFree] at ha
        rw [eval_record]; exact keeps_env.bindFrom (ihR depth es [] s ha) fun _ _ h => h
      | cond c a b =>
        simp only [assignFree, Bool.and_eq_true] at ha
        rw [eval_cond]
        refine keeps_env.bindFrom (ihE depth c s ha.1.1) fun v s1 h1 => ?_
        split
        · exact (ihE depth a s1 ha.1.2).trans h1
        · exact (ihE depth b s1 ha.2).trans h1
        · exact h1
      | call f args =>
        simp only [assignFree, Bool.and_eq_true] at ha
        rw [eval_call]
        refine keeps_env.bindFrom (ihE depth f s ha.1) fun fv s1 h1 =>
          keeps_env.bindFrom ((ihL depth args s1 ha.2).trans h1) fun raw s2 h2 => ?_
        split
        · exact h2
        · exact (callFn_env ..).trans h2
      | access e i =>
        simp only [assignFree, Bool.and_eq_true] at ha
        rw [eval_access]
        exact keeps_env.bindFrom (ihE depth e s ha.1) fun _ s1 h1 => keeps_env.bindFrom ((ihE depth i s1 ha.2).trans h1) fun _ _ h => h
      | dot e f => simp only [assignFree] at ha; rw [eval_dot]; exact keeps_env.bindFrom (ihE depth e s ha) fun _ _ h => h
      | bin op l r =>
        simp only [assignFree, Bool.and_eq_true] at ha
        rw [eval_bin]
        exact keeps_env.bindFrom (ihE depth l s ha.1) fun _ s1 h1 =>
          keeps_env.bindFrom ((ihE depth r s1 ha.2).trans h1) fun _ _ h2 => (evalBin_env ..).trans h2
      | un op e => simp only [assignFree] at ha; rw [eval_un]; exact keeps_env.bindFrom (ihE depth e s ha) fun _ _ h => h
      | fact e => simp only [assignFree] at ha; rw [eval_fact]; exact keeps_env.bindFrom (ihE depth e s ha) fun _ _ h => h
      | spread e => simp only [assignFree] at ha; rw [eval_spread]; exact keeps_env.bindFrom (ihE depth e s ha) fun _ _ h => h
    · intro depth es s ha
      cases es with
      | nil => rw [evalList_nil]
      | cons e es =>
        simp only [assignFreeList, Bool.and_eq_true] at ha
        rw [evalList_cons]
        exact keeps_env.bindFrom (ihE depth e s ha.1) fun _ s1 h1 => keeps_env.bindFrom ((ihL depth es s1 ha.2).trans h1) fun _ _ h => h
    · intro depth is s ha
      rcases is with _ | ⟨⟨_, e, _⟩, is⟩
      · rw [evalItems_nil]
      · simp only [assignFreeItems, assignFreeItem, Bool.and_eq_true] at ha
        rw [evalItems_cons]
        exact keeps_env.bindFrom (ihE depth e s ha.1) fun _ s1 h1 => keeps_env.bindFrom ((ihI depth is s1 ha.2).trans h1) fun _ _ h => h
    · intro depth es acc s ha
      rcases es with _ | ⟨⟨_, key, value, _⟩, es⟩
      · rw [evalEntries_nil]
      simp only [assignFreeEntries, assignFreeEntry, Bool.and_eq_true] at ha
      cases key with
      | static k =>
        rw [evalEntries_static]
        exact keeps_env.bindFrom (ihE depth value s ha.1.2) fun _ s1 h1 => (ihR depth es _ s1 ha.2).trans h1
      | dyn ke =>
        simp only [assignFreeKey] at ha
        rw [evalEntries_dyn]
        refine keeps_env.bindFrom (ihE depth ke s ha.1.1) fun kv s1 h1 => ?_
        split
        · exact keeps_env.bindFrom ((ihE depth value s1 ha.1.2).trans h1) fun _ s2 h2 => (ihR depth es _ s2 ha.2).trans h2
        · exact h1
      | short x =>
        rw [evalEntries_short]
        split
        · exact ihR depth es _ s ha.2
        · rfl
      | spread se =>
        simp only [assignFreeKey] at ha
        rw [evalEntries_spread]
        refine keeps_env.bindFrom (ihE depth se s ha.1.1) fun x s1 h1 => ?_
        split <;> exact (ihR depth es _ s1 ha.2).trans h1

theorem eval_env_same (ops : NumOps) (fuel depth : Nat) (e : Expr) (s : ES) (ha : assignFree e = true) :
    (eval ops fuel depth e s).2.env = s.env := (env_same_group ops fuel).1 depth e s ha

/-- in a well-formed state (`StateOk`: every function cell in use and every named cell is below
    the counter) an evaluation that allocates no cell gives no name -/
theorem names_same_of_no_cell {s s' : ES} (hn : NamesExt s s') (hs' : StateOk s') (hid : s'.nextId = s.nextId) :
    s'.names = s.names := by
  obtain ⟨_, new, e, f⟩ := hn
  have : new = [] := by
    rw [List.eq_nil_iff_forall_not_mem]
    intro p hp
    have h1 := (f p hp).1
    have h2 := hs'.names p (by rw [e]; exact List.mem_append_left _ hp)
    omega
  rw [e, this]; rfl

theorem eval_state_same (ops : NumOps) (fuel depth : Nat) (e : Expr) (s : ES) (hs : StateOk s)
    (ha : assignFree e = true) (hid : (eval ops fuel depth e s).2.nextId = s.nextId) :
    (eval ops fuel depth e s).2 = s := by
  have h1 := eval_env_same ops fuel depth e s ha
  have h3 := names_same_of_no_cell (eval_names ops fuel depth e s) (eval_fresh ops fuel depth e s hs).1 hid
  generalize (eval ops fuel depth e s).2 = s1 at h1 h3 hid
  cases s1; cases s
  simp only at h1 h3 hid
  subst h1 h3 hid
  rfl

section letabs
variable {ops : NumOps} {t : String} {v : Value}

/-- `e2`, evaluated with the extra binding `t ↦ v` in the innermost frame, runs as `e1` evaluated
    without it: same outcome, same final state up to the extra binding; and the result of `e1`
    keeps the closedness invariant -/
abbrev LSim (ops : NumOps) (t : String) (v : Value) (fuel depth : Nat) (s : ES) (e1 e2 : Expr) : Prop :=
  WSim t v 0 ClosedV s (eval ops fuel depth e1 s) (eval ops fuel depth e2 (addT t v 0 s))


/-- the hole: `e'` evaluates to `v` and leaves the state as it was; the name `t`, bound to `v`,
    evaluates to `v` -/
theorem lsim_hole (ht : t ≠ "inputs") (hsp : t ∉ Gen.specialIdents) {fuel depth n : Nat} {s : ES} {e' : Expr}
    (hn : 0 < n) (hS : WOK 0 s) (hw : noOutput e' = true) (hm : touches t e' = false)
    (hF : FOK n s.env (FreeIn · e')) (h0 : eval ops fuel depth e' s = (.ok v, s)) :
    LSim ops t v fuel depth s e' (.ident t) := by
  refine ⟨?_, ((weak ops v ht fuel).eval depth e' n 0 s hn hS hw hm hF).2⟩
  rw [h0]
  cases fuel with
  | zero => rw [eval_zero] at h0; cases h0
  | succ fuel =>
    simp only [Gen.specialIdents, List.mem_cons, List.not_mem_nil, or_false, not_or] at hsp
    have hg : envGet (addT t v 0 s).env t = some v := by
      cases hs : s.env with
      | nil => exact absurd hs hS.ne
      | cons f r => simp [addT, hs, addAt, envGet, lookupAL]
    rw [eval_ident, identOp]
    simp [hsp.1, hsp.2.1, hsp.2.2, hg]

section congr
variable (ht : t ≠ "inputs") {f depth n : Nat} {s : ES} {p1 p2 : Expr} (hn : 0 < n) (hS : WOK 0 s)
  (ih : LSim ops t v f depth s p1 p2)
include ht hn hS ih

/-- the first argument of a call whose function expression leaves the state as it is (a
    built-in, an identifier, a literal): `fn(□, rest…)` -/
theorem lsim_callArg {fn : Expr} {rest : List Expr} (hwf : noOutput fn = true) (hmf : touches t fn = false)
    (hFf : FOK n s.env (FreeIn · fn)) (hfn : (eval ops (f + 1) depth fn s).2 = s)
    (hw : noOutputList rest = true) (hm : touchesList t rest = false)
    (hF : FOK n s.env (FreeInList · rest)) :
    LSim ops t v (f + 2) depth s (.call fn (p1 :: rest)) (.call fn (p2 :: rest)) := by
  show WSim _ _ _ _ _ _ _
  rw [eval_call, eval_call]
  refine Thru.bind_eq ((weak ops v ht (f + 1)).eval depth fn n 0 s hn hS hwf hmf hFf) fun fv s0 h0 P0 => ?_
  have e0 : s0 = s := by rw [h0] at hfn; exact hfn
  subst e0
  rw [evalList_cons, evalList_cons]
  refine Thru.bind (Thru.bind ih fun a s1 P1 =>
    Thru.bind ((weak ops v ht f).evalList depth rest n 0 s1 hn (hS.next P1) hw hm (hF.step hn hS.ne P1.keys))
      fun vs s2 P2 => Thru.ok P2.cl (closedL_cons.mpr ⟨(P1.val a rfl).mono P2.names, P2.val vs rfl⟩))
    fun raw s2 P2 => Thru.ite (Thru.err P2.cl) ?_
  have hfv := (P0.val fv rfl).mono P2.names
  exact ThruC.thru (callFn_addT ops v ht (f + 1) fv fv (flattenSpreads raw) depth 0 s2 P2.cl hfv hfv
    (closedL_flattenSpreads (P2.val raw rfl)))

/-- the first item of a list literal: `[□, rest…]` -/
theorem lsim_listHead {l : List String} {tr : Option String} {rest : List Item}
    (hw : noOutputItems rest = true) (hm : touchesItems t rest = false)
    (hF : FOK n s.env (FreeInItems · rest)) :
    LSim ops t v (f + 2) depth s (.list (.mk l p1 tr :: rest)) (.list (.mk l p2 tr :: rest)) := by
  show WSim _ _ _ _ _ _ _
  rw [eval_list, eval_list, evalItems_cons, evalItems_cons]
  exact Thru.bind (Thru.bind ih fun a s1 P1 =>
    Thru.bind ((weak ops v ht f).evalItems depth rest n 0 s1 hn (hS.next P1) hw hm (hF.step hn hS.ne P1.keys))
      fun vs s2 P2 => Thru.ok P2.cl (closedL_cons.mpr ⟨(P1.val a rfl).mono P2.names, P2.val vs rfl⟩))
    fun vs s1 P1 => Thru.ok P1.cl ((closedV_list _).mpr (closedL_flattenSpreads (P1.val vs rfl)))

end congr

theorem lsim_eq {fuel depth : Nat} {s : ES} {e1 e2 : Expr} (h : LSim ops t v fuel depth s e1 e2) :
    eval ops fuel depth e2 (addT t v 0 s) =
      ((eval ops fuel depth e1 s).1, addT t v 0 (eval ops fuel depth e1 s).2) := h.1

end letabs

/-- contexts whose hole is evaluated first, exactly once: `□`, `op □`, `□!`, `□.f`, `□ op r`,
    `□[i]`, `if □ then a else b`, `x = □`, `□(args…)`,
    `fn(□, rest…)` with `fn` a built-in / identifier / literal, `[□, rest…]` — nested -/
inductive LCtx where
  | hole
  | un (op : UnOp) (c : LCtx)
  | fact (c : LCtx)
  | dot (c : LCtx) (field : String)
  | binL (op : BinOp) (c : LCtx) (r : Expr)
  | access (c : LCtx) (i : Expr)
  | cond (c : LCtx) (a b : Expr)
  | assign (nm : String) (c : LCtx)
  | callF (c : LCtx) (args : List Expr)
  | callArg (fn : Expr) (c : LCtx) (rest : List Expr)
  | listHead (l : List String) (c : LCtx) (tr : Option String) (rest : List Item)

def LCtx.plug : LCtx → Expr → Expr
  | .hole, e => e
  | .un op c, e => .un op (c.plug e)
  | .fact c, e => .fact (c.plug e)
  | .dot c field, e => .dot (c.plug e) field
  | .binL op c r, e => .bin op (c.plug e) r
  | .access c i, e => .access (c.plug e) i
  | .cond c a b, e => .cond (c.plug e) a b
  | .assign nm c, e => .assign nm (c.plug e)
  | .callF c args, e => .call (c.plug e) args
  | .callArg fn c rest, e => .call fn (c.plug e :: rest)
  | .listHead l c tr rest, e => .list (.mk l (c.plug e) tr :: rest)

/-- how many evaluator steps lie above the hole: the fuel they use (not a call depth) -/
def LCtx.depth : LCtx → Nat
  | .hole => 0
  | .un _ c => c.depth + 1
  | .fact c => c.depth + 1
  | .dot c _ => c.depth + 1
  | .binL _ c _ => c.depth + 1
  | .access c _ => c.depth + 1
  | .cond c _ _ => c.depth + 1
  | .assign _ c => c.depth + 1
  | .callF c _ => c.depth + 1
  | .callArg _ c _ => c.depth + 2
  | .listHead _ c _ _ => c.depth + 2

/-- expressions whose evaluation never changes the state: literals, built-ins, identifiers -/
def simpleHead : Expr → Bool
  | .num _ | .str _ | .bool _ | .null | .builtin _ | .ident _ | .inref _ => true
  | _ => false

/-- in `fn(□, …)` the function expression is evaluated before the hole: it has to be simple -/
def LCtx.simpleHeads : LCtx → Bool
  | .hole => true
  | .un _ c => c.simpleHeads
  | .fact c => c.simpleHeads
  | .dot c _ => c.simpleHeads
  | .binL _ c _ => c.simpleHeads
  | .access c _ => c.simpleHeads
  | .cond c _ _ => c.simpleHeads
  | .assign _ c => c.simpleHeads
  | .callF c _ => c.simpleHeads
  | .callArg fn c _ => simpleHead fn && c.simpleHeads
  | .listHead _ c _ _ => c.simpleHeads

theorem simpleHead_state (ops : NumOps) (fuel depth : Nat) (e : Expr) (s : ES) (h : simpleHead e = true) :
    (eval ops fuel depth e s).2 = s := by
  cases fuel with
  | zero => rw [eval_zero]
  | succ fuel =>
    cases e with
    | num _ => rw [eval_num]
    | str _ => rw [eval_str]
    | bool _ => rw [eval_bool]
    | null => rw [eval_null]
    | builtin _ => rw [eval_builtin]
    | ident _ => rw [eval_ident]
    | inref _ => rw [eval_inref]
    | _ => cases h

/-- let-abstraction of the subexpression that is evaluated first: `C[e']` evaluated in `s`, and
    `C[t]` evaluated in `s` with `t ↦ v` added to the innermost frame, where `v` is the value of
    `e'` in `s` and evaluating `e'` left the state as it was -/
theorem let_abstraction_ctx (ops : NumOps) {t : String} {v : Value} (ht : t ≠ "inputs")
    (hsp : t ∉ Gen.specialIdents) {fuel0 depth n : Nat} {s : ES} {e' : Expr} (hn : 0 < n) (hS : WOK 0 s)
    (h0 : eval ops fuel0 depth e' s = (.ok v, s)) :
    ∀ (c : LCtx), c.simpleHeads = true → noOutput (c.plug e') = true → touches t (c.plug e') = false →
      FOK n s.env (FreeIn · (c.plug e')) →
      LSim ops t v (fuel0 + c.depth) depth s (c.plug e') (c.plug (.ident t))
  | .hole, _, hw, hm, hF => lsim_hole ht hsp hn hS hw hm hF h0
  | .un op c, hc, hw, hm, hF => by
    simp only [LCtx.plug, noOutput, touches, LCtx.simpleHeads] at hw hm hc ⊢
    exact thru_un (let_abstraction_ctx ops ht hsp hn hS h0 c hc hw hm (hF.imp fun x hx => .un hx)) op
  | .fact c, hc, hw, hm, hF => by
    simp only [LCtx.plug, noOutput, touches, LCtx.simpleHeads] at hw hm hc ⊢
    exact thru_fact (let_abstraction_ctx ops ht hsp hn hS h0 c hc hw hm (hF.imp fun x hx => .fact hx))
  | .dot c field, hc, hw, hm, hF => by
    simp only [LCtx.plug, noOutput, touches, LCtx.simpleHeads] at hw hm hc ⊢
    exact thru_dot (let_abstraction_ctx ops ht hsp hn hS h0 c hc hw hm (hF.imp fun x hx => .dot hx)) field
  | .binL op c r, hc, hw, hm, hF => by
    simp only [LCtx.plug, noOutput, touches, LCtx.simpleHeads, Bool.and_eq_true, Bool.or_eq_false_iff]
      at hw hm hc ⊢
    exact thru_binL (weak_blind t v ht depth) (weak_sim ops v ht depth _) (fun op a b k _ s h ha hb => evalBin_addT ops v ht _ depth op a b k s h.2.cl ha hb) ⟨hn, hS⟩
      (let_abstraction_ctx ops ht hsp hn hS h0 c hc hw.1 hm.1 (hF.imp fun x hx => .binL hx)) op hw.2
      (fun _ h => h ▸ hm.2) (hF.imp fun x hx => .binR hx)
  | .access c i, hc, hw, hm, hF => by
    simp only [LCtx.plug, noOutput, touches, LCtx.simpleHeads, Bool.and_eq_true, Bool.or_eq_false_iff]
      at hw hm hc ⊢
    exact thru_access (weak_blind t v ht depth) (weak_sim ops v ht depth _) ⟨hn, hS⟩
      (let_abstraction_ctx ops ht hsp hn hS h0 c hc hw.1 hm.1 (hF.imp fun x hx => .accessE hx)) hw.2
      (fun _ h => h ▸ hm.2) (hF.imp fun x hx => .accessI hx)
  | .cond c a b, hc, hw, hm, hF => by
    simp only [LCtx.plug, noOutput, touches, LCtx.simpleHeads, Bool.and_eq_true, Bool.or_eq_false_iff]
      at hw hm hc ⊢
    exact thru_cond (weak_blind t v ht depth) (weak_sim ops v ht depth _) ⟨hn, hS⟩
      (let_abstraction_ctx ops ht hsp hn hS h0 c hc hw.1.1 hm.1.1 (hF.imp fun x hx => .condC hx))
      hw.1.2 hw.2 (fun _ h => h ▸ hm.1.2) (fun _ h => h ▸ hm.2) (hF.imp fun x hx => .condT hx)
      (hF.imp fun x hx => .condE hx)
  | .assign nm c, hc, hw, hm, hF => by
    simp only [LCtx.plug, noOutput, touches, LCtx.simpleHeads, Bool.or_eq_false_iff, beq_eq_false_iff_ne]
      at hw hm hc ⊢
    exact thru_assign (weak_blind t v ht depth) ⟨hn, hS⟩
      (let_abstraction_ctx ops ht hsp hn hS h0 c hc hw hm.2 (hF.imp fun x hx => .assign hx)) hm.1
  | .callF c args, hc, hw, hm, hF => by
    simp only [LCtx.plug, noOutput, touches, LCtx.simpleHeads, Bool.and_eq_true, Bool.or_eq_false_iff]
      at hw hm hc ⊢
    exact thru_callF (weak_blind t v ht depth) (weak_sim ops v ht depth _) (fun fv args k _ s h hf ha => callFn_addT ops v ht _ fv fv args depth k s h.2.cl hf hf ha) ⟨hn, hS⟩
      (let_abstraction_ctx ops ht hsp hn hS h0 c hc hw.1 hm.1 (hF.imp fun x hx => .callF hx)) hw.2
      (fun _ h => h ▸ hm.2) (hF.imp fun x hx => .callA hx)
  | .callArg fn c rest, hc, hw, hm, hF => by
    simp only [LCtx.plug, noOutput, noOutputList, touches, touchesList, LCtx.simpleHeads, Bool.and_eq_true,
      Bool.or_eq_false_iff] at hw hm hc ⊢
    exact lsim_callArg ht hn hS
      (let_abstraction_ctx ops ht hsp hn hS h0 c hc.2 hw.2.1 hm.2.1 (hF.imp fun x hx => .callA (.head hx)))
      hw.1 hm.1 (hF.imp fun x hx => .callF hx) (simpleHead_state ops _ depth fn s hc.1) hw.2.2 hm.2.2
      (hF.imp fun x hx => .callA (.tail hx))
  | .listHead l c tr rest, hc, hw, hm, hF => by
    simp only [LCtx.plug, noOutput, noOutputItems, noOutputItem, touches, touchesItems, touchesItem,
      LCtx.simpleHeads, Bool.and_eq_true, Bool.or_eq_false_iff] at hw hm hc ⊢
    exact lsim_listHead ht hn hS
      (let_abstraction_ctx ops ht hsp hn hS h0 c hc hw.1 hm.1 (hF.imp fun x hx => .list (.head hx)))
      hw.2 hm.2 (hF.imp fun x hx => .list (.tail hx))

namespace C02Ex

/-- `g = (t) => [t, y]` which captured `y ↦ 1` (C04's closed example function; its parameter is
    called `t`), and `a ↦ "arg"` -/
def exS : ES := { env := [[("g", C04Ex.exG), ("a", .str "arg")]], nextId := 3, names := [] }

/-- `[g(a), map([a], (x) => g(x))]`: calls a captured closure, and the higher-order built-in
    `map` with a lambda callback that calls the closure again -/
def exE : Expr :=
  .list [it (.call (.ident "g") [.ident "a"]),
         it (.call (.builtin "map") [.list [it (.ident "a")],
               .lambda [.req "x"] (.call (.ident "g") [.ident "x"])])]

end C02Ex

end Blots
