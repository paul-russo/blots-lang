import Blots.Lemmas.Emit
import Blots.Lemmas.ExprPegLemmas
/-
  C05 — the parse-back interface of `Props/C05.lean` discharged with the MODEL PARSER
  (`ExprPeg.parseText`, the character-level PEG model of `Model/ExprPeg.lean`).

  The emitter writes TEXT (`exprSrc sc body`): the print of the body with every captured name
  replaced by the literal text of its value.  That text is NOT in general the print of the
  substituted tree (`C05.emit_is_substitution_statement_false`): a captured negative number is
  written `(-4)` wherever it occurs, the printer would write `-4` where no parentheses are
  needed.  So the text is described here as a CONCRETE SYNTAX TREE (`emitCst sc body`, the type
  `ExprPeg.CST` of the C10 development: a tree with every parenthesis and blank written out),
  which is shown to
    * have the emitted text as its text                                     (`emitCst_text`),
    * be the printer's tree `canon` of the substituted body with extra pairs of parentheses
      (`emitCst_wraps`, an `ExprPeg.Wraps`), hence to have the substituted tree as its tree and
      to be well-formed                                                     (`emitCst_facts`),
  and `ExprPeg.cst_roundtrip` (every well-formed CST is parsed to its tree) does the rest.

  Class covered (`bodyOk`, `litOk`): inside both the C05 fragment `Emit.frag` and the PEG
  fragment `ExprPeg.Frag` (`bodyOkB_emitFrag`, `bodyOkB_pegFrag`), and smaller than their
  intersection: strings, records and do-blocks are in both and not in `bodyOk`.  See
  `Props/C05.lean`.
-/
namespace Blots
namespace EmitParse
open Emit PrintL
open ExprPeg (CST atomOk nameOk wrap mkList isSpread unSpread argT argS headOf)

mutual
/-- captured values whose literal text is in the PEG fragment: integers of magnitude below
    10^15 of either sign (`-0.0` included; a negative one is written `(-n)`), booleans, `null`,
    built-in functions, and lists of such values -/
def litOk : SV → Bool
  | .num x => !x.isNaN && atomOk (.num (if x.neg then x.negate else x))
  | .bool _ => true
  | .null => true
  | .builtin n => atomOk (.builtin n)
  | .list xs => litOkList xs
  | _ => false
def litOkList : List SV → Bool
  | [] => true
  | x :: xs => litOk x && litOkList xs
end

mutual
/-- the bodies covered.  From the C05 fragment `Emit.frag`: no call, no `via` / `into` /
    `where`, no lambda, no `output`, no assignment.  From the PEG fragment `ExprPeg.Frag`: no
    `#field`, no `~`; atoms = identifiers that are neither reserved nor built-in names, built-in
    names, `true` `false` `null`, integers `0 ≤ n < 10^15`; field names that are identifiers;
    list items without comments, possibly spread.  Left out although both fragments have them:
    strings, records, do-blocks.  The flag says whether a spread `...e` is admitted here (list
    items only). -/
def bodyOkB : Bool → Expr → Bool
  | _, .bin op l r => op != .via && op != .into && op != .where_ && bodyOkB false l && bodyOkB false r
  | _, .un op e => op != .invert && bodyOkB false e
  | _, .fact e => bodyOkB false e
  | _, .access e i => bodyOkB false e && bodyOkB false i
  | _, .dot e n => bodyOkB false e && CST.fieldOk n
  | sp, .spread e => sp && bodyOkB false e
  | _, .list items => bodyOkItems items
  | _, .cond c t e => bodyOkB false c && bodyOkB false t && bodyOkB false e
  | _, .ident n => atomOk (.ident n)
  | _, .builtin n => atomOk (.builtin n)
  | _, .bool b => atomOk (.bool b)
  | _, .null => atomOk .null
  | _, .num x => atomOk (.num x)
  | _, _ => false
def bodyOkItems : List Item → Bool
  | [] => true
  | (.mk lead e tr) :: rest => lead.isEmpty && tr.isNone && bodyOkB true e && bodyOkItems rest
end

def bodyOk (e : Expr) : Bool := bodyOkB false e

def scopeOk (sc : Scope) : Bool := sc.all fun kv => litOk kv.2

theorem scopeOk_lookup {sc : Scope} (h : scopeOk sc = true) {n : String} {v : SV}
    (hl : lookupAL n sc = some v) : litOk v = true := by
  have := List.all_eq_true.mp h (n, v) (lookupAL_mem hl)
  exact this

mutual
theorem bodyOkB_emitFrag : ∀ (sp : Bool) (e : Expr), bodyOkB sp e = true → Emit.frag e = true
  | _, .bin op l r, h => by
    simp only [bodyOkB, Bool.and_eq_true] at h
    simp only [Emit.frag, Bool.and_eq_true]
    exact ⟨⟨⟨⟨h.1.1.1.1, h.1.1.1.2⟩, h.1.1.2⟩, bodyOkB_emitFrag false l h.1.2⟩, bodyOkB_emitFrag false r h.2⟩
  | _, .un op e, h => by
    simp only [bodyOkB, Bool.and_eq_true] at h
    simp only [Emit.frag]; exact bodyOkB_emitFrag false e h.2
  | _, .fact e, h => by
    simp only [bodyOkB] at h
    simp only [Emit.frag]; exact bodyOkB_emitFrag false e h
  | _, .access e i, h => by
    simp only [bodyOkB, Bool.and_eq_true] at h
    simp only [Emit.frag, Bool.and_eq_true]
    exact ⟨bodyOkB_emitFrag false e h.1, bodyOkB_emitFrag false i h.2⟩
  | _, .dot e n, h => by
    simp only [bodyOkB, Bool.and_eq_true] at h
    simp only [Emit.frag]; exact bodyOkB_emitFrag false e h.1
  | sp, .spread e, h => by
    simp only [bodyOkB, Bool.and_eq_true] at h
    simp only [Emit.frag]; exact bodyOkB_emitFrag false e h.2
  | _, .list items, h => by
    simp only [bodyOkB] at h
    simp only [Emit.frag]; exact bodyOkItems_emitFrag items h
  | _, .cond c t e, h => by
    simp only [bodyOkB, Bool.and_eq_true] at h
    simp only [Emit.frag, Bool.and_eq_true]
    exact ⟨⟨bodyOkB_emitFrag false c h.1.1, bodyOkB_emitFrag false t h.1.2⟩, bodyOkB_emitFrag false e h.2⟩
  | _, .ident _, _ | _, .builtin _, _ | _, .bool _, _ | _, .null, _ | _, .num _, _ => rfl
  | _, .str _, h | _, .inref _, h | _, .record _, h | _, .lambda _ _, h | _, .call _ _, h
  | _, .doBlock _ _, h | _, .assign _ _, h | _, .output _, h => by
    simp [bodyOkB] at h
theorem bodyOkItems_emitFrag : ∀ (items : List Item), bodyOkItems items = true →
    Emit.fragItems items = true
  | [], _ => rfl
  | (.mk lead e tr) :: rest, h => by
    simp only [bodyOkItems, Bool.and_eq_true] at h
    simp only [Emit.fragItems, Bool.and_eq_true]
    exact ⟨bodyOkB_emitFrag true e h.1.2, bodyOkItems_emitFrag rest h.2⟩
end

mutual
theorem bodyOkB_pegFrag : ∀ (sp : Bool) (e : Expr), bodyOkB sp e = true → ExprPeg.fragB sp e = true
  | _, .bin op l r, h => by
    simp only [bodyOkB, Bool.and_eq_true] at h
    simp only [ExprPeg.fragB, Bool.and_eq_true]
    exact ⟨bodyOkB_pegFrag false l h.1.2, bodyOkB_pegFrag false r h.2⟩
  | _, .un op e, h => by
    simp only [bodyOkB, Bool.and_eq_true] at h
    simp only [ExprPeg.fragB, Bool.and_eq_true]
    exact ⟨h.1, bodyOkB_pegFrag false e h.2⟩
  | _, .fact e, h => by
    simp only [bodyOkB] at h
    simp only [ExprPeg.fragB]
    exact bodyOkB_pegFrag false e h
  | _, .access e i, h => by
    simp only [bodyOkB, Bool.and_eq_true] at h
    simp only [ExprPeg.fragB, Bool.and_eq_true]
    exact ⟨bodyOkB_pegFrag false e h.1, bodyOkB_pegFrag false i h.2⟩
  | _, .dot e n, h => by
    simp only [bodyOkB, Bool.and_eq_true] at h
    simp only [ExprPeg.fragB, Bool.and_eq_true]
    exact ⟨bodyOkB_pegFrag false e h.1, h.2⟩
  | sp, .spread e, h => by
    simp only [bodyOkB, Bool.and_eq_true] at h
    simp only [ExprPeg.fragB, Bool.and_eq_true]
    exact ⟨h.1, bodyOkB_pegFrag false e h.2⟩
  | _, .list items, h => by
    simp only [bodyOkB] at h
    simp only [ExprPeg.fragB]
    exact bodyOkItems_pegFrag items h
  | _, .cond c t e, h => by
    simp only [bodyOkB, Bool.and_eq_true] at h
    simp only [ExprPeg.fragB, Bool.and_eq_true]
    exact ⟨⟨bodyOkB_pegFrag false c h.1.1, bodyOkB_pegFrag false t h.1.2⟩, bodyOkB_pegFrag false e h.2⟩
  | _, .ident _, h | _, .builtin _, h | _, .bool _, h | _, .null, h | _, .num _, h => by
    simp only [bodyOkB] at h
    simpa [ExprPeg.fragB] using h
  | _, .str _, h | _, .inref _, h | _, .record _, h | _, .lambda _ _, h | _, .call _ _, h
  | _, .doBlock _ _, h | _, .assign _ _, h | _, .output _, h => by
    simp [bodyOkB] at h
theorem bodyOkItems_pegFrag : ∀ (items : List Item), bodyOkItems items = true →
    ExprPeg.fragItems items = true
  | [], _ => rfl
  | (.mk lead e tr) :: rest, h => by
    simp only [bodyOkItems, Bool.and_eq_true] at h
    simp only [ExprPeg.fragItems, Bool.and_eq_true]
    exact ⟨⟨h.1.1, bodyOkB_pegFrag true e h.1.2⟩, bodyOkItems_pegFrag rest h.2⟩
end

theorem fragB_of_frag {t : Expr} (h : ExprPeg.Frag t) (sp : Bool) : ExprPeg.fragB sp t = true := by
  cases t <;> first | exact h | simp [ExprPeg.Frag, ExprPeg.frag, ExprPeg.fragB] at h

mutual
theorem litOk_frag (pb : String → Option Expr) : ∀ (v : SV), litOk v = true →
    ExprPeg.Frag (svToExpr pb v)
  | .num x, h => by
    simp only [litOk, Bool.and_eq_true, Bool.not_eq_true'] at h
    cases hn : x.neg
    · simpa [svToExpr, numToExpr, h.1, hn, ExprPeg.Frag, ExprPeg.frag, ExprPeg.fragB] using h.2
    · simpa [svToExpr, numToExpr, h.1, hn, ExprPeg.Frag, ExprPeg.frag, ExprPeg.fragB] using h.2
  | .bool b, _ => rfl
  | .null, _ => rfl
  | .builtin n, h => by
    simp only [litOk] at h
    simpa [svToExpr, ExprPeg.Frag, ExprPeg.frag, ExprPeg.fragB] using h
  | .list xs, h => by
    simp only [litOk] at h
    simp only [svToExpr, ExprPeg.Frag, ExprPeg.frag, ExprPeg.fragB]
    exact litOkList_frag pb xs h
  | .str _, h | .record _, h | .lambda _ _, h => by simp [litOk] at h
theorem litOkList_frag (pb : String → Option Expr) : ∀ (xs : List SV), litOkList xs = true →
    ExprPeg.fragItems (svToItems pb xs) = true
  | [], _ => rfl
  | x :: xs, h => by
    simp only [litOkList, Bool.and_eq_true] at h
    simp only [svToItems, Item.plain, ExprPeg.fragItems, List.isEmpty_nil, Option.isNone_none,
      Bool.true_and, Bool.and_eq_true]
    exact ⟨fragB_of_frag (litOk_frag pb x h.1) true, litOkList_frag pb xs h.2⟩
end

mutual
/-- the literal text `svToSource v` as a concrete syntax tree: a negative number is
    `( - magnitude )`, a list is `[a, b, …]`, everything else one atom -/
def litCst : SV → CST
  | .num x => if x.neg then .paren [] (.un .negate (.atom (.num x.negate))) [] else .atom (.num x)
  | .bool b => .atom (.bool b)
  | .null => .atom .null
  | .builtin n => .atom (.builtin n)
  | .list xs => mkList (litCstList xs)
  | _ => .atom .null
def litCstList : List SV → List (Bool × CST)
  | [] => []
  | x :: xs => (false, litCst x) :: litCstList xs
end

theorem paren_minus (s : String) : ("(-" ++ s ++ ")").toList = '(' :: ('-' :: s.toList ++ [')']) := by
  simp only [String.toList_append]; rfl

mutual
theorem litCst_text : ∀ (v : SV), litOk v = true → (litCst v).text = (svToSource v).toList
  | .num x, h => by
    simp only [litOk, Bool.and_eq_true, Bool.not_eq_true'] at h
    cases hn : x.neg
    · simp [litCst, svToSource, h.1, hn, CST.text, ExprPeg.atomText, exprToSource, exprSrc]
    · simp only [litCst, svToSource, h.1, hn, if_true, Bool.false_eq_true, if_false, CST.text,
        ExprPeg.atomText, exprToSource, exprSrc, paren_minus, ExprPeg.layChars, unaryOpToSource]
      rfl
  | .bool b, _ => by cases b <;> rfl
  | .null, _ => rfl
  | .builtin n, _ => rfl
  | .list xs, h => by
    simp only [litOk] at h
    simp only [litCst, svToSource, ExprPeg.mkList_text, litCstList_text xs h, String.toList_append,
      String.toList_intercalate, ExprPeg.commaSp, List.append_assoc]
    rfl
  | .str _, h | .record _, h | .lambda _ _, h => by simp [litOk] at h
theorem litCstList_text : ∀ (xs : List SV), litOkList xs = true →
    (litCstList xs).map argS = (svListToSource xs).map String.toList
  | [], _ => rfl
  | x :: xs, h => by
    simp only [litOkList, Bool.and_eq_true] at h
    simp only [litCstList, List.map_cons, argS, ExprPeg.spreadChars, Bool.false_eq_true, if_false,
      List.nil_append, litCst_text x h.1, litCstList_text xs h.2, svListToSource]
end

/-! ### redundant parentheses, in steps

  `ExprPeg.Wraps c c'`: `c'` is `c` with extra pairs of parentheses; it keeps the tree and
  well-formedness (`ExprPeg.wraps_facts`).  The literal of a captured value and the emitted body
  are, in this sense, the printer's tree of the expression they denote (`litCst_wraps`,
  `emitCst_wraps`): the only difference is the pair of parentheses `svToSource` puts around every
  negative number. -/

open ExprPeg (Wrap Wraps canon wraps_trans wraps_map wraps_wrap)

/-- argument by argument: the same spread flag, extra parentheses in the operand -/
inductive WrapsArgs : List (Bool × CST) → List (Bool × CST) → Prop
  | nil : WrapsArgs [] []
  | cons {sp : Bool} {a a' : CST} {ps ps' : List (Bool × CST)} :
      Wraps a a' → WrapsArgs ps ps' → WrapsArgs ((sp, a) :: ps) ((sp, a') :: ps')

/-- `G` is the context of the argument list (the brackets of a list literal) -/
theorem wraps_mkArgs {G : ExprPeg.Args → CST}
    (hG : ∀ {as as'}, ExprPeg.WrapArgs as as' → Wrap (G as) (G as')) :
    ∀ {ps ps' : List (Bool × CST)}, WrapsArgs ps ps' → ∀ (sp : Bool) {a a' : CST},
      Wraps a a' → Wraps (G (ExprPeg.mkArgs (sp, a) ps)) (G (ExprPeg.mkArgs (sp, a') ps'))
  | _, _, .nil, sp, _, _, h => wraps_map (fun x => G (.last sp x)) (fun hw => hG (.last sp hw)) h
  | _, _, .cons (sp := sq) (a' := b') (ps := qs) hq hr, sp, _, a', h =>
    wraps_trans
      (wraps_map (fun x => G (.cons sp x [] [.sp] (ExprPeg.mkArgs (sq, _) qs)))
        (fun hw => hG (.consA sp _ _ _ hw)) h)
      (wraps_mkArgs (G := fun as => G (.cons sp a' [] [.sp] as)) (fun hw => hG (.consR sp _ _ _ hw))
        hr sq hq)

theorem wraps_mkList : ∀ {ps ps' : List (Bool × CST)}, WrapsArgs ps ps' →
    Wraps (mkList ps) (mkList ps')
  | _, _, .nil => .refl _
  | _, _, .cons (sp := sp) hp hr =>
    wraps_mkArgs (G := fun as => .list [] as (.plain [])) (fun hw => .listA _ _ hw) hr sp hp

theorem litOk_not_spread (pb : String → Option Expr) (v : SV) (h : litOk v = true) :
    isSpread (svToExpr pb v) = false := by
  cases v with
  | num x => simp only [svToExpr, numToExpr]; split <;> (try split) <;> rfl
  | str _ | record _ | lambda _ _ => cases h
  | bool _ | null | list _ | builtin _ => rfl

mutual
theorem litCst_wraps (pb : String → Option Expr) : ∀ (v : SV), litOk v = true →
    Wraps (canon (svToExpr pb v)) (litCst v)
  | .num x, h => by
    simp only [litOk, Bool.and_eq_true, Bool.not_eq_true'] at h
    cases hn : x.neg
    · simp only [svToExpr, numToExpr, litCst, h.1, hn, Bool.false_eq_true, if_false, canon]
      exact .refl _
    · simp only [svToExpr, numToExpr, litCst, h.1, hn, Bool.false_eq_true, if_false, if_true, canon,
        (atomHead_shape (.num x.negate) rfl).1 .prefix_, wrap]
      exact .step (.refl _) (.here [] _ [])
  | .bool _, _ | .null, _ | .builtin _, _ => .refl _
  | .list xs, h => by
    simp only [litOk] at h
    simp only [svToExpr, litCst, canon]
    exact wraps_mkList (litCstList_wraps pb xs h)
  | .str _, h | .record _, h | .lambda _ _, h => by cases h
theorem litCstList_wraps (pb : String → Option Expr) : ∀ (xs : List SV), litOkList xs = true →
    WrapsArgs (ExprPeg.canonItems (svToItems pb xs)) (litCstList xs)
  | [], _ => .nil
  | x :: xs, h => by
    simp only [litOkList, Bool.and_eq_true] at h
    simp only [svToItems, Item.plain, ExprPeg.canonItems, litCstList, litOk_not_spread pb x h.1]
    exact .cons (litCst_wraps pb x h.1) (litCstList_wraps pb xs h.2)
end

theorem litCst_facts (pb : String → Option Expr) (v : SV) (h : litOk v = true) :
    (litCst v).tree = svToExpr pb v ∧ (litCst v).WF := by
  have hf := litOk_frag pb v h
  obtain ⟨ht, hw⟩ := ExprPeg.wraps_facts (litCst_wraps pb v h) (ExprPeg.canon_wf _ hf)
  exact ⟨ht.trans (ExprPeg.canon_tree_frag _ hf), hw⟩

theorem litCstList_tree (pb : String → Option Expr) : ∀ (xs : List SV), litOkList xs = true →
    ExprPeg.mkItems ((litCstList xs).map argT) = svToItems pb xs
  | [], _ => rfl
  | x :: xs, h => by
    simp only [litOkList, Bool.and_eq_true] at h
    have ih := litCstList_tree pb xs h.2
    simp only [ExprPeg.mkItems] at ih ⊢
    simp only [litCstList, List.map_cons, argT, ExprPeg.argTree, Bool.false_eq_true, if_false,
      (litCst_facts pb x h.1).1, ih, svToItems, Item.plain]

/-- a literal that is not parenthesised has a literal head (number, boolean, `null`, list,
    built-in name): it needs no parentheses anywhere -/
theorem litCst_head (pb : String → Option Expr) (v : SV) (h : litOk v = true)
    (hp : (litCst v).isParen = false) : atomHead (svToExpr pb v) = true := by
  cases v with
  | num x =>
    simp only [litOk, Bool.and_eq_true, Bool.not_eq_true'] at h
    cases hn : x.neg
    · simp [svToExpr, numToExpr, h.1, hn, atomHead]
    · simp [litCst, hn, CST.isParen] at hp
  | str _ | record _ | lambda _ _ => simp [litOk] at h
  | bool _ | null | list _ | builtin _ => simp [svToExpr, atomHead]

theorem litOk_closed (pb : String → Option Expr) (v : SV) (h : litOk v = true) :
    endsOpen (svToExpr pb v) = false ∧ lambdaBodyNeedsParens (svToExpr pb v) = false ∧
      unSpread (svToExpr pb v) = svToExpr pb v := by
  cases v with
  | num x =>
    simp only [litOk, Bool.and_eq_true, Bool.not_eq_true'] at h
    cases hn : x.neg <;>
      simp [svToExpr, numToExpr, h.1, hn, endsOpen, lambdaBodyNeedsParens, unSpread]
  | str _ | record _ | lambda _ _ => simp [litOk] at h
  | bool _ | null | list _ | builtin _ => simp [svToExpr, endsOpen, lambdaBodyNeedsParens, unSpread]

mutual
/-- what `exprSrc sc` writes, as a CST: the printer's layout, the printer's parentheses (decided
    on the ORIGINAL body, where a captured name is an identifier and never parenthesised), and
    at every captured name the literal with the parentheses of its own -/
def emitCst (sc : Scope) : Expr → CST
  | .bin op l r =>
    .bin op (wrap (needsParens l (.binLeft op)) (emitCst sc l)) [.sp] [.sp]
      (wrap (needsParens r (.binRight op)) (emitCst sc r))
  | .un op e => .un op (wrap (needsParens e .prefix_) (emitCst sc e))
  | .fact e => .fact (wrap (needsParens e .postfix_) (emitCst sc e))
  | .access e i => .access (wrap (needsParens e .postfix_) (emitCst sc e)) [] (emitCst sc i) []
  | .dot e n => .dot (wrap (needsParens e .postfix_) (emitCst sc e)) n
  | .list items => mkList (emitCstItems sc items)
  | .cond c t e => .cond [.sp] (emitCst sc c) [.sp] [.sp] (emitCst sc t) [.sp] [.sp] (emitCst sc e)
  | .ident n =>
    (match lookupAL n sc with
     | some v => litCst v
     | none => .atom (.ident n))
  /- only reached from `emitCstItems`: the operand of a spread item -/
  | .spread e => emitCst sc e
  | e => .atom e
def emitCstItems (sc : Scope) : List Item → List (Bool × CST)
  | [] => []
  | (.mk _ e _) :: rest => (isSpread e, emitCst sc e) :: emitCstItems sc rest
end

section main
variable (pb : String → Option Expr) (sc : Scope) (hsc : scopeOk sc = true)
include hsc

omit hsc in
theorem bodyOkB_true {sp : Bool} {e : Expr} (h : bodyOkB sp e = true) : bodyOkB true e = true := by
  cases e <;> first
    | exact h
    | (simp only [bodyOkB, Bool.and_eq_true] at h ⊢; exact ⟨trivial, h.2⟩)

omit hsc in
theorem unSpread_of_bodyOk {e : Expr} (h : bodyOkB false e = true) : unSpread e = e := by
  cases e <;> first | rfl | simp [bodyOkB] at h

theorem scopeOk_litClosed : LitClosed pb sc := fun _ v hv =>
  ⟨(litOk_closed pb v (scopeOk_lookup hsc hv)).1, (litOk_closed pb v (scopeOk_lookup hsc hv)).2.1⟩

theorem isSpread_subst (e : Expr) : isSpread (substExpr pb sc e) = isSpread e := by
  cases e with
  | ident n =>
    simp only [substExpr]
    split
    · rename_i v hv
      exact litOk_not_spread pb v (scopeOk_lookup hsc hv)
    · rfl
  | _ => simp [substExpr, isSpread]

-- the linter does not see that a theorem uses `hsc` through its sibling in a `mutual` block
set_option linter.unusedSectionVars false in
mutual
theorem subst_fragB : ∀ (sp : Bool) (e : Expr), bodyOkB sp e = true →
    ExprPeg.fragB sp (substExpr pb sc e) = true
  | _, .bin op l r, h => by
    simp only [bodyOkB, Bool.and_eq_true] at h
    simp only [substExpr, ExprPeg.fragB, Bool.and_eq_true]
    exact ⟨subst_fragB false l h.1.2, subst_fragB false r h.2⟩
  | _, .un op e, h => by
    simp only [bodyOkB, Bool.and_eq_true] at h
    simp only [substExpr, ExprPeg.fragB, Bool.and_eq_true]
    exact ⟨h.1, subst_fragB false e h.2⟩
  | _, .fact e, h => by
    simp only [bodyOkB] at h
    simp only [substExpr, ExprPeg.fragB]
    exact subst_fragB false e h
  | _, .access e i, h => by
    simp only [bodyOkB, Bool.and_eq_true] at h
    simp only [substExpr, ExprPeg.fragB, Bool.and_eq_true]
    exact ⟨subst_fragB false e h.1, subst_fragB false i h.2⟩
  | _, .dot e n, h => by
    simp only [bodyOkB, Bool.and_eq_true] at h
    simp only [substExpr, ExprPeg.fragB, Bool.and_eq_true]
    exact ⟨subst_fragB false e h.1, h.2⟩
  | sp, .spread e, h => by
    simp only [bodyOkB, Bool.and_eq_true] at h
    simp only [substExpr, ExprPeg.fragB, Bool.and_eq_true]
    exact ⟨h.1, subst_fragB false e h.2⟩
  | _, .list items, h => by
    simp only [bodyOkB] at h
    simp only [substExpr, ExprPeg.fragB]
    exact subst_fragItems items h
  | _, .cond c t e, h => by
    simp only [bodyOkB, Bool.and_eq_true] at h
    simp only [substExpr, ExprPeg.fragB, Bool.and_eq_true]
    exact ⟨⟨subst_fragB false c h.1.1, subst_fragB false t h.1.2⟩, subst_fragB false e h.2⟩
  | sp, .ident n, h => by
    simp only [bodyOkB] at h
    simp only [substExpr]
    cases hv : lookupAL n sc with
    | some v => exact fragB_of_frag (litOk_frag pb v (scopeOk_lookup hsc hv)) sp
    | none => simpa [ExprPeg.fragB] using h
  | _, .builtin _, h | _, .bool _, h | _, .null, h | _, .num _, h => by
    simp only [bodyOkB] at h
    simpa [substExpr, ExprPeg.fragB] using h
  | _, .str _, h | _, .inref _, h | _, .record _, h | _, .lambda _ _, h | _, .call _ _, h
  | _, .doBlock _ _, h | _, .assign _ _, h | _, .output _, h => by
    simp [bodyOkB] at h
theorem subst_fragItems : ∀ (items : List Item), bodyOkItems items = true →
    ExprPeg.fragItems (substItems pb sc items) = true
  | [], _ => rfl
  | (.mk lead e tr) :: rest, h => by
    simp only [bodyOkItems, Bool.and_eq_true] at h
    simp only [substItems, substItem, ExprPeg.fragItems, Bool.and_eq_true]
    exact ⟨⟨h.1.1, subst_fragB true e h.1.2⟩, subst_fragItems rest h.2⟩
end

omit hsc in
theorem needsParens_ident (n : String) (pos : Pos) : needsParens (.ident n) pos = false := by
  unfold needsParens; cases pos <;> simp [endsOpen]

/-- an operand: the printer decides on the original body, where a captured name is an identifier
    and never parenthesised.  On the substituted tree it decides alike, except at a negative
    number — which `svToSource` has parenthesised already. -/
theorem wrap_wraps (e : Expr) (pos : Pos)
    (ih : Wraps (canon (substExpr pb sc e)) (emitCst sc e)) :
    Wraps (wrap (needsParens (substExpr pb sc e) pos) (canon (substExpr pb sc e)))
      (wrap (needsParens e pos) (emitCst sc e)) := by
  have hcl := scopeOk_litClosed pb sc hsc
  cases e with
  | ident n =>
    cases hv : lookupAL n sc with
    | none =>
      rw [substExpr_ident_none pb sc n hv] at ih ⊢
      exact wraps_wrap _ ih
    | some v =>
      have hl := scopeOk_lookup hsc hv
      simp only [substExpr, emitCst, hv, needsParens_ident, wrap, Bool.false_eq_true, if_false] at ih ⊢
      cases hpar : (litCst v).isParen
      · rw [(atomHead_shape _ (litCst_head pb v hl hpar)).1 pos]
        exact ih
      · cases v with
        | num x =>
          simp only [litOk, Bool.and_eq_true, Bool.not_eq_true'] at hl
          cases hn : x.neg
          · simp [litCst, hn, CST.isParen] at hpar
          · simp only [svToExpr, numToExpr, litCst, hl.1, hn, Bool.false_eq_true, if_false, if_true,
              canon, (atomHead_shape (.num x.negate) rfl).1 .prefix_, wrap]
            split
            · exact .refl _
            · exact .step (.refl _) (.here [] _ [])
        | list xs => simp [litCst, ExprPeg.mkList_isParen] at hpar
        | _ => cases hpar
  | _ =>
    rw [needsParens_subst pb _ sc hcl pos (fun _ _ he _ => by cases he)]
    exact wraps_wrap _ ih

mutual
theorem emitCst_wraps : ∀ (sp : Bool) (e : Expr), bodyOkB sp e = true →
    Wraps (canon (substExpr pb sc e)) (emitCst sc e)
  | _, .bin op l r, h => by
    simp only [bodyOkB, Bool.and_eq_true] at h
    simp only [substExpr, canon, emitCst]
    exact wraps_trans
      (wraps_map (fun x => .bin op x [.sp] [.sp] _) (Wrap.binL op _ _ _)
        (wrap_wraps pb sc hsc l _ (emitCst_wraps false l h.1.2)))
      (wraps_map (fun x => .bin op _ [.sp] [.sp] x) (Wrap.binR op _ _ _)
        (wrap_wraps pb sc hsc r _ (emitCst_wraps false r h.2)))
  | _, .un op e, h => by
    simp only [bodyOkB, Bool.and_eq_true] at h
    simp only [substExpr, canon, emitCst]
    exact wraps_map (.un op) (Wrap.un op) (wrap_wraps pb sc hsc e _ (emitCst_wraps false e h.2))
  | _, .fact e, h => by
    simp only [bodyOkB] at h
    simp only [substExpr, canon, emitCst]
    exact wraps_map .fact Wrap.fact (wrap_wraps pb sc hsc e _ (emitCst_wraps false e h))
  | _, .access e i, h => by
    simp only [bodyOkB, Bool.and_eq_true] at h
    simp only [substExpr, canon, emitCst]
    exact wraps_trans
      (wraps_map (fun x => .access x [] _ []) (Wrap.accE _ _ _)
        (wrap_wraps pb sc hsc e _ (emitCst_wraps false e h.1)))
      (wraps_map (fun x => .access _ [] x []) (Wrap.accI _ _ _) (emitCst_wraps false i h.2))
  | _, .dot e n, h => by
    simp only [bodyOkB, Bool.and_eq_true] at h
    simp only [substExpr, canon, emitCst]
    exact wraps_map (.dot · n) (Wrap.dot n) (wrap_wraps pb sc hsc e _ (emitCst_wraps false e h.1))
  | _, .spread e, h => by
    simp only [bodyOkB, Bool.and_eq_true] at h
    simp only [substExpr, canon, emitCst]
    exact emitCst_wraps false e h.2
  | _, .list items, h => by
    simp only [bodyOkB] at h
    simp only [substExpr, canon, emitCst]
    exact wraps_mkList (emitCstItems_wraps items h)
  | _, .cond c t e, h => by
    simp only [bodyOkB, Bool.and_eq_true] at h
    simp only [substExpr, canon, emitCst]
    exact wraps_trans (wraps_trans
      (wraps_map (fun x => .cond [.sp] x [.sp] [.sp] _ [.sp] [.sp] _) (Wrap.condC _ _ _ _ _ _ _)
        (emitCst_wraps false c h.1.1))
      (wraps_map (fun x => .cond [.sp] _ [.sp] [.sp] x [.sp] [.sp] _) (Wrap.condT _ _ _ _ _ _ _)
        (emitCst_wraps false t h.1.2)))
      (wraps_map (fun x => .cond [.sp] _ [.sp] [.sp] _ [.sp] [.sp] x) (Wrap.condE _ _ _ _ _ _ _)
        (emitCst_wraps false e h.2))
  | _, .ident n, _ => by
    simp only [substExpr, emitCst]
    cases hv : lookupAL n sc with
    | some v => exact litCst_wraps pb v (scopeOk_lookup hsc hv)
    | none => exact .refl _
  | _, .builtin _, _ | _, .bool _, _ | _, .null, _ | _, .num _, _ => .refl _
  | _, .str _, h | _, .inref _, h | _, .record _, h | _, .lambda _ _, h | _, .call _ _, h
  | _, .doBlock _ _, h | _, .assign _ _, h | _, .output _, h => by cases h
theorem emitCstItems_wraps : ∀ (items : List Item), bodyOkItems items = true →
    WrapsArgs (ExprPeg.canonItems (substItems pb sc items)) (emitCstItems sc items)
  | [], _ => .nil
  | (.mk lead e tr) :: rest, h => by
    simp only [bodyOkItems, Bool.and_eq_true] at h
    simp only [substItems, substItem, ExprPeg.canonItems, emitCstItems, isSpread_subst pb sc hsc e]
    exact .cons (emitCst_wraps true e h.1.2) (emitCstItems_wraps rest h.2)
end

/-- what `cst_roundtrip` needs of the emitted body (an item `...e` counts as its operand) -/
theorem emitCst_facts (sp : Bool) (e : Expr) (h : bodyOkB sp e = true) :
    (emitCst sc e).tree = unSpread (substExpr pb sc e) ∧ (emitCst sc e).WF := by
  have hf := (ExprPeg.fragB_true _ (subst_fragB pb sc hsc true e (bodyOkB_true h))).1
  have hw := emitCst_wraps pb sc hsc sp e h
  rw [ExprPeg.canon_unSpread] at hw
  obtain ⟨ht, hwf⟩ := ExprPeg.wraps_facts hw (ExprPeg.canon_wf _ hf)
  exact ⟨ht.trans (ExprPeg.canon_tree_frag _ hf), hwf⟩

theorem emitCstItems_tree : ∀ (items : List Item), bodyOkItems items = true →
    ExprPeg.mkItems ((emitCstItems sc items).map argT) = substItems pb sc items
  | [], _ => rfl
  | (.mk lead e tr) :: rest, h => by
    simp only [bodyOkItems, Bool.and_eq_true, List.isEmpty_iff, Option.isNone_iff_eq_none] at h
    obtain ⟨⟨⟨rfl, rfl⟩, he⟩, hr⟩ := h
    have ih := emitCstItems_tree rest hr
    have ha := (ExprPeg.fragB_true _ (subst_fragB pb sc hsc true e he)).2
    rw [isSpread_subst pb sc hsc e] at ha
    simp only [ExprPeg.mkItems] at ih ⊢
    simp only [emitCstItems, List.map_cons, argT, (emitCst_facts pb sc hsc true e he).1, ih, ha,
      substItems, substItem]

theorem emitCstItems_shaped : ∀ (items : List Item), bodyOkItems items = true →
    ∀ q ∈ emitCstItems sc items, q.2.Shaped
  | [], _ => List.forall_mem_nil _
  | (.mk lead e tr) :: rest, h => by
    simp only [bodyOkItems, Bool.and_eq_true] at h
    exact List.forall_mem_cons.mpr
      ⟨(emitCst_facts (fun _ => none) sc hsc true e h.1.2).2.1, emitCstItems_shaped rest h.2⟩

omit hsc in
theorem argS_srcSc (a : Expr) :
    ExprPeg.spreadChars (isSpread a) ++ (exprSrc sc (unSpread a)).toList = (exprSrc sc a).toList := by
  cases a <;> simp [isSpread, unSpread, ExprPeg.spreadChars, ExprPeg.spreadLit_eq, exprSrc]

set_option linter.unusedSectionVars false in
mutual
theorem emitCst_text : ∀ (sp : Bool) (e : Expr), bodyOkB sp e = true →
    (emitCst sc e).text = (exprSrc sc (unSpread e)).toList
  | _, .bin op l r, h => by
    simp only [bodyOkB, Bool.and_eq_true] at h
    have hl := emitCst_text false l h.1.2
    have hr := emitCst_text false r h.2
    rw [unSpread_of_bodyOk h.1.2] at hl
    rw [unSpread_of_bodyOk h.2] at hr
    simp only [unSpread, emitCst, CST.text, ExprPeg.wrap_text, hl, hr, exprSrc, String.toList_append,
      PrintL.parenIf_toList, ExprPeg.layChars, ExprPeg.LayAtom.chars, ExprPeg.spell,
      List.append_assoc, List.cons_append, List.nil_append]
    rfl
  | _, .un op e, h => by
    simp only [bodyOkB, Bool.and_eq_true] at h
    have he := emitCst_text false e h.2
    rw [unSpread_of_bodyOk h.2] at he
    simp only [unSpread, emitCst, CST.text, ExprPeg.wrap_text, he, exprSrc, String.toList_append,
      PrintL.parenIf_toList]
  | _, .fact e, h => by
    simp only [bodyOkB] at h
    have he := emitCst_text false e h
    rw [unSpread_of_bodyOk h] at he
    simp only [unSpread, emitCst, CST.text, ExprPeg.wrap_text, he, exprSrc, String.toList_append,
      PrintL.parenIf_toList]
    rfl
  | _, .access e i, h => by
    simp only [bodyOkB, Bool.and_eq_true] at h
    have he := emitCst_text false e h.1
    have hi := emitCst_text false i h.2
    rw [unSpread_of_bodyOk h.1] at he
    rw [unSpread_of_bodyOk h.2] at hi
    simp only [unSpread, emitCst, CST.text, ExprPeg.wrap_text, he, hi, exprSrc, String.toList_append,
      PrintL.parenIf_toList, ExprPeg.layChars, List.append_assoc, List.nil_append]
    rfl
  | _, .dot e n, h => by
    simp only [bodyOkB, Bool.and_eq_true] at h
    have he := emitCst_text false e h.1
    rw [unSpread_of_bodyOk h.1] at he
    simp only [unSpread, emitCst, CST.text, ExprPeg.wrap_text, he, exprSrc, String.toList_append,
      PrintL.parenIf_toList, List.append_assoc]
    rfl
  | sp, .spread e, h => by
    simp only [bodyOkB, Bool.and_eq_true] at h
    have he := emitCst_text false e h.2
    rw [unSpread_of_bodyOk h.2] at he
    simp only [emitCst, he, unSpread]
  | _, .list items, h => by
    simp only [bodyOkB] at h
    have ha := emitCstItems_text items h
    simp only [unSpread, emitCst, ExprPeg.mkList_text, ha, exprSrc, String.toList_append,
      String.toList_intercalate, ExprPeg.commaSp, List.append_assoc]
    rfl
  | _, .cond c t e, h => by
    simp only [bodyOkB, Bool.and_eq_true] at h
    have hc := emitCst_text false c h.1.1
    have ht := emitCst_text false t h.1.2
    have he := emitCst_text false e h.2
    rw [unSpread_of_bodyOk h.1.1] at hc
    rw [unSpread_of_bodyOk h.1.2] at ht
    rw [unSpread_of_bodyOk h.2] at he
    simp only [unSpread, emitCst, CST.text, hc, ht, he, exprSrc, String.toList_append,
      ExprPeg.layChars, ExprPeg.LayAtom.chars, ExprPeg.thenLit, ExprPeg.elseLit, List.append_assoc,
      List.cons_append, List.nil_append]
    rfl
  | _, .ident n, _ => by
    simp only [emitCst, unSpread, exprSrc]
    cases hv : lookupAL n sc with
    | some v => exact litCst_text v (scopeOk_lookup hsc hv)
    | none => rfl
  | _, .builtin _, _ | _, .bool _, _ | _, .null, _ | _, .num _, _ => rfl
  | _, .str _, h | _, .inref _, h | _, .record _, h | _, .lambda _ _, h | _, .call _ _, h
  | _, .doBlock _ _, h | _, .assign _ _, h | _, .output _, h => by
    simp [bodyOkB] at h
theorem emitCstItems_text : ∀ (items : List Item), bodyOkItems items = true →
    (emitCstItems sc items).map argS = (itemsSrc sc items).map String.toList
  | [], _ => rfl
  | (.mk lead e tr) :: rest, h => by
    simp only [bodyOkItems, Bool.and_eq_true] at h
    simp only [emitCstItems, List.map_cons, argS, emitCst_text true e h.1.2, argS_srcSc sc e,
      emitCstItems_text rest h.2, itemsSrc, itemSrc]
end

theorem emitCst_text0 (e : Expr) (h : bodyOkB false e = true) :
    (emitCst sc e).text = (exprSrc sc e).toList := by
  rw [emitCst_text sc hsc false e h]
  cases e <;> first | rfl | simp [bodyOkB] at h

-- holds for every scope: `hsc` is carried along and not used
set_option linter.unusedSectionVars false in
mutual
theorem emitCst_layout : ∀ e : Expr, (emitCst sc e).LayoutOk
  | .bin op l r =>
    ⟨ExprPeg.wrap_layout (emitCst_layout l), ExprPeg.wrap_layout (emitCst_layout r), ExprPeg.layOk_sp op⟩
  | .un _ e => ExprPeg.wrap_layout (emitCst_layout e)
  | .fact e => ExprPeg.wrap_layout (emitCst_layout e)
  | .access e i => ⟨ExprPeg.wrap_layout (emitCst_layout e), emitCst_layout i, rfl, rfl⟩
  | .dot e _ => ExprPeg.wrap_layout (emitCst_layout e)
  | .spread e => emitCst_layout e
  | .list items => ExprPeg.mkList_layout (emitCstItems_layout items)
  | .cond c t e =>
    ⟨⟨by simp, rfl, by simp, by simp, by simp, by simp⟩, emitCst_layout c, emitCst_layout t,
      emitCst_layout e⟩
  | .ident n => by
    simp only [emitCst]
    cases hv : lookupAL n sc with
    | some v => exact (litCst_facts (fun _ => none) v (scopeOk_lookup hsc hv)).2.2
    | none => trivial
  | .builtin _ | .bool _ | .null | .num _ => trivial
  | .str _ | .inref _ | .record _ | .lambda _ _ | .call _ _
  | .doBlock _ _ | .assign _ _ | .output _ => trivial
theorem emitCstItems_layout : ∀ (items : List Item), ∀ q ∈ emitCstItems sc items, q.2.LayoutOk
  | [] => List.forall_mem_nil _
  | (.mk _ e _) :: rest =>
    List.forall_mem_cons.mpr ⟨emitCst_layout e, emitCstItems_layout rest⟩
end

omit hsc in
/-- a body of the class is no `via` / `into` / `where` chain: the emitter writes the top
    function without parentheses around the body and `extend_lambda_body` has nothing to repair -/
theorem bodyOk_lbnp : ∀ (sp : Bool) (e : Expr), bodyOkB sp e = true → lambdaBodyNeedsParens e = false
  | _, .bin op l r, h => by
    simp only [bodyOkB, Bool.and_eq_true, bne_iff_ne, ne_eq] at h
    rw [lambdaBodyNeedsParens_bin, bodyOk_lbnp false l h.1.2]
    cases op <;> simp_all
  | _, .un _ _, _ | _, .fact _, _ | _, .access _ _, _ | _, .dot _ _, _ | _, .spread _, _
  | _, .list _, _ | _, .cond _ _ _, _ | _, .ident _, _ | _, .builtin _, _ | _, .bool _, _
  | _, .null, _ | _, .num _, _ | _, .str _, _ | _, .inref _, _ | _, .record _, _
  | _, .lambda _ _, _ | _, .call _ _, _ | _, .doBlock _ _, _ | _, .assign _ _, _
  | _, .output _, _ => rfl

/-- the text `to_json` stores for the function, as a CST: `(args) => body`, the body not
    parenthesised (it is no chain, `bodyOk_lbnp`) -/
def fnCst (ps : List LArg) (body : Expr) : CST :=
  .lambda (headOf ps) [.sp] [.sp] (emitCst sc body)

theorem fnCst_text (ps : List LArg) (body : Expr) (hb : bodyOk body = true) :
    (fnCst sc ps body).text = (lambdaSource ps (exprSrc sc body)).toList := by
  simp only [fnCst, CST.text, ExprPeg.headOf_text, emitCst_text0 sc hsc body hb, lambdaSource,
    String.toList_append, String.toList_intercalate, ExprPeg.commaSp, List.map_map,
    Function.comp_def, ExprPeg.argText_src, ExprPeg.layChars, ExprPeg.LayAtom.chars,
    List.append_assoc, List.cons_append, List.nil_append]
  rfl

theorem fnCst_wraps (ps : List LArg) (body : Expr) (hb : bodyOk body = true) :
    Wraps (canon (.lambda ps (substExpr pb sc body))) (fnCst sc ps body) := by
  have hl : lambdaBodyNeedsParens (substExpr pb sc body) = false := by
    rw [lbnp_subst pb body sc (scopeOk_litClosed pb sc hsc)]; exact bodyOk_lbnp false body hb
  simp only [canon, hl, wrap, Bool.false_eq_true, if_false, fnCst]
  exact wraps_map (fun x => .lambda (headOf ps) [.sp] [.sp] x) (Wrap.lamB _ _ _)
    (emitCst_wraps pb sc hsc false body hb)

/-- the emitted text is read back by the model parser to the function over the substituted body:
    `(args) => <body with the captured literals inlined>` parses, as a whole, to
    `.lambda args (substExpr pb sc body)` -/
theorem emitted_text_parses (ps : List LArg) (body : Expr)
    (hps : (ps.all fun a => nameOk a.name) = true) (hb : bodyOk body = true) :
    ExprPeg.parseText (lambdaSource ps (exprSrc sc body)) = some (.lambda ps (substExpr pb sc body)) := by
  have hf : ExprPeg.Frag (.lambda ps (substExpr pb sc body)) := by
    rw [ExprPeg.Frag, ExprPeg.frag_lambda_eq, hps]
    exact subst_fragB pb sc hsc false body hb
  obtain ⟨ht, hwf⟩ := ExprPeg.wraps_facts (fnCst_wraps pb sc hsc ps body hb) (ExprPeg.canon_wf _ hf)
  have h := ExprPeg.cst_roundtrip (fnCst sc ps body) hwf
  rwa [fnCst_text sc hsc ps body hb, String.ofList_toList, ht, ExprPeg.canon_tree_frag _ hf] at h

theorem subst_body_reparses (body : Expr) (hb : bodyOk body = true) :
    ExprPeg.parseText (exprSrc [] (substExpr pb sc body)) = some (substExpr pb sc body) :=
  ExprPeg.print_reparses _ (subst_fragB pb sc hsc false body hb)

end main

def pbModel : ParseBody := ExprPeg.parseText

/-- `ParseFn` := `parse_function_source` over the model parser: parse the text (one expression
    statement), give the operators behind a lambda back to its body (`extend_lambda_body`),
    answer the parameter list and `expr_to_source` of the body -/
def pfModel : ParseFn := fun s => (ExprPeg.parseText s).bind fun e => parseFunctionSource [e]

theorem pfModel_emitted (pb : String → Option Expr) (sc : Scope) (hsc : scopeOk sc = true)
    (ps : List LArg) (body : Expr) (hps : (ps.all fun a => nameOk a.name) = true)
    (hb : bodyOk body = true) :
    pfModel (lambdaSource ps (exprSrc sc body)) = some (ps, exprSrc [] (substExpr pb sc body)) := by
  simp only [pfModel, emitted_text_parses pb sc hsc ps body hps hb, Option.bind_some,
    parseFunctionSource, extendLambdaBody, exprToSource]

mutual
theorem litOk_isLit : ∀ (v : SV), litOk v = true → isLit v = true
  | .num x, h => by
    simp only [litOk, Bool.and_eq_true] at h
    simpa [isLit] using h.1
  | .bool _, _ | .null, _ | .builtin _, _ => rfl
  | .list xs, h => by
    simp only [litOk] at h
    simp only [isLit]; exact litOkList_isLit xs h
  | .str _, h | .record _, h | .lambda _ _, h => by simp [litOk] at h
theorem litOkList_isLit : ∀ (xs : List SV), litOkList xs = true → isLitList xs = true
  | [], _ => rfl
  | x :: xs, h => by
    simp only [litOkList, Bool.and_eq_true] at h
    simp only [isLitList, Bool.and_eq_true]
    exact ⟨litOk_isLit x h.1, litOkList_isLit xs h.2⟩
end

/-- fuel that evaluates every literal of the scope -/
def scopeFuel (sc : Scope) : Nat := (sc.map fun kv => litFuel kv.2).foldl max 0

theorem le_foldl_max : ∀ (l : List Nat) (a : Nat), a ≤ l.foldl max a ∧ ∀ x ∈ l, x ≤ l.foldl max a
  | [], a => ⟨Nat.le_refl a, fun _ h => by cases h⟩
  | y :: l, a => by
    obtain ⟨h1, h2⟩ := le_foldl_max l (max a y)
    refine ⟨Nat.le_trans (Nat.le_max_left a y) h1, fun x hx => ?_⟩
    rcases List.mem_cons.mp hx with rfl | hx
    · exact Nat.le_trans (Nat.le_max_right a x) h1
    · exact h2 x hx

theorem litFuel_le_scopeFuel {sc : Scope} {n : String} {v : SV} (hl : lookupAL n sc = some v) :
    litFuel v ≤ scopeFuel sc :=
  (le_foldl_max _ 0).2 _ (List.mem_map.mpr ⟨(n, v), lookupAL_mem hl, rfl⟩)

/-- captured names are not `inf` / `infinity` / `constants`, parameters or `inputs` (what
    `captureScope` produces: the free names of the body, which exclude the parameters) -/
def capturedNamesOk (ps : List LArg) (sc : Scope) : Bool :=
  sc.all fun kv => !Gen.specialIdents.contains kv.1 && !(ps.map LArg.name).contains kv.1 && kv.1 != "inputs"

/-- every name the body reads is a parameter or captured -/
def closedAfterCapture (ps : List LArg) (body : Expr) (sc : Scope) : Bool :=
  (freeVars (ps.map LArg.name) body).all fun n => (lookupAL n sc).isSome

/-- the class (decidable): parameter names that are identifiers; body in `bodyOk`; captured
    values in `litOk` under admissible names -/
def portable (ps : List LArg) (body : Expr) (sc : Scope) : Bool :=
  (ps.all fun a => nameOk a.name) && bodyOk body && scopeOk sc && capturedNamesOk ps sc

structure Portable (ps : List LArg) (body : Expr) (sc : Scope) : Prop where
  params : (ps.all fun a => nameOk a.name) = true
  body : bodyOk body = true
  scope : scopeOk sc = true
  names : capturedNamesOk ps sc = true

theorem portable_iff (ps : List LArg) (body : Expr) (sc : Scope) :
    portable ps body sc = true ↔ Portable ps body sc := by
  simp only [portable, Bool.and_eq_true]
  exact ⟨fun h => ⟨h.1.1.1, h.1.1.2, h.1.2, h.2⟩, fun h => ⟨⟨⟨h.1, h.2⟩, h.3⟩, h.4⟩⟩

/-- the captured-value hypothesis of `reload_equiv_partial` -/
theorem Portable.captured {ps : List LArg} {body : Expr} {sc : Scope} (h : Portable ps body sc)
    (n : String) (sv : SV) (hl : lookupAL n sc = some sv) :
    isLit sv = true ∧ litFuel sv ≤ scopeFuel sc ∧ n ∉ Gen.specialIdents ∧ n ∉ ps.map LArg.name ∧
      n ≠ "inputs" := by
  have hn := List.all_eq_true.mp h.names (n, sv) (lookupAL_mem hl)
  simp only [Bool.and_eq_true, Bool.not_eq_true', List.contains_eq_mem, decide_eq_false_iff_not,
    bne_iff_ne, ne_eq] at hn
  exact ⟨litOk_isLit sv (scopeOk_lookup h.scope hl), litFuel_le_scopeFuel hl, hn.1.1, hn.1.2, hn.2⟩

mutual
theorem bodyOkB_noOutput : ∀ (sp : Bool) (e : Expr), bodyOkB sp e = true → noOutput e = true
  | _, .bin op l r, h => by
    simp only [bodyOkB, Bool.and_eq_true] at h
    simp only [noOutput, Bool.and_eq_true]
    exact ⟨bodyOkB_noOutput false l h.1.2, bodyOkB_noOutput false r h.2⟩
  | _, .un op e, h => by
    simp only [bodyOkB, Bool.and_eq_true] at h
    simp only [noOutput]; exact bodyOkB_noOutput false e h.2
  | _, .fact e, h => by
    simp only [bodyOkB] at h
    simp only [noOutput]; exact bodyOkB_noOutput false e h
  | _, .access e i, h => by
    simp only [bodyOkB, Bool.and_eq_true] at h
    simp only [noOutput, Bool.and_eq_true]
    exact ⟨bodyOkB_noOutput false e h.1, bodyOkB_noOutput false i h.2⟩
  | _, .dot e n, h => by
    simp only [bodyOkB, Bool.and_eq_true] at h
    simp only [noOutput]; exact bodyOkB_noOutput false e h.1
  | sp, .spread e, h => by
    simp only [bodyOkB, Bool.and_eq_true] at h
    simp only [noOutput]; exact bodyOkB_noOutput false e h.2
  | _, .list items, h => by
    simp only [bodyOkB] at h
    simp only [noOutput]; exact bodyOkItems_noOutput items h
  | _, .cond c t e, h => by
    simp only [bodyOkB, Bool.and_eq_true] at h
    simp only [noOutput, Bool.and_eq_true]
    exact ⟨⟨bodyOkB_noOutput false c h.1.1, bodyOkB_noOutput false t h.1.2⟩, bodyOkB_noOutput false e h.2⟩
  | _, .ident _, _ | _, .builtin _, _ | _, .bool _, _ | _, .null, _ | _, .num _, _ => rfl
  | _, .str _, h | _, .inref _, h | _, .record _, h | _, .lambda _ _, h | _, .call _ _, h
  | _, .doBlock _ _, h | _, .assign _ _, h | _, .output _, h => by
    simp [bodyOkB] at h
theorem bodyOkItems_noOutput : ∀ (items : List Item), bodyOkItems items = true →
    noOutputItems items = true
  | [], _ => rfl
  | (.mk lead e tr) :: rest, h => by
    simp only [bodyOkItems, Bool.and_eq_true] at h
    simp only [noOutputItems, noOutputItem, Bool.and_eq_true]
    exact ⟨bodyOkB_noOutput true e h.1.2, bodyOkItems_noOutput rest h.2⟩
end

theorem closed_no_free {ps : List LArg} {body : Expr} {sc : Scope} (hb : bodyOk body = true)
    (hc : closedAfterCapture ps body sc = true) (n : String) (hf : FreeIn n body)
    (hp : n ∉ ps.map LArg.name) (hl : lookupAL n sc = none) : False := by
  have hm := (freeVars_iff body (ps.map LArg.name) n (bodyOkB_noOutput false body hb)).mpr ⟨hf, hp⟩
  have := List.all_eq_true.mp hc n hm
  rw [hl] at this
  cases this

end EmitParse
end Blots

