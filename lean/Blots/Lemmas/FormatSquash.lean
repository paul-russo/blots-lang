import Blots.Lemmas.FormatPieces
import Blots.Lemmas.PrintLemmas
/-
  `squash`: the characters of a program text that are NOT layout.

  Outside string literals `squash` deletes
    * spaces, tabs, `'\n'`, `'\r'`;
    * a comma that is followed — after deleted layout (and further such commas) — by a
      closing bracket `]`, `}` or `)`  (the trailing comma of the multi-line layouts);
  inside a string literal (from an opening `"` or `'` to the next occurrence of the same
  quote character: the language has no escapes) it deletes nothing.

  It is a small state machine (`step`): the state is "outside, with `n` commas held back"
  or "inside a literal opened by `q`"; `outp st a` is what is emitted while reading `a`
  from state `st`, `fin st a` the state afterwards, so that texts compose:

      outp st (a ++ b) = outp st a ++ outp (fin st a) b        (`outp_append`)
      fin  st (a ++ b) = fin (fin st a) b                      (`fin_append`)

  `Eqv a b` : from every outside state `a` and `b` emit the same characters and end in the
  same outside state ("equal up to layout, both balanced").  `Eqv` is a congruence for `++`;
  `Eqv a b → squashL a = squashL b`.
  Two quote-free literals with the same non-layout characters are `Eqv` (`Eqv.lit`).

  Every text the printers emit for a leaf is balanced (`Bal`: ends outside a literal): string
  literals in all three branches of `string_to_source`, record keys, numbers, operator
  spellings, and names without quote characters.
-/
namespace Blots
namespace Squash

inductive St where
  /-- outside a string literal; `n` commas have been read and not yet emitted -/
  | out (n : Nat)
  /-- inside a string literal opened by `q` -/
  | inq (q : Char)
  deriving DecidableEq, Repr

def isLayout (c : Char) : Bool := c == ' ' || c == '\t' || c == '\n' || c == '\r'
def isClose (c : Char) : Bool := c == ']' || c == '}' || c == ')'
def isQuote (c : Char) : Bool := c == '"' || c == '\''

def commas (n : Nat) : List Char := List.replicate n ','

def step : St → Char → List Char × St
  | .out n, c =>
    if isLayout c then ([], .out n)
    else if c == ',' then ([], .out (n + 1))
    else if isClose c then ([c], .out 0)
    else if isQuote c then (commas n ++ [c], .inq c)
    else (commas n ++ [c], .out 0)
  | .inq q, c => ([c], if c == q then .out 0 else .inq q)

def outp : St → List Char → List Char
  | _, [] => []
  | st, c :: cs => (step st c).1 ++ outp (step st c).2 cs

def fin : St → List Char → St
  | st, [] => st
  | st, c :: cs => fin (step st c).2 cs

/-- at the end of the text the commas held back are not followed by a bracket: emitted -/
def flush : St → List Char
  | .out n => commas n
  | .inq _ => []

def squashL (cs : List Char) : List Char := outp (.out 0) cs ++ flush (fin (.out 0) cs)

end Squash

/-- the non-layout characters of a text (see the head of `Lemmas/FormatSquash.lean`) -/
def squash (s : String) : String := String.ofList (Squash.squashL s.toList)

namespace Squash

theorem outp_append : ∀ (st : St) (a b : List Char), outp st (a ++ b) = outp st a ++ outp (fin st a) b
  | _, [], _ => rfl
  | st, c :: a, b => by
    simp only [List.cons_append, outp, fin, outp_append (step st c).2 a b, List.append_assoc]

theorem fin_append : ∀ (st : St) (a b : List Char), fin st (a ++ b) = fin (fin st a) b
  | _, [], _ => rfl
  | st, c :: a, b => by
    simp only [List.cons_append, fin, fin_append (step st c).2 a b]

theorem squashL_append (a b : List Char) :
    squashL (a ++ b) =
      outp (.out 0) a ++ (outp (fin (.out 0) a) b ++ flush (fin (fin (.out 0) a) b)) := by
  simp only [squashL, outp_append, fin_append, List.append_assoc]

theorem squashL_append_of_fin (a b : List Char) (h : fin (.out 0) a = .out 0) :
    squashL (a ++ b) = outp (.out 0) a ++ squashL b := by
  rw [squashL_append, h]; rfl

def Bal (a : List Char) : Prop := ∀ n, ∃ m, fin (.out n) a = .out m

def Eqv (a b : List Char) : Prop :=
  ∀ n, ∃ m, fin (.out n) a = .out m ∧ fin (.out n) b = .out m ∧ outp (.out n) a = outp (.out n) b

theorem Eqv.refl {a : List Char} (h : Bal a) : Eqv a a := fun n => by
  obtain ⟨m, hm⟩ := h n
  exact ⟨m, hm, hm, rfl⟩

theorem Eqv.symm {a b : List Char} (h : Eqv a b) : Eqv b a := fun n => by
  obtain ⟨m, h1, h2, h3⟩ := h n
  exact ⟨m, h2, h1, h3.symm⟩

theorem Eqv.trans {a b c : List Char} (h : Eqv a b) (h' : Eqv b c) : Eqv a c := fun n => by
  obtain ⟨m, h1, h2, h3⟩ := h n
  obtain ⟨m', h1', h2', h3'⟩ := h' n
  rw [h2] at h1'
  cases h1'
  exact ⟨m, h1, h2', h3.trans h3'⟩

theorem Eqv.balL {a b : List Char} (h : Eqv a b) : Bal a := fun n => by
  obtain ⟨m, h1, _, _⟩ := h n
  exact ⟨m, h1⟩

theorem Eqv.balR {a b : List Char} (h : Eqv a b) : Bal b := h.symm.balL

theorem Eqv.nil : Eqv [] [] := fun n => ⟨n, rfl, rfl, rfl⟩

theorem Eqv.app {a b c d : List Char} (h : Eqv a b) (h' : Eqv c d) : Eqv (a ++ c) (b ++ d) := fun n => by
  obtain ⟨m, h1, h2, h3⟩ := h n
  obtain ⟨m', h1', h2', h3'⟩ := h' m
  refine ⟨m', ?_, ?_, ?_⟩
  · rw [fin_append, h1, h1']
  · rw [fin_append, h2, h2']
  · rw [outp_append, outp_append, h1, h2, h3, h3']

theorem Bal.app {a b : List Char} (h : Bal a) (h' : Bal b) : Bal (a ++ b) :=
  (Eqv.app (Eqv.refl h) (Eqv.refl h')).balL

theorem Bal.nil : Bal [] := Eqv.nil.balL

theorem Eqv.squashL_eq {a b : List Char} (h : Eqv a b) : squashL a = squashL b := by
  obtain ⟨m, h1, h2, h3⟩ := h 0
  simp only [squashL, h1, h2, h3]

theorem step_out_noQuote (n : Nat) (c : Char) (h : isQuote c = false) :
    ∃ m, (step (.out n) c).2 = .out m := by
  simp only [step]
  split
  · exact ⟨_, rfl⟩
  · split
    · exact ⟨_, rfl⟩
    · split
      · exact ⟨_, rfl⟩
      · simp only [h, Bool.false_eq_true, if_false]
        exact ⟨_, rfl⟩

theorem Eqv.cons_same {c : Char} {a b : List Char} (hc : isQuote c = false) (h : Eqv a b) :
    Eqv (c :: a) (c :: b) := fun n => by
  obtain ⟨m, hm⟩ := step_out_noQuote n c hc
  obtain ⟨m', h1, h2, h3⟩ := h m
  refine ⟨m', ?_, ?_, ?_⟩
  · simp only [fin, hm, h1]
  · simp only [fin, hm, h2]
  · simp only [outp, hm, h3]

theorem step_layout (n : Nat) (c : Char) (h : isLayout c = true) : step (.out n) c = ([], .out n) := by
  simp only [step, h, if_true]

theorem Eqv.skipL {c : Char} {a b : List Char} (hc : isLayout c = true) (h : Eqv a b) :
    Eqv (c :: a) b := fun n => by
  obtain ⟨m, h1, h2, h3⟩ := h n
  refine ⟨m, ?_, h2, ?_⟩
  · simp only [fin, step_layout n c hc, h1]
  · simp only [outp, step_layout n c hc, List.nil_append, h3]

theorem Eqv.skipR {c : Char} {a b : List Char} (hc : isLayout c = true) (h : Eqv a b) :
    Eqv a (c :: b) := (Eqv.skipL hc h.symm).symm

theorem Eqv.skipIndentL {a b : List Char} : ∀ (k : Nat), Eqv a b → Eqv (List.replicate k ' ' ++ a) b
  | 0, h => h
  | k + 1, h => by
    rw [List.replicate_succ, List.cons_append]
    exact Eqv.skipL (by decide) (Eqv.skipIndentL k h)

theorem Eqv.skipIndentL' {b : List Char} (k : Nat) (h : Eqv [] b) : Eqv (List.replicate k ' ') b := by
  have := Eqv.skipIndentL k h
  rwa [List.append_nil] at this

theorem Eqv.skipIndentR {a b : List Char} (k : Nat) (h : Eqv a b) : Eqv a (List.replicate k ' ' ++ b) :=
  (Eqv.skipIndentL k h.symm).symm

theorem step_comma (n : Nat) : step (.out n) ',' = ([], .out (n + 1)) := by
  simp only [step]
  rw [if_neg (by decide), if_pos (by decide)]

theorem step_close (n : Nat) (c : Char) (h : isClose c = true) : step (.out n) c = ([c], .out 0) := by
  have h1 : isLayout c = false := by
    simp only [isClose, Bool.or_eq_true, beq_iff_eq] at h
    rcases h with (h | h) | h <;> subst h <;> decide
  have h2 : (c == ',') = false := by
    simp only [isClose, Bool.or_eq_true, beq_iff_eq] at h
    rcases h with (h | h) | h <;> subst h <;> decide
  simp only [step, h1, h2, h, Bool.false_eq_true, if_false, if_true]

/-- the trailing comma of a multi-line layout: `,` line break, indentation, closing bracket
    against the bare closing bracket -/
theorem Eqv.trailing {c : Char} {a b : List Char} (k : Nat) (hc : isClose c = true) (h : Eqv a b) :
    Eqv (',' :: '\n' :: (List.replicate k ' ' ++ c :: a)) (c :: b) := fun n => by
  obtain ⟨m, h1, h2, h3⟩ := h 0
  have hI : ∀ (k j : Nat) (x : List Char), fin (.out j) (List.replicate k ' ' ++ x) = fin (.out j) x ∧
      outp (.out j) (List.replicate k ' ' ++ x) = outp (.out j) x := by
    intro k
    induction k with
    | zero => intro j x; exact ⟨rfl, rfl⟩
    | succ k ih =>
      intro j x
      rw [List.replicate_succ, List.cons_append]
      simp only [fin, outp, step_layout j ' ' (by decide), List.nil_append]
      exact ih j x
  refine ⟨m, ?_, ?_, ?_⟩
  · simp only [fin, step_comma, step_layout (n + 1) '\n' (by decide), (hI k (n + 1) (c :: a)).1,
      step_close _ c hc, h1]
  · simp only [fin, step_close _ c hc, h2]
  · simp only [outp, step_comma, step_layout (n + 1) '\n' (by decide), (hI k (n + 1) (c :: a)).2,
      step_close _ c hc, List.nil_append, h3]

theorem Bal.of_noQuote : ∀ (a : List Char), (∀ c ∈ a, isQuote c = false) → Bal a
  | [], _ => Bal.nil
  | c :: a, h => by
    have hc := h c (List.mem_cons_self)
    have ha := Bal.of_noQuote a (fun d hd => h d (List.mem_cons_of_mem _ hd))
    exact (Eqv.cons_same hc (Eqv.refl ha)).balL

theorem fin_inq (q : Char) : ∀ (s : List Char), q ∉ s → fin (.inq q) s = .inq q
  | [], _ => rfl
  | c :: s, h => by
    have hc : (c == q) = false := by
      simp only [beq_eq_false_iff_ne, ne_eq]
      exact fun e => h (by simp [e])
    simp only [fin, step, hc, Bool.false_eq_true, if_false]
    exact fin_inq q s (fun m => h (List.mem_cons_of_mem _ m))

theorem step_quote (n : Nat) (q : Char) (hq : isQuote q = true) :
    step (.out n) q = (commas n ++ [q], .inq q) := by
  have h : isLayout q = false ∧ (q == ',') = false ∧ isClose q = false := by
    simp only [isQuote, Bool.or_eq_true, beq_iff_eq] at hq
    rcases hq with h | h <;> subst h <;> decide
  simp only [step, h.1, h.2.1, h.2.2, hq, Bool.false_eq_true, if_false, if_true]

theorem fin_quoted (n : Nat) (q : Char) (hq : isQuote q = true) (s : List Char) (h : q ∉ s) :
    fin (.out n) (q :: (s ++ [q])) = .out 0 := by
  have hlast : fin (.inq q) [q] = .out 0 := by
    simp only [fin, step, beq_self_eq_true, if_true]
  show fin (step (.out n) q).2 (s ++ [q]) = .out 0
  rw [step_quote n q hq, fin_append, fin_inq q s h, hlast]

theorem Bal.quoted (q : Char) (hq : isQuote q = true) (s : List Char) (h : q ∉ s) :
    Bal (q :: (s ++ [q])) := fun n => ⟨0, fin_quoted n q hq s h⟩

def EqvS (a b : String) : Prop := Eqv a.toList b.toList
def BalS (a : String) : Prop := Bal a.toList

theorem EqvS.refl {a : String} (h : BalS a) : EqvS a a := Eqv.refl h
theorem EqvS.symm {a b : String} (h : EqvS a b) : EqvS b a := Eqv.symm h
theorem EqvS.trans {a b c : String} (h : EqvS a b) (h' : EqvS b c) : EqvS a c := Eqv.trans h h'
theorem EqvS.balL {a b : String} (h : EqvS a b) : BalS a := Eqv.balL h
theorem EqvS.balR {a b : String} (h : EqvS a b) : BalS b := Eqv.balR h
theorem EqvS.app {a b c d : String} (h : EqvS a b) (h' : EqvS c d) : EqvS (a ++ c) (b ++ d) := by
  unfold EqvS
  rw [String.toList_append, String.toList_append]
  exact Eqv.app h h'
theorem BalS.app {a b : String} (h : BalS a) (h' : BalS b) : BalS (a ++ b) := (EqvS.app (EqvS.refl h) (EqvS.refl h')).balL

theorem EqvS.squash_eq {a b : String} (h : EqvS a b) : squash a = squash b := by
  unfold squash
  rw [Eqv.squashL_eq h]

/-- a name (identifier, field, parameter, …) without quote characters -/
def nameOk (s : String) : Bool := s.toList.all fun c => !isQuote c

theorem BalS.of_nameOk {s : String} (h : nameOk s = true) : BalS s := by
  apply Bal.of_noQuote
  intro c hc
  have := List.all_eq_true.mp h c hc
  simpa using this

/-! ### literal texts

  Outside a string literal the machine passes over layout characters without changing state, so
  two quote-free texts with the same remaining characters are `Eqv`.  For two literals this is a
  computation (`Eqv.lit (by decide)`): it is how a text piece of a layout is compared with its
  counterpart in the single-line text. -/

def solid (a : List Char) : List Char := a.filter fun c => !isLayout c

theorem Eqv.to_solid : ∀ a : List Char, (∀ c ∈ a, isQuote c = false) → Eqv a (solid a)
  | [], _ => Eqv.nil
  | c :: a, h => by
    have ih := Eqv.to_solid a fun d hd => h d (List.mem_cons_of_mem _ hd)
    cases hc : isLayout c
    · rw [solid, List.filter_cons_of_pos (by rw [hc]; rfl)]
      exact Eqv.cons_same (h c List.mem_cons_self) ih
    · rw [solid, List.filter_cons_of_neg (by rw [hc]; decide)]
      exact Eqv.skipL hc ih

def sameSolid (s t : String) : Bool := nameOk s && nameOk t && solid s.toList == solid t.toList

theorem Eqv.lit {s t : String} (h : sameSolid s t = true) : Eqv s.toList t.toList := by
  simp only [sameSolid, Bool.and_eq_true, beq_iff_eq] at h
  have ht := (Eqv.to_solid t.toList (fun c hc => by simpa using List.all_eq_true.mp h.1.2 c hc)).symm
  rw [← h.2] at ht
  exact (Eqv.to_solid s.toList (fun c hc => by simpa using List.all_eq_true.mp h.1.1 c hc)).trans ht

theorem Eqv.blank {s : String} (h : sameSolid s "" = true) : Eqv s.toList [] := by
  have := Eqv.lit h
  rwa [String.toList_empty] at this

theorem balS_intercalate (sep : String) (hs : BalS sep) :
    ∀ (l : List String), (∀ x ∈ l, BalS x) → BalS (sep.intercalate l)
  | [], _ => by
    show Bal (String.toList (String.intercalate sep []))
    rw [String.toList_intercalate]; exact Bal.nil
  | [x], h => by
    show Bal (String.toList (String.intercalate sep [x]))
    rw [String.toList_intercalate]
    have := h x (List.mem_singleton.mpr rfl)
    unfold BalS at this
    simpa [List.intercalate] using this
  | x :: y :: r, h => by
    have ih := balS_intercalate sep hs (y :: r) (fun z hz => h z (List.mem_cons_of_mem _ hz))
    unfold BalS at ih ⊢
    rw [String.toList_intercalate] at ih ⊢
    simp only [List.map_cons, List.intercalate, List.intersperse_cons_cons, List.flatten_cons] at ih ⊢
    exact Bal.app (h x List.mem_cons_self) (Bal.app hs ih)

theorem balS_litOf (qc : Char × List Char) (hq : qc.1 = '"' ∨ qc.1 = '\'') (hf : qc.1 ∉ qc.2) :
    BalS (PrintL.litOf qc) := by
  unfold BalS PrintL.litOf
  rw [String.toList_ofList]
  refine Bal.quoted qc.1 ?_ qc.2 hf
  rcases hq with h | h <;> rw [h] <;> decide

theorem balS_stringToSource (s : String) : BalS (stringToSource s) := by
  by_cases h1 : '"' ∈ s.toList
  · by_cases h2 : '\'' ∈ s.toList
    · rw [PrintL.stringToSource_both s h1 h2]
      refine BalS.app (BalS.app (BalS.of_nameOk (by decide)) ?_) (BalS.of_nameOk (by decide))
      refine balS_intercalate _ (BalS.of_nameOk (by decide)) _ ?_
      intro x hx
      obtain ⟨qc, hqc, rfl⟩ := List.mem_map.mp hx
      obtain ⟨hq, hf⟩ := PrintL.quotedPieces_ok _ qc hqc
      exact balS_litOf qc hq hf
    · rw [PrintL.stringToSource_sq s h1 h2]
      unfold BalS
      simp only [String.toList_append, PrintL.sq_toList, List.cons_append, List.nil_append]
      exact Bal.quoted '\'' (by decide) s.toList h2
  · rw [PrintL.stringToSource_dq s h1]
    unfold BalS
    simp only [String.toList_append, PrintL.dq_toList, List.cons_append, List.nil_append]
    exact Bal.quoted '"' (by decide) s.toList h1

theorem isQuote_false_of_ident (d : Char)
    (h : isAsciiAlpha d = true ∨ isAsciiDigit d = true ∨ d = '_') : isQuote d = false := by
  cases hq : isQuote d
  · rfl
  · exfalso
    simp only [isQuote, Bool.or_eq_true, beq_iff_eq] at hq
    rcases hq with hq | hq <;> subst hq <;> revert h <;> decide

theorem balS_formatRecordKey (k : String) : BalS (formatRecordKey k) := by
  unfold formatRecordKey
  split
  · rename_i hv
    obtain ⟨_, c, rest, hk, hc, hr⟩ := PrintL.isValidIdentifier_spec k hv
    apply Bal.of_noQuote
    intro d hd
    rw [hk] at hd
    rcases List.mem_cons.mp hd with rfl | hd
    · exact isQuote_false_of_ident _ (hc.elim Or.inl (fun h => Or.inr (Or.inr h)))
    · exact isQuote_false_of_ident _ (hr d hd)
  · split
    · exact balS_stringToSource k
    · exact BalS.app (BalS.app (BalS.of_nameOk (by decide)) (balS_stringToSource k))
        (BalS.of_nameOk (by decide))

theorem isQuote_false_of_digit (c : Char) (h : c.isDigit = true) : isQuote c = false := by
  cases hq : isQuote c
  · rfl
  · exfalso
    simp only [isQuote, Bool.or_eq_true, beq_iff_eq] at hq
    rcases hq with hq | hq <;> subst hq <;> revert h <;> decide

/-- `number_to_source`: digits, `.`, `-`, `inf`, `NaN`, `1e999` — no quote character among them -/
theorem balS_numberToSource (x : F64) : BalS (numberToSource x) :=
  BalS.of_nameOk (PrintL.all_numberToSource (fun c => !isQuote c)
    (fun c h => by rw [isQuote_false_of_digit c h]; rfl) (by decide) x fun _ => by decide)

theorem balS_opSpelling (op : BinOp) : BalS (opSpelling op) := by
  apply BalS.of_nameOk
  cases op <;> decide +kernel

theorem balS_unaryOp (op : UnOp) : BalS (unaryOpToSource op) := by
  apply BalS.of_nameOk
  cases op <;> decide +kernel

theorem balS_parenIf (b : Bool) {s : String} (h : BalS s) : BalS (parenIf b s) := by
  cases b
  · exact h
  · exact BalS.app (BalS.app (BalS.of_nameOk (by decide)) h) (BalS.of_nameOk (by decide))

theorem balS_protect {s : String} (h : BalS s) : BalS (protectStatementStart s) := by
  unfold protectStatementStart
  split
  · exact BalS.app (BalS.app (BalS.of_nameOk (by decide)) h) (BalS.of_nameOk (by decide))
  · exact h

theorem balS_lambdaArg (a : LArg) (h : nameOk a.name = true) : BalS (lambdaArgToSource a) := by
  cases a with
  | req n => exact BalS.of_nameOk h
  | opt n => exact BalS.app (BalS.of_nameOk h) (BalS.of_nameOk (by decide))
  | rest n => exact BalS.app (BalS.of_nameOk (by decide)) (BalS.of_nameOk h)

theorem balS_lambdaArgsPart (args : List LArg) (h : (args.all fun a => nameOk a.name) = true) :
    BalS (lambdaArgsPart args) := by
  have hall : ∀ a ∈ args, BalS (lambdaArgToSource a) := fun a ha =>
    balS_lambdaArg a (List.all_eq_true.mp h a ha)
  have hgen : BalS ("(" ++ ", ".intercalate (args.map lambdaArgToSource) ++ ")") := by
    refine BalS.app (BalS.app (BalS.of_nameOk (by decide)) ?_) (BalS.of_nameOk (by decide))
    refine balS_intercalate _ (BalS.of_nameOk (by decide)) _ ?_
    intro x hx
    obtain ⟨a, ha, rfl⟩ := List.mem_map.mp hx
    exact hall a ha
  unfold lambdaArgsPart
  split
  · rename_i n
    exact hall (.req n) (List.mem_singleton.mpr rfl)
  · exact hgen

end Squash
end Blots
