import Blots.Lemmas.FormatSquash
/-
  Definitions for "the layouts change only layout" (`Lemmas/FormatSquashLayouts.lean`,
  `Props/C07.lean`): the text pieces of a layout (`textOnly`), the tree without its comments
  (`eraseComments`), its single-line print with parameter lists as `formatter.rs` prints them
  (`flat`), and the hypotheses under which the printers agree (`noBare`, `lamOk`, `namesOk`,
  `headSafe`).
-/
namespace Blots

def Piece.isText : Piece → Bool
  | .text _ => true
  | .comment _ => false

def textOnly (ps : List Piece) : List Piece := ps.filter Piece.isText

mutual
def eraseComments : Expr → Expr
  | .list items => .list (eraseItems items)
  | .record es => .record (eraseEntries es)
  | .lambda a b => .lambda a (eraseComments b)
  | .cond c t e => .cond (eraseComments c) (eraseComments t) (eraseComments e)
  | .doBlock ss r => .doBlock (eraseItems ss) (eraseItem r)
  | .assign n v => .assign n (eraseComments v)
  | .output e => .output (eraseComments e)
  | .call f as => .call (eraseComments f) (eraseExprs as)
  | .access e i => .access (eraseComments e) (eraseComments i)
  | .dot e f => .dot (eraseComments e) f
  | .bin op l r => .bin op (eraseComments l) (eraseComments r)
  | .un op e => .un op (eraseComments e)
  | .fact e => .fact (eraseComments e)
  | .spread e => .spread (eraseComments e)
  | .num x => .num x
  | .str s => .str s
  | .bool b => .bool b
  | .null => .null
  | .ident n => .ident n
  | .inref f => .inref f
  | .builtin n => .builtin n
def eraseExprs : List Expr → List Expr
  | [] => []
  | e :: es => eraseComments e :: eraseExprs es
def eraseItem : Item → Item
  | .mk _ e _ => .mk [] (eraseComments e) none
def eraseItems : List Item → List Item
  | [] => []
  | i :: is => eraseItem i :: eraseItems is
/-- the `value` of a shorthand or spread entry is not part of the printed tree (the parser puts
    a dummy `Null` there): it is left alone -/
def eraseEntry : Entry → Entry
  | .mk _ (.static k) v _ => .mk [] (.static k) (eraseComments v) none
  | .mk _ (.dyn ke) v _ => .mk [] (.dyn (eraseComments ke)) (eraseComments v) none
  | .mk _ (.short n) v _ => .mk [] (.short n) v none
  | .mk _ (.spread e) v _ => .mk [] (.spread (eraseComments e)) v none
def eraseEntries : List Entry → List Entry
  | [] => []
  | e :: es => eraseEntry e :: eraseEntries es
end

mutual
/-- the single-line print, comments ignored, parameter lists as `formatter.rs` prints them -/
def flat : Expr → String
  | .ident n => n
  | .inref f => "#" ++ f
  | .num x => numberToSource x
  | .str s => stringToSource s
  | .bool b => if b then "true" else "false"
  | .null => "null"
  | .builtin n => n
  | .list items => "[" ++ ", ".intercalate (flatItems items) ++ "]"
  | .record es => "{" ++ ", ".intercalate (flatEntries es) ++ "}"
  | .lambda args body =>
    lambdaArgsPart args ++ " => " ++ parenIf (lambdaBodyNeedsParens body) (flat body)
  | .cond c t e => "if " ++ flat c ++ " then " ++ flat t ++ " else " ++ flat e
  | .doBlock stmts ret => "do {" ++ flatStmts stmts ++ flatRet ret
  | .assign n v => n ++ " = " ++ flat v
  | .output e => "output " ++ flat e
  | .call f args =>
    parenIf (needsParens f .postfix_) (flat f) ++ "(" ++ ", ".intercalate (flatExprs args) ++ ")"
  | .access e i => parenIf (needsParens e .postfix_) (flat e) ++ "[" ++ flat i ++ "]"
  | .dot e f => parenIf (needsParens e .postfix_) (flat e) ++ "." ++ f
  | .bin op l r =>
    parenIf (needsParens l (.binLeft op)) (flat l) ++ " " ++ opSpelling op ++ " " ++
      parenIf (needsParens r (.binRight op)) (flat r)
  | .un op e => unaryOpToSource op ++ parenIf (needsParens e .prefix_) (flat e)
  | .fact e => parenIf (needsParens e .postfix_) (flat e) ++ "!"
  | .spread e => "..." ++ flat e
def flatExprs : List Expr → List String
  | [] => []
  | e :: es => flat e :: flatExprs es
def flatItem : Item → String
  | .mk _ e _ => flat e
def flatItems : List Item → List String
  | [] => []
  | i :: is => flatItem i :: flatItems is
def flatEntry : Entry → String
  | .mk _ k v _ => flatKeyed k (flat v)
def flatEntries : List Entry → List String
  | [] => []
  | e :: es => flatEntry e :: flatEntries es
def flatKeyed : Key → String → String
  | .static k, vs => formatRecordKey k ++ ": " ++ vs
  | .dyn ke, vs => "[" ++ flat ke ++ "]: " ++ vs
  | .short n, _ => n
  | .spread e, _ => flat e
/-- a do-block statement, as `expr_to_source` prints it without its comments -/
def flatStmt : Item → String
  | .mk _ e _ => "\n  " ++ protectStatementStart (flat e)
def flatStmts : List Item → String
  | [] => ""
  | i :: rest => flatStmt i ++ flatStmts rest
def flatRet : Item → String
  | .mk _ e _ => "\n  return " ++ flat e ++ "\n}"
end

/-- exactly one required parameter: the list `format_lambda` prints without parentheses -/
def bareArgs : List LArg → Bool
  | [.req _] => true
  | _ => false

mutual
/-- no lambda with exactly one required parameter anywhere in the printed tree -/
def noBare : Expr → Bool
  | .list items => itemsNoBare items
  | .record es => entriesNoBare es
  | .lambda args b => !bareArgs args && noBare b
  | .cond c t e => noBare c && (noBare t && noBare e)
  | .doBlock ss r => itemsNoBare ss && itemNoBare r
  | .assign _ v => noBare v
  | .output e => noBare e
  | .call f as => noBare f && exprsNoBare as
  | .access e i => noBare e && noBare i
  | .dot e _ => noBare e
  | .bin _ l r => noBare l && noBare r
  | .un _ e => noBare e
  | .fact e => noBare e
  | .spread e => noBare e
  | _ => true
def exprsNoBare : List Expr → Bool
  | [] => true
  | e :: es => noBare e && exprsNoBare es
def itemNoBare : Item → Bool
  | .mk _ e _ => noBare e
def itemsNoBare : List Item → Bool
  | [] => true
  | i :: is => itemNoBare i && itemsNoBare is
def entryNoBare : Entry → Bool
  | .mk _ k v _ => keyNoBare k (noBare v)
def entriesNoBare : List Entry → Bool
  | [] => true
  | e :: es => entryNoBare e && entriesNoBare es
def keyNoBare : Key → Bool → Bool
  | .static _, vb => vb
  | .dyn k, vb => noBare k && vb
  | .short _, _ => true
  | .spread e, _ => noBare e
end

mutual
/-- no lambda with exactly one required parameter below a node whose single-line text is
    `expr_to_source` (the last arm of `format_single_line`): there `expr_to_source` prints
    `(x) => …` where every layout of `formatter.rs` prints `x => …` -/
def lamOk : Expr → Bool
  | .list items => itemsLamOk items
  | .record es => entriesLamOk es
  | .lambda _ b => lamOk b
  | .cond c t e => noBare c && (noBare t && noBare e)
  | .doBlock ss r => itemsLamOk ss && itemLamOk r
  | .assign _ v => lamOk v
  | .output e => lamOk e
  | .call f as => lamOk f && exprsLamOk as
  | .access e i => noBare e && noBare i
  | .dot e _ => noBare e
  | .bin _ l r => noBare l && noBare r
  | .un _ e => noBare e
  | .fact e => noBare e
  | .spread e => noBare e
  | _ => true
def exprsLamOk : List Expr → Bool
  | [] => true
  | e :: es => lamOk e && exprsLamOk es
def itemLamOk : Item → Bool
  | .mk _ e _ => lamOk e
def itemsLamOk : List Item → Bool
  | [] => true
  | i :: is => itemLamOk i && itemsLamOk is
def entryLamOk : Entry → Bool
  | .mk _ k v _ => keyLamOk k (lamOk v)
def entriesLamOk : List Entry → Bool
  | [] => true
  | e :: es => entryLamOk e && entriesLamOk es
def keyLamOk : Key → Bool → Bool
  | .static _, vb => vb
  | .dyn k, vb => lamOk k && vb
  | .short _, _ => true
  | .spread e, _ => lamOk e
end

/-- a name at the start of a statement that `protect_statement_start` treats alike on every
    layout: it is not spelled `via` / `into` / `where`, and does not itself start with one of
    them followed by a blank (no name the parser builds does) -/
def headNameOk (n : String) : Bool :=
  !(n == "via" || n == "into" || n == "where") && !wordOperatorStart n.toList

/-- The leftmost name of the printed text is not `via` / `into` / `where`.  For a statement of a
    do-block that starts with such a name `protect_statement_start` decides by the character
    behind it: `via + b` is parenthesised on one line, and is not when the layout breaks the
    line behind `via` (`via` ⏎ `+ b` cannot continue the line before it) — there the formatter
    and the single-line printer differ by a pair of parentheses, not only in layout.
    For a number the condition is on the first character of its text, `v` / `i` / `w` being the
    first letters of the three words: it holds of every `numberToSource x` (which starts with a
    digit, `-` or `N`; `+inf` is printed `1e999`); that is not proved, so it stays a hypothesis. -/
def headSafe : Expr → Bool
  | .ident n => headNameOk n
  | .builtin n => headNameOk n
  | .assign n _ => headNameOk n
  | .bin op l _ => needsParens l (.binLeft op) || headSafe l
  | .fact e => needsParens e .postfix_ || headSafe e
  | .call e _ => needsParens e .postfix_ || headSafe e
  | .access e _ => needsParens e .postfix_ || headSafe e
  | .dot e _ => needsParens e .postfix_ || headSafe e
  | .lambda args _ => (match args with | [.req n] => headNameOk n | _ => true)
  | .num x => (match (numberToSource x).toList with | c :: _ => c != 'v' && c != 'i' && c != 'w' | [] => true)
  | _ => true

open Blots.Squash in
mutual
/-- no identifier-like string of the tree contains a quote character (every tree the parser
    builds: identifiers, field names and parameters are `[A-Za-z_][A-Za-z0-9_]*`), and no
    statement of a do-block starts with a name spelled `via` / `into` / `where` (`headSafe`) -/
def namesOk : Expr → Bool
  | .ident n => nameOk n
  | .inref f => nameOk f
  | .builtin n => nameOk n
  | .list items => itemsNamesOk items
  | .record es => entriesNamesOk es
  | .lambda args b => (args.all fun a => nameOk a.name) && namesOk b
  | .cond c t e => namesOk c && (namesOk t && namesOk e)
  | .doBlock ss r => stmtsNamesOk ss && itemNamesOk r
  | .assign n v => nameOk n && namesOk v
  | .output e => namesOk e
  | .call f as => namesOk f && exprsNamesOk as
  | .access e i => namesOk e && namesOk i
  | .dot e f => namesOk e && nameOk f
  | .bin _ l r => namesOk l && namesOk r
  | .un _ e => namesOk e
  | .fact e => namesOk e
  | .spread e => namesOk e
  | .num _ => true
  | .str _ => true
  | .bool _ => true
  | .null => true
def exprsNamesOk : List Expr → Bool
  | [] => true
  | e :: es => namesOk e && exprsNamesOk es
def itemNamesOk : Item → Bool
  | .mk _ e _ => namesOk e
def itemsNamesOk : List Item → Bool
  | [] => true
  | i :: is => itemNamesOk i && itemsNamesOk is
def stmtsNamesOk : List Item → Bool
  | [] => true
  | (.mk _ e _) :: is => (namesOk e && headSafe e) && stmtsNamesOk is
def entryNamesOk : Entry → Bool
  | .mk _ k v _ => keyNamesOk k (namesOk v)
def entriesNamesOk : List Entry → Bool
  | [] => true
  | e :: es => entryNamesOk e && entriesNamesOk es
def keyNamesOk : Key → Bool → Bool
  | .static _, vb => vb
  | .dyn k, vb => namesOk k && vb
  | .short n, _ => nameOk n
  | .spread e, _ => namesOk e
end

namespace Squash
open FormatL

mutual
theorem erase_id : ∀ e : Expr, anyComment e = false → eraseComments e = e
  | .list items, h => by
    simp only [anyComment] at h; simp only [eraseComments, erase_id_items items h]
  | .record es, h => by
    simp only [anyComment] at h; simp only [eraseComments, erase_id_entries es h]
  | .lambda _ e, h | .assign _ e, h | .output e, h | .dot e _, h | .un _ e, h | .fact e, h
  | .spread e, h => by
    simp only [anyComment] at h; simp only [eraseComments, erase_id e h]
  | .cond c t e, h => by
    simp only [anyComment, Bool.or_eq_false_iff] at h
    simp only [eraseComments, erase_id c h.1.1, erase_id t h.1.2, erase_id e h.2]
  | .doBlock ss r, h => by
    simp only [anyComment, Bool.or_eq_false_iff] at h
    simp only [eraseComments, erase_id_items ss h.1, erase_id_item r h.2]
  | .call f as, h => by
    simp only [anyComment, Bool.or_eq_false_iff] at h
    simp only [eraseComments, erase_id f h.1, erase_id_exprs as h.2]
  | .access l r, h | .bin _ l r, h => by
    simp only [anyComment, Bool.or_eq_false_iff] at h
    simp only [eraseComments, erase_id l h.1, erase_id r h.2]
  | .num _, _ | .str _, _ | .bool _, _ | .null, _ | .ident _, _ | .inref _, _
  | .builtin _, _ => by simp only [eraseComments]
theorem erase_id_exprs : ∀ es : List Expr, exprsAnyComment es = false → eraseExprs es = es
  | [], _ => rfl
  | e :: es, h => by
    simp only [exprsAnyComment, Bool.or_eq_false_iff] at h
    simp only [eraseExprs, erase_id e h.1, erase_id_exprs es h.2]
theorem erase_id_item : ∀ i : Item, itemAnyComment i = false → eraseItem i = i
  | .mk l e t, h => by
    obtain ⟨rfl, rfl, hc⟩ := itemAnyComment_false h
    simp only [eraseItem, erase_id e hc]
theorem erase_id_items : ∀ is : List Item, itemsAnyComment is = false → eraseItems is = is
  | [], _ => rfl
  | i :: is, h => by
    simp only [itemsAnyComment, Bool.or_eq_false_iff] at h
    simp only [eraseItems, erase_id_item i h.1, erase_id_items is h.2]
theorem erase_id_entry : ∀ en : Entry, entryAnyComment en = false → eraseEntry en = en
  | .mk l (.static k) v t, h => by
    obtain ⟨rfl, rfl, hc⟩ := entryAnyComment_false h
    simp only [keyAnyComment] at hc
    simp only [eraseEntry, erase_id v hc]
  | .mk l (.dyn ke) v t, h => by
    obtain ⟨rfl, rfl, hc⟩ := entryAnyComment_false h
    simp only [keyAnyComment, Bool.or_eq_false_iff] at hc
    simp only [eraseEntry, erase_id ke hc.1, erase_id v hc.2]
  | .mk l (.short n) v t, h => by
    obtain ⟨rfl, rfl, _⟩ := entryAnyComment_false h
    simp only [eraseEntry]
  | .mk l (.spread e) v t, h => by
    obtain ⟨rfl, rfl, hc⟩ := entryAnyComment_false h
    simp only [keyAnyComment] at hc
    simp only [eraseEntry, erase_id e hc]
theorem erase_id_entries : ∀ es : List Entry, entriesAnyComment es = false → eraseEntries es = es
  | [], _ => rfl
  | e :: es, h => by
    simp only [entriesAnyComment, Bool.or_eq_false_iff] at h
    simp only [eraseEntries, erase_id_entry e h.1, erase_id_entries es h.2]
end

end Squash
end Blots
