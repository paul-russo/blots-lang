import Blots.Lemmas.ExprPegOps
/-
  Text-level round trip for the fragment (C10), part 2 (part 1: `Lemmas/ExprPegOps.lean`):

  * `CST` (with `Args`, `Ents`, `Stmts`, `LamHead`): concrete syntax trees of the fragment —
                       operators, calls, index and field accesses, lists, records, lambdas,
                       conditionals, do-blocks, assignments, string literals — with the layout
                       strings and the parentheses written out; `CST.text` the characters,
                       `CST.items` the item sequence pest hands to the Pratt parser, `CST.tree`
                       the abstract tree (parentheses erased);
  * `CST.WF`         : parentheses present wherever `needsParens` asks for them (more are
                       allowed), atoms of the fragment, admissible layout;
  * `lex_cst`        : the PEG model `exprR` splits `c.text` into exactly `c.items`
                       (continuation-passing induction over the tree, unbounded depth);
  * `cparses`        : the Pratt model reads `c.items` back to `c.tree`
                       (`PrattRT.items_parse`, with redundant parentheses allowed);
  * `Frag`, `canon`  : the fragment of the abstract syntax, and the CST the printer
                       `exprToSource` writes for a tree of it;
  * `Relayout`       : the CSTs that differ from `canon t` in layout only; all are well-formed;
  * `Wrap`           : one more pair of parentheses around a sub-expression keeps `WF` and the tree;
  * `bothTree`       : what the printed text of a string with both kinds of quote is read back to.
-/
namespace Blots.ExprPeg
open Blots.Ident

/-! ### (10) concrete syntax trees -/

/-- the end of a `call_list` / `list` behind its last element: layout and the closing bracket,
    or a trailing comma — blanks, `,`, layout, the closing bracket -/
inductive Close where
  | plain (l : Lay)
  | comma (w l : Lay)

def spreadChars (sp : Bool) : List Char := if sp then spreadLit else []

def argTree (sp : Bool) (t : Expr) : Expr := if sp then .spread t else t

def Close.text (br : Char) : Close → List Char
  | .plain l => layChars l ++ [br]
  | .comma w l => layChars w ++ ',' :: (layChars l ++ [br])

/-- admissible closing of a call: blanks only in front of the trailing comma, and the layout
    behind it has a line break (`("," ~ NEWLINE)?`: after blanks, a line break must come) -/
def Close.okCall : Close → Bool
  | .plain _ => true
  | .comma w l => wsOnly w && l.any fun a => !a.isWs

def Close.okList : Close → Bool
  | .plain _ => true
  | .comma w _ => wsOnly w

def argText : LArg → List Char
  | .req n => n.toList
  | .opt n => n.toList ++ ['?']
  | .rest n => spreadLit ++ n.toList

/-- the argument list of a lambda: one bare argument (`x`, `x?`), `( lay )`, or
    `( lay a₁ blanks , lay a₂ … close` with the layout rules of `call_list` -/
inductive LamHead where
  | bare (a : LArg)
  | unit (l : Lay)
  | parens (l0 : Lay) (first : LArg) (more : List (Lay × Lay × LArg)) (close : Close)

def moreText : List (Lay × Lay × LArg) → List Char
  | [] => []
  | (w, l, a) :: rest => layChars w ++ ',' :: (layChars l ++ (argText a ++ moreText rest))

def LamHead.text : LamHead → List Char
  | .bare a => argText a
  | .unit l => '(' :: (layChars l ++ [')'])
  | .parens l0 a more c => '(' :: (layChars l0 ++ (argText a ++ (moreText more ++ c.text ')')))

def LamHead.args : LamHead → List LArg
  | .bare a => [a]
  | .unit _ => []
  | .parens _ a more _ => a :: more.map fun x => x.2.2

/-- admissible layout of an argument list (blanks only in front of a comma, a trailing comma
    only in front of a line break); the parentheses may be left out around a single argument
    that is not a rest argument -/
def LamHead.ok : LamHead → Bool
  | .bare a => (match a with | .rest _ => false | _ => true)
  | .unit _ => true
  | .parens _ _ more c => more.all (fun x => wsOnly x.1) && c.okCall

/-- the names of the arguments are identifiers; a bare argument is not a rest argument
    (`...r => e` as an argument of a call would be the spread of `r => e`) -/
def LamHead.namesOk (h : LamHead) : Bool :=
  (h.args.all fun a => nameOk a.name) &&
    (match h with | .bare (.rest _) => false | _ => true)

/-- no `via` / `into` / `where` among the operators of an item sequence (what the top level of
    a lambda body may contain) -/
def LamSafe (its : List PItem) : Prop :=
  ∀ op : BinOp, PItem.inf (PrattRT.ruleOf op) ∈ its → isChain op = false

/-- what separates two statements of a do-block (and the last one from `return`): blanks, `;`,
    any layout — or a layout string with a line break in it -/
inductive Sep where
  | semi (w l : Lay)
  | line (g : Lay)

def Sep.text : Sep → List Char
  | .semi w l => layChars w ++ ';' :: layChars l
  | .line g => layChars g

def Sep.isLine : Sep → Bool
  | .semi .. => false
  | .line _ => true

def Sep.ok : Sep → Bool
  | .semi w _ => wsOnly w
  | .line g => g.any fun a => !a.isWs

def retLit : List Char := ['r', 'e', 't', 'u', 'r', 'n']

mutual
/-- concrete syntax of the fragment: the tree with every layout string and every pair of
    parentheses written out -/
inductive CST where
  /-- a term of the fragment, written as the printer writes it -/
  | atom : Expr → CST
  /-- a string literal `"s"` (`dq`) / `'s'` -/
  | str : Bool → String → CST
  /-- `l  lay₁ op lay₂  r` -/
  | bin : BinOp → CST → Lay → Lay → CST → CST
  /-- prefix operator directly in front of its operand (the grammar admits no layout there) -/
  | un : UnOp → CST → CST
  /-- postfix `!` directly behind its operand -/
  | fact : CST → CST
  /-- `( lay₁ e lay₂ )` -/
  | paren : Lay → CST → Lay → CST
  /-- `f( lay )` : a call without arguments, directly behind `f` -/
  | call0 : CST → Lay → CST
  /-- `f( lay args close` -/
  | call : CST → Lay → Args → Close → CST
  /-- `e[ nl₁ i nl₂ ]` -/
  | access : CST → Lay → CST → Lay → CST
  /-- `e.name` -/
  | dot : CST → String → CST
  /-- `[ lay ]` : the empty list -/
  | list0 : Lay → CST
  /-- `[ lay items close` -/
  | list : Lay → Args → Close → CST
  /-- `head blanks => lay body` -/
  | lambda : LamHead → Lay → Lay → CST → CST
  /-- `if blanks c lay then lay t lay else lay e` -/
  | cond : Lay → CST → Lay → Lay → CST → Lay → Lay → CST → CST
  /-- `{ lay }` : the empty record -/
  | rec0 : Lay → CST
  /-- `{ lay entries close` -/
  | record : Lay → Ents → Close → CST
  /-- `do lay { lay statements return blanks e lay }` -/
  | doB : Lay → Lay → Stmts → Lay → CST → Lay → CST
  /-- `name blanks = blanks value` : an assignment -/
  | asg : String → Lay → Lay → CST → CST
/-- a non-empty argument / item list: each element possibly spread (`...a`), separated by
    `blanks , layout` -/
inductive Args where
  | last : Bool → CST → Args
  | cons : Bool → CST → Lay → Lay → Args → Args
inductive Ent where
  /-- `k blanks : lay v` : a bare key (an identifier) -/
  | pairId : String → Lay → Lay → CST → Ent
  /-- `"k" blanks : lay v` / `'k' blanks : lay v` : a key written as a string literal -/
  | pairStr : Bool → String → Lay → Lay → CST → Ent
  /-- `[ blanks e blanks ] blanks : lay v` : a computed key -/
  | pairDyn : Lay → CST → Lay → Lay → Lay → CST → Ent
  /-- `n` : shorthand -/
  | short : String → Ent
  /-- `...e` -/
  | spread : CST → Ent
  /-- an entry outside the fragment (comments, a key with both kinds of quote, …) as the
      printer writes it: never well-shaped -/
  | raw : Entry → Ent
/-- a non-empty entry list, separated by `blanks , layout` -/
inductive Ents where
  | last : Ent → Ents
  | cons : Ent → Lay → Lay → Ents → Ents
/-- the statements of a do-block, each with the separator behind it -/
inductive Stmts where
  | nil : Stmts
  | cons : CST → Sep → Stmts → Stmts
end

namespace CST

mutual
def text : CST → List Char
  | .atom e => atomText e
  | .str dq s => quoteChar dq :: (s.toList ++ [quoteChar dq])
  | .bin op l a b r => l.text ++ (layChars a ++ (spell op ++ (layChars b ++ r.text)))
  | .un op e => (unaryOpToSource op).toList ++ e.text
  | .fact e => e.text ++ ['!']
  | .paren a e b => '(' :: (layChars a ++ (e.text ++ (layChars b ++ [')'])))
  | .call0 f l => f.text ++ '(' :: (layChars l ++ [')'])
  | .call f l as c => f.text ++ '(' :: (layChars l ++ (argsText as ++ c.text ')'))
  | .access e a i b => e.text ++ '[' :: (layChars a ++ (i.text ++ (layChars b ++ [']'])))
  | .dot e n => e.text ++ '.' :: n.toList
  | .list0 l => '[' :: (layChars l ++ [']'])
  | .list l as c => '[' :: (layChars l ++ (argsText as ++ c.text ']'))
  | .lambda hd w l b => hd.text ++ (layChars w ++ '=' :: '>' :: (layChars l ++ b.text))
  | .cond w c l1 l2 t l3 l4 e =>
    'i' :: 'f' :: (layChars w ++ (c.text ++ (layChars l1 ++ (thenLit ++ (layChars l2 ++
      (t.text ++ (layChars l3 ++ (elseLit ++ (layChars l4 ++ e.text)))))))))
  | .rec0 l => '{' :: (layChars l ++ ['}'])
  | .record l es c => '{' :: (layChars l ++ (entsText es ++ c.text '}'))
  | .doB l0 l1 ss w e l2 =>
    'd' :: 'o' :: (layChars l0 ++ '{' :: (layChars l1 ++ (stmtsText ss ++ (retLit ++
      (layChars w ++ (e.text ++ (layChars l2 ++ ['}'])))))))
  | .asg n w l v => n.toList ++ (layChars w ++ '=' :: (layChars l ++ v.text))
def argsText : Args → List Char
  | .last sp a => spreadChars sp ++ a.text
  | .cons sp a w l rest =>
    spreadChars sp ++ (a.text ++ (layChars w ++ ',' :: (layChars l ++ argsText rest)))
def entText : Ent → List Char
  | .pairId k w l v => k.toList ++ (layChars w ++ ':' :: (layChars l ++ v.text))
  | .pairStr dq s w l v =>
    quoteChar dq :: (s.toList ++ quoteChar dq :: (layChars w ++ ':' :: (layChars l ++ v.text)))
  | .pairDyn a e b w l v =>
    '[' :: (layChars a ++ (e.text ++ (layChars b ++ ']' :: (layChars w ++ ':' :: (layChars l ++ v.text)))))
  | .short n => n.toList
  | .spread e => spreadLit ++ e.text
  | .raw en => (entrySrc [] en).toList
def entsText : Ents → List Char
  | .last e => entText e
  | .cons e w l rest => entText e ++ (layChars w ++ ',' :: (layChars l ++ entsText rest))
def stmtsText : Stmts → List Char
  | .nil => []
  | .cons s sep rest => s.text ++ (sep.text ++ stmtsText rest)
end

mutual
/-- the abstract tree: parentheses and layout erased -/
def tree : CST → Expr
  | .atom e => e
  | .str _ s => .str s
  | .bin op l _ _ r => .bin op l.tree r.tree
  | .un op e => .un op e.tree
  | .fact e => .fact e.tree
  | .paren _ e _ => e.tree
  | .call0 f _ => .call f.tree []
  | .call f _ as _ => .call f.tree (argsTrees as)
  | .access e _ i _ => .access e.tree i.tree
  | .dot e n => .dot e.tree n
  | .list0 _ => .list []
  | .list _ as _ => .list (mkItems (argsTrees as))
  | .lambda hd _ _ b => .lambda hd.args b.tree
  | .cond _ c _ _ t _ _ e => .cond c.tree t.tree e.tree
  | .rec0 _ => .record []
  | .record _ es _ => .record (entsTrees es)
  | .doB _ _ ss _ e _ => .doBlock (stmtsTrees ss) (.mk [] e.tree none)
  | .asg n _ _ v => .assign n v.tree
def argsTrees : Args → List Expr
  | .last sp a => [argTree sp a.tree]
  | .cons sp a _ _ rest => argTree sp a.tree :: argsTrees rest
/-- the entry as `parse_record_entry` builds it (without `preserve_comments`) -/
def entTree : Ent → Entry
  | .pairId k _ _ v => .mk [] (.static k) v.tree none
  | .pairStr _ s _ _ v => .mk [] (.static s) v.tree none
  | .pairDyn _ e _ _ _ v => .mk [] (.dyn e.tree) v.tree none
  | .short n => .mk [] (.short n) .null none
  | .spread e => .mk [] (.spread (.spread e.tree)) .null none
  | .raw en => en
def entsTrees : Ents → List Entry
  | .last e => [entTree e]
  | .cons e _ _ rest => entTree e :: entsTrees rest
/-- the statements as the conversion without `preserve_comments` builds them -/
def stmtsTrees : Stmts → List Item
  | .nil => []
  | .cons s _ rest => .mk [] s.tree none :: stmtsTrees rest
end

/-- the item sequence of the `expression` pair: a parenthesised sub-expression is ONE
    primary, already converted to its tree; a postfix item carries its converted payload -/
def items : CST → List PItem
  | .atom e => [.prim e]
  | .str _ s => [.prim (.str s)]
  | .bin op l _ _ r => l.items ++ .inf (PrattRT.ruleOf op) :: r.items
  | .un op e => .pre (PrattRT.preRule op) :: e.items
  | .fact e => e.items ++ [.postFact]
  | .paren _ e _ => [.prim e.tree]
  | .call0 f _ => f.items ++ [.postCall []]
  | .call f _ as _ => f.items ++ [.postCall (argsTrees as)]
  | .access e _ i _ => e.items ++ [.postAccess i.tree]
  | .dot e n => e.items ++ [.postDot n]
  | .list0 _ => [.prim (.list [])]
  | .list _ as _ => [.prim (.list (mkItems (argsTrees as)))]
  | .lambda hd _ _ b => [.prim (.lambda hd.args b.tree)]
  | .cond _ c _ _ t _ _ e => [.prim (.cond c.tree t.tree e.tree)]
  | .rec0 _ => [.prim (.record [])]
  | .record _ es _ => [.prim (.record (entsTrees es))]
  | .doB _ _ ss _ e _ => [.prim (.doBlock (stmtsTrees ss) (.mk [] e.tree none))]
  | .asg n _ _ v => [.prim (.assign n v.tree)]

def isParen : CST → Bool
  | .paren .. => true
  | _ => false

/-- the text is one of the word operators `and` / `or` / `via` / `into` / `where` -/
def wordOpText (w : List Char) : Bool := naturalLits.any fun x => x.2 == w

/-- the parameter list is NOT a single parameter named like a word operator, which
    `format_single_line` may write as a bare name (`via => …`) -/
def lamHeadOk : List LArg → Bool
  | [a] => !wordOpText a.name.toList
  | _ => true

/-- THE TEXT IS NOT TAKEN FOR THE CONTINUATION OF AN EXPRESSION ON THE LINE BEFORE IT: it does
    not start with a prefix minus (a binary minus for the grammar), and its first word is not
    one of the word operators that are no reserved words (`via`, `into`, `where`) — as the name
    of a variable at the start of a statement `where into x` would continue the statement
    before it (`a` ⏎ `where into x` is `a where into` and a stray `x`). -/
def headOk : CST → Prop
  | .atom e => wordOpText (atomText e) = false
  | .str _ _ => True
  | .bin _ l _ _ _ => l.headOk
  | .un op _ => op = .not
  | .fact e => e.headOk
  | .paren _ _ _ => True
  | .call0 f _ => f.headOk
  | .call f _ _ _ => f.headOk
  | .access e _ _ _ => e.headOk
  | .dot e _ => e.headOk
  | .list0 _ => True
  | .list _ _ _ => True
  | .lambda hd _ _ _ => lamHeadOk hd.args = true
  | .cond .. => True
  | .rec0 _ => True
  | .record _ _ _ => True
  | .doB .. => True
  | .asg n _ _ _ => wordOpText n.toList = false

/-- the text starts with a prefix minus (decided on the structure: the leftmost leaf) -/
def startsMinus : CST → Bool
  | .atom e => (match e with | .str _ => false | _ => (atomText e).head? == some '-')
  | .bin _ l _ _ _ => l.startsMinus
  | .un op _ => op == .negate
  | .fact e => e.startsMinus
  | .call0 f _ => f.startsMinus
  | .call f _ _ _ => f.startsMinus
  | .access e _ _ _ => e.startsMinus
  | .dot e _ => e.startsMinus
  | _ => false

/-- admissible layout around a binary operator: a word operator needs layout before it and
    blanks (no line break) after it; a symbol operator takes any layout on both sides,
    including none — except that a symbol starting with `!` (`!=`) directly behind its left
    operand would be read as the postfix `!` -/
def layOk (op : BinOp) (a b : Lay) : Bool :=
  if isWordOp op then !a.isEmpty && !b.isEmpty && wsOnly b
  else !(a.isEmpty && (spell op).head? == some '!')

mutual
/-- layout everywhere admissible (for a string literal: the quote character chosen does not
    occur in the string — the grammar has no escapes) -/
def LayoutOk : CST → Prop
  | .atom _ => True
  | .str dq s => s.toList.contains (quoteChar dq) = false
  | .bin op l a b r => l.LayoutOk ∧ r.LayoutOk ∧ layOk op a b = true
  | .un _ e => e.LayoutOk
  | .fact e => e.LayoutOk
  | .paren _ e _ => e.LayoutOk
  | .call0 f _ => f.LayoutOk
  | .call f _ as c => f.LayoutOk ∧ ArgsLayoutOk as ∧ c.okCall = true
  | .access e a i b => e.LayoutOk ∧ i.LayoutOk ∧ nlOnly a = true ∧ nlOnly b = true
  | .dot e _ => e.LayoutOk
  | .list0 _ => True
  | .list _ as c => ArgsLayoutOk as ∧ c.okList = true
  | .lambda hd w _ b => hd.ok = true ∧ wsOnly w = true ∧ b.LayoutOk
  | .cond w c l1 l2 t l3 l4 e =>
    (w ≠ [] ∧ wsOnly w = true ∧ l1 ≠ [] ∧ l2 ≠ [] ∧ l3 ≠ [] ∧ l4 ≠ []) ∧
      c.LayoutOk ∧ t.LayoutOk ∧ e.LayoutOk
  | .rec0 _ => True
  | .record _ es c => EntsLayoutOk es ∧ c.okList = true
  | .doB l0 _ ss w e _ =>
    (l0 ≠ [] ∧ w ≠ [] ∧ wsOnly w = true) ∧ StmtsLayoutOk ss ∧ e.LayoutOk
  | .asg _ w l v => wsOnly w = true ∧ wsOnly l = true ∧ v.LayoutOk
def ArgsLayoutOk : Args → Prop
  | .last _ a => a.LayoutOk
  | .cons _ a w _ rest => a.LayoutOk ∧ wsOnly w = true ∧ ArgsLayoutOk rest
/-- blanks only in front of the colon, anything behind it; a key is written bare only when it
    is an identifier, as a literal only with a quote character that does not occur in it;
    blanks only inside the brackets of a computed key -/
def EntLayoutOk : Ent → Prop
  | .pairId k w _ v => nameOk k = true ∧ wsOnly w = true ∧ v.LayoutOk
  | .pairStr dq s w _ v => s.toList.contains (quoteChar dq) = false ∧ wsOnly w = true ∧ v.LayoutOk
  | .pairDyn a e b w _ v =>
    (wsOnly a = true ∧ wsOnly b = true ∧ wsOnly w = true) ∧ e.LayoutOk ∧ v.LayoutOk
  | .short _ => True
  | .spread e => e.LayoutOk
  | .raw _ => True
def EntsLayoutOk : Ents → Prop
  | .last e => EntLayoutOk e
  | .cons e w _ rest => EntLayoutOk e ∧ wsOnly w = true ∧ EntsLayoutOk rest
def StmtsLayoutOk : Stmts → Prop
  | .nil => True
  | .cons s sep rest => s.LayoutOk ∧ sep.ok = true ∧ StmtsLayoutOk rest
end

/-- the next statement (if any; else `return` follows) may stand behind a line break -/
def StmtsHeadOk : Stmts → Prop
  | .nil => True
  | .cons s _ _ => s.headOk

/-- a field name: identifier-shaped and not a reserved word (the `identifier` rule) -/
def fieldOk (n : String) : Bool := identShape n.toList && !Gen.grammarReserved.contains n

mutual
/-- atoms of the fragment, no `~`, and parentheses wherever the printer's rule `needsParens`
    asks for them (additional ones are allowed anywhere) -/
def Shaped : CST → Prop
  | .atom e => atomOk e = true
  | .str _ _ => True
  | .bin op l _ _ r =>
    l.Shaped ∧ r.Shaped ∧ (l.isParen = false → needsParens l.tree (.binLeft op) = false) ∧
      (r.isParen = false → needsParens r.tree (.binRight op) = false)
  | .un op e => op ≠ .invert ∧ e.Shaped ∧ (e.isParen = false → needsParens e.tree .prefix_ = false)
  | .fact e => e.Shaped ∧ (e.isParen = false → needsParens e.tree .postfix_ = false)
  | .paren _ e _ => e.Shaped
  | .call0 f _ => f.Shaped ∧ (f.isParen = false → needsParens f.tree .postfix_ = false)
  | .call f _ as _ =>
    f.Shaped ∧ (f.isParen = false → needsParens f.tree .postfix_ = false) ∧ ArgsShaped as
  | .access e _ i _ =>
    e.Shaped ∧ (e.isParen = false → needsParens e.tree .postfix_ = false) ∧ i.Shaped
  | .dot e n =>
    e.Shaped ∧ (e.isParen = false → needsParens e.tree .postfix_ = false) ∧ fieldOk n = true
  | .list0 _ => True
  | .list _ as _ => ArgsShaped as
  | .lambda hd _ _ b =>
    hd.namesOk = true ∧ b.Shaped ∧ (b.isParen = false → lambdaBodyNeedsParens b.tree = false) ∧
      LamSafe b.items
  | .cond _ c _ _ t _ _ e => c.Shaped ∧ t.Shaped ∧ e.Shaped
  | .rec0 _ => True
  | .record _ es _ => EntsShaped es
  | .doB _ _ ss _ e _ => StmtsShaped ss ∧ e.Shaped
  | .asg n _ _ v => nameOk n = true ∧ v.Shaped
def ArgsShaped : Args → Prop
  | .last _ a => a.Shaped
  | .cons _ a _ _ rest => a.Shaped ∧ ArgsShaped rest
def EntShaped : Ent → Prop
  | .pairId _ _ _ v => v.Shaped
  | .pairStr _ _ _ _ v => v.Shaped
  | .pairDyn _ e _ _ _ v => e.Shaped ∧ v.Shaped
  | .short n => nameOk n = true
  | .spread e => e.Shaped
  | .raw _ => False
def EntsShaped : Ents → Prop
  | .last e => EntShaped e
  | .cons e _ _ rest => EntShaped e ∧ EntsShaped rest
/-- a statement behind a line break does not continue the one before it (`headOk`) -/
def StmtsShaped : Stmts → Prop
  | .nil => True
  | .cons s sep rest => s.Shaped ∧ (sep.isLine = true → StmtsHeadOk rest) ∧ StmtsShaped rest
end

def WF (c : CST) : Prop := c.Shaped ∧ c.LayoutOk

end CST

/-! ### (11) the PEG model splits the text of a CST into its items -/

/-- `expression` (`lam = false`) / `lambda_expression` (`lam = true`) at `cs` yields `its` and
    leaves `r` (with enough fuel) -/
def EX (lam : Bool) (cs : List Char) (its : List PItem) (r : List Char) : Prop :=
  ∃ f, exprR lam f cs = .ok (its, r)

/-- what happens after a term when `rest` follows: `postfix_op*`, then the operator tail -/
def After (lam : Bool) (rest : List Char) (its : List PItem) (r : List Char) : Prop :=
  ∃ its1 r1 its2 f, postR f rest = .ok (its1, r1) ∧ tailR lam f r1 = .ok (its2, r) ∧
    its = its1 ++ its2

/-- the end of a term: the text behind it continues neither a word nor a lambda head -/
def TEnd (rest : List Char) : Prop := Boundary rest ∧ NoLam rest

/-- nothing continues an expression here: no postfix operator, no operator of either kind of
    expression (what must follow an operand that ends with a lambda body) -/
def Closes (rest : List Char) : Prop := postNone rest ∧ ∀ lam, infixUsage lam rest = none

theorem ex_intro {lam : Bool} {cs : List Char} {its1 : List PItem} {r1 : List Char}
    {its2 : List PItem} {r : List Char} {f g : Nat} (ho : operandR lam f cs = .ok (its1, r1))
    (ht : tailR lam g r1 = .ok (its2, r)) : EX lam cs (its1 ++ its2) r := by
  refine ⟨max f g + 1, ?_⟩
  rw [exprR_succ, operandR_mono (Nat.le_max_left f g) ho]
  simp only [Res.bind, tailR_mono (Nat.le_max_right f g) ht]

theorem ex_elim {lam : Bool} {cs : List Char} {its : List PItem} {r : List Char} {f : Nat}
    (h : exprR lam f cs = .ok (its, r)) :
    ∃ g its1 r1 its2, f = g + 1 ∧ operandR lam g cs = .ok (its1, r1) ∧
      tailR lam g r1 = .ok (its2, r) ∧ its = its1 ++ its2 := by
  cases f with
  | zero => rw [exprR_zero] at h; cases h
  | succ g =>
    rw [exprR_succ] at h
    cases ho : operandR lam g cs with
    | out => rw [ho] at h; cases h
    | fail => rw [ho] at h; cases h
    | ok x =>
      obtain ⟨its1, r1⟩ := x
      rw [ho] at h
      simp only [Res.bind] at h
      cases ht : tailR lam g r1 with
      | out => rw [ht] at h; cases h
      | fail => rw [ht] at h; cases h
      | ok y =>
        obtain ⟨its2, r'⟩ := y
        rw [ht] at h
        simp only [Res.ok.injEq, Prod.mk.injEq] at h
        obtain ⟨rfl, rfl⟩ := h
        exact ⟨g, its1, r1, its2, rfl, ho, ht, rfl⟩

theorem ex_of_term {lam : Bool} {cs cs' rest : List Char} {e : Expr} {pre : List PItem}
    {its : List PItem} {r : List Char} {f : Nat} (hp : prefixStar cs = (pre, cs'))
    (ht : termR f cs' = .ok (e, rest)) (hk : After lam rest its r) :
    EX lam cs (pre ++ .prim e :: its) r := by
  obtain ⟨its1, r1, its2, g, hpo, hta, rfl⟩ := hk
  have ho : operandR lam (max f g + 1) cs = .ok (pre ++ .prim e :: its1, r1) := by
    rw [operandR_succ, hp]
    simp only [Res.bind, termR_mono (Nat.le_max_left f g) ht, postR_mono (Nat.le_max_right f g) hpo]
  have := ex_intro ho hta
  simpa using this

theorem termR_of_term2 {cs : List Char} {x : Expr × List Char} {f : Nat}
    (hc : ifHead cs = none) (hd : doHead cs = none) (hl : lambdaHead cs = none)
    (ha : asgHead cs = none)
    (h : term2R f cs = .ok x) : termR (f + 1) cs = .ok x := by
  cases f with
  | zero => rw [term2R_zero] at h; cases h
  | succ g =>
    rw [termR_succ, condR_succ, hc, doR_succ, hd, lamR_succ, hl, asgR_succ, ha]
    exact h

theorem ex_of_term2 {lam : Bool} {c : Char} {X rest : List Char} {e : Expr} {its : List PItem}
    {r : List Char} {f : Nat} (h1 : isIdentStart c = false) (h2 : c ≠ '-') (h3 : c ≠ '!')
    (hl : lambdaHead (c :: X) = none) (ht : term2R f (c :: X) = .ok (e, rest))
    (hk : After lam rest its r) : EX lam (c :: X) (.prim e :: its) r :=
  ex_of_term (prefixStar_none (prefixUsage_none_of_head X h1 h2 h3))
    (termR_of_term2 (ifHead_none_of_head X (ne_of_not_identStart h1 (by decide)))
      (doHead_none_of_head X (ne_of_not_identStart h1 (by decide))) hl (asgHead_none_of_start X h1) ht)
    hk

theorem ex_of_open {lam : Bool} {c : Char} {X rest : List Char} {e : Expr} {its : List PItem}
    {r : List Char} {f : Nat}
    (h : isIdentStart c = false ∧ c ≠ '-' ∧ c ≠ '!' ∧ c ≠ '.' ∧ c ≠ '(')
    (ht : term2R f (c :: X) = .ok (e, rest)) (hk : After lam rest its r) :
    EX lam (c :: X) (.prim e :: its) r :=
  ex_of_term2 h.1 h.2.1 h.2.2.1
    (lambdaHead_none_of_ident (identifier_none_of_start X h.1) h.2.2.2.1 h.2.2.2.2) ht hk

theorem operandR_prefix {lam : Bool} {c : Char} {X : List Char} {it : PItem} (f : Nat)
    (hp : prefixUsage (c :: X) = some (it, X)) :
    operandR lam f (c :: X) =
      match operandR lam f X with
      | .ok (its, r) => .ok (it :: its, r)
      | .fail => .fail
      | .out => .out := by
  cases f with
  | zero => rw [operandR_zero, operandR_zero]
  | succ k =>
    rw [operandR_succ, operandR_succ, prefixStar_cons hp]
    simp only
    cases termR k (prefixStar X).2 with
    | out => rfl
    | fail => rfl
    | ok x =>
      obtain ⟨e, r1⟩ := x
      simp only [Res.bind]
      cases postR k r1 with
      | out => rfl
      | fail => rfl
      | ok y => rfl

theorem ex_prefix {lam : Bool} {c : Char} {X : List Char} {it : PItem} {its : List PItem}
    {r : List Char} (hp : prefixUsage (c :: X) = some (it, X)) (h : EX lam X its r) :
    EX lam (c :: X) (it :: its) r := by
  obtain ⟨f, h⟩ := h
  obtain ⟨g, its1, r1, its2, rfl, ho, ht, rfl⟩ := ex_elim h
  have ho' : operandR lam g (c :: X) = .ok (it :: its1, r1) := by
    rw [operandR_prefix g hp, ho]
  have := ex_intro ho' ht
  simpa using this

theorem after_infix {lam : Bool} {Y X : List Char} {rule : String} {its : List PItem}
    {r : List Char} (hi : infixUsage lam Y = some (rule, X)) (hY : postNone Y)
    (h : EX lam X its r) : After lam Y (.inf rule :: its) r := by
  obtain ⟨f, h⟩ := h
  obtain ⟨g, its1, r1, its2, rfl, ho, ht, rfl⟩ := ex_elim h
  refine ⟨[], Y, .inf rule :: (its1 ++ its2), g + 2, postR_none hY g, ?_, by simp⟩
  rw [tailR_succ]
  simp only [Res.bind, Res.ofOpt, hi, operandR_mono (Nat.le_succ g) ho, tailR_mono (Nat.le_succ g) ht]

theorem after_none {lam : Bool} {Y : List Char} (hY : postNone Y) (hi : infixUsage lam Y = none) :
    After lam Y [] Y := by
  refine ⟨[], Y, [], 2, postR_none hY 0, ?_, rfl⟩
  rw [tailR_succ]
  simp only [Res.ofOpt, hi]

theorem after_closes {lam : Bool} {Y : List Char} (h : Closes Y) : After lam Y [] Y :=
  after_none h.1 (h.2 lam)

theorem postNone_stop (b : Lay) {c : Char} (rest : List Char) (hc : stopChar c = true) :
    postNone (layChars b ++ c :: rest) := by
  exact postNone_lay b c rest (postNone_of_char (stopChar_ne hc (by decide))
    (stopChar_ne hc (by decide)) (stopChar_ne hc (by decide)) (stopChar_ne hc (by decide)))

theorem closes_stop (b : Lay) {c : Char} (rest : List Char) (hc : stopChar c = true) :
    Closes (layChars b ++ c :: rest) :=
  ⟨postNone_stop b rest hc, fun lam => infixUsage_stop lam b c rest hc⟩

theorem closes_nil : Closes [] := ⟨trivial, infixUsage_nil⟩

theorem after_post {lam : Bool} {rest rest' : List Char} {it : PItem} {its : List PItem}
    {r : List Char} {g : Nat} (hq : postOpR g rest = .ok (it, rest')) (h : After lam rest' its r) :
    After lam rest (it :: its) r := by
  obtain ⟨its1, r1, its2, f, hpo, hta, rfl⟩ := h
  refine ⟨it :: its1, r1, its2, max f g + 1, ?_, tailR_mono (by omega) hta, rfl⟩
  rw [postR_succ]
  simp only [Res.bind, postOpR_mono (Nat.le_max_right f g) hq, postR_mono (Nat.le_max_left f g) hpo]

theorem postOpR_bang (f : Nat) (X : List Char) : postOpR (f + 1) ('!' :: X) = .ok (.postFact, X) := by
  rw [postOpR_succ, firstRule_postfix_bang]; rfl

theorem boundary_cons {d : Char} {tl : List Char} (h : isIdentChar d = false) : Boundary (d :: tl) := by
  simp [Boundary, boundary, h]

theorem tend_cons {d : Char} {tl : List Char} (h : isIdentChar d = false) (hw : isWs d = false)
    (h1 : d ≠ '=') (h2 : d ≠ '?') : TEnd (d :: tl) :=
  ⟨boundary_cons h, noLam_of_head hw h1 h2⟩

theorem tend_nil : TEnd [] := ⟨rfl, noLam_nil⟩

theorem tend_lay (b : Lay) {c : Char} (rest : List Char) (h : isIdentChar c = false)
    (hw : isWs c = false) (h1 : c ≠ '=') (h2 : c ≠ '?') : TEnd (layChars b ++ c :: rest) :=
  ⟨boundary_lay b rest h, noLam_lay b (noLam_of_head hw h1 h2)⟩

theorem tend_stop (b : Lay) {c : Char} (rest : List Char) (hc : stopChar c = true) :
    TEnd (layChars b ++ c :: rest) := by
  obtain ⟨_, _, _, h4, h5⟩ := stop_heads hc
  exact tend_lay b rest h4 h5 (stopChar_ne hc (by decide)) (stopChar_ne hc (by decide))

theorem CST.fieldOk_eq_nameOk (n : String) : CST.fieldOk n = nameOk n := rfl

theorem postOpR_dot (f : Nat) {n : String} {rest : List Char} (hn : CST.fieldOk n = true)
    (hb : Boundary rest) : postOpR (f + 1) ('.' :: (n.toList ++ rest)) = .ok (.postDot n, rest) := by
  obtain ⟨hw, hnot⟩ := nameOk_facts (CST.fieldOk_eq_nameOk n ▸ hn)
  rw [postOpR_succ, firstRule_postfix_none _ (by decide)]
  simp only [Res.ofOpt, identifier_run hw hnot hb, consumed_append, String.ofList_toList]

/-! ### (12) the Pratt model reads the items of a CST back to its tree -/

section pratt
open PrattRT

/-- the statement proved for every operand by induction (cf. `PrattRT.Parses`): a
    parenthesised operand is a primary and needs no side condition -/
def CParses (c : CST) : Prop :=
  ∀ rbp rest, rbp ≤ P - 1 → (c.isParen = false → Fits c.tree rbp rest) →
    ∀ e' rest', PLoop rbp c.tree rest e' rest' → PExpr rbp (c.items ++ rest) e' rest'

theorem atom_not_compound {e : Expr} (h : atomOk e = true) : isCompound e = false := by
  cases e <;> simp [atomOk] at h <;> rfl

theorem cparses : ∀ (c : CST), c.Shaped → CParses c
  | .bin op l a b r, h => by
    obtain ⟨hl, hr, hnl, hnr⟩ := h
    have ihl := cparses l hl
    have ihr := cparses r hr
    intro rbp rest hrbp hfit e' rest' hk
    obtain ⟨hlt, n, hlb, hn⟩ := hfit rfl
    simp only [CST.items, List.append_assoc, List.cons_append]
    apply ihl rbp _ hrbp (fun hp => fits_left _ (hnl hp) hlt)
    have hrhs : PExpr (rbpR op) (r.items ++ rest) r.tree rest :=
      ihr (rbpR op) rest (rbpR_le_P op) (fun hp => fits_right (hnr hp) hlb hn) _ _
        (PLoop.stop hlb (by omega))
    have hm := mapInfix_ruleOf op l.tree r.tree
    have ho := opLookup_ruleOf op
    cases hra : ra op
    · simp only [rbpR, hra] at hrhs ho
      exact PLoop.infL (lbp_inf op _) hlt ho hrhs hm hk
    · simp only [rbpR, hra] at hrhs ho
      exact PLoop.infR (lbp_inf op _) hlt ho hrhs hm hk
  | .un op e, h => by
    obtain ⟨hop, he, hne⟩ := h
    have ih := cparses e he
    intro rbp rest hrbp hfit e' rest' hk
    obtain ⟨n, hlb, hn⟩ := hfit rfl
    simp only [CST.items, List.cons_append]
    have hrhs : PExpr (P - 1) (e.items ++ rest) e.tree rest :=
      ih (P - 1) rest (Nat.le_refl _) (fun hp => fits_prefix (hne hp) hlb hn) _ _
        (PLoop.stop hlb (by omega))
    cases op with
    | negate => exact PExpr.pre opLookup_negation hrhs rfl hk
    | not => exact PExpr.pre opLookup_invert hrhs rfl hk
    | invert => exact absurd rfl hop
  | .fact e, h => by
    obtain ⟨he, hne⟩ := h
    have ih := cparses e he
    intro rbp rest hrbp _ e' rest' hk
    simp only [CST.items, List.append_assoc, List.singleton_append]
    exact ih rbp _ hrbp (fun hp => fits_postfix (hne hp))
      _ _ (PLoop.fact (lbp_postFact rest) (by have := P_lt_fact; omega) hk)
  | .call0 f l, h => by
    obtain ⟨he, hne⟩ := h
    have ih := cparses f he
    intro rbp rest hrbp _ e' rest' hk
    simp only [CST.items, List.append_assoc, List.singleton_append]
    exact ih rbp _ hrbp (fun hp => fits_postfix (hne hp))
      _ _ (PLoop.call (lbp_postCall _ rest) (by have := P_lt_call; omega) hk)
  | .call f l as c, h => by
    obtain ⟨he, hne, _⟩ := h
    have ih := cparses f he
    intro rbp rest hrbp _ e' rest' hk
    simp only [CST.items, List.append_assoc, List.singleton_append]
    exact ih rbp _ hrbp (fun hp => fits_postfix (hne hp))
      _ _ (PLoop.call (lbp_postCall _ rest) (by have := P_lt_call; omega) hk)
  | .access e a i b, h => by
    obtain ⟨he, hne, _⟩ := h
    have ih := cparses e he
    intro rbp rest hrbp _ e' rest' hk
    simp only [CST.items, List.append_assoc, List.singleton_append]
    exact ih rbp _ hrbp (fun hp => fits_postfix (hne hp))
      _ _ (PLoop.access (lbp_postAccess _ rest) (by have := P_lt_access; omega) hk)
  | .dot e n, h => by
    obtain ⟨he, hne, _⟩ := h
    have ih := cparses e he
    intro rbp rest hrbp _ e' rest' hk
    simp only [CST.items, List.append_assoc, List.singleton_append]
    exact ih rbp _ hrbp (fun hp => fits_postfix (hne hp))
      _ _ (PLoop.dot (lbp_postDot _ rest) (by have := P_lt_dot; omega) hk)
  | .atom _, _ | .str .., _ | .paren .., _ | .list0 _, _ | .list .., _ | .lambda .., _
  | .cond .., _ | .rec0 _, _ | .record .., _ | .doB .., _ | .asg .., _ => by
    intro rbp rest _ _ e' rest' hk
    exact PExpr.prim hk

theorem cst_pratt (c : CST) (h : c.Shaped) : prattParse c.items = some c.tree := by
  have hfit : c.isParen = false → Fits c.tree 0 [] := by
    intro _
    cases c with
    | bin op l a b r => exact ⟨bp_pos op, 0, rfl, Nat.zero_le _⟩
    | un o e => exact ⟨0, rfl, Nat.zero_le _⟩
    | atom e =>
      have := atom_not_compound (e := e) h
      cases e <;> first | trivial | simp [isCompound] at this
    | paren a e b => rename_i hp; cases hp
    | _ => trivial
  have := cparses c h 0 [] (Nat.zero_le _) hfit c.tree [] (PLoop.stop lbp_nil (by omega))
  simp only [List.append_nil] at this
  exact this.parse

end pratt

/-! ### (13) main lemma: lexing the text of a CST -/

theorem name_start {n : String} (h : nameOk n = true) :
    ∃ x tl, n.toList = x :: tl ∧ isIdentChar x = true := by
  obtain ⟨hw, _⟩ := nameOk_facts h
  cases hn : n.toList with
  | nil => exact absurd hn hw.ne_nil
  | cons x tl => exact ⟨x, tl, rfl, hw.all x (by rw [hn]; exact List.mem_cons_self)⟩

theorem lamHead_start (hd : LamHead) (h : hd.namesOk = true) :
    ∃ x tl, hd.text = x :: tl ∧ startChar x = true := by
  cases hd with
  | unit l => exact ⟨'(', _, rfl, by decide⟩
  | parens l0 a more c => exact ⟨'(', _, rfl, by decide⟩
  | bare a =>
    simp only [LamHead.namesOk, LamHead.args, List.all_cons, List.all_nil, Bool.and_true,
      Bool.and_eq_true] at h
    cases a with
    | rest n => simp at h
    | req n =>
      obtain ⟨x, tl, hx, hc⟩ := name_start (n := n) h.1
      exact ⟨x, tl, by simp only [LamHead.text, argText, hx], by simp [startChar, hc]⟩
    | opt n =>
      obtain ⟨x, tl, hx, hc⟩ := name_start (n := n) h.1
      exact ⟨x, tl ++ ['?'], by simp only [LamHead.text, argText, hx, List.cons_append],
        by simp [startChar, hc]⟩

theorem text_start : ∀ (c : CST), c.Shaped → ∃ x tl, c.text = x :: tl ∧ startChar x = true
  | .atom e, h => by
    obtain ⟨hne, hall, _, _⟩ := atom_word (e := e) h
    simp only [CST.text]
    cases hw : atomText e with
    | nil => exact absurd hw hne
    | cons x tl =>
      refine ⟨x, tl, rfl, ?_⟩
      have := hall x (by rw [hw]; exact List.mem_cons_self)
      simp [startChar, this]
  | .str dq s, _ => ⟨quoteChar dq, _, rfl, by cases dq <;> decide⟩
  | .un op e, h => by
    cases op with
    | negate => exact ⟨'-', e.text, rfl, by decide⟩
    | not => exact ⟨'!', e.text, rfl, by decide⟩
    | invert => exact absurd rfl h.1
  | .paren a e b, _ => ⟨'(', _, rfl, by decide⟩
  | .list0 l, _ => ⟨'[', _, rfl, by decide⟩
  | .list l as c, _ => ⟨'[', _, rfl, by decide⟩
  | .lambda hd w l b, h => by
    obtain ⟨x, tl, hx, hs⟩ := lamHead_start hd h.1
    exact ⟨x, _, by simp only [CST.text, hx, List.cons_append]; rfl, hs⟩
  | .cond w c l1 l2 t l3 l4 e, _ => ⟨'i', _, rfl, by decide⟩
  | .rec0 l, _ => ⟨'{', _, rfl, by decide⟩
  | .record l es c, _ => ⟨'{', _, rfl, by decide⟩
  | .doB .., _ => ⟨'d', _, rfl, by decide⟩
  | .asg n w l v, h => by
    obtain ⟨x, tl, hx, hc⟩ := name_start (n := n) h.1
    exact ⟨x, _, by simp only [CST.text, hx, List.cons_append]; rfl, by simp [startChar, hc]⟩
  -- the text starts with that of the first operand
  | .bin _ e _ _ _, h | .fact e, h | .call0 e _, h | .call e _ _ _, h | .access e _ _ _, h
  | .dot e _, h => by
    obtain ⟨x, tl, hx, hs⟩ := text_start e h.1
    exact ⟨x, _, by simp only [CST.text, hx, List.cons_append]; rfl, hs⟩

theorem args_start : ∀ (as : Args), CST.ArgsShaped as →
    ∃ x tl, CST.argsText as = x :: tl ∧ (startChar x = true ∨ x = '.')
  | .last sp a, h => by
    obtain ⟨x, tl, hx, hs⟩ := text_start a h
    cases sp
    · exact ⟨x, tl, by simp [CST.argsText, spreadChars, hx], Or.inl hs⟩
    · exact ⟨'.', _, by simp only [CST.argsText, spreadChars, spreadLit_eq, if_true, List.cons_append]; rfl, Or.inr rfl⟩
  | .cons sp a w l rest, h => by
    obtain ⟨x, tl, hx, hs⟩ := text_start a h.1
    cases sp
    · exact ⟨x, _, by simp only [CST.argsText, spreadChars, hx, List.cons_append]; rfl, Or.inl hs⟩
    · exact ⟨'.', _, by simp only [CST.argsText, spreadChars, spreadLit_eq, if_true, List.cons_append]; rfl, Or.inr rfl⟩

theorem layoutAtom_text {c : CST} (h : c.Shaped) (T : List Char) : layoutAtom (c.text ++ T) = none := by
  obtain ⟨x, tl, hx, hsx⟩ := text_start c h
  rw [hx, List.cons_append]; exact layoutAtom_none (startChar_facts hsx).1

theorem notLayoutStart_of_argStart {x : Char} (h : startChar x = true ∨ x = '.') :
    notLayoutStart x = true := by
  rcases h with h | rfl
  · exact (startChar_facts h).1
  · decide

theorem termAtom_none_of_head {c : Char} (X : List Char) (h1 : isIdentStart c = false)
    (h2 : isDigit c = false) (h3 : c ≠ '"') (h4 : c ≠ '\'') : termAtom (c :: X) = none := by
  obtain ⟨hb, hnl⟩ := keywords_none_of_head X h1
  have hpl : plus isDigit (c :: X) = none := by simp [plus, h2]
  simp only [termAtom, hb, stringRule_none_of_head X h3 h4, hnl, identifier_none_of_start X h1, hpl]

theorem termAtom_paren (X : List Char) : termAtom ('(' :: X) = none :=
  termAtom_none_of_head X (by decide) (by decide) (by decide) (by decide)

theorem word_head (op : BinOp) (hw : isWordOp op = true) :
    ∃ h t, spell op = h :: t ∧ notLayoutStart h = true ∧ isWs h = false ∧ h ≠ '=' ∧ h ≠ '?' ∧
      h ≠ ',' ∧ h ≠ ')' := by
  have : (BinOp.all.all fun op => !isWordOp op ||
      (match spell op with
       | h :: _ => notLayoutStart h && !isWs h && h != '=' && h != '?' && h != ',' && h != ')'
       | [] => false)) = true := by
    decide +kernel
  have := List.all_eq_true.mp this op (PrattRT.BinOp.mem_all op)
  simp only [hw, Bool.not_true, Bool.false_or] at this
  split at this
  · rename_i h t hsp
    simp only [Bool.and_eq_true, Bool.not_eq_true', bne_iff_ne, ne_eq] at this
    exact ⟨h, t, hsp, this.1.1.1.1.1, this.1.1.1.1.2, this.1.1.1.2, this.1.1.2, this.1.2, this.2⟩
  · cases this

/-- the text between an operand and the next one — layout, operator, layout, the first character
    of the next operand: `infix_usage` reads the operator, no postfix operator starts there, and
    it ends a term -/
theorem op_gap (lam : Bool) (op : BinOp) (hlam : lam = true → isChain op = false) (a b : Lay)
    (hl : CST.layOk op a b = true) (x : Char) (tl : List Char) (hx : startChar x = true) :
    let Y := layChars a ++ (spell op ++ (layChars b ++ x :: tl))
    infixUsage lam Y = some (PrattRT.ruleOf op, x :: tl) ∧ postNone Y ∧ TEnd Y := by
  intro Y
  cases hw : isWordOp op with
  | true =>
    simp only [CST.layOk, hw, if_true, Bool.and_eq_true, Bool.not_eq_true', List.isEmpty_eq_false_iff]
      at hl
    obtain ⟨⟨ha, hb⟩, hbw⟩ := hl
    refine ⟨infixUsage_word lam op hw hlam a b x tl ha hb hbw hx, ?_⟩
    have hnl : NoLam Y := by
      obtain ⟨h, t, hsp, _, h1, h2, h3, _, _⟩ := word_head op hw
      apply noLam_lay
      rw [hsp, List.cons_append]
      exact noLam_of_head h1 h2 h3
    cases a with
    | nil => exact absurd rfl ha
    | cons y a =>
      have : ∃ d tl', Y = d :: tl' ∧ (d ≠ '!' ∧ d ≠ '[' ∧ d ≠ '(' ∧ d ≠ '.') ∧
          isIdentChar d = false := by
        cases y <;> exact ⟨_, _, rfl, by decide, by decide⟩
      obtain ⟨d, tl', hY, ⟨hd1, hd2, hd3, hd4⟩, hd5⟩ := this
      refine ⟨?_, ?_, hnl⟩
      · rw [hY]; exact postNone_of_char hd1 hd2 hd3 hd4
      · rw [hY]; exact boundary_cons hd5
  | false =>
    simp only [CST.layOk, hw, Bool.false_eq_true, if_false, Bool.not_eq_true', Bool.and_eq_false_iff,
      List.isEmpty_eq_false_iff, beq_eq_false_iff_ne, ne_eq] at hl
    refine ⟨infixUsage_sym lam op hw a b x tl hx, ?_⟩
    have hnl : NoLam Y := noLam_lay a (noLam_sym op hw _)
    have hs := symOk_of op hw
    have hp := symPostOk_of op hw
    simp only [symOk, Bool.and_eq_true] at hs
    obtain ⟨_, hs2⟩ := hs
    unfold symPostOk at hp
    split at hs2
    · cases hs2
    · rename_i h t hsp
      simp only [Bool.and_eq_true, Bool.not_eq_true'] at hs2
      obtain ⟨⟨_, hid⟩, _⟩ := hs2
      rw [hsp] at hp
      simp only [Bool.and_eq_true, bne_iff_ne, ne_eq, Bool.or_eq_true] at hp
      obtain ⟨⟨hp1, hp2⟩, hp3⟩ := hp
      cases a with
      | nil =>
        have hY : Y = h :: (t ++ (layChars b ++ x :: tl)) := by
          simp only [Y, layChars, List.nil_append, hsp, List.cons_append]
        rw [hY]
        refine ⟨⟨?_, hp2, hp1, ?_⟩, boundary_cons hid, hY ▸ hnl⟩
        · rcases hl with hl | hl
          · exact absurd rfl hl
          · intro e; apply hl; rw [hsp, e]; rfl
        · intro e
          rcases hp3 with hp3 | hp3
          · exact absurd e hp3
          · cases t with
            | nil => cases hp3
            | cons c t' =>
              simp only [Bool.not_eq_true'] at hp3
              exact identifier_none_of_start _ hp3
      | cons y a =>
        have : ∃ d tl', Y = d :: tl' ∧ (d ≠ '!' ∧ d ≠ '[' ∧ d ≠ '(' ∧ d ≠ '.') ∧
            isIdentChar d = false := by
          cases y <;> exact ⟨_, _, rfl, by decide, by decide⟩
        obtain ⟨d, tl', hY, ⟨hd1, hd2, hd3, hd4⟩, hd5⟩ := this
        refine ⟨?_, ?_, hnl⟩
        · rw [hY]; exact postNone_of_char hd1 hd2 hd3 hd4
        · rw [hY]; exact boundary_cons hd5

/-! #### the end of an argument list -/

/-- a character at which no operand starts: no prefix operator, no word, number, literal, list,
    record, parenthesis, `...` -/
def NoStart (c : Char) : Prop :=
  (isIdentStart c = false ∧ isDigit c = false ∧ c ≠ '"' ∧ c ≠ '\'') ∧
    (c ≠ '(' ∧ c ≠ '[' ∧ c ≠ '{') ∧ c ≠ '.' ∧ c ≠ '-' ∧ c ≠ '!'

theorem noStart_stop {c : Char} (hc : stopChar c = true) : NoStart c := by
  simp only [stopChar, Bool.or_eq_true, beq_iff_eq] at hc
  rcases hc with ((rfl | rfl) | rfl) | rfl <;> (unfold NoStart; decide)

theorem noStart_eq : NoStart '=' := by unfold NoStart; decide

theorem prefixUsage_nostart {c : Char} (X : List Char) (hc : NoStart c) :
    prefixUsage (c :: X) = none :=
  prefixUsage_none_of_head X hc.1.1 hc.2.2.2.1 hc.2.2.2.2

theorem prefixUsage_stop {c : Char} (X : List Char) (hc : stopChar c = true) :
    prefixUsage (c :: X) = none := prefixUsage_nostart X (noStart_stop hc)

theorem termAtom_nostart {c : Char} (X : List Char) (hc : NoStart c) :
    termAtom (c :: X) = none :=
  termAtom_none_of_head X hc.1.1 hc.1.2.1 hc.1.2.2.1 hc.1.2.2.2

theorem termAtom_stop {c : Char} (X : List Char) (hc : stopChar c = true) :
    termAtom (c :: X) = none := termAtom_nostart X (noStart_stop hc)

theorem lambdaHead_nostart {c : Char} (X : List Char) (hc : NoStart c) :
    lambdaHead (c :: X) = none :=
  lambdaHead_none_of_ident (identifier_none_of_start X hc.1.1) hc.2.2.1 hc.2.1.1

theorem lambdaHead_stop {c : Char} (X : List Char) (hc : stopChar c = true) :
    lambdaHead (c :: X) = none := lambdaHead_nostart X (noStart_stop hc)

/-- No expression starts at a character at which no operand starts.  The fuel `f + 4` is the
    number of nested calls down to the leaf that fails last (`exprR`, `operandR`, `termR`,
    `term2R`).  All fuel offsets and literal fuels below are such call depths: `argR_stop` has one
    more for `argR`, `termR_of_term2'` has `termR`, `asgR` and then these four; a lemma that needs
    a result at another fuel moves it there by `*_mono`. -/
theorem exprR_nostart (lam : Bool) {c : Char} (X : List Char) (hc : NoStart c) (f : Nat) :
    exprR lam (f + 4) (c :: X) = .fail := by
  have hne : c ≠ '(' ∧ c ≠ '[' ∧ c ≠ '{' := hc.2.1
  have ht2 : term2R (f + 1) (c :: X) = .fail := by
    rw [term2R_succ, termAtom_nostart X hc]
    simp only
    split
    · rename_i r1 heq; simp only [List.cons.injEq] at heq; exact absurd heq.1 hne.1
    · rename_i r1 heq; simp only [List.cons.injEq] at heq; exact absurd heq.1 hne.2.1
    · rename_i r1 heq; simp only [List.cons.injEq] at heq; exact absurd heq.1 hne.2.2
    · rfl
  have ht : termR (f + 2) (c :: X) = .fail := by
    rw [termR_succ, condR_succ, ifHead_none_of_head X (ne_of_not_identStart hc.1.1 (by decide)),
      doR_succ, doHead_none_of_head X (ne_of_not_identStart hc.1.1 (by decide)),
      lamR_succ, lambdaHead_nostart X hc, asgR_succ, asgHead_none_of_start X hc.1.1]
    exact ht2
  rw [exprR_succ, operandR_succ, prefixStar_none (prefixUsage_nostart X hc), ht]; rfl

theorem exprR_stop (lam : Bool) {c : Char} (X : List Char) (hc : stopChar c = true) (f : Nat) :
    exprR lam (f + 4) (c :: X) = .fail := exprR_nostart lam X (noStart_stop hc) f

/-- a term in front of `==` (or of anything that is no `=`): the `assignment` alternative takes
    the name and the first `=`, then finds no expression -/
theorem termR_of_term2' {cs : List Char} {x : Expr × List Char} {f : Nat}
    (hc : ifHead cs = none) (hd : doHead cs = none) (hl : lambdaHead cs = none)
    (ha : ∀ m r, asgHead cs = some (m, r) → ∃ r', r = '=' :: r')
    (h : term2R f cs = .ok x) : termR (f + 6) cs = .ok x := by
  rw [termR_succ, condR_succ, hc, doR_succ, hd, lamR_succ, hl, asgR_succ]
  cases hh : asgHead cs with
  | none => exact term2R_mono (by omega) h
  | some y =>
    obtain ⟨m, r⟩ := y
    obtain ⟨r', rfl⟩ := ha m r hh
    simp only [Res.ofOpt, Res.orElse, exprR_nostart false r' noStart_eq f, Res.bind]
    exact term2R_mono (by omega) h

theorem lit_spread_none {c : Char} (X : List Char) (h : c ≠ '.') : lit spreadLit (c :: X) = none := by
  have : ¬ ('.' = c) := fun e => h e.symm
  simp [spreadLit_eq, lit, this]

theorem argR_stop (lst : Bool) {c : Char} (X : List Char) (hc : stopChar c = true) (f : Nat) :
    argR lst (f + 5) (c :: X) = .fail := by
  rw [argR_succ, lit_spread_none X (stopChar_ne hc (by decide)), exprR_stop false X hc]; rfl

theorem layChars_singleton (a : LayAtom) : layChars [a] = a.chars := by simp [layChars]

theorem lay_split_nl : ∀ (l : Lay), (l.any fun a => !a.isWs) = true →
    ∃ w' nl l', l = w' ++ nl :: l' ∧ wsOnly w' = true ∧ nl.isWs = false
  | [], h => by simp at h
  | a :: l, h => by
    cases ha : a.isWs with
    | false => exact ⟨[], a, l, rfl, rfl, ha⟩
    | true =>
      simp only [List.any_cons, ha, Bool.not_true, Bool.false_or] at h
      obtain ⟨w', nl, l', rfl, hw, hn⟩ := lay_split_nl l h
      exact ⟨a :: w', nl, l', rfl, by simp [wsOnly, ha] at hw ⊢; exact hw, hn⟩

theorem callClose_text (c : Close) (hc : c.okCall = true) (rest : List Char) :
    callClose (c.text ')' ++ rest) = some rest := by
  cases c with
  | plain l =>
    obtain ⟨l', hl'⟩ := skipWs_lay l ')' rest (by decide)
    simp only [Close.text, List.append_assoc, List.singleton_append, callClose, hl',
      trailComma_other (lay_head_ne_comma l' (c := ')') rest (by decide)),
      layoutStar_run l' _ (layoutAtom_none (c := ')') (by decide))]
  | comma w l0 =>
    simp only [Close.okCall, Bool.and_eq_true] at hc
    obtain ⟨hw, hl0⟩ := hc
    obtain ⟨w', nl, l, rfl, hw', hnl⟩ := lay_split_nl l0 hl0
    have h1 : skipWs (layChars w ++ ',' :: (layChars w' ++ (nl.chars ++ (layChars l ++ ')' :: rest)))) =
        ',' :: (layChars w' ++ (nl.chars ++ (layChars l ++ ')' :: rest))) :=
      skipWs_run w hw ',' _ (by decide)
    have h2 : skipWs (layChars w' ++ (nl.chars ++ (layChars l ++ ')' :: rest))) =
        nl.chars ++ (layChars l ++ ')' :: rest) := by
      cases nl <;> simp [LayAtom.isWs] at hnl
      · exact skipWs_run w' hw' '\n' _ (by decide)
      · exact skipWs_run w' hw' '\r' _ (by decide)
    simp only [Close.text, layChars_append, layChars, List.append_assoc, List.cons_append,
      List.nil_append, callClose, h1, trailComma, h2, newline_atom hnl,
      layoutStar_run l _ (layoutAtom_none (c := ')') (by decide))]

/-- behind the last element of a list or record: the optional trailing comma and the layout are
    skipped up to the closing bracket `br` -/
theorem close_gap (br : Char) (hbr : notLayoutStart br = true) (hne : br ≠ ',') (c : Close)
    (hc : c.okList = true) (rest : List Char) :
    gapH (listComma (itemTrail (c.text br ++ rest))) = br :: rest := by
  cases c with
  | plain l =>
    obtain ⟨l', hl', hs'⟩ := itemTrail_lay l (c := br) rest hbr
    have hT : Close.text br (.plain l) ++ rest = layChars l ++ br :: rest := by simp [Close.text]
    rw [hT, hl']
    have hcm : listComma (layChars l' ++ br :: rest) = layChars l' ++ br :: rest := by
      unfold listComma
      rw [hs']
      split
      · rename_i r heq; exact absurd heq (lay_head_ne_comma l' rest hne r)
      · rfl
    rw [hcm, gapH_run l' rest hbr]
  | comma w l =>
    have hw : wsOnly w = true := hc
    have hT : Close.text br (.comma w l) ++ rest = layChars w ++ ',' :: (layChars l ++ br :: rest) := by
      simp [Close.text]
    rw [hT, itemTrail_ws w hw _ (by decide)]
    have hcm : listComma (',' :: (layChars l ++ br :: rest)) = br :: rest := by
      unfold listComma
      rw [skipWs_head _ (by decide)]
      exact wnStar_run l rest hbr
    rw [hcm]
    exact gapH_run [] rest hbr

theorem listClose_text (c : Close) (hc : c.okList = true) (rest : List Char) :
    listClose (itemTrail (c.text ']' ++ rest)) = some rest := by
  rw [listClose_eq, close_gap ']' (by decide) (by decide) c hc rest]
  rfl

theorem recordClose_text (c : Close) (hc : c.okList = true) (rest : List Char) :
    recordClose (itemTrail (c.text '}' ++ rest)) = some rest := by
  rw [recordClose_eq, close_gap '}' (by decide) (by decide) c hc rest]
  rfl

/-- what `argR` leaves behind an element: in a list the blanks (and a comment) behind it
    belong to the item -/
def trailL (lst : Bool) (T : List Char) : List Char := if lst then itemTrail T else T

def closeBr (lst : Bool) : Char := if lst then ']' else ')'

def Close.okFor (lst : Bool) (c : Close) : Bool := if lst then c.okList else c.okCall

theorem Close.okFor_true (c : Close) : c.okFor true = c.okList := rfl
theorem Close.okFor_false (c : Close) : c.okFor false = c.okCall := rfl

/-- what the text behind the last argument / item has to satisfy -/
def ArgStop (lst : Bool) (T : List Char) : Prop :=
  TEnd T ∧ Closes T ∧ ∃ g, argsTailR lst g (trailL lst T) = .ok ([], trailL lst T)

theorem closeBr_stop (lst : Bool) : stopChar (closeBr lst) = true := by cases lst <;> rfl

theorem close_argStop (lst : Bool) (c : Close) (hc : c.okFor lst = true) (rest : List Char) :
    ArgStop lst (c.text (closeBr lst) ++ rest) := by
  have hbr := closeBr_stop lst
  obtain ⟨_, _, hbr3, hbr4, hbr5⟩ := stop_heads hbr
  have hbrc : closeBr lst ≠ ',' := by cases lst <;> decide
  cases c with
  | plain l =>
    have hT : Close.text (closeBr lst) (.plain l) ++ rest = layChars l ++ closeBr lst :: rest := by
      simp [Close.text]
    rw [hT]
    refine ⟨tend_stop l rest hbr, closes_stop l rest hbr, 1, ?_⟩
    · -- the text `argsTailR` sees: a suffix of the layout, which `skip` leaves alone after
      -- its blanks
      have key : ∃ l', skipWs (trailL lst (layChars l ++ closeBr lst :: rest)) =
          layChars l' ++ closeBr lst :: rest := by
        cases lst with
        | false => exact skipWs_lay l _ rest hbr5
        | true =>
          obtain ⟨l', h1, h2⟩ := itemTrail_lay l (c := closeBr true) rest hbr3
          exact ⟨l', by simp only [trailL, if_true, h1, h2]⟩
      obtain ⟨l', hl'⟩ := key
      rw [argsTailR_succ, hl']
      split
      · rename_i r heq; exact absurd heq (lay_head_ne_comma l' rest hbrc r)
      · rfl
  | comma w l =>
    have hw : wsOnly w = true := by
      cases lst
      · simp only [Close.okFor_false, Close.okCall, Bool.and_eq_true] at hc
        exact hc.1
      · exact hc
    have hT : Close.text (closeBr lst) (.comma w l) ++ rest =
        layChars w ++ ',' :: (layChars l ++ closeBr lst :: rest) := by
      simp [Close.text]
    rw [hT]
    refine ⟨tend_stop w _ (by decide), closes_stop w _ (by decide), 6, ?_⟩
    · have hsk : skipWs (trailL lst (layChars w ++ ',' :: (layChars l ++ closeBr lst :: rest))) =
          ',' :: (layChars l ++ closeBr lst :: rest) := by
        cases lst with
        | false => exact skipWs_run w hw ',' _ (by decide)
        | true =>
          simp only [trailL, if_true, itemTrail_ws w hw _ (c := ',') (by decide)]
          exact skipWs_head _ (by decide)
      have hgap : (if lst then gapG (layChars l ++ closeBr lst :: rest)
          else layoutStar (layChars l ++ closeBr lst :: rest)) = closeBr lst :: rest := by
        cases lst with
        | false => exact layoutStar_run l _ (layoutAtom_none hbr3)
        | true => exact gapG_run l rest hbr3
      rw [argsTailR_succ, hsk]
      simp only [Res.bind, hgap, argR_stop lst rest hbr 0]

/-! #### where no lambda starts: the first word of an operand and what follows it

The goal is `argumentListParen_paren`: `(e)` that is not followed by `=>` is no lambda head.
`argument_list` reads the first word of `e`; unless `e` is just that word, the list must then
fail, and it does because what follows the word (`Cont`) is, after layout, a character at which
neither `,` nor the closing `)` is found (`Stopper`). -/

/-- `d` (followed by `tl`) stops an argument list: it is not layout, not a blank, not `,`, not `)`.
    The divide operator `/` is the one continuation that is not `notLayoutStart` (`//` opens a
    comment), hence the second disjunct: a `/` whose next character is not `/`. -/
def Stopper (d : Char) (tl : List Char) : Prop :=
  (notLayoutStart d = true ∨ (d = '/' ∧ ∃ x t, tl = x :: t ∧ x ≠ '/')) ∧ isWs d = false ∧
    d ≠ ',' ∧ d ≠ ')'

/-- `d` stops an argument list (`Stopper`), and when it is `?` (which `optional_arg` would take)
    what follows the `?` stops it as well -/
def ContChar (d : Char) (tl : List Char) : Prop :=
  Stopper d tl ∧ (d = '?' → ∃ l2 d2 tl2, tl = layChars l2 ++ d2 :: tl2 ∧ Stopper d2 tl2)

/-- the text behind the first word of an operand, when there is any: layout, then a character
    that stops an argument list -/
def Cont (cont : List Char) : Prop :=
  Boundary cont ∧ ∃ l d tl, cont = layChars l ++ d :: tl ∧ ContChar d tl

theorem Stopper.append {d : Char} {tl : List Char} (h : Stopper d tl) (Y : List Char) :
    Stopper d (tl ++ Y) := by
  obtain ⟨h1, h2, h3, h4⟩ := h
  refine ⟨?_, h2, h3, h4⟩
  rcases h1 with h1 | ⟨rfl, x, t, rfl, hx⟩
  · exact Or.inl h1
  · exact Or.inr ⟨rfl, x, t ++ Y, rfl, hx⟩

theorem Stopper.layoutAtom {d : Char} {tl : List Char} (h : Stopper d tl) :
    layoutAtom (d :: tl) = none := by
  rcases h.1 with h1 | ⟨rfl, x, t, rfl, hx⟩
  · exact layoutAtom_none h1
  · exact layoutAtom_slash hx

theorem Stopper.of_char {d : Char} (tl : List Char) (h1 : notLayoutStart d = true)
    (h2 : isWs d = false) (h3 : d ≠ ',') (h4 : d ≠ ')') : Stopper d tl := ⟨Or.inl h1, h2, h3, h4⟩

theorem ContChar.append {d : Char} {tl : List Char} (h : ContChar d tl) (Y : List Char) :
    ContChar d (tl ++ Y) := by
  refine ⟨h.1.append Y, fun e => ?_⟩
  obtain ⟨l2, d2, tl2, rfl, hs⟩ := h.2 e
  exact ⟨l2, d2, tl2 ++ Y, by simp, hs.append Y⟩

theorem boundary_append_ne {cont : List Char} (h : Boundary cont) (hne : cont ≠ []) (Y : List Char) :
    Boundary (cont ++ Y) := by
  cases cont with
  | nil => exact absurd rfl hne
  | cons c t => exact h

theorem Cont.append {cont : List Char} (h : Cont cont) (Y : List Char) : Cont (cont ++ Y) := by
  obtain ⟨hb, l, d, tl, rfl, hc⟩ := h
  refine ⟨boundary_append_ne hb (by simp) Y, l, d, tl ++ Y, by simp, hc.append Y⟩

theorem Cont.of_char {d : Char} (tl : List Char) (hi : isIdentChar d = false)
    (h1 : notLayoutStart d = true) (h2 : isWs d = false) (h3 : d ≠ ',') (h4 : d ≠ ')')
    (h5 : d ≠ '?') : Cont (d :: tl) :=
  ⟨boundary_cons hi, [], d, tl, rfl, Stopper.of_char tl h1 h2 h3 h4, fun e => absurd e h5⟩

theorem cont_post {d : Char} (tl : List Char) (h : d = '!' ∨ d = '(' ∨ d = '[' ∨ d = '.') :
    Cont (d :: tl) := by
  rcases h with rfl | rfl | rfl | rfl <;>
    exact Cont.of_char tl (by decide) (by decide) (by decide) (by decide) (by decide) (by decide)

/-- how an operand text `t` begins: with a `startChar` that starts no word (`-` `!` `(` `[` `{`,
    a quote, a digit), or with a word of identifier characters — a name, or a word `identifier`
    rejects — that is the whole text or is followed by a `Cont` -/
def Lead (t : List Char) : Prop :=
  (∃ d tl, t = d :: tl ∧ startChar d = true ∧ isIdentStart d = false) ∨
  (∃ w cont, t = w ++ cont ∧ IdentShape w ∧ (cont = [] ∨ Cont cont) ∧
    (w ∉ reservedLits ∨ ∀ X, Boundary X → identifier (w ++ X) = none))

theorem lead_suffix {t : List Char} {d : Char} {tl : List Char} (h : Lead t)
    (hc : Cont (d :: tl)) : Lead (t ++ d :: tl) := by
  rcases h with ⟨x, xs, rfl, h1, h2⟩ | ⟨w, cont, rfl, hw, hcont, hid⟩
  · exact Or.inl ⟨x, xs ++ d :: tl, rfl, h1, h2⟩
  · refine Or.inr ⟨w, cont ++ d :: tl, by simp, hw, Or.inr ?_, hid⟩
    rcases hcont with rfl | hcont
    · simpa using hc
    · exact hcont.append _

theorem cont_gap (op : BinOp) (a b : Lay) (hl : CST.layOk op a b = true) (x : Char) (tl : List Char)
    (hx : startChar x = true) : Cont (layChars a ++ (spell op ++ (layChars b ++ x :: tl))) := by
  obtain ⟨_, _, hB, _⟩ := op_gap false op (fun e => by cases e) a b hl x tl hx
  refine ⟨hB, ?_⟩
  cases hw : isWordOp op with
  | true =>
    obtain ⟨h, t, hsp, h1, h2, _, h5, h3, h4⟩ := word_head op hw
    exact ⟨a, h, t ++ (layChars b ++ x :: tl), by rw [hsp]; simp,
      Stopper.of_char _ h1 h2 h3 h4, fun e => absurd e h5⟩
  | false =>
    have hs := symOk_of op hw
    have hq := symLamOk_of op hw
    simp only [symOk, Bool.and_eq_true] at hs
    obtain ⟨_, hs2⟩ := hs
    unfold symLamOk at hq
    split at hs2
    · cases hs2
    · rename_i h t hsp
      rw [hsp] at hq
      simp only [Bool.and_eq_true, bne_iff_ne, ne_eq, Bool.not_eq_true', Bool.or_eq_true,
        beq_iff_eq, List.isEmpty_iff] at hs2 hq
      obtain ⟨⟨hlay, _⟩, _⟩ := hs2
      obtain ⟨⟨⟨⟨hq1, hq2⟩, hq3⟩, _⟩, hq5⟩ := hq
      obtain ⟨_, _, hx3, _, _⟩ := startChar_facts hx
      have hst : Stopper h (t ++ (layChars b ++ x :: tl)) := by
        refine ⟨?_, hq3, hq1, hq2⟩
        rcases hlay with hlay | ⟨rfl, rfl⟩
        · exact Or.inl hlay
        · obtain ⟨d, tl', hX, hd⟩ := lay_head b x tl (fun d => d ≠ '/')
            (by decide) (by decide) (by decide) (by decide) hx3
          exact Or.inr ⟨rfl, d, tl', by simpa using hX, hd⟩
      refine ⟨a, h, t ++ (layChars b ++ x :: tl), by rw [hsp]; simp, hst, ?_⟩
      intro e
      subst e
      rcases hq5 with hq5 | hq5
      · exact absurd rfl hq5
      · cases t with
        | nil => cases hq5
        | cons c t' =>
          simp only [beq_iff_eq] at hq5
          subst hq5
          exact ⟨[], '?', t' ++ (layChars b ++ x :: tl), by simp [layChars],
            Stopper.of_char _ (by decide) (by decide) (by decide) (by decide)⟩

theorem identifier_none_of_reserved {w X : List Char}
    (hf : firstLit reservedLits (w ++ X) = some (w, X)) (hb : Boundary X) :
    identifier (w ++ X) = none := by
  simp [identifier, keyword_of_firstLit hf hb]

/-- The text of a CST begins as `Lead` says.  Only the leftmost leaf and what directly follows it
    matter: an atom is a word (a name, or a reserved literal / number that `identifier` rejects);
    a bracketed or prefixed form starts with a non-word character; a binary or postfix node
    appends a `Cont` (`cont_gap`, `cont_post`) to the text of its left operand (`lead_suffix`);
    `if`, `do` are words `identifier` rejects, followed by layout and a stopper; an assignment
    and a bare lambda parameter are names followed by blanks and `=`. -/
theorem lead : ∀ (c : CST), c.Shaped → c.LayoutOk → Lead c.text
  | .atom e, h, _ => by
    obtain ⟨hne, hall, _, _⟩ := atom_word (e := e) h
    rcases atom_ident h with ⟨n, hn, hw, hnot⟩ | hid
    · exact Or.inr ⟨n.toList, [], by simp [CST.text, hn], hw, Or.inl rfl, Or.inl hnot⟩
    · -- a reserved literal or a number
      cases hw : atomText e with
      | nil => exact absurd hw hne
      | cons d ds =>
        by_cases hs : isIdentStart d = true
        · refine Or.inr ⟨atomText e, [], by simp [CST.text], ?_, Or.inl rfl, Or.inr hid⟩
          simp only [IdentShape, identShape, hw, hs, Bool.true_and, List.all_eq_true]
          intro x hx
          exact hall x (by rw [hw]; exact List.mem_cons_of_mem _ hx)
        · refine Or.inl ⟨d, ds, by simp [CST.text, hw], ?_, by simpa using hs⟩
          have := hall d (by rw [hw]; exact List.mem_cons_self)
          simp [startChar, this]
  | .str dq s, _, _ => Or.inl ⟨quoteChar dq, _, rfl, by cases dq <;> decide, by cases dq <;> decide⟩
  | .bin op l a b r, h, hl => by
    obtain ⟨x, tl, hx, hsx⟩ := text_start r h.2.1
    have hc := cont_gap op a b hl.2.2 x tl hsx
    obtain ⟨d, t, hdt⟩ := List.exists_cons_of_ne_nil
      (l := layChars a ++ (spell op ++ (layChars b ++ x :: tl))) (by simp)
    have := lead_suffix (lead l h.1 hl.1) (d := d) (tl := t) (hdt ▸ hc)
    simpa only [CST.text, hx, hdt] using this
  | .un op e, h, _ => by
    cases op with
    | negate => exact Or.inl ⟨'-', e.text, rfl, by decide, by decide⟩
    | not => exact Or.inl ⟨'!', e.text, rfl, by decide, by decide⟩
    | invert => exact absurd rfl h.1
  | .paren a e b, _, _ => Or.inl ⟨'(', _, rfl, by decide, by decide⟩
  -- behind the first operand comes a postfix operator
  | .fact e, h, hl | .call0 e _, h, hl | .dot e _, h, hl => by
    simp only [CST.text]
    exact lead_suffix (lead e h.1 hl) (cont_post _ (by decide))
  | .call e _ _ _, h, hl | .access e _ _ _, h, hl => by
    simp only [CST.text]
    exact lead_suffix (lead e h.1 hl.1) (cont_post _ (by decide))
  | .list0 l, _, _ => Or.inl ⟨'[', _, rfl, by decide, by decide⟩
  | .list l as c, _, _ => Or.inl ⟨'[', _, rfl, by decide, by decide⟩
  | .rec0 l, _, _ => Or.inl ⟨'{', _, rfl, by decide, by decide⟩
  | .record l es c, _, _ => Or.inl ⟨'{', _, rfl, by decide, by decide⟩
  | .doB l0 l1 ss w e l2, _, hl => by
    obtain ⟨⟨hl0, _, _⟩, _⟩ := hl
    refine Or.inr ⟨['d', 'o'], layChars l0 ++ '{' :: (layChars l1 ++ (CST.stmtsText ss ++ (retLit ++
      (layChars w ++ (e.text ++ (layChars l2 ++ ['}'])))))), by simp [CST.text],
      by decide, Or.inr ?_, Or.inr ?_⟩
    · refine ⟨?_, l0, '{', _, rfl,
        Stopper.of_char _ (by decide) (by decide) (by decide) (by decide), fun e => by cases e⟩
      cases l0 with
      | nil => exact absurd rfl hl0
      | cons a w' => cases a <;> exact boundary_cons (by decide)
    · exact fun X hb => identifier_none_of_reserved
        (by simp [firstLit, reservedLits, Gen.grammarReserved, lit]) hb
  | .asg n w l v, h, _ => by
    obtain ⟨hw, hnot⟩ := nameOk_facts h.1
    exact Or.inr ⟨n.toList, layChars w ++ '=' :: (layChars l ++ v.text), by simp [CST.text], hw,
      Or.inr ⟨boundary_lay_eq w _, w, '=', _, rfl,
        Stopper.of_char _ (by decide) (by decide) (by decide) (by decide), fun e => by cases e⟩,
      Or.inl hnot⟩
  | .cond w c l1 l2 t l3 l4 e, h, hl => by
    obtain ⟨x, tl, hx, hsx⟩ := text_start c h.1
    obtain ⟨hx1, _, _, hx4, hx5⟩ := startChar_facts hsx
    have hxc : x ≠ ',' := by intro e; subst e; revert hsx; decide
    have hxq : x ≠ '?' := by intro e; subst e; revert hsx; decide
    obtain ⟨⟨hw, hws, _⟩, _⟩ := hl
    refine Or.inr ⟨['i', 'f'], layChars w ++ (c.text ++ (layChars l1 ++ (thenLit ++ (layChars l2 ++
      (t.text ++ (layChars l3 ++ (elseLit ++ (layChars l4 ++ e.text)))))))), by simp [CST.text],
      by decide, Or.inr ?_, Or.inr ?_⟩
    · refine ⟨?_, w, x, tl ++ (layChars l1 ++ (thenLit ++ (layChars l2 ++
        (t.text ++ (layChars l3 ++ (elseLit ++ (layChars l4 ++ e.text))))))), by simp [hx],
        Stopper.of_char _ hx1 hx4 hxc hx5, fun e => absurd e hxq⟩
      cases w with
      | nil => exact absurd rfl hw
      | cons a w' => cases a <;> exact boundary_cons (by decide)
    · exact fun X hb => identifier_none_of_reserved
        (by simp [firstLit, reservedLits, Gen.grammarReserved, lit]) hb
  | .lambda hd w l b, h, hl => by
    cases hd with
    | unit l0 => exact Or.inl ⟨'(', _, rfl, by decide, by decide⟩
    | parens l0 a more c => exact Or.inl ⟨'(', _, rfl, by decide, by decide⟩
    | bare a =>
      have hn := h.1
      simp only [LamHead.namesOk, LamHead.args, List.all_cons, List.all_nil, Bool.and_true,
        Bool.and_eq_true] at hn
      -- the text behind the name: blanks and `=>`
      have harrow : ∀ T, Stopper '=' T := fun T =>
        Stopper.of_char T (by decide) (by decide) (by decide) (by decide)
      cases a with
      | rest n => simp at hn
      | req n =>
        obtain ⟨hw, hnot⟩ := nameOk_facts hn.1
        refine Or.inr ⟨n.toList, layChars w ++ '=' :: '>' :: (layChars l ++ b.text),
          by simp [CST.text, LamHead.text, argText], hw, Or.inr ?_, Or.inl hnot⟩
        exact ⟨boundary_lay_eq w _, w, '=', _, rfl, harrow _, fun e => by cases e⟩
      | opt n =>
        obtain ⟨hw, hnot⟩ := nameOk_facts hn.1
        refine Or.inr ⟨n.toList, '?' :: (layChars w ++ '=' :: '>' :: (layChars l ++ b.text)),
          by simp [CST.text, LamHead.text, argText], hw, Or.inr ?_, Or.inl hnot⟩
        refine ⟨boundary_cons (by decide), [], '?', _, rfl,
          Stopper.of_char _ (by decide) (by decide) (by decide) (by decide), fun _ => ?_⟩
        exact ⟨w, '=', _, rfl, harrow _⟩

theorem lambdaHead_atom {e : Expr} (h : atomOk e = true) {rest : List Char} (ht : TEnd rest) :
    lambdaHead (atomText e ++ rest) = none := by
  obtain ⟨hne, hall, _, _⟩ := atom_word (e := e) h
  rcases atom_ident h with ⟨n, hn, hw, hnot⟩ | hid
  · have hnok := nameOk_of_shape hw hnot
    rw [hn]
    exact lambdaHead_name hnok ht.1 ht.2
  · cases hw : atomText e with
    | nil => exact absurd hw hne
    | cons d ds =>
      have := hid rest ht.1
      rw [hw, List.cons_append] at this
      rw [List.cons_append]
      exact lambdaHead_nonname this (hall d (by rw [hw]; exact List.mem_cons_self))

theorem asgHead_atom {e : Expr} (h : atomOk e = true) {rest : List Char} (ht : TEnd rest) :
    ∀ m r, asgHead (atomText e ++ rest) = some (m, r) → ∃ r', r = '=' :: r' := by
  rcases atom_ident h with ⟨n, hn, hw, hnot⟩ | hid
  · have hnok := nameOk_of_shape hw hnot
    rw [hn]
    exact asgHead_name_noLam hnok ht.1 ht.2
  · intro m r h'
    rw [asgHead_none_of_ident (hid rest ht.1)] at h'
    cases h'

theorem argumentR_paren (X : List Char) : argumentR ('(' :: X) = none := by
  simp [argumentR, identifier_none_of_start X (c := '(') (by decide), spreadLit_eq, lit]

theorem argumentR_word_q {w X r' : List Char} (hid : identifier (w ++ X) = some X)
    (hs : skipWs X = '?' :: r') : argumentR (w ++ X) = some (.opt (String.ofList w), r') := by
  simp only [argumentR, hid, consumed_append, hs]

theorem argumentR_word_nq {w X : List Char} (hid : identifier (w ++ X) = some X)
    (hs : ∀ r', skipWs X = '?' :: r' → False) :
    argumentR (w ++ X) = some (.req (String.ofList w), X) := by
  -- the side condition of the second `match` alternative is discharged from `hs`
  simp only [argumentR, hid, consumed_append]

theorem argumentR_reject {c : Char} {t : List Char} (hid : identifier (c :: t) = none)
    (hc : c ≠ '.') : argumentR (c :: t) = none := by
  have : ¬ ('.' = c) := fun e => hc e.symm
  simp [argumentR, hid, spreadLit_eq, lit, this]

theorem argumentTailClose_stop (a0 : LArg) (l : Lay) {d : Char} (tl : List Char) (h : Stopper d tl) :
    argumentTailClose a0 (layChars l ++ d :: tl) = none := by
  simp only [argumentTailClose, argumentsTail_stop _ l tl h.2.1 h.2.2.1,
    callClose_fail l tl h.layoutAtom h.2.1 h.2.2.1 h.2.2.2, Option.map_none]

theorem lay_cons_q {l : Lay} {d : Char} {T r' : List Char} (h : layChars l ++ d :: T = '?' :: r') :
    l = [] ∧ d = '?' ∧ r' = T := by
  cases l with
  | nil =>
    simp only [layChars, List.nil_append, List.cons.injEq] at h
    exact ⟨rfl, h.1, h.2.symm⟩
  | cons a l => cases a <;> simp [layChars, LayAtom.chars] at h

/-- between parentheses the text of an expression is an argument list only when it is one
    name; then the list ends at the closing parenthesis -/
theorem argumentListParen_paren (a : Lay) (e : CST) (b : Lay) (rest : List Char) (hs : e.Shaped)
    (hl : e.LayoutOk) :
    argumentListParen (layChars a ++ (e.text ++ (layChars b ++ ')' :: rest))) = none ∨
      ∃ args, argumentListParen (layChars a ++ (e.text ++ (layChars b ++ ')' :: rest))) =
        some (args, rest) := by
  obtain ⟨x, tl, hx, hsx⟩ := text_start e hs
  obtain ⟨hx1, _, _, hx4, hx5⟩ := startChar_facts hsx
  have hxc : x ≠ ',' := by intro e; subst e; revert hsx; decide
  have hla : layoutAtom (e.text ++ (layChars b ++ ')' :: rest)) = none := by
    rw [hx, List.cons_append]; exact layoutAtom_none hx1
  have hclose0 : callClose (e.text ++ (layChars b ++ ')' :: rest)) = none := by
    rw [hx, List.cons_append]
    exact callClose_fail [] _ (layoutAtom_none hx1) hx4 hxc hx5
  unfold argumentListParen
  rw [layoutStar_run a _ hla]
  rcases lead e hs hl with ⟨d, t, hd, hd1, hd2⟩ | ⟨w, cont, hw, hshape, hcont, hid⟩
  · -- not a word: no argument
    left
    have hnone : argumentR (e.text ++ (layChars b ++ ')' :: rest)) = none := by
      rw [hd, List.cons_append]
      exact argumentR_reject (identifier_none_of_start _ hd2)
        (by intro e; subst e; revert hd1; decide)
    simp only [hnone, hclose0, Option.map_none]
  · have hZ : Boundary (layChars b ++ ')' :: rest) := (tend_stop b rest (by decide)).1
    have hbX : Boundary (cont ++ (layChars b ++ ')' :: rest)) := by
      rcases hcont with rfl | hc
      · simpa using hZ
      · exact (hc.append _).1
    rcases hid with hnot | hid
    · -- a name
      have hidn := identifier_run hshape hnot hbX
      rw [hw, List.append_assoc]
      rcases hcont with rfl | hc
      · -- the parentheses hold just the name: `(w)` is an argument list
        right
        simp only [List.nil_append] at hidn ⊢
        obtain ⟨b', hb'⟩ := skipWs_lay b ')' rest (by decide)
        have hq : ∀ r', skipWs (layChars b ++ ')' :: rest) = '?' :: r' → False := by
          intro r' e
          rw [hb'] at e
          obtain ⟨_, h2, _⟩ := lay_cons_q e
          exact absurd h2 (by decide)
        have hc := callClose_text (.plain b) rfl rest
        simp only [Close.text, List.append_assoc, List.singleton_append] at hc
        refine ⟨[.req (String.ofList w)], ?_⟩
        simp only [argumentR_word_nq hidn hq, argumentTailClose,
          argumentsTail_stop _ b rest (d := ')') (by decide) (by decide), hc, Option.map_some]
      · left
        obtain ⟨_, l0, d0, t0, rfl, hcc⟩ := hc
        have hX : (layChars l0 ++ d0 :: t0) ++ (layChars b ++ ')' :: rest) =
            layChars l0 ++ d0 :: (t0 ++ (layChars b ++ ')' :: rest)) := by simp
        rw [hX] at hidn ⊢
        have hcc' := hcc.append (layChars b ++ ')' :: rest)
        obtain ⟨l', hl'⟩ := skipWs_lay l0 d0 (t0 ++ (layChars b ++ ')' :: rest)) hcc'.1.2.1
        by_cases hqq : ∃ r', skipWs (layChars l0 ++ d0 :: (t0 ++ (layChars b ++ ')' :: rest))) = '?' :: r'
        · -- `w ?…`: the `?` is taken by `optional_arg`; what follows stops the list
          obtain ⟨r', hr'⟩ := hqq
          have e := hr'
          rw [hl'] at e
          obtain ⟨_, hd0, hrr⟩ := lay_cons_q e
          subst hd0
          obtain ⟨l2, d2, tl2, htl, hst⟩ := hcc'.2 rfl
          rw [argumentR_word_q hidn hr', hrr, htl]
          exact argumentTailClose_stop _ l2 tl2 hst
        · have hq : ∀ r', skipWs (layChars l0 ++ d0 :: (t0 ++ (layChars b ++ ')' :: rest))) =
              '?' :: r' → False := fun r' e => hqq ⟨r', e⟩
          rw [argumentR_word_nq hidn hq]
          exact argumentTailClose_stop _ l0 _ hcc'.1
    · -- a word `identifier` rejects
      left
      have hnone : argumentR (e.text ++ (layChars b ++ ')' :: rest)) = none := by
        have := hid _ hbX
        rw [hw, List.append_assoc]
        cases hwc : w with
        | nil => exact absurd hwc hshape.ne_nil
        | cons c t =>
          rw [hwc] at this
          have hc : isIdentChar c = true := hshape.all c (by rw [hwc]; exact List.mem_cons_self)
          rw [List.cons_append] at this ⊢
          exact argumentR_reject this (by intro e; subst e; revert hc; decide)
      simp only [hnone, hclose0, Option.map_none]

/-- no lambda starts at a parenthesised expression that is not followed by `=>`: either the
    text between the parentheses is not an argument list, or (a single name) it is and the
    `=>` is missing -/
theorem lambdaHead_paren (a : Lay) (e : CST) (b : Lay) (rest : List Char) (hs : e.Shaped)
    (hl : e.LayoutOk) (hn : NoLam rest) :
    lambdaHead ('(' :: (layChars a ++ (e.text ++ (layChars b ++ ')' :: rest)))) = none := by
  simp only [lambdaHead, argumentList, argumentR_paren]
  rcases argumentListParen_paren a e b rest hs hl with h | ⟨args, h⟩
  · simp only [h]
  · simp only [h, lit_arrow_none hn.1.1, Option.map_none]

/-! #### the head of a lambda is read back -/

theorem argText_start {a : LArg} (h : nameOk a.name = true) :
    ∃ x tl, argText a = x :: tl ∧ notLayoutStart x = true := by
  cases a with
  | rest n => exact ⟨'.', '.' :: '.' :: n.toList, by simp [argText, spreadLit_eq], by decide⟩
  | req n =>
    obtain ⟨x, tl, hx, hc⟩ := name_start (n := n) h
    exact ⟨x, tl, by simp [argText, hx], notLayoutStart_of_identChar hc⟩
  | opt n =>
    obtain ⟨x, tl, hx, hc⟩ := name_start (n := n) h
    exact ⟨x, tl ++ ['?'], by simp [argText, hx], notLayoutStart_of_identChar hc⟩

theorem argumentR_argText (a : LArg) (hn : nameOk a.name = true) (lw : Lay) {c0 : Char}
    (hc0 : stopChar c0 = true) (M' : List Char) :
    argumentR (argText a ++ (layChars lw ++ c0 :: M')) = some (a, layChars lw ++ c0 :: M') := by
  have hb : Boundary (layChars lw ++ c0 :: M') := (tend_stop lw M' hc0).1
  cases a with
  | req n =>
    refine argumentR_req hn hb ?_
    intro r e
    obtain ⟨_, _, _, _, h5⟩ := stop_heads hc0
    obtain ⟨l', hl'⟩ := skipWs_lay lw c0 M' h5
    rw [hl'] at e
    obtain ⟨_, hd, _⟩ := lay_cons_q e
    subst hd
    revert hc0; decide
  | opt n =>
    have : argText (.opt n) ++ (layChars lw ++ c0 :: M') = n.toList ++ '?' :: (layChars lw ++ c0 :: M') := by
      simp [argText]
    rw [this]
    exact argumentR_opt hn _
  | rest n =>
    have : argText (.rest n) ++ (layChars lw ++ c0 :: M') =
        spreadLit ++ (n.toList ++ (layChars lw ++ c0 :: M')) := by simp [argText]
    rw [this]
    exact argumentR_rest hn hb

/-- the end of the argument list: `C` starts (after layout) with `,` or `)`, and no further
    argument is read from it -/
def ArgsEnd (C : List Char) : Prop :=
  (∃ lw c0 C', C = layChars lw ++ c0 :: C' ∧ stopChar c0 = true) ∧
    ∀ n, argumentsTail (n + 1) C = ([], C)

theorem more_head (more : List (Lay × Lay × LArg)) {C : List Char}
    (hC : ∃ lw c0 C', C = layChars lw ++ c0 :: C' ∧ stopChar c0 = true) :
    ∃ lw c0 C', moreText more ++ C = layChars lw ++ c0 :: C' ∧ stopChar c0 = true := by
  cases more with
  | nil => simpa [moreText] using hC
  | cons x rest =>
    obtain ⟨w, l, a⟩ := x
    exact ⟨w, ',', layChars l ++ (argText a ++ (moreText rest ++ C)), by simp [moreText], rfl⟩

theorem argumentsTail_more : ∀ (more : List (Lay × Lay × LArg)) (n : Nat) (C : List Char),
    more.length < n → (∀ x ∈ more, wsOnly x.1 = true ∧ nameOk x.2.2.name = true) → ArgsEnd C →
    argumentsTail n (moreText more ++ C) = (more.map (fun x => x.2.2), C)
  | [], n, C, hn, _, hC => by
    cases n with
    | zero => exact absurd hn (Nat.not_lt_zero _)
    | succ k => simpa [moreText] using hC.2 k
  | (w, l, a) :: rest, n, C, hn, hall, hC => by
    cases n with
    | zero => exact absurd hn (Nat.not_lt_zero _)
    | succ k =>
      obtain ⟨hw, hna⟩ := hall (w, l, a) List.mem_cons_self
      obtain ⟨x, tl, hx, hxs⟩ := argText_start hna
      obtain ⟨lw, c0, C', hM, hc0⟩ := more_head rest hC.1
      have ih := argumentsTail_more rest k C (by simp only [List.length_cons] at hn; omega)
        (fun y hy => hall y (List.mem_cons_of_mem _ hy)) hC
      have hlay : layoutAtom (argText a ++ (moreText rest ++ C)) = none := by
        rw [hx, List.cons_append]; exact layoutAtom_none hxs
      have htxt : moreText ((w, l, a) :: rest) ++ C =
          layChars w ++ ',' :: (layChars l ++ (argText a ++ (moreText rest ++ C))) := by
        simp [moreText]
      rw [htxt, argumentsTail, skipWs_run w hw ',' _ (by decide)]
      simp only [layoutStar_run l _ hlay]
      rw [hM, argumentR_argText a hna lw hc0 C', ← hM]
      simp only [ih, List.map_cons]

theorem close_argsEnd (c : Close) (hc : c.okCall = true) (Y : List Char) :
    ArgsEnd (c.text ')' ++ Y) := by
  cases c with
  | plain l =>
    have hT : Close.text ')' (.plain l) ++ Y = layChars l ++ ')' :: Y := by simp [Close.text]
    rw [hT]
    exact ⟨⟨l, ')', Y, rfl, rfl⟩, fun n => argumentsTail_stop _ l Y (by decide) (by decide)⟩
  | comma w l =>
    simp only [Close.okCall, Bool.and_eq_true] at hc
    have hT : Close.text ')' (.comma w l) ++ Y = layChars w ++ ',' :: (layChars l ++ ')' :: Y) := by
      simp [Close.text]
    rw [hT]
    refine ⟨⟨w, ',', _, rfl, rfl⟩, fun n => ?_⟩
    have hnone : argumentR (')' :: Y) = none :=
      argumentR_reject (identifier_none_of_start Y (by decide)) (by decide)
    simp only [argumentsTail, skipWs_run w hc.1 ',' _ (by decide),
      layoutStar_run l _ (layoutAtom_none (c := ')') (by decide)), hnone]

theorem moreText_length (more : List (Lay × Lay × LArg)) : more.length ≤ (moreText more).length := by
  induction more with
  | nil => simp [moreText]
  | cons x rest ih =>
    obtain ⟨w, l, a⟩ := x
    simp only [moreText, List.length_cons, List.length_append]
    omega

theorem argumentList_text (hd : LamHead) (hok : hd.ok = true) (hnm : hd.namesOk = true)
    {Y : List Char} (hbY : Boundary Y) (hq : ∀ r, skipWs Y ≠ '?' :: r) :
    argumentList (hd.text ++ Y) = some (hd.args, Y) := by
  simp only [LamHead.namesOk, Bool.and_eq_true, List.all_eq_true] at hnm
  obtain ⟨hnames, hbare⟩ := hnm
  cases hd with
  | bare a =>
    have hna : nameOk a.name = true := hnames a (by simp [LamHead.args])
    cases a with
    | rest n => simp at hbare
    | req n =>
      simp only [LamHead.text, argText, LamHead.args, argumentList, argumentR_req (n := n) hna hbY hq]
    | opt n =>
      have htxt : (n.toList ++ ['?']) ++ Y = n.toList ++ '?' :: Y := by simp
      simp only [LamHead.text, argText, LamHead.args, htxt, argumentList, argumentR_opt (n := n) hna Y]
  | unit l0 =>
    have hnone : argumentR (')' :: Y) = none :=
      argumentR_reject (identifier_none_of_start _ (by decide)) (by decide)
    have hc := callClose_text (.plain []) rfl Y
    simp only [Close.text, layChars, List.nil_append, List.singleton_append] at hc
    simp only [LamHead.text, LamHead.args, List.cons_append, List.append_assoc,
      List.nil_append, argumentList, argumentR_paren, argumentListParen,
      layoutStar_run l0 _ (layoutAtom_none (c := ')') (by decide)), hnone, hc, Option.map_some]
  | parens l0 a more c =>
    simp only [LamHead.ok, Bool.and_eq_true, List.all_eq_true] at hok
    obtain ⟨hmw, hcc⟩ := hok
    have hna : nameOk a.name = true := hnames a (by simp [LamHead.args])
    have hall : ∀ x ∈ more, wsOnly x.1 = true ∧ nameOk x.2.2.name = true := fun x hx =>
      ⟨hmw x hx, hnames x.2.2 (by simp only [LamHead.args, List.mem_cons, List.mem_map]; exact Or.inr ⟨x, hx, rfl⟩)⟩
    obtain ⟨x, tl, hx, hxs⟩ := argText_start hna
    have hend := close_argsEnd c hcc Y
    obtain ⟨lw, c0, C', hM, hc0⟩ := more_head more hend.1
    have hlay : layoutAtom (argText a ++ (moreText more ++ (c.text ')' ++ Y))) = none := by
      rw [hx, List.cons_append]; exact layoutAtom_none hxs
    have htail := argumentsTail_more more ((moreText more ++ (c.text ')' ++ Y)).length + 1)
      _ (by have := moreText_length more; simp only [List.length_append]; omega) hall hend
    have htc : argumentTailClose a (moreText more ++ (c.text ')' ++ Y)) =
        some (a :: more.map (fun x => x.2.2), Y) := by
      simp only [argumentTailClose, htail, callClose_text c hcc, Option.map_some]
    have harg := argumentR_argText a hna lw hc0 C'
    rw [← hM] at harg
    simp only [LamHead.text, LamHead.args, List.cons_append, List.append_assoc, argumentList,
      argumentR_paren, argumentListParen, layoutStar_run l0 _ hlay, harg, htc]

theorem lambdaHead_text (hd : LamHead) (hok : hd.ok = true) (hnm : hd.namesOk = true) (w l : Lay)
    (hw : wsOnly w = true) (X : List Char) (hX : layoutAtom X = none) :
    lambdaHead (hd.text ++ (layChars w ++ '=' :: '>' :: (layChars l ++ X))) = some (hd.args, X) := by
  have hsk := skipWs_run w hw '=' ('>' :: (layChars l ++ X)) (by decide)
  simp only [lambdaHead, argumentList_text hd hok hnm (boundary_lay_eq w _)
    (fun r e => by rw [hsk] at e; cases e), hsk, lit, if_true, Option.map_some,
    layoutStar_run l X hX]

/-! #### argument lists, lambda bodies and the keywords of a conditional: what the cases of the
main lemma use -/

/-- the argument / item list at `X` is read as `trees`, leaving `R` -/
def ArgsLex (lst : Bool) (X : List Char) (trees : List Expr) (R : List Char) : Prop :=
  ∃ f a more r1, argR lst f X = .ok (a, r1) ∧ argsTailR lst f r1 = .ok (more, R) ∧ trees = a :: more

theorem argR_of_ex (lst : Bool) {X R : List Char} {its : List PItem} {t : Expr} (sp : Bool)
    {x : Char} {tl : List Char} (hX : X = x :: tl) (hx : startChar x = true) {f : Nat}
    (he : exprR false f X = .ok (its, R)) (hp : prattParse its = some t) :
    argR lst (f + 1) (spreadChars sp ++ X) = .ok (argTree sp t, trailL lst R) := by
  have hne : x ≠ '.' := by intro e; subst e; revert hx; decide
  cases sp
  · simp only [spreadChars, Bool.false_eq_true, if_false, List.nil_append, argTree]
    rw [argR_succ, hX, lit_spread_none tl hne, ← hX, he]
    simp only [Res.bind, Res.ofOpt, hp, trailL]
  · simp only [spreadChars, if_true, argTree]
    rw [argR_succ, lit_append]
    simp only [Res.bind, Res.ofOpt, he, hp, trailL]

theorem termAtom_bracket (X : List Char) : termAtom ('[' :: X) = none :=
  termAtom_none_of_head X (by decide) (by decide) (by decide) (by decide)

theorem lamSafe_left {a b : List PItem} (h : LamSafe (a ++ b)) : LamSafe a :=
  fun op hm => h op (List.mem_append_left _ hm)
theorem lamSafe_right {a b : List PItem} (h : LamSafe (a ++ b)) : LamSafe b :=
  fun op hm => h op (List.mem_append_right _ hm)
theorem lamSafe_tail {x : PItem} {a : List PItem} (h : LamSafe (x :: a)) : LamSafe a :=
  fun op hm => h op (List.mem_cons_of_mem _ hm)

theorem endsOpen_of_left {c : Expr} {op : BinOp} (h : needsParens c (.binLeft op) = false) :
    endsOpen c = false := by
  unfold needsParens at h
  simp only [Bool.or_eq_false_iff] at h
  exact h.1

theorem endsOpen_of_postfix {c : Expr} (h : needsParens c .postfix_ = false) :
    endsOpen c = false := by
  unfold needsParens at h
  simp only [Bool.or_eq_false_iff] at h
  exact h.1

theorem prefixUsage_name {n : String} (hn : nameOk n = true) {Y : List Char} (hb : Boundary Y) :
    prefixUsage (n.toList ++ Y) = none := by
  obtain ⟨hw, hnot⟩ := nameOk_facts hn
  refine prefixUsage_word hw.ne_nil hw.all ?_ hb
  intro e
  apply hnot
  rw [e]
  decide +kernel

theorem lamHead_cases {P : List Char → Prop} (hparen : ∀ X, P ('(' :: X))
    (hname : ∀ n, nameOk n = true → ∀ Y, Boundary Y → P (n.toList ++ Y)) (hd : LamHead)
    (hnm : hd.namesOk = true) (w : Lay) (T : List Char) : P (hd.text ++ (layChars w ++ '=' :: T)) := by
  simp only [LamHead.namesOk, Bool.and_eq_true, List.all_eq_true] at hnm
  cases hd with
  | unit l0 => exact hparen _
  | parens l0 a more c => exact hparen _
  | bare a =>
    have hna : nameOk a.name = true := hnm.1 a (by simp [LamHead.args])
    cases a with
    | rest n => simp at hnm
    | req n => exact hname n hna _ (boundary_lay_eq w T)
    | opt n =>
      have : LamHead.text (.bare (.opt n)) ++ (layChars w ++ '=' :: T) =
          n.toList ++ '?' :: (layChars w ++ '=' :: T) := by simp [LamHead.text, argText]
      rw [this]
      exact hname n hna _ (boundary_cons (by decide))

theorem lamHead_prefix (hd : LamHead) (hnm : hd.namesOk = true) (w : Lay) (T : List Char) :
    prefixUsage (hd.text ++ (layChars w ++ '=' :: T)) = none :=
  lamHead_cases (P := fun X => prefixUsage X = none)
    (fun X => prefixUsage_none_of_head X (by decide) (by decide) (by decide))
    (fun _ hn _ hb => prefixUsage_name hn hb) hd hnm w T

theorem ifHead_atom {e : Expr} (h : atomOk e = true) {rest : List Char} (hb : Boundary rest) :
    ifHead (atomText e ++ rest) = none :=
  ifHead_word (atom_word h).2.1 (atomText_ne_if h) hb

theorem ifHead_lamHead (hd : LamHead) (hnm : hd.namesOk = true) (w : Lay) (T : List Char) :
    ifHead (hd.text ++ (layChars w ++ '=' :: T)) = none := by
  refine lamHead_cases (P := fun X => ifHead X = none) (fun _ => ifHead_none_of_head _ (by decide))
    (fun n hn Y hY => ?_) hd hnm w T
  obtain ⟨hw, hnot⟩ := nameOk_facts hn
  refine ifHead_word hw.all (fun e => hnot ?_) hY
  rw [e]; decide +kernel

theorem doHead_atom {e : Expr} (h : atomOk e = true) {rest : List Char} (hb : Boundary rest) :
    doHead (atomText e ++ rest) = none :=
  doHead_word (atom_word h).2.1 (atomText_ne_do h) hb

theorem doHead_lamHead (hd : LamHead) (hnm : hd.namesOk = true) (w : Lay) (T : List Char) :
    doHead (hd.text ++ (layChars w ++ '=' :: T)) = none := by
  refine lamHead_cases (P := fun X => doHead X = none) (fun _ => doHead_none_of_head _ (by decide))
    (fun n hn Y hY => ?_) hd hnm w T
  obtain ⟨hw, hnot⟩ := nameOk_facts hn
  refine doHead_word hw.all (fun e => hnot ?_) hY
  rw [e]; decide +kernel

theorem kw_ends {kw : List Char} (h : kw = thenLit ∨ kw = elseLit) (l : Lay) (hl : l ≠ [])
    (T : List Char) : TEnd (layChars l ++ (kw ++ T)) ∧ Closes (layChars l ++ (kw ++ T)) := by
  have hhead : ∃ d tl, layChars l ++ (kw ++ T) = d :: tl ∧ isIdentChar d = false ∧
      (d ≠ '!' ∧ d ≠ '[' ∧ d ≠ '(' ∧ d ≠ '.') := by
    cases l with
    | nil => exact absurd rfl hl
    | cons a l' => cases a <;> exact ⟨_, _, rfl, by decide, by decide⟩
  obtain ⟨d, tl, hd, hd1, hd2, hd3, hd4, hd5⟩ := hhead
  have hnl : NoLam (kw ++ T) := by
    rcases h with rfl | rfl
    · exact noLam_of_head (c := 't') (by decide) (by decide) (by decide)
    · exact noLam_of_head (c := 'e') (by decide) (by decide) (by decide)
  refine ⟨⟨?_, noLam_lay l hnl⟩, ?_, fun lam => infixUsage_kw lam h l T⟩
  · rw [hd]; exact boundary_cons hd1
  · rw [hd]; exact postNone_of_char hd2 hd3 hd4 hd5

/-! #### records -/

theorem termAtom_brace (X : List Char) : termAtom ('{' :: X) = none :=
  termAtom_none_of_head X (by decide) (by decide) (by decide) (by decide)

/-- what the text behind a record entry has to satisfy: it ends a term, continues no
    expression, and does not start (after blanks) with a colon -/
def EntStop (T : List Char) : Prop := TEnd T ∧ Closes T ∧ ∀ r, skipWs T ≠ ':' :: r

theorem entStop_stop (b : Lay) {c : Char} (rest : List Char) (hc : stopChar c = true) :
    EntStop (layChars b ++ c :: rest) := by
  refine ⟨tend_stop b rest hc, closes_stop b rest hc, ?_⟩
  obtain ⟨_, _, _, _, h5⟩ := stop_heads hc
  have hcc : c ≠ ':' := stopChar_ne hc (by decide)
  obtain ⟨l', hl'⟩ := skipWs_lay b c rest h5
  obtain ⟨d, tl', hX, hd⟩ := lay_head l' c rest (fun d => d ≠ ':')
    (by decide) (by decide) (by decide) (by decide) hcc
  intro r e
  rw [hl', hX] at e
  simp only [List.cons.injEq] at e
  exact hd e.1

/-- what the text behind the LAST record entry has to satisfy: `EntStop`, and no further entry is
    read from it -/
def EntStopLast (T : List Char) : Prop :=
  EntStop T ∧ ∃ g, recTailR g (itemTrail T) = .ok ([], itemTrail T)

/-- the entry list at `X` is read as `trees`, leaving `R` -/
def EntsLex (X : List Char) (trees : List Entry) (R : List Char) : Prop :=
  ∃ f e more r1, recItemR f X = .ok (e, r1) ∧ recTailR f r1 = .ok (more, R) ∧ trees = e :: more

theorem recKeyR_nokey {c : Char} (X : List Char) (h1 : isIdentStart c = false) (h2 : c ≠ '"')
    (h3 : c ≠ '\'') (h4 : c ≠ '[') (f : Nat) : recKeyR (f + 1) (c :: X) = .fail := by
  rw [recKeyR_succ, identifier_none_of_start X h1, stringRule_none_of_head X h2 h3]
  simp only
  split
  · rename_i r1 heq; simp only [List.cons.injEq] at heq; exact absurd heq.1 h4
  · rfl

theorem recPairR_nokey {c : Char} (X : List Char) (h1 : isIdentStart c = false) (h2 : c ≠ '"')
    (h3 : c ≠ '\'') (h4 : c ≠ '[') (f : Nat) : recPairR (f + 2) (c :: X) = .fail := by
  rw [recPairR_succ, recKeyR_nokey X h1 h2 h3 h4]; rfl

theorem recItemR_brace (X : List Char) (f : Nat) : recItemR (f + 3) ('}' :: X) = .fail := by
  rw [recItemR_succ, recPairR_nokey X (by decide) (by decide) (by decide) (by decide)]
  simp only [Res.bind, Res.ofOpt, identifier_none_of_start X (c := '}') (by decide), lit_spread_none X (c := '}') (by decide)]

theorem close_entStop (c : Close) (hc : c.okList = true) (rest : List Char) :
    EntStopLast (c.text '}' ++ rest) := by
  cases c with
  | plain l =>
    have hT : Close.text '}' (.plain l) ++ rest = layChars l ++ '}' :: rest := by simp [Close.text]
    rw [hT]
    refine ⟨entStop_stop l rest (by decide), 1, ?_⟩
    obtain ⟨l', h1, h2⟩ := itemTrail_lay l (c := '}') rest (by decide)
    rw [recTailR_succ, h1, h2]
    split
    · rename_i r heq; exact absurd heq (lay_head_ne_comma l' rest (by decide) r)
    · rfl
  | comma w l =>
    have hw : wsOnly w = true := hc
    have hT : Close.text '}' (.comma w l) ++ rest = layChars w ++ ',' :: (layChars l ++ '}' :: rest) := by
      simp [Close.text]
    rw [hT]
    refine ⟨entStop_stop w _ (by decide), 4, ?_⟩
    rw [itemTrail_ws w hw _ (c := ',') (by decide), recTailR_succ, skipWs_head _ (by decide)]
    simp only [Res.bind, gapG_run l rest (c := '}') (by decide), recItemR_brace rest 0]

theorem ent_start : ∀ (e : Ent), CST.EntShaped e → CST.EntLayoutOk e →
    ∃ x tl, CST.entText e = x :: tl ∧ notLayoutStart x = true
  | .pairId k w l v, _, hl => by
    obtain ⟨x, tl, hx, hc⟩ := name_start (n := k) hl.1
    exact ⟨x, _, by simp only [CST.entText, hx, List.cons_append]; rfl, notLayoutStart_of_identChar hc⟩
  | .pairStr dq s w l v, _, _ => ⟨quoteChar dq, _, rfl, by cases dq <;> decide⟩
  | .pairDyn a e b w l v, _, _ => ⟨'[', _, rfl, by decide⟩
  | .short n, hs, _ => by
    obtain ⟨x, tl, hx, hc⟩ := name_start (n := n) hs
    exact ⟨x, tl, by simp only [CST.entText, hx], notLayoutStart_of_identChar hc⟩
  | .spread e, _, _ => ⟨'.', _, by simp only [CST.entText, spreadLit_eq, List.cons_append]; rfl, by decide⟩
  | .raw _, hs, _ => hs.elim

theorem ents_start : ∀ (es : Ents), CST.EntsShaped es → CST.EntsLayoutOk es →
    ∃ x tl, CST.entsText es = x :: tl ∧ notLayoutStart x = true
  | .last e, hs, hl => ent_start e hs hl
  | .cons e w l rest, hs, hl => by
    obtain ⟨x, tl, hx, hc⟩ := ent_start e hs.1 hl.1
    exact ⟨x, _, by simp only [CST.entsText, hx, List.cons_append]; rfl, hc⟩

theorem recItemR_pair {cs : List Char} {k : Key} {r1 X T : List Char} {v : CST} {g f : Nat}
    (hkey : recKeyR g cs = .ok (k, r1)) (hsk : skipWs r1 = ':' :: X)
    (hls : layoutStar X = v.text ++ T) (hv : exprR false f (v.text ++ T) = .ok (v.items, T))
    (hp : prattParse v.items = some v.tree) :
    recItemR (max f g + 2) cs = .ok (.mk [] k v.tree none, itemTrail T) := by
  rw [recItemR_succ, recPairR_succ, recKeyR_mono (Nat.le_max_right f g) hkey]
  simp only [Res.bind, Res.ofOpt, hsk, hls, exprR_mono (Nat.le_max_left f g) hv, hp]

theorem boundary_lay_colon (w : Lay) (T : List Char) : Boundary (layChars w ++ ':' :: T) :=
  boundary_lay w T (by decide)

/-! #### do-blocks -/

theorem naturalLits_identChars : ∀ x ∈ naturalLits, ∀ c ∈ x.2, isIdentChar c = true := by
  decide +kernel

theorem CST.wordOpText_false {w : List Char} (h : CST.wordOpText w = false) : ∀ x ∈ naturalLits, x.2 ≠ w := by
  intro x hx e
  have : CST.wordOpText w = true := by
    simp only [CST.wordOpText, List.any_eq_true, beq_iff_eq]
    exact ⟨x, hx, e⟩
  rw [h] at this; cases this

/-- a word that is none of the literals: where one of them is found at its start, no blank
    follows it -/
theorem firstRule_word_ws {L : List (String × List Char)}
    (hL : ∀ x ∈ L, ∀ c ∈ x.2, isIdentChar c = true) {w X : List Char}
    (hall : ∀ x ∈ w, isIdentChar x = true) (hb : Boundary X) (hnot : ∀ x ∈ L, x.2 ≠ w)
    {rule : String} {r : List Char} (h : firstRule L (w ++ X) = some (rule, r)) :
    wsPlus r = none := by
  obtain ⟨s, hs, he⟩ := firstRule_some h
  rcases List.append_eq_append_iff.mp he with ⟨a', hsa, hra⟩ | ⟨c', hwc, hrc⟩
  · cases a' with
    | nil => simp only [List.append_nil] at hsa; exact absurd hsa (hnot _ hs)
    | cons x a'' =>
      exfalso
      have hx : isIdentChar x = true := hL _ hs x (by rw [hsa]; simp)
      have := boundary_class hb isIdentChar (fun _ h => h) x (a'' ++ r) (by simpa using hra)
      rw [hx] at this; cases this
  · cases c' with
    | nil => simp only [List.append_nil] at hwc; exact absurd hwc.symm (hnot _ hs)
    | cons x c'' =>
      subst hrc
      have hx : isIdentChar x = true := hall x (by simp [hwc])
      obtain ⟨h1, h2, _⟩ := isIdentChar_cases hx
      simp [wsPlus, plus, isWs, h1, h2]

theorem infixLits_noIdentHead :
    (infixLits.all fun x => match x.2 with | [] => false | a :: _ => !isIdentChar a) = true := by
  decide +kernel

theorem headsNe_infix_identChar {c : Char} (h : isIdentChar c = true) : headsNe infixLits c = true := by
  simp only [headsNe, List.all_eq_true]
  intro x hx
  have := List.all_eq_true.mp infixLits_noIdentHead x hx
  split at this
  · cases this
  · rename_i a t e
    rw [e]
    simp only [bne_iff_ne, ne_eq]
    intro e'; subst e'
    simp [h] at this

theorem infixUsage_word_none (lam : Bool) (g : Lay) {w X : List Char} (hne : w ≠ [])
    (hall : ∀ x ∈ w, isIdentChar x = true) (hb : Boundary X) (hnot : CST.wordOpText w = false) :
    infixUsage lam (layChars g ++ (w ++ X)) = none := by
  cases hw : w with
  | nil => exact absurd hw hne
  | cons c w' =>
    have hc : isIdentChar c = true := hall c (by rw [hw]; exact List.mem_cons_self)
    have hLA : layoutAtom (c :: w' ++ X) = none := layoutAtom_none (notLayoutStart_of_identChar hc)
    have hstar : layoutStar (layChars g ++ (c :: w' ++ X)) = c :: w' ++ X := layoutStar_run g _ hLA
    have h2 : firstRule infixLits (c :: w' ++ X) = none :=
      firstRule_none_of_headsNe (headsNe_infix_identChar hc)
    have hws : ∀ rule r1, firstRule (if lam then lamNaturalLits else naturalLits) (c :: w' ++ X) =
        some (rule, r1) → wsPlus r1 = none := by
      intro rule r1 hf
      rw [← hw] at hf
      cases lam with
      | false => exact firstRule_word_ws naturalLits_identChars hall hb (CST.wordOpText_false hnot) hf
      | true =>
        exact firstRule_word_ws (fun x hx => naturalLits_identChars x (lamNaturalLits_sub x hx)) hall hb
          (fun x hx => CST.wordOpText_false hnot x (lamNaturalLits_sub x hx)) hf
    unfold infixUsage
    cases g with
    | nil =>
      simp only [layChars, List.nil_append, layoutPlus_none hLA]
      have : layoutStar (c :: w' ++ X) = c :: w' ++ X := by simpa [layChars] using layoutStar_run [] _ hLA
      simp only [this, h2]
    | cons a g' =>
      rw [layoutPlus_run (a :: g') (by simp) _ hLA, hstar, h2]
      cases hf : firstRule (if lam then lamNaturalLits else naturalLits) (c :: w' ++ X) with
      | none => simp only [hf]
      | some p =>
        obtain ⟨rule, r1⟩ := p
        simp only [hf, hws rule r1 hf, Option.map_none]

theorem open_heads : ∀ c ∈ ['"', '\'', '(', '[', '{'],
    headsNe infixLits c = true ∧ headsNe naturalLits c = true ∧ notLayoutStart c = true := by
  decide +kernel

theorem infixLits_bang :
    (infixLits.all fun x => match x.2 with
      | [] => false
      | a :: t => a != '!' || (match t with | b :: _ => b == '=' | [] => false)) = true := by
  decide +kernel

theorem firstRule_none_of_lit {L : List (String × List Char)} {cs : List Char}
    (h : ∀ p ∈ L, lit p.2 cs = none) : firstRule L cs = none := by
  induction L with
  | nil => rfl
  | cons x L ih =>
    obtain ⟨r', s'⟩ := x
    simp only [firstRule, h (r', s') List.mem_cons_self]
    exact ih (fun p hp => h p (List.mem_cons_of_mem _ hp))

theorem infixUsage_bang (lam : Bool) (g : Lay) {x : Char} (tl : List Char) (hx : x ≠ '=') :
    infixUsage lam (layChars g ++ '!' :: x :: tl) = none := by
  have hLA : layoutAtom ('!' :: x :: tl) = none := layoutAtom_none (by decide)
  have h1 : firstRule (natTable lam) ('!' :: x :: tl) = none :=
    firstRule_none_of_headsNe (headsNe_nat lam (by decide +kernel))
  have h2 : firstRule infixLits ('!' :: x :: tl) = none := by
    apply firstRule_none_of_lit
    intro p hp
    have := List.all_eq_true.mp infixLits_bang p hp
    split at this
    · cases this
    · rename_i a t e
      rw [e]
      simp only [Bool.or_eq_true, bne_iff_ne, ne_eq] at this
      rcases this with ha | hb
      · have : ¬ (a = '!') := ha
        simp [lit, this]
      · cases t with
        | nil => cases hb
        | cons b t' =>
          simp only [beq_iff_eq] at hb
          subst hb
          have : ¬ ('=' = x) := fun e => hx e.symm
          by_cases ha : a = '!'
          · subst ha; simp [lit, this]
          · simp [lit, ha]
  have hpl : ∀ r, layoutPlus (layChars g ++ '!' :: x :: tl) = some r →
      firstRule (natTable lam) r = none := by
    intro r hr
    cases g with
    | nil => simp only [layChars, List.nil_append, layoutPlus_none hLA] at hr; cases hr
    | cons y g' =>
      rw [layoutPlus_run (y :: g') (by simp) _ hLA] at hr
      cases hr; exact h1
  rw [infixUsage_alt2 hpl, layoutStar_run g _ hLA, h2]
  rfl

theorem lay_ne_boundary {g : Lay} (hg : g ≠ []) (X : List Char) : Boundary (layChars g ++ X) := by
  cases g with
  | nil => exact absurd rfl hg
  | cons a g' => cases a <;> exact boundary_cons (by decide)

theorem postNone_lay_ne {g : Lay} (hg : g ≠ []) (X : List Char) : postNone (layChars g ++ X) := by
  cases g with
  | nil => exact absurd rfl hg
  | cons a g' =>
    cases a <;> exact postNone_of_char (by decide) (by decide) (by decide) (by decide)

theorem noLam_lay_nl (g : Lay) (hg : (g.any fun a => !a.isWs) = true) (X : List Char) :
    NoLam (layChars g ++ X) := by
  obtain ⟨w', nl, l', rfl, _, hnl⟩ := lay_split_nl g hg
  simp only [layChars_append, layChars, List.append_assoc]
  refine noLam_lay w' ?_
  cases nl <;> simp [LayAtom.isWs] at hnl <;>
    exact noLam_of_head (by decide) (by decide) (by decide)

theorem any_nl_ne {g : Lay} (h : (g.any fun a => !a.isWs) = true) : g ≠ [] := by
  intro e; subst e; simp at h

theorem infixUsage_open (lam : Bool) (g : Lay) {c : Char} (hc : c ∈ ['"', '\'', '(', '[', '{'])
    (X : List Char) : infixUsage lam (layChars g ++ c :: X) = none := by
  obtain ⟨h1, h2, h3⟩ := open_heads c hc
  exact infixUsage_none_of_heads lam g c _ h1 h2 h3

/-- a statement that may stand behind a line break (`headOk`) is not taken for the continuation
    of the expression before it -/
theorem infixUsage_headOk : ∀ (c : CST), c.headOk → c.Shaped → c.LayoutOk →
    ∀ (g : Lay) (X : List Char) (lam : Bool), Boundary X →
      infixUsage lam (layChars g ++ (c.text ++ X)) = none
  | .atom e, hh, hs, _ => by
    intro g X lam hb
    obtain ⟨hne, hall, _, _⟩ := atom_word (e := e) hs
    exact infixUsage_word_none lam g hne hall hb hh
  | .str dq s, _, _, _ => fun g X lam _ => infixUsage_open lam g (by cases dq <;> decide) _
  | .bin op l a b r, hh, hs, hl => by
    intro g X lam _
    obtain ⟨x, tl, hx, hsx⟩ := text_start r hs.2.1
    obtain ⟨_, _, hB⟩ := op_gap false op (fun e => by cases e) a b hl.2.2 x (tl ++ X) hsx
    have := infixUsage_headOk l hh hs.1 hl.1 g
      (layChars a ++ (spell op ++ (layChars b ++ x :: (tl ++ X)))) lam hB.1
    simpa only [CST.text, hx, List.append_assoc, List.cons_append] using this
  | .un op e, hh, hs, _ => by
    intro g X lam _
    have hop : op = .not := hh
    subst hop
    obtain ⟨x, tl, hx, hsx⟩ := text_start e hs.2.1
    have := infixUsage_bang lam g (x := x) (tl ++ X) (startChar_facts hsx).2.1
    have ht : (CST.un .not e).text ++ X = '!' :: x :: (tl ++ X) := by
      simp only [CST.text, hx, List.cons_append, List.append_assoc]; rfl
    rw [ht]; exact this
  -- the text starts with that of the first operand
  | .fact e, hh, hs, hl | .call0 e _, hh, hs, hl | .dot e _, hh, hs, hl => by
    intro g X lam _
    simp only [CST.text, List.append_assoc, List.cons_append, List.nil_append]
    exact infixUsage_headOk e hh hs.1 hl g _ lam (boundary_cons (by decide))
  | .call e _ _ _, hh, hs, hl | .access e _ _ _, hh, hs, hl => by
    intro g X lam _
    simp only [CST.text, List.append_assoc, List.cons_append, List.nil_append]
    exact infixUsage_headOk e hh hs.1 hl.1 g _ lam (boundary_cons (by decide))
  | .paren .., _, _, _ | .list0 _, _, _, _ | .list .., _, _, _ | .rec0 _, _, _, _
  | .record .., _, _, _ => fun g X lam _ => infixUsage_open lam g (by decide) _
  | .cond w c l1 l2 t l3 l4 e, _, _, hl => by
    intro g X lam _
    have hw : w ≠ [] := hl.1.1
    have := infixUsage_word_none lam g (w := ['i', 'f']) (by simp) (by decide)
      (lay_ne_boundary hw (c.text ++ (layChars l1 ++ (thenLit ++ (layChars l2 ++ (t.text ++
        (layChars l3 ++ (elseLit ++ (layChars l4 ++ (e.text ++ X))))))))))
      (by decide +kernel)
    simpa only [CST.text, List.append_assoc, List.cons_append, List.nil_append] using this
  | .doB l0 l1 ss w e l2, _, _, hl => by
    intro g X lam _
    have hl0 : l0 ≠ [] := hl.1.1
    have := infixUsage_word_none lam g (w := ['d', 'o']) (by simp) (by decide)
      (lay_ne_boundary hl0 ('{' :: (layChars l1 ++ (CST.stmtsText ss ++ (retLit ++ (layChars w ++
        (e.text ++ (layChars l2 ++ '}' :: X))))))))
      (by decide +kernel)
    simpa only [CST.text, List.append_assoc, List.cons_append, List.nil_append] using this
  | .asg n w l v, hh, hs, _ => by
    intro g X lam _
    obtain ⟨hshape, _⟩ := nameOk_facts hs.1
    have := infixUsage_word_none lam g hshape.ne_nil hshape.all
      (boundary_lay_eq w (layChars l ++ (v.text ++ X))) hh
    simpa only [CST.text, List.append_assoc, List.cons_append] using this
  | .lambda hd w l b, hh, hs, hl => by
    intro g X lam _
    have hnm := hs.1
    cases hd with
    | unit l0 => exact infixUsage_open lam g (by decide) _
    | parens l0 a more c => exact infixUsage_open lam g (by decide) _
    | bare a =>
      simp only [LamHead.namesOk, LamHead.args, List.all_cons, List.all_nil, Bool.and_true,
        Bool.and_eq_true] at hnm
      have hho : CST.wordOpText a.name.toList = false := by
        have : CST.lamHeadOk [a] = true := hh
        simpa [CST.lamHeadOk] using this
      obtain ⟨hshape, _⟩ := nameOk_facts hnm.1
      cases a with
      | rest n => simp at hnm
      | req n =>
        have := infixUsage_word_none lam g hshape.ne_nil hshape.all
          (boundary_lay_eq w ('>' :: (layChars l ++ (b.text ++ X)))) hho
        simpa only [CST.text, LamHead.text, argText, LArg.name, List.append_assoc, List.cons_append]
          using this
      | opt n =>
        have := infixUsage_word_none lam g hshape.ne_nil hshape.all
          (X := '?' :: (layChars w ++ '=' :: '>' :: (layChars l ++ (b.text ++ X))))
          (boundary_cons (by decide)) hho
        simpa only [CST.text, LamHead.text, argText, LArg.name, List.append_assoc, List.cons_append,
          List.nil_append] using this

/-! #### the fixed parts of a do-block on given texts -/

theorem doHead_run (l0 l1 : Lay) (h0 : l0 ≠ []) {c : Char} (rest : List Char)
    (hc : notLayoutStart c = true) :
    doHead ('d' :: 'o' :: (layChars l0 ++ '{' :: (layChars l1 ++ c :: rest))) = some (c :: rest) := by
  cases l0 with
  | nil => exact absurd rfl h0
  | cons a l0' =>
    have hw : wnPlus (layChars (a :: l0') ++ '{' :: (layChars l1 ++ c :: rest)) =
        some ('{' :: (layChars l1 ++ c :: rest)) := by
      simp only [wnPlus, layChars, List.append_assoc, wnAtom_atom, Option.map_some,
        wnStar_run l0' _ (c := '{') (by decide)]
    simp only [doHead, lit, if_true, hw, gapG_run l1 rest hc]

theorem retHead_run (w : Lay) (hw : w ≠ []) (hws : wsOnly w = true) (x : Char) (tl : List Char)
    (hx : isWs x = false) : retHead (retLit ++ (layChars w ++ x :: tl)) = some (x :: tl) := by
  have hsk : skipWs (retLit ++ (layChars w ++ x :: tl)) = retLit ++ (layChars w ++ x :: tl) :=
    skipWs_head _ (by decide)
  simp only [retHead, hsk]
  show (match lit retLit (retLit ++ (layChars w ++ x :: tl)) with
    | some r => wsPlus r | none => none) = some (x :: tl)
  rw [lit_append]
  exact wsPlus_run w hw hws x tl hx

theorem retHead_text (w : Lay) (hw : w ≠ []) (hws : wsOnly w = true) {e : CST} (hs : e.Shaped)
    (T : List Char) : retHead (retLit ++ (layChars w ++ (e.text ++ T))) = some (e.text ++ T) := by
  obtain ⟨x, tl, hx, hsx⟩ := text_start e hs
  rw [hx, List.cons_append]
  exact retHead_run w hw hws x _ (startChar_facts hsx).2.2.2.1

theorem gapH_retLit (X : List Char) : gapH (retLit ++ X) = retLit ++ X := by
  have := gapH_run [] (c := 'r') ('e' :: 't' :: 'u' :: 'r' :: 'n' :: X) (by decide)
  simpa [layChars, retLit] using this

theorem exprR_return {Y : List Char} (hb : Boundary Y) (f : Nat) :
    exprR false (f + 4) (retLit ++ Y) = .fail := by
  have hall : ∀ x ∈ retLit, isIdentChar x = true := by decide
  have hp : prefixUsage (retLit ++ Y) = none :=
    prefixUsage_word (w := retLit) (by decide) hall (by decide) hb
  have hid : identifier (retLit ++ Y) = none := by
    have hf : firstLit reservedLits (retLit ++ Y) = some (retLit, Y) := by
      simp [firstLit, reservedLits, Gen.grammarReserved, retLit, lit]
    have hk := keyword_of_firstLit hf hb
    simp only [retLit, List.cons_append, List.nil_append] at hk ⊢
    simp [identifier, hk]
  have hta : termAtom (retLit ++ Y) = none := by
    have h1 : boolRule (retLit ++ Y) = none := by
      simp [retLit, boolRule, keyword, firstLit, trueLit, falseLit, lit]
    have h2 : nullRule (retLit ++ Y) = none := by
      simp [retLit, nullRule, keyword, firstLit, nullLit, lit]
    have h4 : plus isDigit (retLit ++ Y) = none := by
      have : isDigit 'r' = false := by decide
      simp [retLit, plus, this]
    simp only [termAtom, h1, stringRule_none_word (w := retLit) (by decide) hall Y, h2, hid, h4]
  have ht2 : term2R (f + 1) (retLit ++ Y) = .fail := by
    rw [term2R_succ, hta]
    simp only [retLit, List.cons_append, List.nil_append]
    split
    · rename_i r1 heq; simp at heq
    · rename_i r1 heq; simp at heq
    · rename_i r1 heq; simp at heq
    · rfl
  have hlam : lambdaHead (retLit ++ Y) = none := by
    refine lambdaHead_noarg ?_ (fun r e => by simp [retLit] at e)
    simp only [argumentR, hid]
    simp [retLit, spreadLit_eq, lit]
  have ht : termR (f + 2) (retLit ++ Y) = .fail := by
    rw [termR_succ, condR_succ,
      show ifHead (retLit ++ Y) = none from ifHead_none_of_head _ (by decide), doR_succ,
      show doHead (retLit ++ Y) = none from doHead_none_of_head _ (by decide), lamR_succ, hlam,
      asgR_succ, asgHead_none_of_ident hid]
    exact ht2
  rw [exprR_succ, operandR_succ, prefixStar_none hp, ht]; rfl

theorem star_plainNewline_lay (n : Nat) (l : Lay) {c : Char} (rest : List Char)
    (hc : notLayoutStart c = true) :
    ∃ l2, star plainNewline n (layChars l ++ c :: rest) = layChars l2 ++ c :: rest := by
  induction n generalizing l with
  | zero => exact ⟨l, rfl⟩
  | succ m ih =>
    cases l with
    | nil =>
      refine ⟨[], ?_⟩
      have : plainNewline (c :: rest) = none := by
        have := (list_atoms_none (r := rest) hc).1
        simp only [wnAtom, orElse] at this
        split at this
        · cases this
        · exact this
      simp only [layChars, List.nil_append, star, this]
    | cons a l' =>
      cases a
      · exact ⟨.sp :: l', by simp [star, layChars, LayAtom.chars, plainNewline, orElse, lit]⟩
      · exact ⟨.tab :: l', by simp [star, layChars, LayAtom.chars, plainNewline, orElse, lit]⟩
      · obtain ⟨l2, h2⟩ := ih l'
        exact ⟨l2, by simpa [star, layChars, LayAtom.chars, plainNewline, orElse, lit] using h2⟩
      · obtain ⟨l2, h2⟩ := ih l'
        exact ⟨l2, by simpa [star, layChars, LayAtom.chars, plainNewline, orElse, lit] using h2⟩

theorem stmtSep_semi (w l : Lay) (hw : wsOnly w = true) {c : Char} (rest : List Char)
    (hc : notLayoutStart c = true) :
    (stmtSep (skipWs (itemTrail (layChars w ++ ';' :: (layChars l ++ c :: rest))))).map gapG =
      some (c :: rest) := by
  rw [itemTrail_ws w hw _ (c := ';') (by decide), skipWs_head _ (by decide)]
  have : plainNewline (';' :: (layChars l ++ c :: rest)) = none := by
    simp [plainNewline, orElse, lit]
  simp only [stmtSep, this, Option.map_some, gapG_run l rest hc]

theorem stmtSep_line (g : Lay) (hg : (g.any fun a => !a.isWs) = true) {c : Char} (rest : List Char)
    (hc : notLayoutStart c = true) :
    (stmtSep (skipWs (itemTrail (layChars g ++ c :: rest)))).map gapG = some (c :: rest) := by
  obtain ⟨w', nl, l', rfl, hw', hnl⟩ := lay_split_nl g hg
  have hws := isWs_of_notLayoutStart hc
  have h1 : skipWs (layChars (w' ++ nl :: l') ++ c :: rest) = nl.chars ++ (layChars l' ++ c :: rest) := by
    simp only [layChars_append, layChars, List.append_assoc]
    cases nl <;> simp [LayAtom.isWs] at hnl
    · exact skipWs_run w' hw' '\n' _ (by decide)
    · exact skipWs_run w' hw' '\r' _ (by decide)
  have hit : itemTrail (layChars (w' ++ nl :: l') ++ c :: rest) =
      nl.chars ++ (layChars l' ++ c :: rest) := by
    unfold itemTrail
    rw [h1, inlineComment_atom]
  have hsk : skipWs (nl.chars ++ (layChars l' ++ c :: rest)) = nl.chars ++ (layChars l' ++ c :: rest) := by
    cases nl <;> simp [LayAtom.isWs] at hnl <;> exact skipWs_head _ (by decide)
  have hpn : plainNewline (nl.chars ++ (layChars l' ++ c :: rest)) = some (layChars l' ++ c :: rest) := by
    cases nl <;> simp [LayAtom.isWs] at hnl <;> simp [LayAtom.chars, plainNewline, orElse, lit]
  obtain ⟨l2, h2⟩ := star_plainNewline_lay ((layChars l' ++ c :: rest).length + 1) l' rest hc
  rw [hit, hsk]
  simp only [stmtSep, hpn, Option.map_some, h2, gapG_run l2 rest hc]

theorem sep_boundary (sep : Sep) (hs : sep.ok = true) (Z : List Char) : Boundary (sep.text ++ Z) := by
  cases sep with
  | semi w l =>
    have : Sep.text (.semi w l) ++ Z = layChars w ++ ';' :: (layChars l ++ Z) := by simp [Sep.text]
    rw [this]; exact boundary_lay w _ (by decide)
  | line g =>
    exact lay_ne_boundary (any_nl_ne hs) Z

theorem semi_heads : headsNe infixLits ';' = true ∧ headsNe naturalLits ';' = true := by
  decide +kernel

theorem stmts_start : ∀ (ss : Stmts), CST.StmtsShaped ss → ∀ Y,
    ∃ x tl, CST.stmtsText ss ++ (retLit ++ Y) = x :: tl ∧ notLayoutStart x = true
  | .nil, _, Y => ⟨'r', _, rfl, by decide⟩
  | .cons s sep rest, hs, Y => by
    obtain ⟨x, tl, hx, hsx⟩ := text_start s hs.1
    exact ⟨x, _, by simp only [CST.stmtsText, hx, List.append_assoc, List.cons_append]; rfl,
      (startChar_facts hsx).1⟩

/-! #### string literals -/

theorem termAtom_string (dq : Bool) (s : String) (h : s.toList.contains (quoteChar dq) = false)
    (rest : List Char) :
    termAtom (quoteChar dq :: (s.toList ++ quoteChar dq :: rest)) = some (.str s, rest) := by
  have hb : boolRule (quoteChar dq :: (s.toList ++ quoteChar dq :: rest)) = none := by
    cases dq <;> simp [quoteChar, boolRule, keyword, firstLit, trueLit, falseLit, lit]
  have hs := stringRule_quoted dq s.toList rest (by simpa using h)
  simp only [termAtom, hb, hs, String.ofList_toList]

/-! #### the main lemma -/

/-- what lexes an operand in front of any text that ends a term lexes it alone in front of a text
    at which the expression ends -/
theorem lex_closed {lam : Bool} {c : CST} {T : List Char}
    (ih : ∀ rest its r, TEnd rest → (c.isParen = false → endsOpen c.tree = true → Closes rest) →
      After lam rest its r → EX lam (c.text ++ rest) (c.items ++ its) r)
    (hb : TEnd T) (hcl : Closes T) : EX lam (c.text ++ T) c.items T := by
  simpa only [List.append_nil] using ih T [] T hb (fun _ _ => hcl) (after_closes hcl)

/-- a postfix operator behind an operand: what lexes the operand in front of any text that ends a
    term lexes it in front of the operator -/
theorem lex_post {lam : Bool} {e : CST} {d : Char} {tl rest : List Char} {it : PItem}
    {its : List PItem} {r : List Char} {g : Nat}
    (ih : ∀ rest its r, TEnd rest → (e.isParen = false → endsOpen e.tree = true → Closes rest) →
      After lam rest its r → EX lam (e.text ++ rest) (e.items ++ its) r)
    (hd : d = '!' ∨ d = '(' ∨ d = '[' ∨ d = '.')
    (hne : e.isParen = false → needsParens e.tree .postfix_ = false)
    (hq : postOpR g (d :: tl) = .ok (it, rest)) (hk : After lam rest its r) :
    EX lam (e.text ++ d :: tl) (e.items ++ it :: its) r := by
  refine ih _ _ _ ?_ (fun hp ho => by rw [endsOpen_of_postfix (hne hp)] at ho; cases ho)
    (after_post hq hk)
  rcases hd with rfl | rfl | rfl | rfl <;>
    exact tend_cons (by decide) (by decide) (by decide) (by decide)

mutual
/-- MAIN LEMMA (unbounded depth): in front of any `rest` that ends a term (it continues
    neither a word nor a lambda head) and — when the tree ends with a lambda body — continues no
    expression, and whatever happens after it (`After`: postfix operators, then the operator
    tail), the `expression` rule (`lam = false`) / the `lambda_expression` rule (`lam = true`,
    for a tree without `via` / `into` / `where` at its top level) splits the text of a
    well-formed CST into exactly its items. -/
theorem lex_cst : ∀ (lam : Bool) (c : CST), c.Shaped → c.LayoutOk → (lam = true → LamSafe c.items) →
    ∀ rest its r, TEnd rest → (c.isParen = false → endsOpen c.tree = true → Closes rest) →
    After lam rest its r → EX lam (c.text ++ rest) (c.items ++ its) r
  | lam, .atom e, h, _, _ => by
    intro rest its r hb _ hk
    obtain ⟨hne, hall, hnot, hterm⟩ := atom_word (e := e) h
    have hp : prefixStar (atomText e ++ rest) = ([], atomText e ++ rest) :=
      prefixStar_none (prefixUsage_word hne hall hnot hb.1)
    have ht2 : term2R 1 (atomText e ++ rest) = .ok (e, rest) := by
      rw [term2R_succ, hterm rest hb.1]; rfl
    exact ex_of_term hp (termR_of_term2' (ifHead_atom h hb.1) (doHead_atom h hb.1)
      (lambdaHead_atom h hb) (asgHead_atom h hb) ht2) hk
  | lam, .str dq s, _, hl, _ => by
    intro rest its r hb _ hk
    have ht2 : term2R 1 (quoteChar dq :: (s.toList ++ quoteChar dq :: rest)) = .ok (.str s, rest) := by
      rw [term2R_succ, termAtom_string dq s hl rest]; rfl
    simpa only [CST.text, CST.items, List.append_assoc, List.cons_append, List.nil_append,
      List.singleton_append] using ex_of_open (by cases dq <;> decide) ht2 hk
  | lam, .bin op l a b r, h, hl, hls => by
    intro rest its r' hb hco hk
    obtain ⟨hsl, hsr, hnl, _⟩ := h
    obtain ⟨hll, hlr, hlo⟩ := hl
    obtain ⟨x, tl, hx, hsx⟩ := text_start r hsr
    have hop : lam = true → isChain op = false := fun e =>
      hls e op (by simp [CST.items])
    -- the right operand is lexed first, in front of `rest`; with the gap in front of it, that
    -- result is the `After` (`after_infix`) in front of which the left operand is lexed
    have exr := lex_cst lam r hsr hlr (fun e => lamSafe_tail (lamSafe_right (hls e))) rest its r' hb
      (fun hp ho => hco rfl (by simpa [CST.tree, endsOpen] using ho)) hk
    obtain ⟨hi, hY, hB⟩ := op_gap lam op hop a b hlo x (tl ++ rest) hsx
    have hk' := after_infix hi hY (by rw [hx, List.cons_append] at exr; exact exr)
    have := lex_cst lam l hsl hll (fun e => lamSafe_left (hls e)) _ _ r' hB
      (fun hp ho => by rw [endsOpen_of_left (hnl hp)] at ho; cases ho) hk'
    simp only [CST.text, CST.items, List.append_assoc, List.cons_append, hx]
    exact this
  | lam, .un op e, h, hl, hls => by
    intro rest its r hb hco hk
    obtain ⟨hop, hse, _⟩ := h
    have ih := lex_cst lam e hse hl (fun e' => lamSafe_tail (hls e')) rest its r hb
      (fun hp ho => hco rfl (by simpa [CST.tree, endsOpen] using ho)) hk
    cases op with
    | negate => exact ex_prefix (prefixUsage_minus _) ih
    | not => exact ex_prefix (prefixUsage_bang _) ih
    | invert => exact absurd rfl hop
  | lam, .fact e, h, hl, hls => by
    intro rest its r hb _ hk
    simpa only [CST.text, CST.items, List.append_assoc, List.singleton_append] using
      lex_post (lex_cst lam e h.1 hl fun e' => lamSafe_left (hls e')) (by decide) h.2
        (postOpR_bang 0 rest) hk
  | lam, .paren a e b, h, hl, _ => by
    intro rest its r hb _ hk
    have hse : e.Shaped := h
    obtain ⟨f, hf⟩ := lex_closed (lex_cst false e hse hl nofun)
      (tend_stop b (c := ')') rest (by decide)) (closes_stop b rest (by decide))
    simp only [CST.text, CST.items, List.append_assoc, List.cons_append, List.nil_append]
    refine ex_of_term2 (f := f + 1) (by decide) (by decide) (by decide)
      (lambdaHead_paren a e b rest hse hl hb.2) ?_ hk
    rw [term2R_succ]
    simp only [Res.bind, Res.ofOpt, termAtom_paren, layoutStar_run a _ (layoutAtom_text hse _), hf,
      layoutStar_run b _ (layoutAtom_none (c := ')') (by decide)), cst_pratt e hse]
  | lam, .call0 f l, h, hl, hls => by
    intro rest its r hb _ hk
    obtain ⟨hsf, hnf⟩ := h
    have hq : postOpR 6 ('(' :: (layChars l ++ ')' :: rest)) = .ok (.postCall [], rest) := by
      rw [postOpR_succ, firstRule_postfix_none _ (by decide)]
      have hc := callClose_text (.plain []) rfl rest
      simp only [Close.text, layChars, List.nil_append, List.singleton_append] at hc
      simp only [Res.bind, Res.ofOpt, layoutStar_run l _ (layoutAtom_none (c := ')') (by decide)),
        argR_stop false (c := ')') rest (by decide) 0, hc]
    simpa only [CST.text, CST.items, List.append_assoc, List.cons_append, List.singleton_append,
      List.nil_append] using
      lex_post (lex_cst lam f hsf hl fun e' => lamSafe_left (hls e')) (by decide) hnf hq hk
  | lam, .call f l as c, h, hl, hls => by
    intro rest its r hb _ hk
    obtain ⟨hsf, hnf, hsa⟩ := h
    obtain ⟨hlf, hla, hlc⟩ := hl
    obtain ⟨g, a, more, r1, ha, hm, htr⟩ :=
      lex_args false as hsa hla (c.text ')' ++ rest) (close_argStop false c ((Close.okFor_false c).trans hlc) rest)
    obtain ⟨x, tl, hx, hsx⟩ := args_start as hsa
    have hq : postOpR (g + 1) ('(' :: (layChars l ++ (CST.argsText as ++ (c.text ')' ++ rest)))) =
        .ok (.postCall (CST.argsTrees as), rest) := by
      rw [postOpR_succ, firstRule_postfix_none _ (by decide)]
      have hlay : layoutAtom (CST.argsText as ++ (c.text ')' ++ rest)) = none := by
        rw [hx, List.cons_append]; exact layoutAtom_none (notLayoutStart_of_argStart hsx)
      simp only [trailL, Bool.false_eq_true, if_false] at hm
      simp only [Res.bind, Res.ofOpt, layoutStar_run l _ hlay, ha, hm, callClose_text c hlc rest, htr]
    simpa only [CST.text, CST.items, List.append_assoc, List.cons_append, List.singleton_append,
      List.nil_append] using
      lex_post (lex_cst lam f hsf hlf fun e' => lamSafe_left (hls e')) (by decide) hnf hq hk
  | lam, .access e a i b, h, hl, hls => by
    intro rest its r hb _ hk
    obtain ⟨hse, hne, hsi⟩ := h
    obtain ⟨hle, hli, hna, hnb⟩ := hl
    obtain ⟨x, tl, hx, hsx⟩ := text_start i hsi
    obtain ⟨g, hg⟩ := lex_closed (lex_cst false i hsi hli nofun)
      (tend_stop b (c := ']') rest (by decide)) (closes_stop b rest (by decide))
    have hq : postOpR (g + 1) ('[' :: (layChars a ++ (i.text ++ (layChars b ++ ']' :: rest)))) =
        .ok (.postAccess i.tree, rest) := by
      rw [postOpR_succ, firstRule_postfix_none _ (by decide)]
      have hn1 : newline (i.text ++ (layChars b ++ ']' :: rest)) = none := by
        rw [hx, List.cons_append]
        exact newline_none_of_layoutAtom (layoutAtom_none (startChar_facts hsx).1)
      have hn2 : newline (']' :: rest) = none :=
        newline_none_of_layoutAtom (layoutAtom_none (c := ']') (by decide))
      simp only [Res.bind, Res.ofOpt, nlStar_run a _ hna hn1, hg, nlStar_run b _ hnb hn2, cst_pratt i hsi]
    simpa only [CST.text, CST.items, List.append_assoc, List.cons_append, List.singleton_append,
      List.nil_append] using
      lex_post (lex_cst lam e hse hle fun e' => lamSafe_left (hls e')) (by decide) hne hq hk
  | lam, .dot e n, h, hl, hls => by
    intro rest its r hb _ hk
    obtain ⟨hse, hne, hn⟩ := h
    simpa only [CST.text, CST.items, List.append_assoc, List.cons_append, List.singleton_append,
      List.nil_append] using
      lex_post (lex_cst lam e hse hl fun e' => lamSafe_left (hls e')) (by decide) hne
        (postOpR_dot 0 hn hb.1) hk
  | lam, .list0 l, _, _, _ => by
    intro rest its r hb _ hk
    simp only [CST.text, CST.items, List.append_assoc, List.cons_append, List.nil_append]
    refine ex_of_open (f := 6) (by decide) ?_ hk
    rw [term2R_succ]
    have hc := listClose_text (.plain []) rfl rest
    have hit : itemTrail (']' :: rest) = ']' :: rest := by
      have := itemTrail_ws [] rfl (c := ']') rest (by decide)
      simpa [layChars] using this
    simp only [Close.text, layChars, List.nil_append, List.singleton_append, hit] at hc
    simp only [Res.bind, Res.ofOpt, termAtom_bracket, gapG_run l rest (c := ']') (by decide),
      argR_stop true (c := ']') rest (by decide) 0, hc]
  | lam, .list l as c, h, hl, _ => by
    intro rest its r hb _ hk
    have hsa : CST.ArgsShaped as := h
    obtain ⟨hla, hlc⟩ := hl
    obtain ⟨g, a, more, r1, ha, hm, htr⟩ :=
      lex_args true as hsa hla (c.text ']' ++ rest) (close_argStop true c ((Close.okFor_true c).trans hlc) rest)
    obtain ⟨x, tl, hx, hsx⟩ := args_start as hsa
    simp only [CST.text, CST.items, List.append_assoc, List.cons_append, List.nil_append]
    refine ex_of_open (f := g + 1) (by decide) ?_ hk
    rw [term2R_succ]
    have hgap : gapG (layChars l ++ (CST.argsText as ++ (c.text ']' ++ rest))) =
        CST.argsText as ++ (c.text ']' ++ rest) := by
      rw [hx, List.cons_append]; exact gapG_run l _ (notLayoutStart_of_argStart hsx)
    simp only [trailL, if_true] at hm
    simp only [Res.bind, Res.ofOpt, termAtom_bracket, hgap, ha, hm, listClose_text c hlc rest, htr]
  | lam, .lambda hd w l b, h, hl, _ => by
    intro rest its r hb hco hk
    obtain ⟨hnm, hsb, _, hsafe⟩ := h
    obtain ⟨hok, hw, hlb⟩ := hl
    have hcl : Closes rest := hco rfl rfl
    obtain ⟨g, hg⟩ := lex_closed (lex_cst true b hsb hlb fun _ => hsafe) hb hcl
    simp only [CST.text, CST.items, List.append_assoc, List.cons_append, List.nil_append]
    refine ex_of_term (pre := []) (f := g + 2) (prefixStar_none (lamHead_prefix hd hnm w _)) ?_ hk
    rw [termR_succ, condR_succ, ifHead_lamHead hd hnm w _, doR_succ, doHead_lamHead hd hnm w _,
      lamR_succ, lambdaHead_text hd hok hnm w l hw _ (layoutAtom_text hsb _)]
    simp only [Res.bind, Res.ofOpt, Res.orElse, hg, cst_pratt b hsb]
  | lam, .asg n w l v, h, hl, _ => by
    intro rest its r hb hco hk
    obtain ⟨hnm, hsv⟩ := h
    obtain ⟨hw, hlw, hlv⟩ := hl
    have hcl : Closes rest := hco rfl rfl
    obtain ⟨x, tl, hx, hsx⟩ := text_start v hsv
    obtain ⟨g, hg⟩ := lex_closed (lex_cst false v hsv hlv nofun) hb hcl
    have hnm' : (LamHead.bare (.req n)).namesOk = true := by
      simp [LamHead.namesOk, LamHead.args, LArg.name, hnm]
    have hxgt : x ≠ '>' := by intro e; subst e; revert hsx; decide
    have h1 := ifHead_lamHead (.bare (.req n)) hnm' w (layChars l ++ (v.text ++ rest))
    have h2 := doHead_lamHead (.bare (.req n)) hnm' w (layChars l ++ (v.text ++ rest))
    have hp := lamHead_prefix (.bare (.req n)) hnm' w (layChars l ++ (v.text ++ rest))
    simp only [LamHead.text, argText] at h1 h2 hp
    simp only [CST.text, CST.items, List.append_assoc, List.cons_append, List.nil_append]
    refine ex_of_term (pre := []) (f := g + 2) (prefixStar_none hp) ?_ hk
    rw [termR_succ, condR_succ, h1, doR_succ, h2, lamR_succ]
    rw [hx, List.cons_append] at hg ⊢
    rw [lambdaHead_asg hnm w l hw x _ hxgt, asgR_succ,
      asgHead_run hnm w l hw hlw x _ (startChar_facts hsx).2.2.2.1]
    simp only [Res.bind, Res.ofOpt, Res.orElse, hg, cst_pratt v hsv]
  | lam, .cond w c l1 l2 t l3 l4 e, h, hl, _ => by
    intro rest its r hb hco hk
    obtain ⟨hsc, hst, hse⟩ := h
    obtain ⟨⟨hw, hws, h1, h2, h3, h4⟩, hlc, hlt, hle⟩ := hl
    have hcl : Closes rest := hco rfl rfl
    obtain ⟨xc, tlc, hxc, hsxc⟩ := text_start c hsc
    -- the three parts, each up to the keyword (or the end) behind it
    obtain ⟨g3, hg3⟩ := lex_closed (lex_cst false e hse hle nofun) hb hcl
    have hke := kw_ends (Or.inr rfl) l3 h3 (layChars l4 ++ (e.text ++ rest))
    obtain ⟨g2, hg2⟩ := lex_closed (lex_cst false t hst hlt nofun) hke.1 hke.2
    have hkt := kw_ends (Or.inl rfl) l1 h1
      (layChars l2 ++ (t.text ++ (layChars l3 ++ (elseLit ++ (layChars l4 ++ (e.text ++ rest))))))
    obtain ⟨g1, hg1⟩ := lex_closed (lex_cst false c hsc hlc nofun) hkt.1 hkt.2
    simp only [CST.text, CST.items, List.append_assoc, List.cons_append, List.nil_append]
    refine ex_of_term (pre := []) (f := max g1 (max g2 g3) + 2) (prefixStar_none
      (prefixUsage_word (w := ['i', 'f']) (by decide) (by decide) (by decide)
        (lay_ne_boundary hw _))) ?_ hk
    rw [termR_succ, condR_succ, hxc, List.cons_append,
      ifHead_run w hw hws xc _ (startChar_facts hsxc).2.2.2.1, ← List.cons_append, ← hxc]
    simp only [Res.bind, Res.ofOpt, Res.orElse, exprR_mono (Nat.le_max_left g1 (max g2 g3)) hg1,
      kwGap_run (Or.inl rfl) l1 l2 h1 h2 _ (layoutAtom_text hst _),
      exprR_mono (Nat.le_trans (Nat.le_max_left g2 g3) (Nat.le_max_right g1 _)) hg2,
      kwGap_run (Or.inr rfl) l3 l4 h3 h4 _ (layoutAtom_text hse _),
      exprR_mono (Nat.le_trans (Nat.le_max_right g2 g3) (Nat.le_max_right g1 _)) hg3,
      cst_pratt c hsc, cst_pratt t hst, cst_pratt e hse]
  | lam, .rec0 l, _, _, _ => by
    intro rest its r hb _ hk
    simp only [CST.text, CST.items, List.append_assoc, List.cons_append, List.nil_append]
    refine ex_of_open (f := 4) (by decide) ?_ hk
    rw [term2R_succ]
    have hc := recordClose_text (.plain []) rfl rest
    have hit : itemTrail ('}' :: rest) = '}' :: rest := by
      have := itemTrail_ws [] rfl (c := '}') rest (by decide)
      simpa [layChars] using this
    simp only [Close.text, layChars, List.nil_append, List.singleton_append, hit] at hc
    simp only [Res.bind, Res.ofOpt, termAtom_brace, gapG_run l rest (c := '}') (by decide),
      recItemR_brace rest 0, hc]
  | lam, .record l es c, h, hl, _ => by
    intro rest its r hb _ hk
    have hse : CST.EntsShaped es := h
    obtain ⟨hle, hlc⟩ := hl
    obtain ⟨g, a, more, r1, ha, hm, htr⟩ :=
      lex_ents es hse hle (c.text '}' ++ rest) (close_entStop c hlc rest)
    obtain ⟨x, tl, hx, hsx⟩ := ents_start es hse hle
    simp only [CST.text, CST.items, List.append_assoc, List.cons_append, List.nil_append]
    refine ex_of_open (f := g + 1) (by decide) ?_ hk
    rw [term2R_succ]
    have hgap : gapG (layChars l ++ (CST.entsText es ++ (c.text '}' ++ rest))) =
        CST.entsText es ++ (c.text '}' ++ rest) := by
      rw [hx, List.cons_append]; exact gapG_run l _ hsx
    simp only [Res.bind, Res.ofOpt, termAtom_brace, hgap, ha, hm, recordClose_text c hlc rest, htr]
  | lam, .doB l0 l1 ss w e l2, h, hl, _ => by
    intro rest its r hb _ hk
    obtain ⟨hss, hse⟩ := h
    obtain ⟨⟨hl0, hw, hws⟩, hls, hle⟩ := hl
    obtain ⟨g2, hg2⟩ := lex_closed (lex_cst false e hse hle nofun)
      (tend_stop l2 (c := '}') rest (by decide)) (closes_stop l2 rest (by decide))
    obtain ⟨g1, hg1⟩ := lex_stmts ss hss hls (layChars w ++ (e.text ++ (layChars l2 ++ '}' :: rest)))
      (lay_ne_boundary hw _)
    obtain ⟨y, tly, hy, hsy⟩ := stmts_start ss hss (layChars w ++ (e.text ++ (layChars l2 ++ '}' :: rest)))
    simp only [CST.text, CST.items, List.append_assoc, List.cons_append, List.nil_append]
    refine ex_of_term (pre := []) (f := max g1 g2 + 2) (prefixStar_none
      (prefixUsage_word (w := ['d', 'o']) (by decide) (by decide) (by decide)
        (lay_ne_boundary hl0 _))) ?_ hk
    rw [termR_succ, condR_succ, ifHead_none_of_head _ (by decide), doR_succ, hy,
      doHead_run l0 l1 hl0 tly hsy, ← hy]
    simp only [Res.bind, Res.ofOpt, Res.orElse, doStmtsR_mono (Nat.le_max_left g1 g2) hg1,
      gapH_retLit, retHead_text w hw hws hse, exprR_mono (Nat.le_max_right g1 g2) hg2,
      wnStar_run l2 rest (c := '}') (by decide), cst_pratt e hse]
/-- `call_list` / `list` read an argument / item list, up to the text `T` that closes it -/
theorem lex_args : ∀ (lst : Bool) (as : Args), CST.ArgsShaped as → CST.ArgsLayoutOk as → ∀ T,
    ArgStop lst T → ArgsLex lst (CST.argsText as ++ T) (CST.argsTrees as) (trailL lst T)
  | lst, .last sp a, h, hl => by
    intro T hT
    obtain ⟨hb, hcl, g, hg⟩ := hT
    obtain ⟨x, tl, hx, hsx⟩ := text_start a h
    obtain ⟨f, hf⟩ := lex_closed (lex_cst false a h hl nofun) hb hcl
    have ha := argR_of_ex lst sp (X := a.text ++ T) (by rw [hx, List.cons_append]) hsx hf
      (cst_pratt a h)
    refine ⟨max (f + 1) g, argTree sp a.tree, [], _, argR_mono (Nat.le_max_left _ _) ?_,
      argsTailR_mono (Nat.le_max_right _ _) hg, rfl⟩
    simpa only [CST.argsText, List.append_assoc] using ha
  | lst, .cons sp a w l rest, h, hl => by
    intro T hT
    obtain ⟨hsa, hsr⟩ := h
    obtain ⟨hla, hw, hlr⟩ := hl
    obtain ⟨g, a', more, r1, ha', hm, htr⟩ := lex_args lst rest hsr hlr T hT
    obtain ⟨x, tl, hx, hsx⟩ := text_start a hsa
    obtain ⟨y, tl', hy, hsy⟩ := args_start rest hsr
    obtain ⟨f, hf⟩ := lex_closed (lex_cst false a hsa hla nofun)
      (tend_stop w (layChars l ++ (CST.argsText rest ++ T)) (c := ',') (by decide))
      (closes_stop w _ (by decide))
    have ha := argR_of_ex lst sp (X := a.text ++ (layChars w ++ ',' :: (layChars l ++
      (CST.argsText rest ++ T)))) (by rw [hx, List.cons_append]) hsx hf (cst_pratt a hsa)
    have hsk : skipWs (trailL lst (layChars w ++ ',' :: (layChars l ++ (CST.argsText rest ++ T)))) =
        ',' :: (layChars l ++ (CST.argsText rest ++ T)) := by
      cases lst with
      | false => exact skipWs_run w hw ',' _ (by decide)
      | true =>
        simp only [trailL, if_true, itemTrail_ws w hw _ (c := ',') (by decide)]
        exact skipWs_head _ (by decide)
    have hgap : (if lst then gapG (layChars l ++ (CST.argsText rest ++ T))
        else layoutStar (layChars l ++ (CST.argsText rest ++ T))) = CST.argsText rest ++ T := by
      rw [hy, List.cons_append]
      cases lst with
      | false => exact layoutStar_run l _ (layoutAtom_none (notLayoutStart_of_argStart hsy))
      | true => exact gapG_run l _ (notLayoutStart_of_argStart hsy)
    have htl : argsTailR lst (g + 1)
        (trailL lst (layChars w ++ ',' :: (layChars l ++ (CST.argsText rest ++ T)))) =
        .ok (a' :: more, trailL lst T) := by
      rw [argsTailR_succ, hsk]
      simp only [Res.bind, hgap, ha', hm]
    refine ⟨max (f + 1) (g + 1), argTree sp a.tree, a' :: more, _,
      argR_mono (Nat.le_max_left _ _) ?_, argsTailR_mono (Nat.le_max_right _ _) htl,
      by simp only [CST.argsTrees, htr]⟩
    simpa only [CST.argsText, List.append_assoc, List.cons_append] using ha
/-- `record_item` reads one entry, up to the text `T` behind it -/
theorem lex_ent : ∀ (e : Ent), CST.EntShaped e → CST.EntLayoutOk e → ∀ T, EntStop T →
    ∃ f, recItemR f (CST.entText e ++ T) = .ok (CST.entTree e, itemTrail T)
  | .pairId k w l v, hs, hl => by
    intro T hT
    obtain ⟨hk, hw, hlv⟩ := hl
    obtain ⟨hb, hcl, _⟩ := hT
    obtain ⟨f, hf⟩ := lex_closed (lex_cst false v hs hlv nofun) hb hcl
    obtain ⟨hshape, hnot⟩ := nameOk_facts hk
    have hkey : recKeyR 1 (k.toList ++ (layChars w ++ ':' :: (layChars l ++ (v.text ++ T)))) =
        .ok (.static k, layChars w ++ ':' :: (layChars l ++ (v.text ++ T))) := by
      rw [recKeyR_succ]
      simp only [Res.ofOpt, identifier_run hshape hnot (boundary_lay_colon w _), consumed_append,
        String.ofList_toList]
    have := recItemR_pair hkey (skipWs_run w hw ':' _ (by decide))
      (layoutStar_run l _ (layoutAtom_text hs T)) hf (cst_pratt v hs)
    exact ⟨_, by simpa only [CST.entText, CST.entTree, List.append_assoc, List.cons_append] using this⟩
  | .pairStr dq s w l v, hs, hl => by
    intro T hT
    obtain ⟨hq, hw, hlv⟩ := hl
    obtain ⟨hb, hcl, _⟩ := hT
    obtain ⟨f, hf⟩ := lex_closed (lex_cst false v hs hlv nofun) hb hcl
    have hkey : recKeyR 1 (quoteChar dq :: (s.toList ++ quoteChar dq ::
        (layChars w ++ ':' :: (layChars l ++ (v.text ++ T))))) =
        .ok (.static s, layChars w ++ ':' :: (layChars l ++ (v.text ++ T))) := by
      rw [recKeyR_succ]
      have hid : identifier (quoteChar dq :: (s.toList ++ quoteChar dq ::
          (layChars w ++ ':' :: (layChars l ++ (v.text ++ T))))) = none :=
        identifier_none_of_start _ (by cases dq <;> decide)
      simp only [Res.ofOpt, hid, stringRule_quoted dq s.toList _ (by simpa using hq), String.ofList_toList]
    have := recItemR_pair hkey (skipWs_run w hw ':' _ (by decide))
      (layoutStar_run l _ (layoutAtom_text hs T)) hf (cst_pratt v hs)
    exact ⟨_, by simpa only [CST.entText, CST.entTree, List.append_assoc, List.cons_append] using this⟩
  | .pairDyn a e b w l v, hs, hl => by
    intro T hT
    obtain ⟨hse, hsv⟩ := hs
    obtain ⟨⟨ha, hbw, hw⟩, hle, hlv⟩ := hl
    obtain ⟨hb, hcl, _⟩ := hT
    obtain ⟨y, tly, hy, hsy⟩ := text_start e hse
    obtain ⟨f, hf⟩ := lex_closed (lex_cst false v hsv hlv nofun) hb hcl
    obtain ⟨g, hg⟩ := lex_closed (lex_cst false e hse hle nofun)
      (tend_stop b (c := ']') (layChars w ++ ':' :: (layChars l ++ (v.text ++ T))) (by decide))
      (closes_stop b _ (by decide))
    have hkey : recKeyR (g + 1) ('[' :: (layChars a ++ (e.text ++ (layChars b ++ ']' ::
        (layChars w ++ ':' :: (layChars l ++ (v.text ++ T))))))) =
        .ok (.dyn e.tree, layChars w ++ ':' :: (layChars l ++ (v.text ++ T))) := by
      rw [recKeyR_succ, identifier_none_of_start _ (by decide),
        stringRule_none_of_head _ (by decide) (by decide)]
      have h1 : skipWs (layChars a ++ (e.text ++ (layChars b ++ ']' ::
          (layChars w ++ ':' :: (layChars l ++ (v.text ++ T)))))) =
          e.text ++ (layChars b ++ ']' :: (layChars w ++ ':' :: (layChars l ++ (v.text ++ T)))) := by
        rw [hy, List.cons_append]
        exact skipWs_run a ha y _ (startChar_facts hsy).2.2.2.1
      simp only [Res.bind, Res.ofOpt, h1, hg, skipWs_run b hbw ']' _ (by decide), cst_pratt e hse]
    have := recItemR_pair hkey (skipWs_run w hw ':' _ (by decide))
      (layoutStar_run l _ (layoutAtom_text hsv T)) hf (cst_pratt v hsv)
    exact ⟨_, by simpa only [CST.entText, CST.entTree, List.append_assoc, List.cons_append] using this⟩
  | .short n, hs, _ => by
    intro T hT
    obtain ⟨hb, _, hcolon⟩ := hT
    obtain ⟨hshape, hnot⟩ := nameOk_facts (n := n) hs
    have hid := identifier_run hshape hnot hb.1
    refine ⟨3, ?_⟩
    have hp : recPairR 2 (n.toList ++ T) = .fail := by
      rw [recPairR_succ, recKeyR_succ]
      simp only [Res.bind, Res.ofOpt, hid]
    show recItemR 3 (n.toList ++ T) = .ok (.mk [] (.short n) .null none, itemTrail T)
    rw [recItemR_succ, hp]
    simp only [Res.bind, Res.ofOpt, hid, consumed_append, String.ofList_toList]
  | .spread e, hs, hl => by
    intro T hT
    obtain ⟨hb, hcl, _⟩ := hT
    obtain ⟨f, hf⟩ := lex_closed (lex_cst false e hs hl nofun) hb hcl
    refine ⟨f + 3, ?_⟩
    have htxt : CST.entText (.spread e) ++ T = '.' :: '.' :: '.' :: (e.text ++ T) := by
      simp [CST.entText, spreadLit_eq]
    rw [htxt, recItemR_succ, recPairR_nokey _ (by decide) (by decide) (by decide) (by decide)]
    have hl3 : lit spreadLit ('.' :: '.' :: '.' :: (e.text ++ T)) = some (e.text ++ T) := by
      rw [spreadLit_eq]; simp [lit]
    simp only [Res.bind, Res.ofOpt, identifier_none_of_start _ (c := '.') (by decide), hl3,
      exprR_mono (Nat.le_add_right f 2) hf, cst_pratt e hs, CST.entTree]
  | .raw _, hs, _ => hs.elim
/-- `record` reads an entry list, up to the text `T` that closes it -/
theorem lex_ents : ∀ (es : Ents), CST.EntsShaped es → CST.EntsLayoutOk es → ∀ T, EntStopLast T →
    EntsLex (CST.entsText es ++ T) (CST.entsTrees es) (itemTrail T)
  | .last e, hs, hl => by
    intro T hT
    obtain ⟨hst, g, hg⟩ := hT
    obtain ⟨f, hf⟩ := lex_ent e hs hl T hst
    exact ⟨max f g, _, [], _, recItemR_mono (Nat.le_max_left _ _) hf,
      recTailR_mono (Nat.le_max_right _ _) hg, rfl⟩
  | .cons e w l rest, hs, hl => by
    intro T hT
    obtain ⟨hse, hsr⟩ := hs
    obtain ⟨hle, hw, hlr⟩ := hl
    obtain ⟨g, e', more, r1, he', hm, htr⟩ := lex_ents rest hsr hlr T hT
    obtain ⟨y, tl', hy, hsy⟩ := ents_start rest hsr hlr
    obtain ⟨f, hf⟩ := lex_ent e hse hle (layChars w ++ ',' :: (layChars l ++ (CST.entsText rest ++ T)))
      (entStop_stop w _ (by decide))
    rw [itemTrail_ws w hw _ (c := ',') (by decide)] at hf
    have hgap : gapG (layChars l ++ (CST.entsText rest ++ T)) = CST.entsText rest ++ T := by
      rw [hy, List.cons_append]; exact gapG_run l _ hsy
    have htl : recTailR (g + 1) (',' :: (layChars l ++ (CST.entsText rest ++ T))) =
        .ok (e' :: more, itemTrail T) := by
      rw [recTailR_succ, skipWs_head _ (by decide)]
      simp only [Res.bind, hgap, he', hm]
    refine ⟨max f (g + 1), CST.entTree e, e' :: more, _, recItemR_mono (Nat.le_max_left _ _) ?_,
      recTailR_mono (Nat.le_max_right _ _) htl, by simp only [CST.entsTrees, htr]⟩
    simpa only [CST.entsText, List.append_assoc, List.cons_append] using hf
/-- the statement loop of `do_block` reads the statements and stops in front of `return` -/
theorem lex_stmts : ∀ (ss : Stmts), CST.StmtsShaped ss → CST.StmtsLayoutOk ss → ∀ (Y : List Char),
    Boundary Y →
    ∃ f, doStmtsR f (CST.stmtsText ss ++ (retLit ++ Y)) = .ok (CST.stmtsTrees ss, retLit ++ Y)
  | .nil, _, _ => by
    intro Y hY
    refine ⟨6, ?_⟩
    have hsk : skipWs (retLit ++ Y) = retLit ++ Y := skipWs_head _ (by decide)
    have hic : inlineComment (retLit ++ Y) = none := by simp [retLit, inlineComment, lit]
    show doStmtsR 6 (retLit ++ Y) = .ok ([], retLit ++ Y)
    rw [doStmtsR_succ, hsk, doStmtR_succ, exprR_return hY 0]
    simp only [Res.bind, Res.ofOpt, hic]
  | .cons s sep rest, hs, hl => by
    intro Y hY
    obtain ⟨hss, hho, hsr⟩ := hs
    obtain ⟨hls, hsep, hlr⟩ := hl
    obtain ⟨g, hg⟩ := lex_stmts rest hsr hlr Y hY
    obtain ⟨x, tl, hx, hsx⟩ := text_start s hss
    obtain ⟨y, tly, hy, hsy⟩ := stmts_start rest hsr Y
    -- the text behind the statement ends its expression
    have hR : TEnd (sep.text ++ (CST.stmtsText rest ++ (retLit ++ Y))) ∧
        Closes (sep.text ++ (CST.stmtsText rest ++ (retLit ++ Y))) := by
      cases sep with
      | semi w l =>
        have hT : Sep.text (.semi w l) ++ (CST.stmtsText rest ++ (retLit ++ Y)) =
            layChars w ++ ';' :: (layChars l ++ (CST.stmtsText rest ++ (retLit ++ Y))) := by
          simp [Sep.text]
        rw [hT]
        refine ⟨tend_lay w _ (by decide) (by decide) (by decide) (by decide), ?_, fun lam => ?_⟩
        · exact postNone_lay w ';' _ (postNone_of_char (by decide) (by decide) (by decide) (by decide))
        · exact infixUsage_none_of_heads lam w ';' _ semi_heads.1 semi_heads.2 (by decide)
      | line g =>
        have hg' : (g.any fun a => !a.isWs) = true := hsep
        have hne := any_nl_ne hg'
        refine ⟨⟨lay_ne_boundary hne _, noLam_lay_nl g hg' _⟩, postNone_lay_ne hne _, fun lam => ?_⟩
        show infixUsage lam (layChars g ++ (CST.stmtsText rest ++ (retLit ++ Y))) = none
        cases rest with
        | nil =>
          exact infixUsage_word_none lam g (w := retLit) (by decide) (by decide) hY (by decide +kernel)
        | cons s' sep' rest' =>
          have hh : s'.headOk := hho rfl
          have := infixUsage_headOk s' hh hsr.1 hlr.1 g
            (sep'.text ++ (CST.stmtsText rest' ++ (retLit ++ Y))) lam (sep_boundary sep' hlr.2.1 _)
          simpa only [CST.stmtsText, List.append_assoc] using this
    obtain ⟨f, hf⟩ := lex_closed (lex_cst false s hss hls nofun) hR.1 hR.2
    have hsepr : (stmtSep (skipWs (itemTrail (sep.text ++ (CST.stmtsText rest ++ (retLit ++ Y)))))).map gapG =
        some (CST.stmtsText rest ++ (retLit ++ Y)) := by
      rw [hy]
      cases sep with
      | semi w l =>
        have hT : Sep.text (.semi w l) ++ y :: tly = layChars w ++ ';' :: (layChars l ++ y :: tly) := by
          simp [Sep.text]
        rw [hT]; exact stmtSep_semi w l hsep tly hsy
      | line g => exact stmtSep_line g hsep tly hsy
    cases hss' : stmtSep (skipWs (itemTrail (sep.text ++ (CST.stmtsText rest ++ (retLit ++ Y))))) with
    | none => rw [hss'] at hsepr; cases hsepr
    | some r2 =>
      rw [hss'] at hsepr
      simp only [Option.map_some, Option.some.injEq] at hsepr
      refine ⟨max f g + 2, ?_⟩
      have hsk : skipWs (s.text ++ (sep.text ++ (CST.stmtsText rest ++ (retLit ++ Y)))) =
          s.text ++ (sep.text ++ (CST.stmtsText rest ++ (retLit ++ Y))) := by
        rw [hx, List.cons_append]; exact skipWs_head _ (startChar_facts hsx).2.2.2.1
      have htxt : CST.stmtsText (.cons s sep rest) ++ (retLit ++ Y) =
          s.text ++ (sep.text ++ (CST.stmtsText rest ++ (retLit ++ Y))) := by
        simp only [CST.stmtsText, List.append_assoc]
      rw [htxt, doStmtsR_succ, hsk, doStmtR_succ, exprR_mono (Nat.le_max_left f g) hf]
      simp only [Res.bind, Res.ofOpt, cst_pratt s hss, hss', hsepr, doStmtsR_mono (Nat.le_succ_of_le (Nat.le_max_right f g)) hg,
        consStmt, CST.stmtsTrees]
end

/-! ### (14) whole texts -/

theorem cst_lex (c : CST) (h : c.WF) (fuel : Nat) (hf : fuelFor c.text ≤ fuel) :
    exprItems fuel c.text = some (c.items, []) := by
  obtain ⟨f, hx⟩ := lex_closed (lex_cst false c h.1 h.2 nofun) tend_nil closes_nil
  rw [List.append_nil] at hx
  exact exprItems_of_exprR hx fuel hf

theorem cst_roundtrip (c : CST) (h : c.WF) : parseText (String.ofList c.text) = some c.tree := by
  have h1 := cst_lex c h (fuelFor c.text) (Nat.le_refl _)
  unfold parseText
  rw [String.toList_ofList, h1]
  exact cst_pratt c h.1

/-! ### (15) the fragment and the CST the printer writes -/

/-! #### no `via` / `into` / `where` at the top level of a lambda body the printer leaves bare -/

section lamsafe
open PrattRT

def chainRule (r : String) : Bool := r == "via" || r == "into" || r == "where_"

/-- no chain operator among the operators of an item sequence, by rule name -/
def NoChain (its : List PItem) : Prop := ∀ rule, PItem.inf rule ∈ its → chainRule rule = false

theorem chain_facts :
    (BinOp.all.all fun op =>
      (chainRule (ruleOf op) == isChain op) && (!isChain op || pp op == pp .via) &&
        decide (pp .via ≤ pp op) && (!(pp op == pp .via) || !ra op)) = true := by
  decide +kernel

theorem chain_fact (op : BinOp) :
    chainRule (ruleOf op) = isChain op ∧ (isChain op = true → pp op = pp .via) ∧
      pp .via ≤ pp op ∧ (pp op = pp .via → ra op = false) := by
  have := List.all_eq_true.mp chain_facts op (BinOp.mem_all op)
  simp only [Bool.and_eq_true, beq_iff_eq, Bool.or_eq_true, Bool.not_eq_true', decide_eq_true_eq] at this
  obtain ⟨⟨⟨h1, h2⟩, h3⟩, h4⟩ := this
  refine ⟨h1, fun h => ?_, h3, fun h => ?_⟩
  · rcases h2 with h2 | h2
    · rw [h] at h2; cases h2
    · exact h2
  · rcases h4 with h4 | h4
    · exact absurd h (by simpa using h4)
    · exact h4

theorem NoChain.lamSafe {its : List PItem} (h : NoChain its) : LamSafe its := by
  intro op hm
  rw [← (chain_fact op).1]
  exact h _ hm

theorem noChain_append {a b : List PItem} (ha : NoChain a) (hb : NoChain b) : NoChain (a ++ b) := by
  intro rule hm
  rcases List.mem_append.mp hm with h | h
  · exact ha rule h
  · exact hb rule h

theorem noChain_single_noninf {x : PItem} (h : ∀ r, x ≠ .inf r) : NoChain [x] := by
  intro rule hm
  simp only [List.mem_singleton] at hm
  exact absurd hm.symm (h rule)

theorem noChain_cons_noninf {x : PItem} {a : List PItem} (h : ∀ r, x ≠ .inf r) (ha : NoChain a) :
    NoChain (x :: a) := noChain_append (noChain_single_noninf h) ha

/-- the top operator of `t`, if it is a binary one, binds tighter than the chain operators -/
def hiOK : Expr → Prop
  | .bin op _ _ => pp .via < pp op
  | _ => True

theorem hiOK_left {op : BinOp} {l : Expr} (h : needsParens l (.binLeft op) = false)
    (hop : pp .via < pp op) : hiOK l := by
  cases l with
  | bin lop a b =>
    obtain ⟨h1, _⟩ := left_noparens h
    have := pp_lt_iff lop op
    show pp .via < pp lop
    have hle : ¬ pp lop < pp op := fun hlt => by have := this.mp hlt; omega
    omega
  | _ => trivial

theorem hiOK_right {op : BinOp} {r : Expr} (h : needsParens r (.binRight op) = false) : hiOK r := by
  cases r with
  | bin rop a b =>
    obtain ⟨h1, h2⟩ := right_noparens h
    have hlt := pp_lt_iff rop op
    have heq := pp_eq_iff rop op
    have hle : ¬ pp rop < pp op := fun hl => by have := hlt.mp hl; omega
    have hv := (chain_fact op).2.2.1
    show pp .via < pp rop
    by_cases he : pp rop = pp .via
    · -- then `op` is at the chain level too, same level, so `op` is right-associative: it is not
      exfalso
      have hpo : pp op = pp .via := by omega
      have hra := (chain_fact op).2.2.2 hpo
      have hbp : bp rop = bp op := heq.mp (by omega)
      rw [(h2 hbp).1] at hra
      cases hra
    · have := (chain_fact rop).2.2.1; omega
  | _ => trivial

theorem hiOK_prefix {e : Expr} (h : needsParens e .prefix_ = false) : hiOK e := by
  cases e with
  | bin cop a b => simp [np_bin_prefix] at h
  | _ => trivial

theorem hiOK_postfix {e : Expr} (h : needsParens e .postfix_ = false) : hiOK e := by
  cases e with
  | bin cop a b => simp [np_bin_postfix] at h
  | _ => trivial

theorem noChain_cons_inf {rule : String} {its : List PItem} (h : chainRule rule = false)
    (ha : NoChain its) : NoChain (.inf rule :: its) := by
  intro r hm
  rcases List.mem_cons.mp hm with hm | hm
  · cases hm; exact h
  · exact ha r hm

theorem noChain_child {e : Expr} {pos : Pos} (ih : hiOK e → NoChain (items e))
    (h : needsParens e pos = false → hiOK e) : NoChain (child e pos) := by
  unfold child
  split
  · exact noChain_single_noninf nofun
  · next hnp => exact ih (h (by simpa using hnp))

theorem noChain_hi : ∀ t : Expr, hiOK t → NoChain (items t)
  | .bin op l r, h => by
    have hop : chainRule (ruleOf op) = false := by
      rw [(chain_fact op).1]
      cases hc : isChain op with
      | false => rfl
      | true => have := (chain_fact op).2.1 hc; simp only [hiOK] at h; omega
    rw [items_bin]
    exact noChain_append (noChain_child (noChain_hi l) fun hnp => hiOK_left hnp h)
      (noChain_cons_inf hop (noChain_child (noChain_hi r) hiOK_right))
  | .un op e, _ => by
    rw [items_un]
    exact noChain_cons_noninf nofun (noChain_child (noChain_hi e) hiOK_prefix)
  | .fact e, _ => by
    rw [items_fact]
    exact noChain_append (noChain_child (noChain_hi e) hiOK_postfix) (noChain_single_noninf nofun)
  | .access e i, _ => by
    rw [items_access]
    exact noChain_append (noChain_child (noChain_hi e) hiOK_postfix) (noChain_single_noninf nofun)
  | .dot e f, _ => by
    rw [items_dot]
    exact noChain_append (noChain_child (noChain_hi e) hiOK_postfix) (noChain_single_noninf nofun)
  | .call f args, _ => by
    rw [items_call]
    exact noChain_append (noChain_child (noChain_hi f) hiOK_postfix) (noChain_single_noninf nofun)
  | .num _, _ | .str _, _ | .bool _, _ | .null, _ | .ident _, _ | .inref _, _ | .builtin _, _
  | .list _, _ | .record _, _ | .lambda _ _, _ | .cond _ _ _, _ | .doBlock _ _, _ | .assign _ _, _
  | .output _, _ | .spread _, _ => noChain_single_noninf nofun

/-- a lambda body the printer writes without parentheses has no chain operator at its top
    level (left spine at the chain level included) -/
theorem noChain_body : ∀ t : Expr, lambdaBodyNeedsParens t = false → NoChain (items t)
  | .bin op l r, h => by
    simp only [lambdaBodyNeedsParens, Bool.or_eq_false_iff, beq_eq_false_iff_ne, ne_eq,
      Bool.and_eq_false_iff] at h
    obtain ⟨⟨⟨h1, h2⟩, h3⟩, h4⟩ := h
    have hop : chainRule (ruleOf op) = false := by
      rw [(chain_fact op).1]; simp [isChain, h1, h2, h3]
    rw [items_bin]
    refine noChain_append ?_ (noChain_cons_inf hop (noChain_child (noChain_hi r) hiOK_right))
    rcases h4 with h4 | h4
    · -- `op` is above the chain level
      have hv := (chain_fact op).2.2.1
      have : pp op ≠ pp .via := h4
      exact noChain_child (noChain_hi l) fun hnp => hiOK_left hnp (by omega)
    · unfold child
      split
      · exact noChain_single_noninf nofun
      · exact noChain_body l h4
  | .un _ _, _ | .fact _, _ | .access _ _, _ | .dot _ _, _ | .call _ _, _ => noChain_hi _ trivial
  | .num _, _ | .str _, _ | .bool _, _ | .null, _ | .ident _, _ | .inref _, _ | .builtin _, _
  | .list _, _ | .record _, _ | .lambda _ _, _ | .cond _ _ _, _ | .doBlock _ _, _ | .assign _ _, _
  | .output _, _ | .spread _, _ => noChain_single_noninf nofun

end lamsafe

/-! #### the fragment of the abstract syntax -/

/-- both kinds of quote occur in the string: no literal denotes it (the grammar has no escapes;
    the printer writes a concatenation `("a" + '"' + "b")` instead: the last branch of
    `stringToSource`) -/
def bothQuotes (s : String) : Bool := s.toList.contains '"' && s.toList.contains '\''

/-- a record entry without comments -/
def entPlain (lead : List String) (tr : Option String) : Bool := lead.isEmpty && tr.isNone

/-- the value `null` (what the parser stores for a shorthand and for a spread entry) -/
def isNullE : Expr → Bool
  | .null => true
  | _ => false

theorem isNullE_eq {v : Expr} (h : isNullE v = true) : v = .null := by
  cases v <;> first | rfl | simp [isNullE] at h

theorem entPlain_eq {lead : List String} {tr : Option String} (h : entPlain lead tr = true) :
    lead = [] ∧ tr = none := by
  simpa [entPlain] using h

/-- THE LEFTMOST NAME OF THE PRINTED STATEMENT IS NO WORD OPERATOR (`via` / `into` / `where`; a
    parenthesised operand and a prefix operator shield it).  A statement that starts with such a
    name followed by a blank is parenthesised by the printer (`protect_statement_start`) but NOT by
    every layout of the formatter (`via` ⏎ `+ b` needs no parentheses): the concrete syntax
    then depends on the width, so these statements are left out of the fragment. -/
def stmtHeadOk : Expr → Bool
  | .bin op l _ => needsParens l (.binLeft op) || stmtHeadOk l
  | .fact e => needsParens e .postfix_ || stmtHeadOk e
  | .call e _ => needsParens e .postfix_ || stmtHeadOk e
  | .access e _ => needsParens e .postfix_ || stmtHeadOk e
  | .dot e _ => needsParens e .postfix_ || stmtHeadOk e
  | .ident n => !CST.wordOpText n.toList
  | .builtin n => !CST.wordOpText n.toList
  | .lambda args _ => CST.lamHeadOk args
  | .assign n _ => !CST.wordOpText n.toList
  | _ => true

mutual
/-- the fragment of the abstract syntax: binary operators, prefix `-` / `!`, postfix `!`,
    calls (arguments possibly spread: the flag says whether a `...e` is admitted here), index
    and field accesses, list literals (items possibly spread, no comments), lambdas (argument
    names that are identifiers), conditionals, record literals, do-blocks (statements without
    comments whose leftmost name is no word operator, `stmtHeadOk`), assignments `name = value`
    over the atoms of `atomOk` and string literals that do not contain both kinds of quote -/
def fragB : Bool → Expr → Bool
  | _, .bin _ l r => fragB false l && fragB false r
  | _, .un op e => op != .invert && fragB false e
  | _, .fact e => fragB false e
  | _, .call f args => fragB false f && fragArgs args
  | _, .access e i => fragB false e && fragB false i
  | _, .dot e n => fragB false e && CST.fieldOk n
  | sp, .spread e => sp && fragB false e
  | _, .list items => fragItems items
  | _, .lambda args body => args.all (fun a => nameOk a.name) && fragB false body
  | _, .cond c t e => fragB false c && fragB false t && fragB false e
  | _, .ident n => atomOk (.ident n)
  | _, .builtin n => atomOk (.builtin n)
  | _, .bool b => atomOk (.bool b)
  | _, .null => atomOk .null
  | _, .num x => atomOk (.num x)
  | _, .str s => !bothQuotes s
  | _, .record es => fragEntries es
  | _, .doBlock ss r => fragStmts ss && fragRet r
  | _, .assign n v => nameOk n && fragB false v
  | _, _ => false
def fragRet : Item → Bool
  | .mk lead e tr => entPlain lead tr && fragB false e
def fragArgs : List Expr → Bool
  | [] => true
  | a :: rest => fragB true a && fragArgs rest
/-- record entries: no comments; a static key that is an identifier or has a string literal
    (not both kinds of quote); a computed key in the fragment; a shorthand that is an identifier;
    `...e`; values in the fragment (`null` where the parser stores none) -/
def fragEntries : List Entry → Bool
  | [] => true
  | e :: rest => fragEntry e && fragEntries rest
def fragStmts : List Item → Bool
  | [] => true
  | (.mk lead e tr) :: rest => (entPlain lead tr && (fragB false e && stmtHeadOk e)) && fragStmts rest
def fragEntry : Entry → Bool
  | .mk lead (.static k) v tr =>
    entPlain lead tr && (isValidIdentifier k || !bothQuotes k) && fragB false v
  | .mk lead (.dyn ke) v tr => entPlain lead tr && fragB false ke && fragB false v
  | .mk lead (.short n) v tr => entPlain lead tr && isNullE v && nameOk n
  | .mk lead (.spread (.spread e)) v tr => entPlain lead tr && isNullE v && fragB false e
  | .mk _ (.spread _) _ _ => false
def fragItems : List Item → Bool
  | [] => true
  | (.mk lead e tr) :: rest => lead.isEmpty && tr.isNone && fragB true e && fragItems rest
end

def frag (t : Expr) : Bool := fragB false t

abbrev Frag (t : Expr) : Prop := frag t = true

theorem frag_bin_eq (op : BinOp) (l r : Expr) : frag (.bin op l r) = (frag l && frag r) := by
  simp [frag, fragB]
theorem frag_un_eq (op : UnOp) (e : Expr) : frag (.un op e) = (op != .invert && frag e) := by
  simp [frag, fragB]
theorem frag_fact_eq (e : Expr) : frag (.fact e) = frag e := by simp [frag, fragB]
theorem frag_call_eq (f : Expr) (args : List Expr) :
    frag (.call f args) = (frag f && fragArgs args) := by simp [frag, fragB]
theorem frag_access_eq (e i : Expr) : frag (.access e i) = (frag e && frag i) := by
  simp [frag, fragB]
theorem frag_dot_eq (e : Expr) (n : String) : frag (.dot e n) = (frag e && CST.fieldOk n) := by
  simp [frag, fragB]
theorem frag_list_eq (items : List Item) : frag (.list items) = fragItems items := by
  simp [frag, fragB]
theorem frag_cond_eq (c t e : Expr) : frag (.cond c t e) = (frag c && frag t && frag e) := by
  simp [frag, fragB]
theorem frag_str_eq (s : String) : frag (.str s) = !bothQuotes s := by simp [frag, fragB]
theorem frag_record_eq (es : List Entry) : frag (.record es) = fragEntries es := by
  simp [frag, fragB]
theorem frag_doBlock_eq (ss : List Item) (lead : List String) (e : Expr) (tr : Option String) :
    frag (.doBlock ss (.mk lead e tr)) = (fragStmts ss && (entPlain lead tr && frag e)) := by
  simp [frag, fragB, fragRet]
theorem frag_assign_eq (n : String) (v : Expr) :
    frag (.assign n v) = (nameOk n && frag v) := by
  simp [frag, fragB]
theorem frag_lambda_eq (args : List LArg) (body : Expr) :
    frag (.lambda args body) = (args.all (fun a => nameOk a.name) && frag body) := by
  simp [frag, fragB]

def isSpread : Expr → Bool
  | .spread _ => true
  | _ => false

def unSpread : Expr → Expr
  | .spread e => e
  | e => e

theorem fragB_true (a : Expr) (h : fragB true a = true) :
    Frag (unSpread a) ∧ argTree (isSpread a) (unSpread a) = a := by
  cases a with
  | doBlock ss r =>
    refine ⟨?_, rfl⟩
    cases r
    simpa [Frag, frag, fragB, fragRet, unSpread] using h
  | _ => refine ⟨?_, rfl⟩ <;> simp_all [Frag, frag, fragB, unSpread]

/-! #### `canon`: the CST the printer writes, and the pieces it is built from -/

/-- the printer's parentheses: none, or a pair with nothing inside them -/
def wrap (b : Bool) (c : CST) : CST := if b then .paren [] c [] else c

/-- the argument list as the printer writes it: `a, b, c` -/
def mkArgs : Bool × CST → List (Bool × CST) → Args
  | p, [] => .last p.1 p.2
  | p, q :: rest => .cons p.1 p.2 [] [.sp] (mkArgs q rest)

def mkCall (f : CST) : List (Bool × CST) → CST
  | [] => .call0 f []
  | p :: rest => .call f [] (mkArgs p rest) (.plain [])

/-- the argument list of a lambda as the printer writes it: `()` or `(a, b?, ...c)` -/
def headOf : List LArg → LamHead
  | [] => .unit []
  | a :: as => .parens [] a (as.map fun x => ([], [.sp], x)) (.plain [])

/-- `[]` or `[a, b, c]` as the printer writes it -/
def mkList : List (Bool × CST) → CST
  | [] => .list0 []
  | p :: rest => .list [] (mkArgs p rest) (.plain [])

/-- the literal `string_to_source` writes: in double quotes unless the string contains one, then
    in single quotes (outside the fragment — both kinds occur — an opaque atom) -/
def canonStr (s : String) : CST :=
  if bothQuotes s then .atom (.str s) else .str (!s.toList.contains '"') s

theorem canonStr_tree (s : String) : (canonStr s).tree = .str s := by
  unfold canonStr; split <;> rfl

theorem canonStr_items (s : String) : (canonStr s).items = [.prim (.str s)] := by
  unfold canonStr; split <;> rfl

theorem canonStr_isParen (s : String) : (canonStr s).isParen = false := by
  unfold canonStr; split <;> rfl

theorem canonStr_layout (s : String) : (canonStr s).LayoutOk := by
  unfold canonStr
  split
  · trivial
  · rename_i h
    simp only [CST.LayoutOk]
    cases hd : s.toList.contains '"' with
    | false => simpa [quoteChar] using hd
    | true =>
      simp only [bothQuotes, hd, Bool.true_and, Bool.not_eq_true] at h
      simpa [quoteChar] using h

theorem canonStr_shaped (s : String) (h : bothQuotes s = false) : (canonStr s).Shaped := by
  unfold canonStr; rw [h]; trivial

theorem canonStr_text (s : String) (h : bothQuotes s = false) :
    (canonStr s).text = (stringToSource s).toList := by
  unfold canonStr
  simp only [h, Bool.false_eq_true, if_false, CST.text]
  cases hd : s.toList.contains '"' with
  | false =>
    rw [PrintL.stringToSource_dq s (by simpa using hd)]
    simp [quoteChar]
  | true =>
    simp only [bothQuotes, hd, Bool.true_and] at h
    rw [PrintL.stringToSource_sq s (by simpa using hd) (by simpa using h)]
    simp [quoteChar]

/-- the entry list as the printer writes it: `a: 1, b, ...c` -/
def mkEnts : Ent → List Ent → Ents
  | e, [] => .last e
  | e, q :: rest => .cons e [] [.sp] (mkEnts q rest)

/-- `{}` or `{a: 1, b}` as the printer writes it -/
def mkRecord : List Ent → CST
  | [] => .rec0 []
  | e :: rest => .record [] (mkEnts e rest) (.plain [])

/-- `format_record_key` in front of `: value`: bare when the key is an identifier, else as a
    string literal -/
def keyEnt (k : String) (v : CST) : Ent :=
  if isValidIdentifier k then .pairId k [] [.sp] v
  else .pairStr (!k.toList.contains '"') k [] [.sp] v

/-- `protect_statement_start` on a statement of the fragment: parentheses when it starts with a
    prefix minus (the test for `via` / `into` / `where` never fires on the fragment) -/
def protC (c : CST) : CST := if c.startsMinus then .paren [] c [] else c

/-- the layout the single-line printer writes in front of every statement and of `return` -/
def stmtLay : Lay := [.lf, .sp, .sp]

mutual
/-- what `exprToSource` writes, as a CST: one blank on each side of a binary operator, `, `
    between arguments, nothing else, parentheses exactly where `needsParens` says -/
def canon : Expr → CST
  | .bin op l r =>
    .bin op (wrap (needsParens l (.binLeft op)) (canon l)) [.sp] [.sp]
      (wrap (needsParens r (.binRight op)) (canon r))
  | .un op e => .un op (wrap (needsParens e .prefix_) (canon e))
  | .fact e => .fact (wrap (needsParens e .postfix_) (canon e))
  | .call f args => mkCall (wrap (needsParens f .postfix_) (canon f)) (canonArgs args)
  | .access e i => .access (wrap (needsParens e .postfix_) (canon e)) [] (canon i) []
  | .dot e n => .dot (wrap (needsParens e .postfix_) (canon e)) n
  | .list items => mkList (canonItems items)
  | .lambda args body =>
    .lambda (headOf args) [.sp] [.sp] (wrap (lambdaBodyNeedsParens body) (canon body))
  | .cond c t e => .cond [.sp] (canon c) [.sp] [.sp] (canon t) [.sp] [.sp] (canon e)
  | .ident n => .atom (.ident n)
  | .builtin n => .atom (.builtin n)
  | .bool b => .atom (.bool b)
  | .null => .atom .null
  | .num x => .atom (.num x)
  | .str s => canonStr s
  | .record es => mkRecord (canonEntries es)
  | .doBlock ss (.mk _ e _) => .doB [.sp] stmtLay (canonStmts ss) [.sp] (canon e) [.lf]
  | .assign n v => .asg n [.sp] [.sp] (canon v)
  /- only reached from `canonArgs`: the operand of a spread argument -/
  | .spread e => canon e
  | e => .atom e
def canonArgs : List Expr → List (Bool × CST)
  | [] => []
  | a :: rest => (isSpread a, canon a) :: canonArgs rest
def canonItems : List Item → List (Bool × CST)
  | [] => []
  | (.mk _ e _) :: rest => (isSpread e, canon e) :: canonItems rest
/-- the statements of a do-block as the printer writes them: each on its own line -/
def canonStmts : List Item → Stmts
  | [] => .nil
  | (.mk _ e _) :: rest => .cons (protC (canon e)) (.line stmtLay) (canonStmts rest)
def canonEntries : List Entry → List Ent
  | [] => []
  | e :: rest => canonEnt e :: canonEntries rest
/-- an entry outside the fragment (comments, a key with both kinds of quote, a shorthand or
    spread entry with a value) stays opaque -/
def canonEnt : Entry → Ent
  | .mk lead (.static k) v tr =>
    if entPlain lead tr && (isValidIdentifier k || !bothQuotes k) then keyEnt k (canon v)
    else .raw (.mk lead (.static k) v tr)
  | .mk lead (.dyn ke) v tr =>
    if entPlain lead tr then .pairDyn [] (canon ke) [] [] [.sp] (canon v)
    else .raw (.mk lead (.dyn ke) v tr)
  | .mk lead (.short n) v tr =>
    if entPlain lead tr && isNullE v then .short n else .raw (.mk lead (.short n) v tr)
  | .mk lead (.spread (.spread e)) v tr =>
    if entPlain lead tr && isNullE v then .spread (canon e)
    else .raw (.mk lead (.spread (.spread e)) v tr)
  | .mk lead (.spread e) v tr => .raw (.mk lead (.spread e) v tr)
end

theorem canon_unSpread (a : Expr) : canon a = canon (unSpread a) := by
  cases a <;> first | rfl | simp [canon, unSpread]

theorem wrap_tree (b : Bool) (c : CST) : (wrap b c).tree = c.tree := by
  cases b <;> rfl

theorem wrap_text (b : Bool) (c : CST) :
    (wrap b c).text = if b then '(' :: (c.text ++ [')']) else c.text := by
  cases b <;> simp [wrap, CST.text, layChars]

theorem wrap_items (b : Bool) (c : CST) :
    (wrap b c).items = if b then [.prim c.tree] else c.items := by
  cases b <;> rfl

theorem wrap_shaped {b : Bool} {c : CST} (h : c.Shaped) : (wrap b c).Shaped := by
  cases b <;> exact h

theorem wrap_layout {b : Bool} {c : CST} (h : c.LayoutOk) : (wrap b c).LayoutOk := by
  cases b <;> exact h

theorem wrap_isParen {b : Bool} {c : CST} (h : (wrap b c).isParen = false) :
    b = false := by
  cases b
  · rfl
  · simp [wrap, CST.isParen] at h

/-! #### argument lists as the printer writes them -/

def argT (q : Bool × CST) : Expr := argTree q.1 q.2.tree
def argS (q : Bool × CST) : List Char := spreadChars q.1 ++ q.2.text

theorem intercalate_cons2 {α} (sep x y : List α) (ys : List (List α)) :
    sep.intercalate (x :: y :: ys) = x ++ (sep ++ sep.intercalate (y :: ys)) := by
  simp [List.intercalate]

theorem mkArgs_trees : ∀ (ps : List (Bool × CST)) (p : Bool × CST),
    CST.argsTrees (mkArgs p ps) = argT p :: ps.map argT
  | [], p => rfl
  | q :: ps, p => by simp only [mkArgs, CST.argsTrees, mkArgs_trees ps q, List.map_cons, argT]

theorem mkArgs_text : ∀ (ps : List (Bool × CST)) (p : Bool × CST),
    CST.argsText (mkArgs p ps) = [',', ' '].intercalate (argS p :: ps.map argS)
  | [], p => by simp [mkArgs, CST.argsText, argS, List.intercalate]
  | q :: ps, p => by
    simp only [mkArgs, CST.argsText, mkArgs_text ps q, List.map_cons, intercalate_cons2, argS,
      layChars, LayAtom.chars, List.append_assoc, List.nil_append, List.cons_append]

theorem mkArgs_shaped : ∀ (ps : List (Bool × CST)) (p : Bool × CST),
    p.2.Shaped → (∀ q ∈ ps, q.2.Shaped) → CST.ArgsShaped (mkArgs p ps)
  | [], _, hp, _ => hp
  | q :: ps, _, hp, h =>
    ⟨hp, mkArgs_shaped ps q (h q List.mem_cons_self) (fun x hx => h x (List.mem_cons_of_mem _ hx))⟩

theorem mkArgs_layout : ∀ (ps : List (Bool × CST)) (p : Bool × CST),
    p.2.LayoutOk → (∀ q ∈ ps, q.2.LayoutOk) → CST.ArgsLayoutOk (mkArgs p ps)
  | [], _, hp, _ => hp
  | q :: ps, _, hp, h =>
    ⟨hp, rfl, mkArgs_layout ps q (h q List.mem_cons_self) (fun x hx => h x (List.mem_cons_of_mem _ hx))⟩

theorem mkCall_tree (f : CST) (ps : List (Bool × CST)) :
    (mkCall f ps).tree = .call f.tree (ps.map argT) := by
  cases ps with
  | nil => rfl
  | cons p ps => simp only [mkCall, CST.tree, mkArgs_trees, List.map_cons]

theorem mkCall_items (f : CST) (ps : List (Bool × CST)) :
    (mkCall f ps).items = f.items ++ [.postCall (ps.map argT)] := by
  cases ps with
  | nil => rfl
  | cons p ps => simp only [mkCall, CST.items, mkArgs_trees, List.map_cons]

theorem mkCall_text (f : CST) (ps : List (Bool × CST)) :
    (mkCall f ps).text = f.text ++ '(' :: ([',', ' '].intercalate (ps.map argS) ++ [')']) := by
  cases ps with
  | nil => simp [mkCall, CST.text, layChars, List.intercalate]
  | cons p ps =>
    simp only [mkCall, CST.text, mkArgs_text, List.map_cons, Close.text, layChars, List.nil_append]

theorem mkCall_isParen (f : CST) (ps : List (Bool × CST)) : (mkCall f ps).isParen = false := by
  cases ps <;> rfl

theorem mkCall_shaped {f : CST} {ps : List (Bool × CST)} (hf : f.Shaped)
    (hp : f.isParen = false → needsParens f.tree .postfix_ = false) (h : ∀ q ∈ ps, q.2.Shaped) :
    (mkCall f ps).Shaped := by
  cases ps with
  | nil => exact ⟨hf, hp⟩
  | cons p ps =>
    exact ⟨hf, hp, mkArgs_shaped ps p (h p List.mem_cons_self)
      (fun x hx => h x (List.mem_cons_of_mem _ hx))⟩

theorem mkCall_layout {f : CST} {ps : List (Bool × CST)} (hf : f.LayoutOk)
    (h : ∀ q ∈ ps, q.2.LayoutOk) : (mkCall f ps).LayoutOk := by
  cases ps with
  | nil => exact hf
  | cons p ps =>
    exact ⟨hf, mkArgs_layout ps p (h p List.mem_cons_self)
      (fun x hx => h x (List.mem_cons_of_mem _ hx)), rfl⟩

theorem mkList_tree (ps : List (Bool × CST)) :
    (mkList ps).tree = .list (mkItems (ps.map argT)) := by
  cases ps with
  | nil => rfl
  | cons p ps => simp only [mkList, CST.tree, mkArgs_trees, List.map_cons]

theorem mkList_items (ps : List (Bool × CST)) :
    (mkList ps).items = [.prim (.list (mkItems (ps.map argT)))] := by
  cases ps with
  | nil => rfl
  | cons p ps => simp only [mkList, CST.items, mkArgs_trees, List.map_cons]

theorem mkList_text (ps : List (Bool × CST)) :
    (mkList ps).text = '[' :: ([',', ' '].intercalate (ps.map argS) ++ [']']) := by
  cases ps with
  | nil => simp [mkList, CST.text, layChars, List.intercalate]
  | cons p ps =>
    simp only [mkList, CST.text, mkArgs_text, List.map_cons, Close.text, layChars, List.nil_append]

theorem mkList_isParen (ps : List (Bool × CST)) : (mkList ps).isParen = false := by
  cases ps <;> rfl

theorem mkList_shaped {ps : List (Bool × CST)} (h : ∀ q ∈ ps, q.2.Shaped) : (mkList ps).Shaped := by
  cases ps with
  | nil => trivial
  | cons p ps =>
    exact mkArgs_shaped ps p (h p List.mem_cons_self) (fun x hx => h x (List.mem_cons_of_mem _ hx))

theorem mkList_layout {ps : List (Bool × CST)} (h : ∀ q ∈ ps, q.2.LayoutOk) :
    (mkList ps).LayoutOk := by
  cases ps with
  | nil => trivial
  | cons p ps =>
    exact ⟨mkArgs_layout ps p (h p List.mem_cons_self)
      (fun x hx => h x (List.mem_cons_of_mem _ hx)), rfl⟩

/-! #### records as the printer writes them -/

theorem mkEnts_trees : ∀ (es : List Ent) (e : Ent),
    CST.entsTrees (mkEnts e es) = CST.entTree e :: es.map CST.entTree
  | [], e => rfl
  | q :: es, e => by simp only [mkEnts, CST.entsTrees, mkEnts_trees es q, List.map_cons]

theorem mkEnts_text : ∀ (es : List Ent) (e : Ent),
    CST.entsText (mkEnts e es) = [',', ' '].intercalate (CST.entText e :: es.map CST.entText)
  | [], e => by simp [mkEnts, CST.entsText, List.intercalate]
  | q :: es, e => by
    simp only [mkEnts, CST.entsText, mkEnts_text es q, List.map_cons, intercalate_cons2,
      layChars, LayAtom.chars, List.nil_append, List.cons_append]

theorem mkEnts_shaped : ∀ (es : List Ent) (e : Ent),
    CST.EntShaped e → (∀ q ∈ es, CST.EntShaped q) → CST.EntsShaped (mkEnts e es)
  | [], _, he, _ => he
  | q :: es, _, he, h =>
    ⟨he, mkEnts_shaped es q (h q List.mem_cons_self) (fun x hx => h x (List.mem_cons_of_mem _ hx))⟩

theorem mkEnts_layout : ∀ (es : List Ent) (e : Ent),
    CST.EntLayoutOk e → (∀ q ∈ es, CST.EntLayoutOk q) → CST.EntsLayoutOk (mkEnts e es)
  | [], _, he, _ => he
  | q :: es, _, he, h =>
    ⟨he, rfl, mkEnts_layout es q (h q List.mem_cons_self) (fun x hx => h x (List.mem_cons_of_mem _ hx))⟩

theorem mkRecord_tree (es : List Ent) : (mkRecord es).tree = .record (es.map CST.entTree) := by
  cases es with
  | nil => rfl
  | cons e es => simp only [mkRecord, CST.tree, mkEnts_trees, List.map_cons]

theorem mkRecord_items (es : List Ent) :
    (mkRecord es).items = [.prim (.record (es.map CST.entTree))] := by
  cases es with
  | nil => rfl
  | cons e es => simp only [mkRecord, CST.items, mkEnts_trees, List.map_cons]

theorem mkRecord_text (es : List Ent) :
    (mkRecord es).text = '{' :: ([',', ' '].intercalate (es.map CST.entText) ++ ['}']) := by
  cases es with
  | nil => simp [mkRecord, CST.text, layChars, List.intercalate]
  | cons e es =>
    simp only [mkRecord, CST.text, mkEnts_text, List.map_cons, Close.text, layChars, List.nil_append]

theorem mkRecord_isParen (es : List Ent) : (mkRecord es).isParen = false := by
  cases es <;> rfl

theorem mkRecord_shaped {es : List Ent} (h : ∀ q ∈ es, CST.EntShaped q) : (mkRecord es).Shaped := by
  cases es with
  | nil => trivial
  | cons e es =>
    exact mkEnts_shaped es e (h e List.mem_cons_self) (fun x hx => h x (List.mem_cons_of_mem _ hx))

theorem mkRecord_layout {es : List Ent} (h : ∀ q ∈ es, CST.EntLayoutOk q) :
    (mkRecord es).LayoutOk := by
  cases es with
  | nil => trivial
  | cons e es =>
    exact ⟨mkEnts_layout es e (h e List.mem_cons_self)
      (fun x hx => h x (List.mem_cons_of_mem _ hx)), rfl⟩

/-- a bare key of the printer is an identifier of the grammar -/
theorem nameOk_of_valid {k : String} (h : isValidIdentifier k = true) : nameOk k = true := by
  obtain ⟨hres, c, rest, hk, hc, hrest⟩ := PrintL.isValidIdentifier_spec k h
  rw [PrintL.reserved_lists_agree] at hres
  simp only [nameOk, Bool.and_eq_true, Bool.not_eq_true']
  refine ⟨?_, ?_⟩
  · rw [hk]
    simp only [identShape, Bool.and_eq_true, List.all_eq_true]
    refine ⟨?_, fun d hd => ?_⟩
    · rcases hc with hc | hc
      · simp only [isIdentStart, Bool.or_eq_true]; exact Or.inl hc
      · subst hc; decide
    · rcases hrest d hd with h1 | h1 | h1
      · simp only [isIdentChar, Bool.or_eq_true]; exact Or.inl (Or.inl h1)
      · simp only [isIdentChar, Bool.or_eq_true]; exact Or.inl (Or.inr h1)
      · subst h1; decide
  · cases hcn : Gen.grammarReserved.contains k with
    | false => rfl
    | true => exact absurd (List.contains_iff_mem.mp hcn) hres

theorem keyEnt_tree (k : String) (v : CST) : CST.entTree (keyEnt k v) = .mk [] (.static k) v.tree none := by
  unfold keyEnt; split <;> rfl

theorem keyEnt_shaped {k : String} {v : CST} (hv : v.Shaped) : CST.EntShaped (keyEnt k v) := by
  unfold keyEnt; split <;> exact hv

theorem keyEnt_shaped_inv {k : String} {v : CST} (h : CST.EntShaped (keyEnt k v)) : v.Shaped := by
  unfold keyEnt at h; split at h <;> exact h

theorem keyEnt_layout {k : String} {v : CST} (h : (isValidIdentifier k || !bothQuotes k) = true)
    (hv : v.LayoutOk) : CST.EntLayoutOk (keyEnt k v) := by
  unfold keyEnt
  split
  · rename_i hval
    exact ⟨nameOk_of_valid hval, rfl, hv⟩
  · rename_i hval
    simp only [hval, Bool.false_or, Bool.not_eq_true'] at h
    refine ⟨?_, rfl, hv⟩
    cases hd : k.toList.contains '"' with
    | false => simpa [quoteChar] using hd
    | true =>
      simp only [bothQuotes, hd, Bool.true_and] at h
      simpa [quoteChar] using h

theorem keyEnt_text {k : String} {v : CST} (h : (isValidIdentifier k || !bothQuotes k) = true) :
    CST.entText (keyEnt k v) = (formatRecordKey k).toList ++ (':' :: ' ' :: v.text) := by
  unfold keyEnt formatRecordKey
  split
  · simp [CST.entText, layChars, LayAtom.chars]
  · rename_i hval
    simp only [hval, Bool.false_or, Bool.not_eq_true'] at h
    have hnb : (k.toList.contains '"' && k.toList.contains '\'') = false := h
    simp only [hnb, Bool.not_false, if_true]
    have := canonStr_text k h
    simp only [canonStr, h, Bool.false_eq_true, if_false, CST.text] at this
    simp only [CST.entText, layChars, LayAtom.chars, List.nil_append, ← this, List.append_assoc,
      List.cons_append]

theorem headOf_args (args : List LArg) : (headOf args).args = args := by
  cases args with
  | nil => rfl
  | cons a as => simp [headOf, LamHead.args, List.map_map, Function.comp_def]

theorem moreText_canon (as : List LArg) :
    moreText (as.map fun x => (([] : Lay), [LayAtom.sp], x)) =
      (as.map fun x => [',', ' '] ++ argText x).flatten := by
  induction as with
  | nil => rfl
  | cons a as ih => simp [moreText, layChars, LayAtom.chars, ih]

theorem intercalate_cons_flatten {α} (sep x : List α) (xs : List (List α)) :
    sep.intercalate (x :: xs) = x ++ (xs.map fun y => sep ++ y).flatten := by
  induction xs generalizing x with
  | nil => simp [List.intercalate]
  | cons y ys ih => rw [intercalate_cons2, ih]; simp

theorem headOf_text (args : List LArg) :
    (headOf args).text = '(' :: ([',', ' '].intercalate (args.map argText) ++ [')']) := by
  cases args with
  | nil => simp [headOf, LamHead.text, layChars, List.intercalate]
  | cons a as =>
    simp only [headOf, LamHead.text, layChars, List.nil_append, moreText_canon, Close.text,
      List.map_cons, intercalate_cons_flatten, List.append_assoc, List.map_map, Function.comp_def]

theorem headOf_ok (args : List LArg) : (headOf args).ok = true := by
  cases args with
  | nil => rfl
  | cons a as => simp [headOf, LamHead.ok, wsOnly, Close.okCall]

theorem headOf_namesOk {args : List LArg} (h : (args.all fun a => nameOk a.name) = true) :
    (headOf args).namesOk = true := by
  simp only [LamHead.namesOk, headOf_args, h, Bool.true_and]
  cases args <;> rfl

theorem argText_src (a : LArg) : (lambdaArgToSource a).toList = argText a := by
  cases a <;> simp [lambdaArgToSource, argText, spreadLit_eq]

/-! #### the tree and the items of `canon` -/

theorem unSpread_of_frag {t : Expr} (h : Frag t) : unSpread t = t := by
  cases t <;> first | rfl | simp [Frag, frag, fragB] at h

theorem fragB_weaken {sp : Bool} {t : Expr} (h : fragB sp t = true) : Frag (unSpread t) := by
  cases t with
  | doBlock ss r =>
    cases r
    simpa [Frag, frag, fragB, fragRet, unSpread] using h
  | _ => simp_all [Frag, frag, fragB, unSpread]

theorem protC_tree (c : CST) : (protC c).tree = c.tree := by
  unfold protC; split <;> rfl

theorem protC_shaped {c : CST} (h : c.Shaped) : (protC c).Shaped := by
  unfold protC; split <;> exact h

theorem protC_layout {c : CST} (h : c.LayoutOk) : (protC c).LayoutOk := by
  unfold protC; split <;> exact h

mutual
theorem canon_tree : ∀ (sp : Bool) (t : Expr), fragB sp t = true → (canon t).tree = unSpread t
  | _, .bin op l r, h => by
    simp only [fragB, Bool.and_eq_true] at h
    have hl := (canon_tree false l h.1).trans (unSpread_of_frag h.1)
    have hr := (canon_tree false r h.2).trans (unSpread_of_frag h.2)
    simp only [canon, CST.tree, wrap_tree, hl, hr]; rfl
  | _, .un op e, h => by
    simp only [fragB, Bool.and_eq_true] at h
    have he := (canon_tree false e h.2).trans (unSpread_of_frag h.2)
    simp only [canon, CST.tree, wrap_tree, he]; rfl
  | _, .fact e, h => by
    simp only [fragB] at h
    have he := (canon_tree false e h).trans (unSpread_of_frag h)
    simp only [canon, CST.tree, wrap_tree, he]; rfl
  | _, .call f args, h => by
    simp only [fragB, Bool.and_eq_true] at h
    have hf := (canon_tree false f h.1).trans (unSpread_of_frag h.1)
    simp only [canon, mkCall_tree, wrap_tree, hf, canonArgs_tree args h.2]; rfl
  | _, .access e i, h => by
    simp only [fragB, Bool.and_eq_true] at h
    have he := (canon_tree false e h.1).trans (unSpread_of_frag h.1)
    have hi := (canon_tree false i h.2).trans (unSpread_of_frag h.2)
    simp only [canon, CST.tree, wrap_tree, he, hi]; rfl
  | _, .dot e n, h => by
    simp only [fragB, Bool.and_eq_true] at h
    have he := (canon_tree false e h.1).trans (unSpread_of_frag h.1)
    simp only [canon, CST.tree, wrap_tree, he]; rfl
  | sp, .spread e, h => by
    simp only [fragB, Bool.and_eq_true] at h
    have he := (canon_tree false e h.2).trans (unSpread_of_frag h.2)
    simp only [canon, he]; rfl
  | _, .list items, h => by
    simp only [fragB] at h
    simp only [canon, mkList_tree, canonItems_tree items h]; rfl
  | _, .lambda args body, h => by
    simp only [fragB, Bool.and_eq_true] at h
    have hb := (canon_tree false body h.2).trans (unSpread_of_frag h.2)
    simp only [canon, CST.tree, headOf_args, wrap_tree, hb]; rfl
  | _, .cond c t e, h => by
    simp only [fragB, Bool.and_eq_true] at h
    have hc := (canon_tree false c h.1.1).trans (unSpread_of_frag h.1.1)
    have ht := (canon_tree false t h.1.2).trans (unSpread_of_frag h.1.2)
    have he := (canon_tree false e h.2).trans (unSpread_of_frag h.2)
    simp only [canon, CST.tree, hc, ht, he]; rfl
  | _, .ident _, _ | _, .builtin _, _ | _, .bool _, _ | _, .null, _ | _, .num _, _ => rfl
  | _, .str s, _ => by simp only [canon, canonStr_tree]; rfl
  | _, .record es, h => by
    simp only [fragB] at h
    simp only [canon, mkRecord_tree, canonEntries_tree es h]; rfl
  | _, .doBlock ss (.mk lead e tr), h => by
    simp only [fragB, fragRet, Bool.and_eq_true] at h
    obtain ⟨hss, hp, he⟩ := h
    obtain ⟨rfl, rfl⟩ := entPlain_eq hp
    have het := (canon_tree false e he).trans (unSpread_of_frag he)
    simp only [canon, CST.tree, canonStmts_tree ss hss, het]; rfl
  | _, .assign n v, h => by
    simp only [fragB, Bool.and_eq_true] at h
    have hv := (canon_tree false v h.2).trans (unSpread_of_frag h.2)
    simp only [canon, CST.tree, hv]; rfl
  | _, .inref _, h | _, .output _, h => by
    simp [fragB] at h
theorem canonArgs_tree : ∀ (args : List Expr), fragArgs args = true →
    (canonArgs args).map argT = args
  | [], _ => rfl
  | a :: rest, h => by
    simp only [fragArgs, Bool.and_eq_true] at h
    simp only [canonArgs, List.map_cons, argT, canon_tree true a h.1, canonArgs_tree rest h.2,
      (fragB_true a h.1).2]
theorem canonItems_tree : ∀ (items : List Item), fragItems items = true →
    mkItems ((canonItems items).map argT) = items
  | [], _ => rfl
  | (.mk lead e tr) :: rest, h => by
    simp only [fragItems, Bool.and_eq_true, List.isEmpty_iff, Option.isNone_iff_eq_none] at h
    obtain ⟨⟨⟨rfl, rfl⟩, he⟩, hr⟩ := h
    have ih := canonItems_tree rest hr
    simp only [mkItems] at ih ⊢
    simp only [canonItems, List.map_cons, argT, canon_tree true e he, ih, (fragB_true e he).2]
theorem canonStmts_tree : ∀ (ss : List Item), fragStmts ss = true →
    CST.stmtsTrees (canonStmts ss) = ss
  | [], _ => rfl
  | (.mk lead e tr) :: rest, h => by
    simp only [fragStmts, Bool.and_eq_true] at h
    obtain ⟨⟨hp, he, _⟩, hr⟩ := h
    obtain ⟨rfl, rfl⟩ := entPlain_eq hp
    have het := (canon_tree false e he).trans (unSpread_of_frag he)
    simp only [canonStmts, CST.stmtsTrees, protC_tree, het, canonStmts_tree rest hr]
theorem canonEntries_tree : ∀ (es : List Entry), fragEntries es = true →
    (canonEntries es).map CST.entTree = es
  | [], _ => rfl
  | e :: rest, h => by
    simp only [fragEntries, Bool.and_eq_true] at h
    simp only [canonEntries, List.map_cons, canonEnt_tree e h.1, canonEntries_tree rest h.2]
theorem canonEnt_tree : ∀ (en : Entry), fragEntry en = true → CST.entTree (canonEnt en) = en
  | .mk lead (.static k) v tr, h => by
    simp only [fragEntry, Bool.and_eq_true] at h
    obtain ⟨⟨hp, hk⟩, hv⟩ := h
    obtain ⟨rfl, rfl⟩ := entPlain_eq hp
    have hvt := (canon_tree false v hv).trans (unSpread_of_frag hv)
    simp only [canonEnt, hp, hk, Bool.and_self, if_true, keyEnt_tree, hvt]
  | .mk lead (.dyn ke) v tr, h => by
    simp only [fragEntry, Bool.and_eq_true] at h
    obtain ⟨⟨hp, hk⟩, hv⟩ := h
    obtain ⟨rfl, rfl⟩ := entPlain_eq hp
    have hvt := (canon_tree false v hv).trans (unSpread_of_frag hv)
    have hkt := (canon_tree false ke hk).trans (unSpread_of_frag hk)
    simp only [canonEnt, hp, if_true, CST.entTree, hvt, hkt]
  | .mk lead (.short n) v tr, h => by
    simp only [fragEntry, Bool.and_eq_true] at h
    obtain ⟨⟨hp, hn⟩, _⟩ := h
    obtain ⟨rfl, rfl⟩ := entPlain_eq hp
    have := isNullE_eq hn
    subst this
    simp only [canonEnt, hp, hn, Bool.and_self, if_true, CST.entTree]
  | .mk lead (.spread (.spread e)) v tr, h => by
    simp only [fragEntry, Bool.and_eq_true] at h
    obtain ⟨⟨hp, hn⟩, he⟩ := h
    obtain ⟨rfl, rfl⟩ := entPlain_eq hp
    have := isNullE_eq hn
    subst this
    have het := (canon_tree false e he).trans (unSpread_of_frag he)
    simp only [canonEnt, hp, hn, Bool.and_self, if_true, CST.entTree, het]
  | .mk _ (.spread (.num _)) _ _, h | .mk _ (.spread (.str _)) _ _, h
  | .mk _ (.spread (.bool _)) _ _, h | .mk _ (.spread .null) _ _, h
  | .mk _ (.spread (.ident _)) _ _, h | .mk _ (.spread (.inref _)) _ _, h
  | .mk _ (.spread (.builtin _)) _ _, h | .mk _ (.spread (.list _)) _ _, h
  | .mk _ (.spread (.record _)) _ _, h | .mk _ (.spread (.lambda _ _)) _ _, h
  | .mk _ (.spread (.cond _ _ _)) _ _, h | .mk _ (.spread (.doBlock _ _)) _ _, h
  | .mk _ (.spread (.assign _ _)) _ _, h | .mk _ (.spread (.output _)) _ _, h
  | .mk _ (.spread (.call _ _)) _ _, h | .mk _ (.spread (.access _ _)) _ _, h
  | .mk _ (.spread (.dot _ _)) _ _, h | .mk _ (.spread (.bin _ _ _)) _ _, h
  | .mk _ (.spread (.un _ _)) _ _, h | .mk _ (.spread (.fact _)) _ _, h => by
    simp [fragEntry] at h
end

theorem canon_tree_frag (t : Expr) (h : Frag t) : (canon t).tree = t :=
  (canon_tree false t h).trans (unSpread_of_frag h)

theorem canon_isParen : ∀ t : Expr, (canon t).isParen = false
  | .call f args => by simp only [canon, mkCall_isParen]
  | .spread e => by simp only [canon, canon_isParen e]
  | .list items => by simp only [canon, mkList_isParen]
  | .lambda _ _ => rfl
  | .cond _ _ _ => rfl
  | .str s => by simp only [canon, canonStr_isParen]
  | .record es => by simp only [canon, mkRecord_isParen]
  | .doBlock _ (.mk _ _ _) => rfl
  | .bin .. | .un .. | .fact .. | .access .. | .dot .. | .ident _ | .builtin _ | .bool _ | .null
  | .num _ | .inref _
  | .assign _ _ | .output _ => rfl

theorem canon_items : ∀ (sp : Bool) (t : Expr), fragB sp t = true →
    (canon t).items = PrattRT.items (unSpread t)
  | _, .bin op l r, h => by
    simp only [fragB, Bool.and_eq_true] at h
    have hl := canon_items false l h.1
    have hr := canon_items false r h.2
    rw [unSpread_of_frag h.1] at hl
    rw [unSpread_of_frag h.2] at hr
    simp only [unSpread, canon, CST.items, wrap_items, canon_tree_frag l h.1,
      canon_tree_frag r h.2, hl, hr, PrattRT.items_bin, PrattRT.child]
  | _, .un op e, h => by
    simp only [fragB, Bool.and_eq_true] at h
    have he := canon_items false e h.2
    rw [unSpread_of_frag h.2] at he
    simp only [unSpread, canon, CST.items, wrap_items, canon_tree_frag e h.2, he,
      PrattRT.items_un, PrattRT.child]
  | _, .fact e, h => by
    simp only [fragB] at h
    have he := canon_items false e h
    rw [unSpread_of_frag h] at he
    simp only [unSpread, canon, CST.items, wrap_items, canon_tree_frag e h, he,
      PrattRT.items_fact, PrattRT.child]
  | _, .call f args, h => by
    simp only [fragB, Bool.and_eq_true] at h
    have hf := canon_items false f h.1
    rw [unSpread_of_frag h.1] at hf
    simp only [unSpread, canon, mkCall_items, wrap_items, canon_tree_frag f h.1, hf,
      canonArgs_tree args h.2, PrattRT.items_call, PrattRT.child]
  | _, .access e i, h => by
    simp only [fragB, Bool.and_eq_true] at h
    have he := canon_items false e h.1
    rw [unSpread_of_frag h.1] at he
    simp only [unSpread, canon, CST.items, wrap_items, canon_tree_frag e h.1,
      canon_tree_frag i h.2, he, PrattRT.items_access, PrattRT.child]
  | _, .dot e n, h => by
    simp only [fragB, Bool.and_eq_true] at h
    have he := canon_items false e h.1
    rw [unSpread_of_frag h.1] at he
    simp only [unSpread, canon, CST.items, wrap_items, canon_tree_frag e h.1, he,
      PrattRT.items_dot, PrattRT.child]
  | sp, .spread e, h => by
    simp only [fragB, Bool.and_eq_true] at h
    have he := canon_items false e h.2
    rw [unSpread_of_frag h.2] at he
    simp only [canon, he, unSpread]
  | _, .list items, h => by
    simp only [fragB] at h
    simp only [canon, mkList_items, canonItems_tree items h]; rfl
  | _, .lambda args body, h => by
    simp only [fragB, Bool.and_eq_true] at h
    simp only [canon, CST.items, headOf_args, wrap_tree, canon_tree_frag body h.2]; rfl
  | _, .cond c t e, h => by
    simp only [fragB, Bool.and_eq_true] at h
    simp only [canon, CST.items, canon_tree_frag c h.1.1, canon_tree_frag t h.1.2,
      canon_tree_frag e h.2]; rfl
  | _, .ident _, _ | _, .builtin _, _ | _, .bool _, _ | _, .null, _ | _, .num _, _ => rfl
  | _, .str s, _ => by simp only [canon, canonStr_items]; rfl
  | _, .record es, h => by
    simp only [fragB] at h
    simp only [canon, mkRecord_items, canonEntries_tree es h]; rfl
  | _, .doBlock ss (.mk lead e tr), h => by
    simp only [fragB, fragRet, Bool.and_eq_true] at h
    obtain ⟨hss, hp, he⟩ := h
    obtain ⟨rfl, rfl⟩ := entPlain_eq hp
    simp only [canon, CST.items, canonStmts_tree ss hss, canon_tree_frag e he]; rfl
  | _, .assign n v, h => by
    simp only [fragB, Bool.and_eq_true] at h
    simp only [unSpread, canon, CST.items, canon_tree_frag v h.2]; rfl
  | _, .inref _, h | _, .output _, h => by
    simp [fragB] at h

theorem canon_items_frag (t : Expr) (h : Frag t) : (canon t).items = PrattRT.items t := by
  rw [canon_items false t h, unSpread_of_frag h]

/-! #### statements of a do-block as the printer writes them -/

theorem mkCall_headOk (f : CST) (ps : List (Bool × CST)) : (mkCall f ps).headOk = f.headOk := by
  cases ps <;> rfl

theorem mkCall_startsMinus (f : CST) (ps : List (Bool × CST)) :
    (mkCall f ps).startsMinus = f.startsMinus := by
  cases ps <;> rfl

theorem mkList_headOk (ps : List (Bool × CST)) : (mkList ps).headOk := by
  cases ps <;> trivial

theorem mkRecord_headOk (es : List Ent) : (mkRecord es).headOk := by
  cases es <;> trivial

theorem canonStr_headOk {s : String} (h : bothQuotes s = false) : (canonStr s).headOk := by
  unfold canonStr; rw [h]; trivial

def isNumE : Expr → Bool
  | .num _ => true
  | _ => false

theorem naturalLits_notNum :
    (naturalLits.all fun x => match termAtom x.2 with | some (e, _) => !isNumE e | none => true) = true := by
  decide +kernel

theorem wordOpText_atom {e : Expr} (h : atomOk e = true) (hk : ∀ n, e ≠ .ident n)
    (hb : ∀ n, e ≠ .builtin n) : CST.wordOpText (atomText e) = false := by
  cases e with
  | ident n => exact absurd rfl (hk n)
  | builtin n => exact absurd rfl (hb n)
  | bool b => cases b <;> decide +kernel
  | null => decide +kernel
  | num x =>
    cases hw : CST.wordOpText (atomText (.num x)) with
    | false => rfl
    | true =>
      exfalso
      simp only [CST.wordOpText, List.any_eq_true, beq_iff_eq] at hw
      obtain ⟨l, hl, hlt⟩ := hw
      have h1 := (atom_word h).2.2.2 [] rfl
      rw [List.append_nil, ← hlt] at h1
      have := List.all_eq_true.mp naturalLits_notNum l hl
      rw [h1] at this
      simp [isNumE] at this
  | _ => simp [atomOk] at h

theorem headOk_wrap {b : Bool} {c : CST} (hm : (wrap b c).startsMinus = false)
    (ih : b = false → c.startsMinus = false → c.headOk) : (wrap b c).headOk := by
  cases b with
  | true => trivial
  | false => exact ih rfl hm

/-- a statement of the fragment that does not start with a prefix minus may stand behind a
    line break -/
theorem headOk_canon : ∀ (t : Expr), fragB false t = true → stmtHeadOk t = true →
    (canon t).startsMinus = false → (canon t).headOk
  | .bin op l r, h, hs, hm => by
    simp only [fragB, Bool.and_eq_true] at h
    simp only [stmtHeadOk, Bool.or_eq_true] at hs
    simp only [canon, CST.headOk, CST.startsMinus] at hm ⊢
    exact headOk_wrap hm fun hp hm' => headOk_canon l h.1 (by simpa [hp] using hs) hm'
  | .un op e, h, _, hm => by
    simp only [fragB, Bool.and_eq_true, bne_iff_ne, ne_eq] at h
    simp only [canon, CST.startsMinus] at hm
    simp only [canon, CST.headOk]
    cases op with
    | negate => simp at hm
    | not => rfl
    | invert => exact absurd rfl h.1
  | .fact e, h, hs, hm => by
    simp only [fragB] at h
    simp only [stmtHeadOk, Bool.or_eq_true] at hs
    simp only [canon, CST.headOk, CST.startsMinus] at hm ⊢
    exact headOk_wrap hm fun hp hm' => headOk_canon e h (by simpa [hp] using hs) hm'
  | .call f args, h, hs, hm => by
    simp only [fragB, Bool.and_eq_true] at h
    simp only [stmtHeadOk, Bool.or_eq_true] at hs
    simp only [canon, mkCall_headOk, mkCall_startsMinus] at hm ⊢
    exact headOk_wrap hm fun hp hm' => headOk_canon f h.1 (by simpa [hp] using hs) hm'
  | .access e _, h, hs, hm | .dot e _, h, hs, hm => by
    simp only [fragB, Bool.and_eq_true] at h
    simp only [stmtHeadOk, Bool.or_eq_true] at hs
    simp only [canon, CST.headOk, CST.startsMinus] at hm ⊢
    exact headOk_wrap hm fun hp hm' => headOk_canon e h.1 (by simpa [hp] using hs) hm'
  | .list items, _, _, _ => by simp only [canon]; exact mkList_headOk _
  | .record es, _, _, _ => by simp only [canon]; exact mkRecord_headOk _
  | .lambda args body, _, hs, _ => by
    simp only [stmtHeadOk] at hs
    simp only [canon, CST.headOk, headOf_args, hs]
  | .cond c t e, _, _, _ => trivial
  | .doBlock ss (.mk _ e _), _, _, _ => trivial
  | .str s, h, _, _ => by
    simp only [fragB, Bool.not_eq_true'] at h
    simp only [canon]; exact canonStr_headOk h
  | .ident n, _, hs, _ => by
    simp only [stmtHeadOk, Bool.not_eq_true'] at hs
    have : atomText (.ident n) = n.toList := by simp [atomText, exprToSource, exprSrc, lookupAL]
    simp only [canon, CST.headOk, this, hs]
  | .builtin n, _, hs, _ => by
    simp only [stmtHeadOk, Bool.not_eq_true'] at hs
    have : atomText (.builtin n) = n.toList := by simp [atomText, exprToSource, exprSrc]
    simp only [canon, CST.headOk, this, hs]
  | .bool _, h, _, _ | .null, h, _, _ | .num _, h, _, _ => by
    simp only [fragB] at h
    exact wordOpText_atom h nofun nofun
  | .assign n v, _, hs, _ => by
    simp only [stmtHeadOk, Bool.not_eq_true'] at hs
    simp only [canon, CST.headOk, hs]
  | .spread _, h, _, _ | .inref _, h, _, _ | .output _, h, _, _ => by
    simp [fragB] at h

theorem headOk_protC_canon (t : Expr) (h : fragB false t = true) (hs : stmtHeadOk t = true) :
    (protC (canon t)).headOk := by
  unfold protC
  split
  · trivial
  · rename_i hm
    exact headOk_canon t h hs (by simpa using hm)

theorem wrap_needsParens {e : Expr} (h : Frag e) {pos : Pos}
    (hp : (wrap (needsParens e pos) (canon e)).isParen = false) :
    needsParens (wrap (needsParens e pos) (canon e)).tree pos = false := by
  rw [wrap_tree, canon_tree_frag e h]
  exact wrap_isParen hp

mutual
theorem canon_shaped : ∀ (sp : Bool) (t : Expr), fragB sp t = true → (canon t).Shaped
  | _, .bin op l r, h => by
    simp only [fragB, Bool.and_eq_true] at h
    exact ⟨wrap_shaped (canon_shaped false l h.1), wrap_shaped (canon_shaped false r h.2),
      wrap_needsParens h.1, wrap_needsParens h.2⟩
  | _, .un op e, h => by
    simp only [fragB, Bool.and_eq_true, bne_iff_ne, ne_eq] at h
    exact ⟨h.1, wrap_shaped (canon_shaped false e h.2), wrap_needsParens h.2⟩
  | _, .fact e, h => by
    simp only [fragB] at h
    exact ⟨wrap_shaped (canon_shaped false e h), wrap_needsParens h⟩
  | _, .call f args, h => by
    simp only [fragB, Bool.and_eq_true] at h
    exact mkCall_shaped (wrap_shaped (canon_shaped false f h.1)) (wrap_needsParens h.1)
      (canonArgs_shaped args h.2)
  | _, .access e i, h => by
    simp only [fragB, Bool.and_eq_true] at h
    exact ⟨wrap_shaped (canon_shaped false e h.1), wrap_needsParens h.1, canon_shaped false i h.2⟩
  | _, .dot e n, h => by
    simp only [fragB, Bool.and_eq_true] at h
    exact ⟨wrap_shaped (canon_shaped false e h.1), wrap_needsParens h.1, h.2⟩
  | sp, .spread e, h => by
    simp only [fragB, Bool.and_eq_true] at h
    exact canon_shaped false e h.2
  | _, .list items, h => by
    simp only [fragB] at h
    exact mkList_shaped (canonItems_shaped items h)
  | _, .lambda args body, h => by
    simp only [fragB, Bool.and_eq_true] at h
    refine ⟨headOf_namesOk h.1, wrap_shaped (canon_shaped false body h.2), ?_, ?_⟩
    · intro hp
      rw [wrap_tree, canon_tree_frag body h.2]
      exact wrap_isParen hp
    · rw [wrap_items]
      split
      · intro op hm; simp at hm
      · rename_i hnp
        rw [canon_items_frag body h.2]
        exact (noChain_body body (by simpa using hnp)).lamSafe
  | _, .cond c t e, h => by
    simp only [fragB, Bool.and_eq_true] at h
    exact ⟨canon_shaped false c h.1.1, canon_shaped false t h.1.2, canon_shaped false e h.2⟩
  | _, .ident _, h | _, .builtin _, h | _, .bool _, h | _, .null, h | _, .num _, h => by
    simp only [fragB] at h; exact h
  | _, .str s, h => by
    simp only [fragB, Bool.not_eq_true'] at h
    exact canonStr_shaped s h
  | _, .record es, h => by
    simp only [fragB] at h
    exact mkRecord_shaped (canonEntries_shaped es h)
  | _, .doBlock ss (.mk lead e tr), h => by
    simp only [fragB, fragRet, Bool.and_eq_true] at h
    exact ⟨canonStmts_shaped ss h.1, canon_shaped false e h.2.2⟩
  | _, .assign n v, h => by
    simp only [fragB, Bool.and_eq_true] at h
    exact ⟨h.1, canon_shaped false v h.2⟩
  | _, .inref _, h | _, .output _, h => by
    simp [fragB] at h
theorem canonArgs_shaped : ∀ (args : List Expr), fragArgs args = true →
    ∀ q ∈ canonArgs args, q.2.Shaped
  | [], _ => nofun
  | a :: rest, h => by
    simp only [fragArgs, Bool.and_eq_true] at h
    exact List.forall_mem_cons.mpr ⟨canon_shaped true a h.1, canonArgs_shaped rest h.2⟩
theorem canonItems_shaped : ∀ (items : List Item), fragItems items = true →
    ∀ q ∈ canonItems items, q.2.Shaped
  | [], _ => nofun
  | (.mk lead e tr) :: rest, h => by
    simp only [fragItems, Bool.and_eq_true] at h
    exact List.forall_mem_cons.mpr ⟨canon_shaped true e h.1.2, canonItems_shaped rest h.2⟩
theorem canonStmts_shaped : ∀ (ss : List Item), fragStmts ss = true →
    CST.StmtsShaped (canonStmts ss)
  | [], _ => trivial
  | (.mk lead e tr) :: rest, h => by
    simp only [fragStmts, Bool.and_eq_true] at h
    obtain ⟨⟨_, he, _⟩, hr⟩ := h
    refine ⟨protC_shaped (canon_shaped false e he), fun _ => ?_, canonStmts_shaped rest hr⟩
    cases rest with
    | nil => trivial
    | cons i rest' =>
      obtain ⟨lead', e', tr'⟩ := i
      simp only [fragStmts, Bool.and_eq_true] at hr
      exact headOk_protC_canon e' hr.1.2.1 hr.1.2.2
theorem canonEntries_shaped : ∀ (es : List Entry), fragEntries es = true →
    ∀ q ∈ canonEntries es, CST.EntShaped q
  | [], _ => nofun
  | e :: rest, h => by
    simp only [fragEntries, Bool.and_eq_true] at h
    exact List.forall_mem_cons.mpr ⟨canonEnt_shaped e h.1, canonEntries_shaped rest h.2⟩
theorem canonEnt_shaped : ∀ (en : Entry), fragEntry en = true → CST.EntShaped (canonEnt en)
  | .mk lead (.static k) v tr, h => by
    simp only [fragEntry, Bool.and_eq_true] at h
    obtain ⟨⟨hp, hk⟩, hv⟩ := h
    simp only [canonEnt, hp, hk, Bool.and_self, if_true]
    exact keyEnt_shaped (canon_shaped false v hv)
  | .mk lead (.dyn ke) v tr, h => by
    simp only [fragEntry, Bool.and_eq_true] at h
    obtain ⟨⟨hp, hk⟩, hv⟩ := h
    simp only [canonEnt, hp, if_true]
    exact ⟨canon_shaped false ke hk, canon_shaped false v hv⟩
  | .mk lead (.short n) v tr, h => by
    simp only [fragEntry, Bool.and_eq_true] at h
    obtain ⟨⟨hp, hn⟩, hname⟩ := h
    simp only [canonEnt, hp, hn, Bool.and_self, if_true]
    exact hname
  | .mk lead (.spread (.spread e)) v tr, h => by
    simp only [fragEntry, Bool.and_eq_true] at h
    obtain ⟨⟨hp, hn⟩, he⟩ := h
    simp only [canonEnt, hp, hn, Bool.and_self, if_true]
    exact canon_shaped false e he
  | .mk _ (.spread (.num _)) _ _, h | .mk _ (.spread (.str _)) _ _, h
  | .mk _ (.spread (.bool _)) _ _, h | .mk _ (.spread .null) _ _, h
  | .mk _ (.spread (.ident _)) _ _, h | .mk _ (.spread (.inref _)) _ _, h
  | .mk _ (.spread (.builtin _)) _ _, h | .mk _ (.spread (.list _)) _ _, h
  | .mk _ (.spread (.record _)) _ _, h | .mk _ (.spread (.lambda _ _)) _ _, h
  | .mk _ (.spread (.cond _ _ _)) _ _, h | .mk _ (.spread (.doBlock _ _)) _ _, h
  | .mk _ (.spread (.assign _ _)) _ _, h | .mk _ (.spread (.output _)) _ _, h
  | .mk _ (.spread (.call _ _)) _ _, h | .mk _ (.spread (.access _ _)) _ _, h
  | .mk _ (.spread (.dot _ _)) _ _, h | .mk _ (.spread (.bin _ _ _)) _ _, h
  | .mk _ (.spread (.un _ _)) _ _, h | .mk _ (.spread (.fact _)) _ _, h => by
    simp [fragEntry] at h
end

theorem layOk_sp (op : BinOp) : CST.layOk op [.sp] [.sp] = true := by
  cases h : isWordOp op <;> simp [CST.layOk, h, wsOnly, LayAtom.isWs]

mutual
theorem canon_layout : ∀ t : Expr, (canon t).LayoutOk
  | .bin op l r => ⟨wrap_layout (canon_layout l), wrap_layout (canon_layout r), layOk_sp op⟩
  | .un _ e => wrap_layout (canon_layout e)
  | .fact e => wrap_layout (canon_layout e)
  | .call f args => mkCall_layout (wrap_layout (canon_layout f)) (canonArgs_layout args)
  | .access e i => ⟨wrap_layout (canon_layout e), canon_layout i, rfl, rfl⟩
  | .dot e _ => wrap_layout (canon_layout e)
  | .spread e => canon_layout e
  | .list items => mkList_layout (canonItems_layout items)
  | .lambda args body => ⟨headOf_ok args, rfl, wrap_layout (canon_layout body)⟩
  | .cond c t e =>
    ⟨⟨by simp, rfl, by simp, by simp, by simp, by simp⟩, canon_layout c, canon_layout t,
      canon_layout e⟩
  | .ident _ | .builtin _ | .bool _ | .null | .num _ => trivial
  | .str s => canonStr_layout s
  | .record es => mkRecord_layout (canonEntries_layout es)
  | .doBlock ss (.mk _ e _) =>
    ⟨⟨by simp, by simp, rfl⟩, canonStmts_layout ss, canon_layout e⟩
  | .assign _ v => ⟨rfl, rfl, canon_layout v⟩
  | .inref _ | .output _ => trivial
theorem canonArgs_layout : ∀ (args : List Expr), ∀ q ∈ canonArgs args, q.2.LayoutOk
  | [] => nofun
  | a :: rest => List.forall_mem_cons.mpr ⟨canon_layout a, canonArgs_layout rest⟩
theorem canonItems_layout : ∀ (items : List Item), ∀ q ∈ canonItems items, q.2.LayoutOk
  | [] => nofun
  | (.mk _ e _) :: rest => List.forall_mem_cons.mpr ⟨canon_layout e, canonItems_layout rest⟩
theorem canonStmts_layout : ∀ (ss : List Item), CST.StmtsLayoutOk (canonStmts ss)
  | [] => trivial
  | (.mk _ e _) :: rest => ⟨protC_layout (canon_layout e), rfl, canonStmts_layout rest⟩
theorem canonEntries_layout : ∀ (es : List Entry), ∀ q ∈ canonEntries es, CST.EntLayoutOk q
  | [] => nofun
  | e :: rest => List.forall_mem_cons.mpr ⟨canonEnt_layout e, canonEntries_layout rest⟩
theorem canonEnt_layout : ∀ (en : Entry), CST.EntLayoutOk (canonEnt en)
  | .mk lead (.static k) v tr => by
    simp only [canonEnt]
    split
    · rename_i hc
      simp only [Bool.and_eq_true] at hc
      exact keyEnt_layout hc.2 (canon_layout v)
    · trivial
  | .mk lead (.dyn ke) v tr => by
    simp only [canonEnt]
    split
    · exact ⟨⟨rfl, rfl, rfl⟩, canon_layout ke, canon_layout v⟩
    · trivial
  | .mk lead (.short n) v tr => by
    simp only [canonEnt]
    split <;> trivial
  | .mk lead (.spread (.spread e)) v tr => by
    simp only [canonEnt]
    split
    · exact canon_layout e
    · trivial
  | .mk _ (.spread (.num _)) _ _ | .mk _ (.spread (.str _)) _ _
  | .mk _ (.spread (.bool _)) _ _ | .mk _ (.spread .null) _ _
  | .mk _ (.spread (.ident _)) _ _ | .mk _ (.spread (.inref _)) _ _
  | .mk _ (.spread (.builtin _)) _ _ | .mk _ (.spread (.list _)) _ _
  | .mk _ (.spread (.record _)) _ _ | .mk _ (.spread (.lambda _ _)) _ _
  | .mk _ (.spread (.cond _ _ _)) _ _ | .mk _ (.spread (.doBlock _ _)) _ _
  | .mk _ (.spread (.assign _ _)) _ _ | .mk _ (.spread (.output _)) _ _
  | .mk _ (.spread (.call _ _)) _ _ | .mk _ (.spread (.access _ _)) _ _
  | .mk _ (.spread (.dot _ _)) _ _ | .mk _ (.spread (.bin _ _ _)) _ _
  | .mk _ (.spread (.un _ _)) _ _ | .mk _ (.spread (.fact _)) _ _ => trivial
end

/-! #### the text of a protected statement -/

theorem lamHead_not_minus (hd : LamHead) (h : hd.namesOk = true) (T : List Char) :
    (hd.text ++ T).head? ≠ some '-' := by
  cases hd with
  | unit l => simp [LamHead.text]
  | parens l0 a more c => simp [LamHead.text]
  | bare a =>
    simp only [LamHead.namesOk, LamHead.args, List.all_cons, List.all_nil, Bool.and_true,
      Bool.and_eq_true] at h
    obtain ⟨x, tl, hx, hc⟩ := name_start (n := a.name) h.1
    have h8 : x ≠ '-' := ne_of_identChar hc (by decide)
    cases a <;> simp_all [LamHead.text, argText, LArg.name]

theorem startsMinus_text : ∀ (c : CST), c.Shaped → ∀ T,
    (c.startsMinus = true ↔ (c.text ++ T).head? = some '-')
  | .atom e, h, T => by
    obtain ⟨hne, hall, _, _⟩ := atom_word (e := e) h
    have hstr : ∀ s, e ≠ .str s := by
      intro s he; subst he
      have h' : atomOk (.str s) = true := h
      simp [atomOk] at h'
    cases hw : atomText e with
    | nil => exact absurd hw hne
    | cons x tl =>
      have hx : x ≠ '-' := ne_of_identChar (hall x (by rw [hw]; exact List.mem_cons_self)) (by decide)
      have e1 : CST.startsMinus (.atom e) = false := by
        cases e <;> simp [CST.startsMinus, hw, hx] <;> exact absurd rfl (hstr _)
      simp [CST.text, hw, e1, hx]
  | .str dq s, _, T => by cases dq <;> simp [CST.startsMinus, CST.text, quoteChar]
  | .un op e, h, T => by
    cases op with
    | negate => simp [CST.startsMinus, CST.text, unaryOpToSource]
    | not => simp [CST.startsMinus, CST.text, unaryOpToSource]
    | invert => exact absurd rfl h.1
  | .paren a e b, _, T => by simp [CST.startsMinus, CST.text]
  -- the text starts with that of the first operand
  | .bin _ e _ _ _, h, T | .fact e, h, T | .call0 e _, h, T | .call e _ _ _, h, T
  | .access e _ _ _, h, T | .dot e _, h, T => by
    simp only [CST.startsMinus, CST.text, List.append_assoc]
    exact startsMinus_text e h.1 _
  | .list0 _, _, T | .list .., _, T | .rec0 _, _, T | .record .., _, T | .cond .., _, T
  | .doB .., _, T => by simp [CST.startsMinus, CST.text]
  | .asg n w l v, h, T => by
    obtain ⟨x, tl, hx, hc⟩ := name_start (n := n) h.1
    have hx' : x ≠ '-' := ne_of_identChar hc (by decide)
    simp [CST.startsMinus, CST.text, hx, hx']
  | .lambda hd w l b, h, T => by
    have := lamHead_not_minus hd h.1 (layChars w ++ '=' :: '>' :: (layChars l ++ b.text) ++ T)
    simp only [CST.startsMinus, CST.text, List.append_assoc, Bool.false_eq_true, false_iff]
    simpa only [List.append_assoc] using this

theorem isPrefixOf_split : ∀ (p cs : List Char), p.isPrefixOf cs = true → ∃ r, cs = p ++ r
  | [], cs, _ => ⟨cs, rfl⟩
  | d :: p', [], h => by simp [List.isPrefixOf] at h
  | d :: p', c :: cs', h => by
    simp only [List.isPrefixOf, Bool.and_eq_true, beq_iff_eq] at h
    obtain ⟨r, hr⟩ := isPrefixOf_split p' cs' h.2
    exact ⟨r, by rw [h.1, hr]; rfl⟩

theorem spell_words : spell .via = "via".toList ∧ spell .into = "into".toList ∧
    spell .where_ = "where".toList ∧ isWordOp .via = true ∧ isWordOp .into = true ∧
    isWordOp .where_ = true := by decide +kernel

theorem infixUsage_wordop (op : BinOp) (hw : isWordOp op = true) (b : Char) (hb : isWs b = true)
    (r : List Char) : infixUsage false (' ' :: (spell op ++ b :: r)) ≠ none := by
  have hs := wordOk_of op hw
  simp only [wordOk, Bool.and_eq_true] at hs
  obtain ⟨hs1, hs2⟩ := hs
  split at hs1
  · rename_i bad hbad
    have hnat : firstRule naturalLits (spell op ++ b :: r) = some (PrattRT.ruleOf op, b :: r) := by
      apply firstRule_hit hbad
      intro hm
      have := List.all_eq_true.mp hs1 b hm
      simp [hb] at this
    split at hs2
    · cases hs2
    · rename_i h t hsp
      have hLA : layoutAtom (spell op ++ b :: r) = none := by
        rw [hsp]; exact layoutAtom_none hs2
      have hlp : layoutPlus (' ' :: (spell op ++ b :: r)) = some (spell op ++ b :: r) := by
        have := layoutPlus_run [.sp] (by simp) _ hLA
        simpa [layChars, LayAtom.chars] using this
      have hwp : (wsPlus (b :: r)).isSome = true := by simp [wsPlus, plus, hb]
      unfold infixUsage
      simp only [hlp, Bool.false_eq_true, if_false, hnat]
      cases hq : wsPlus (b :: r) with
      | none => rw [hq] at hwp; cases hwp
      | some r2 => simp
  · cases hs1

theorem wos_infix {cs : List Char} (h : wordOperatorStart cs = true) :
    infixUsage false (' ' :: cs) ≠ none := by
  simp only [wordOperatorStart, List.any_cons, List.any_nil, Bool.or_false, Bool.or_eq_true] at h
  obtain ⟨s1, s2, s3, w1, w2, w3⟩ := spell_words
  rcases h with (h | h) | (h | h) | (h | h)
  all_goals
    obtain ⟨r, hr⟩ := isPrefixOf_split _ _ h
    rw [hr]
  · have := infixUsage_wordop .via w1 ' ' (by decide) r
    simpa [s1] using this
  · have := infixUsage_wordop .via w1 '\t' (by decide) r
    simpa [s1] using this
  · have := infixUsage_wordop .into w2 ' ' (by decide) r
    simpa [s2] using this
  · have := infixUsage_wordop .into w2 '\t' (by decide) r
    simpa [s2] using this
  · have := infixUsage_wordop .where_ w3 ' ' (by decide) r
    simpa [s3] using this
  · have := infixUsage_wordop .where_ w3 '\t' (by decide) r
    simpa [s3] using this

theorem protC_text (c : CST) (hs : c.Shaped) (hl : c.LayoutOk)
    (hh : c.startsMinus = false → c.headOk) :
    (protC c).text = (protectStatementStart (String.ofList c.text)).toList := by
  have hsm := startsMinus_text c hs []
  simp only [List.append_nil] at hsm
  unfold protC
  cases hm : c.startsMinus with
  | true =>
    have := hsm.mp hm
    rw [PrintL.protectStatementStart_minus _ (by simpa using this)]
    simp [CST.text, layChars]
  | false =>
    have hhead : c.text.head? ≠ some '-' := fun e => by
      have := hsm.mpr e; rw [hm] at this; cases this
    have hwos : wordOperatorStart c.text = false := by
      cases hw : wordOperatorStart c.text with
      | false => rfl
      | true =>
        exfalso
        have h1 := infixUsage_headOk c (hh hm) hs hl [.sp] [] false rfl
        simp only [layChars, LayAtom.chars, List.append_nil, List.cons_append, List.nil_append] at h1
        exact wos_infix hw h1
    rw [PrintL.protectStatementStart_id _ (by simpa using hhead) (by simpa using hwos)]
    simp

theorem canon_text_of_unSpread {t : Expr} (ih : (canon t).text = (exprSrc [] (unSpread t)).toList) (h : Frag t) :
    (canon t).text = (exprSrc [] t).toList := by
  rw [ih, unSpread_of_frag h]

theorem argS_src (a : Expr) :
    spreadChars (isSpread a) ++ (exprSrc [] (unSpread a)).toList = (exprSrc [] a).toList := by
  cases a <;> simp [isSpread, unSpread, spreadChars, spreadLit_eq, exprSrc]

theorem commaSp : ", ".toList = [',', ' '] := rfl

mutual
theorem canon_text : ∀ (sp : Bool) (t : Expr), fragB sp t = true →
    (canon t).text = (exprSrc [] (unSpread t)).toList
  | _, .bin op l r, h => by
    simp only [fragB, Bool.and_eq_true] at h
    have hl := canon_text_of_unSpread (canon_text false l h.1) h.1
    have hr := canon_text_of_unSpread (canon_text false r h.2) h.2
    simp only [unSpread, canon, CST.text, wrap_text, hl, hr, exprSrc, String.toList_append,
      PrintL.parenIf_toList, layChars, LayAtom.chars, spell, List.append_assoc, List.cons_append,
      List.nil_append]
    rfl
  | _, .un op e, h => by
    simp only [fragB, Bool.and_eq_true] at h
    have he := canon_text_of_unSpread (canon_text false e h.2) h.2
    simp only [unSpread, canon, CST.text, wrap_text, he, exprSrc, String.toList_append,
      PrintL.parenIf_toList]
  | _, .fact e, h => by
    simp only [fragB] at h
    have he := canon_text_of_unSpread (canon_text false e h) h
    simp only [unSpread, canon, CST.text, wrap_text, he, exprSrc, String.toList_append,
      PrintL.parenIf_toList]
    rfl
  | _, .call f args, h => by
    simp only [fragB, Bool.and_eq_true] at h
    have hf := canon_text_of_unSpread (canon_text false f h.1) h.1
    have ha := canonArgs_text args h.2
    simp only [unSpread, canon, mkCall_text, wrap_text, hf, ha, exprSrc, String.toList_append,
      PrintL.parenIf_toList, String.toList_intercalate, commaSp, List.append_assoc]
    rfl
  | _, .access e i, h => by
    simp only [fragB, Bool.and_eq_true] at h
    have he := canon_text_of_unSpread (canon_text false e h.1) h.1
    have hi := canon_text_of_unSpread (canon_text false i h.2) h.2
    simp only [unSpread, canon, CST.text, wrap_text, he, hi, exprSrc, String.toList_append,
      PrintL.parenIf_toList, layChars, List.append_assoc, List.nil_append]
    rfl
  | _, .dot e n, h => by
    simp only [fragB, Bool.and_eq_true] at h
    have he := canon_text_of_unSpread (canon_text false e h.1) h.1
    simp only [unSpread, canon, CST.text, wrap_text, he, exprSrc, String.toList_append,
      PrintL.parenIf_toList, List.append_assoc]
    rfl
  | sp, .spread e, h => by
    simp only [fragB, Bool.and_eq_true] at h
    have he := canon_text_of_unSpread (canon_text false e h.2) h.2
    simp only [canon, he, unSpread]
  | _, .list items, h => by
    simp only [fragB] at h
    have ha := canonItems_text items h
    simp only [unSpread, canon, mkList_text, ha, exprSrc, String.toList_append,
      String.toList_intercalate, commaSp, List.append_assoc]
    rfl
  | _, .lambda args body, h => by
    simp only [fragB, Bool.and_eq_true] at h
    have hb := canon_text_of_unSpread (canon_text false body h.2) h.2
    simp only [unSpread, canon, CST.text, headOf_text, wrap_text, hb, exprSrc,
      PrintL.foldl_scopeRemove_nil, String.toList_append, String.toList_intercalate, commaSp,
      List.map_map, Function.comp_def, argText_src, PrintL.parenIf_toList, layChars, LayAtom.chars,
      List.append_assoc, List.cons_append, List.nil_append]
    rfl
  | _, .cond c t e, h => by
    simp only [fragB, Bool.and_eq_true] at h
    have hc := canon_text_of_unSpread (canon_text false c h.1.1) h.1.1
    have ht := canon_text_of_unSpread (canon_text false t h.1.2) h.1.2
    have he := canon_text_of_unSpread (canon_text false e h.2) h.2
    simp only [unSpread, canon, CST.text, hc, ht, he, exprSrc, String.toList_append, layChars,
      LayAtom.chars, thenLit, elseLit, List.append_assoc, List.cons_append, List.nil_append]
    rfl
  | _, .ident _, _ | _, .builtin _, _ | _, .bool _, _ | _, .null, _ | _, .num _, _ => rfl
  | _, .str s, h => by
    simp only [fragB, Bool.not_eq_true'] at h
    simp only [canon, canonStr_text s h, unSpread, exprSrc]
  | _, .record es, h => by
    simp only [fragB] at h
    have ha := canonEntries_text es h
    simp only [unSpread, canon, mkRecord_text, ha, exprSrc, String.toList_append,
      String.toList_intercalate, commaSp, List.append_assoc]
    rfl
  | _, .doBlock ss (.mk lead e tr), h => by
    simp only [fragB, fragRet, Bool.and_eq_true] at h
    obtain ⟨hss, hp, he⟩ := h
    obtain ⟨rfl, rfl⟩ := entPlain_eq hp
    have het := canon_text_of_unSpread (canon_text false e he) he
    have hst := canonStmts_text ss hss
    simp only [unSpread, canon, CST.text, exprSrc, retSrc, PrintL.scopeAfterStmts_nil, commentLines,
      List.map_nil, String.join, List.foldl_nil, String.toList_append, String.empty_append, het]
    have e1 : layChars stmtLay ++ (CST.stmtsText (canonStmts ss) ++ (retLit ++ (layChars [LayAtom.sp] ++
        ((exprSrc [] e).toList ++ (layChars [LayAtom.lf] ++ ['}']))))) =
        (layChars stmtLay ++ CST.stmtsText (canonStmts ss)) ++ (retLit ++ (layChars [LayAtom.sp] ++
        ((exprSrc [] e).toList ++ (layChars [LayAtom.lf] ++ ['}'])))) := by
      simp only [List.append_assoc]
    rw [e1, hst]
    simp [layChars, LayAtom.chars, stmtLay, retLit]
  | _, .assign n v, h => by
    simp only [fragB, Bool.and_eq_true] at h
    have hv := canon_text_of_unSpread (canon_text false v h.2) h.2
    simp only [unSpread, canon, CST.text, hv, exprSrc, String.toList_append, layChars,
      LayAtom.chars, List.append_assoc, List.cons_append, List.nil_append]
    rfl
  | _, .inref _, h | _, .output _, h => by
    simp [fragB] at h
theorem canonArgs_text : ∀ (args : List Expr), fragArgs args = true →
    (canonArgs args).map argS = (exprsSrc [] args).map String.toList
  | [], _ => rfl
  | a :: rest, h => by
    simp only [fragArgs, Bool.and_eq_true] at h
    have ha := canon_text true a h.1
    have := argS_src a
    simp only [canonArgs, List.map_cons, argS, ha, this, canonArgs_text rest h.2, exprsSrc]
theorem canonItems_text : ∀ (items : List Item), fragItems items = true →
    (canonItems items).map argS = (itemsSrc [] items).map String.toList
  | [], _ => rfl
  | (.mk lead e tr) :: rest, h => by
    simp only [fragItems, Bool.and_eq_true] at h
    have ha := canon_text true e h.1.2
    have := argS_src e
    simp only [canonItems, List.map_cons, argS, ha, this, canonItems_text rest h.2, itemsSrc,
      itemSrc]
theorem canonStmts_text : ∀ (ss : List Item), fragStmts ss = true →
    layChars stmtLay ++ CST.stmtsText (canonStmts ss) = (doStmtsSrc [] ss).toList ++ layChars stmtLay
  | [], _ => by simp [canonStmts, CST.stmtsText, doStmtsSrc]
  | (.mk lead e tr) :: rest, h => by
    simp only [fragStmts, Bool.and_eq_true] at h
    obtain ⟨⟨hp, he, hho⟩, hr⟩ := h
    obtain ⟨rfl, rfl⟩ := entPlain_eq hp
    have het := canon_text_of_unSpread (canon_text false e he) he
    have hP := protC_text (canon e) (canon_shaped false e he) (canon_layout e)
      (fun hm => headOk_canon e he hho hm)
    rw [het, String.ofList_toList] at hP
    have ih := canonStmts_text rest hr
    simp only [canonStmts, CST.stmtsText, Sep.text, doStmtsSrc, stmtSrc, PrintL.scopeAfterStmt_nil,
      commentLines, List.map_nil, String.join, List.foldl_nil, String.toList_append,
      String.empty_append, String.append_empty, hP, List.append_assoc]
    rw [ih]
    simp [layChars, LayAtom.chars, stmtLay]
theorem canonEntries_text : ∀ (es : List Entry), fragEntries es = true →
    (canonEntries es).map CST.entText = (entriesSrc [] es).map String.toList
  | [], _ => rfl
  | e :: rest, h => by
    simp only [fragEntries, Bool.and_eq_true] at h
    simp only [canonEntries, entriesSrc, List.map_cons, canonEnt_text e h.1,
      canonEntries_text rest h.2]
theorem canonEnt_text : ∀ (en : Entry), fragEntry en = true →
    CST.entText (canonEnt en) = (entrySrc [] en).toList
  | .mk lead (.static k) v tr, h => by
    simp only [fragEntry, Bool.and_eq_true] at h
    obtain ⟨⟨hp, hk⟩, hv⟩ := h
    have hvt := canon_text_of_unSpread (canon_text false v hv) hv
    have hcs : ": ".toList = [':', ' '] := rfl
    simp only [canonEnt, hp, hk, Bool.and_self, if_true, keyEnt_text hk, hvt, entrySrc, keyedSrc,
      String.toList_append, hcs, List.append_assoc, List.cons_append, List.nil_append]
  | .mk lead (.dyn ke) v tr, h => by
    simp only [fragEntry, Bool.and_eq_true] at h
    obtain ⟨⟨hp, hk⟩, hv⟩ := h
    have hvt := canon_text_of_unSpread (canon_text false v hv) hv
    have hkt := canon_text_of_unSpread (canon_text false ke hk) hk
    simp only [canonEnt, hp, if_true, CST.entText, hvt, hkt, entrySrc, keyedSrc,
      String.toList_append, layChars, LayAtom.chars, List.nil_append, List.append_assoc,
      List.cons_append]
    rfl
  | .mk lead (.short n) v tr, h => by
    simp only [fragEntry, Bool.and_eq_true] at h
    obtain ⟨⟨hp, hn⟩, _⟩ := h
    simp only [canonEnt, hp, hn, Bool.and_self, if_true, CST.entText, entrySrc, keyedSrc, lookupAL]
  | .mk lead (.spread (.spread e)) v tr, h => by
    simp only [fragEntry, Bool.and_eq_true] at h
    obtain ⟨⟨hp, hn⟩, he⟩ := h
    have het := canon_text_of_unSpread (canon_text false e he) he
    simp only [canonEnt, hp, hn, Bool.and_self, if_true, CST.entText, het, entrySrc, keyedSrc,
      exprSrc, String.toList_append, spreadLit_eq]
    rfl
  | .mk _ (.spread (.num _)) _ _, h | .mk _ (.spread (.str _)) _ _, h
  | .mk _ (.spread (.bool _)) _ _, h | .mk _ (.spread .null) _ _, h
  | .mk _ (.spread (.ident _)) _ _, h | .mk _ (.spread (.inref _)) _ _, h
  | .mk _ (.spread (.builtin _)) _ _, h | .mk _ (.spread (.list _)) _ _, h
  | .mk _ (.spread (.record _)) _ _, h | .mk _ (.spread (.lambda _ _)) _ _, h
  | .mk _ (.spread (.cond _ _ _)) _ _, h | .mk _ (.spread (.doBlock _ _)) _ _, h
  | .mk _ (.spread (.assign _ _)) _ _, h | .mk _ (.spread (.output _)) _ _, h
  | .mk _ (.spread (.call _ _)) _ _, h | .mk _ (.spread (.access _ _)) _ _, h
  | .mk _ (.spread (.dot _ _)) _ _, h | .mk _ (.spread (.bin _ _ _)) _ _, h
  | .mk _ (.spread (.un _ _)) _ _, h | .mk _ (.spread (.fact _)) _ _, h => by
    simp [fragEntry] at h
end

theorem canon_text_frag (t : Expr) (h : Frag t) : (canon t).text = (exprToSource t).toList :=
  canon_text_of_unSpread (canon_text false t h) h

theorem canon_wf (t : Expr) (h : Frag t) : (canon t).WF := ⟨canon_shaped false t h, canon_layout t⟩

theorem frag_noInvert : ∀ (sp : Bool) (t : Expr), fragB sp t = true → PrattRT.NoInvert t
  | _, .bin op l r, h => by
    simp only [fragB, Bool.and_eq_true] at h
    simp [PrattRT.NoInvert, PrattRT.noInvert, frag_noInvert false l h.1, frag_noInvert false r h.2]
  | _, .un op e, h => by
    simp only [fragB, Bool.and_eq_true] at h
    simp [PrattRT.NoInvert, PrattRT.noInvert, frag_noInvert false e h.2, h.1]
  | _, .fact e, h => by
    simp only [fragB] at h
    simp [PrattRT.NoInvert, PrattRT.noInvert, frag_noInvert false e h]
  | _, .call f _, h => by
    simp only [fragB, Bool.and_eq_true] at h
    simp [PrattRT.NoInvert, PrattRT.noInvert, frag_noInvert false f h.1]
  | _, .access e _, h => by
    simp only [fragB, Bool.and_eq_true] at h
    simp [PrattRT.NoInvert, PrattRT.noInvert, frag_noInvert false e h.1]
  | _, .dot e _, h => by
    simp only [fragB, Bool.and_eq_true] at h
    simp [PrattRT.NoInvert, PrattRT.noInvert, frag_noInvert false e h.1]
  | _, .spread _, _ | _, .list _, _ | _, .lambda _ _, _ | _, .cond _ _ _, _ | _, .ident _, _
  | _, .builtin _, _ | _, .bool _, _ | _, .null, _ | _, .num _, _ | _, .str _, _ | _, .record _, _
  | _, .doBlock _ _, _ | _, .assign _ _, _ => rfl
  | _, .inref _, h | _, .output _, h => by
    simp [fragB] at h

/-! ### (16) re-layout -/

namespace CST

mutual
/-- every layout string reset to what the printer writes: one blank on each side of a binary
    operator, `, ` between arguments, no trailing comma, nothing inside brackets; the quote
    character of a string literal reset to the printer's choice -/
def normalize : CST → CST
  | .atom e => .atom e
  | .str _ s => canonStr s
  | .bin op l _ _ r => .bin op l.normalize [.sp] [.sp] r.normalize
  | .un op e => .un op e.normalize
  | .fact e => .fact e.normalize
  | .paren _ e _ => .paren [] e.normalize []
  | .call0 f _ => .call0 f.normalize []
  | .call f _ as _ => .call f.normalize [] (normArgs as) (.plain [])
  | .access e _ i _ => .access e.normalize [] i.normalize []
  | .dot e n => .dot e.normalize n
  | .list0 _ => .list0 []
  | .list _ as _ => .list [] (normArgs as) (.plain [])
  | .lambda hd _ _ b => .lambda (headOf hd.args) [.sp] [.sp] b.normalize
  | .cond _ c _ _ t _ _ e => .cond [.sp] c.normalize [.sp] [.sp] t.normalize [.sp] [.sp] e.normalize
  | .rec0 _ => .rec0 []
  | .record _ es _ => .record [] (normEnts es) (.plain [])
  | .doB _ _ ss _ e _ => .doB [.sp] stmtLay (normStmts ss) [.sp] e.normalize [.lf]
  | .asg n _ _ v => .asg n [.sp] [.sp] v.normalize
def normArgs : Args → Args
  | .last sp a => .last sp a.normalize
  | .cons sp a _ _ rest => .cons sp a.normalize [] [.sp] (normArgs rest)
/-- a static key is reset to the form the printer chooses: bare when it is an identifier, else a
    string literal in the printer's quotes -/
def normEnt : Ent → Ent
  | .pairId k _ _ v => keyEnt k v.normalize
  | .pairStr _ s _ _ v => keyEnt s v.normalize
  | .pairDyn _ e _ _ _ v => .pairDyn [] e.normalize [] [] [.sp] v.normalize
  | .short n => .short n
  | .spread e => .spread e.normalize
  | .raw en => .raw en
def normEnts : Ents → Ents
  | .last e => .last (normEnt e)
  | .cons e _ _ rest => .cons (normEnt e) [] [.sp] (normEnts rest)
def normStmts : Stmts → Stmts
  | .nil => .nil
  | .cons s _ rest => .cons s.normalize (.line stmtLay) (normStmts rest)
end

mutual
theorem normalize_tree : ∀ c : CST, c.normalize.tree = c.tree
  | .atom _ => rfl
  | .str _ s => by simp only [normalize, canonStr_tree, tree]
  | .bin _ l _ _ r => by simp only [normalize, tree, normalize_tree l, normalize_tree r]
  | .un _ e | .fact e | .paren _ e _ | .call0 e _ | .dot e _ => by
    simp only [normalize, tree, normalize_tree e]
  | .call f _ as _ => by simp only [normalize, tree, normalize_tree f, normArgs_trees as]
  | .access e _ i _ => by simp only [normalize, tree, normalize_tree e, normalize_tree i]
  | .list0 _ => rfl
  | .list _ as _ => by simp only [normalize, tree, normArgs_trees as]
  | .lambda hd _ _ b => by simp only [normalize, tree, headOf_args, normalize_tree b]
  | .cond _ c _ _ t _ _ e => by
    simp only [normalize, tree, normalize_tree c, normalize_tree t, normalize_tree e]
  | .rec0 _ => rfl
  | .record _ es _ => by simp only [normalize, tree, normEnts_trees es]
  | .doB _ _ ss _ e _ => by simp only [normalize, tree, normStmts_trees ss, normalize_tree e]
  | .asg _ _ _ v => by simp only [normalize, tree, normalize_tree v]
theorem normArgs_trees : ∀ as : Args, argsTrees (normArgs as) = argsTrees as
  | .last _ a => by simp only [normArgs, argsTrees, normalize_tree a]
  | .cons _ a _ _ rest => by simp only [normArgs, argsTrees, normalize_tree a, normArgs_trees rest]
theorem normEnt_tree : ∀ e : Ent, entTree (normEnt e) = entTree e
  | .pairId k _ _ v => by simp only [normEnt, keyEnt_tree, entTree, normalize_tree v]
  | .pairStr _ s _ _ v => by simp only [normEnt, keyEnt_tree, entTree, normalize_tree v]
  | .pairDyn _ e _ _ _ v => by simp only [normEnt, entTree, normalize_tree e, normalize_tree v]
  | .short _ => rfl
  | .spread e => by simp only [normEnt, entTree, normalize_tree e]
  | .raw _ => rfl
theorem normEnts_trees : ∀ es : Ents, entsTrees (normEnts es) = entsTrees es
  | .last e => by simp only [normEnts, entsTrees, normEnt_tree e]
  | .cons e _ _ rest => by simp only [normEnts, entsTrees, normEnt_tree e, normEnts_trees rest]
theorem normStmts_trees : ∀ ss : Stmts, stmtsTrees (normStmts ss) = stmtsTrees ss
  | .nil => rfl
  | .cons s _ rest => by simp only [normStmts, stmtsTrees, normalize_tree s, normStmts_trees rest]
end

theorem normalize_items : ∀ c : CST, c.normalize.items = c.items
  | .atom _ => rfl
  | .str _ s => by simp only [normalize, canonStr_items, items]
  | .bin _ l _ _ r => by simp only [normalize, items, normalize_items l, normalize_items r]
  | .un _ e => by simp only [normalize, items, normalize_items e]
  | .fact e => by simp only [normalize, items, normalize_items e]
  | .paren _ e _ => by simp only [normalize, items, normalize_tree e]
  | .call0 f _ => by simp only [normalize, items, normalize_items f]
  | .call f _ as _ => by simp only [normalize, items, normalize_items f, normArgs_trees as]
  | .access e _ i _ => by simp only [normalize, items, normalize_items e, normalize_tree i]
  | .dot e _ => by simp only [normalize, items, normalize_items e]
  | .list0 _ => rfl
  | .list _ as _ => by simp only [normalize, items, normArgs_trees as]
  | .lambda hd _ _ b => by simp only [normalize, items, headOf_args, normalize_tree b]
  | .cond _ c _ _ t _ _ e => by
    simp only [normalize, items, normalize_tree c, normalize_tree t, normalize_tree e]
  | .rec0 _ => rfl
  | .record _ es _ => by simp only [normalize, items, normEnts_trees es]
  | .doB _ _ ss _ e _ => by simp only [normalize, items, normStmts_trees ss, normalize_tree e]
  | .asg _ _ _ v => by simp only [normalize, items, normalize_tree v]

theorem normalize_isParen (c : CST) : c.normalize.isParen = c.isParen := by
  cases c with
  | str dq s => exact canonStr_isParen s
  | _ => simp [normalize, isParen]

theorem namesOk_of_norm {hd : LamHead} (h : (headOf hd.args).namesOk = true) (hok : hd.ok = true) :
    hd.namesOk = true := by
  simp only [LamHead.namesOk, headOf_args, Bool.and_eq_true] at h ⊢
  refine ⟨h.1, ?_⟩
  cases hd with
  | bare a => cases a <;> first | rfl | (simp [LamHead.ok] at hok)
  | unit l => rfl
  | parens l0 a more c => rfl

theorem canonStr_startsMinus (s : String) : (canonStr s).startsMinus = false := by
  unfold canonStr; split <;> rfl

theorem startsMinus_normalize : ∀ c : CST, c.normalize.startsMinus = c.startsMinus
  | .atom _ => rfl
  | .str _ s => by simp only [normalize, canonStr_startsMinus, startsMinus]
  | .bin _ e _ _ _ | .fact e | .call0 e _ | .call e _ _ _ | .access e _ _ _ | .dot e _ => by
    simp only [normalize, startsMinus, startsMinus_normalize e]
  | .un _ _ | .paren _ _ _ | .list0 _ | .list _ _ _ | .lambda _ _ _ _ | .cond .. | .rec0 _
  | .record _ _ _ | .doB .. | .asg .. => rfl

theorem headOk_of_normalize : ∀ c : CST, c.normalize.headOk → c.headOk
  | .atom _, h | .un _ _, h | .asg _ _ _ _, h => h
  | .bin _ e _ _ _, h | .fact e, h | .call0 e _, h | .call e _ _ _, h | .access e _ _ _, h
  | .dot e _, h => headOk_of_normalize e h
  | .str _ _, _ | .paren _ _ _, _ | .list0 _, _ | .list _ _ _, _ | .cond .., _ | .rec0 _, _
  | .record _ _ _, _ | .doB .., _ => trivial
  | .lambda hd _ _ _, h => by
    simpa only [normalize, headOk, headOf_args] using h

theorem stmtsHeadOk_of_normalize : ∀ ss : Stmts, StmtsHeadOk (normStmts ss) → StmtsHeadOk ss
  | .nil, _ => trivial
  | .cons s _ _, h => headOk_of_normalize s h

mutual
theorem shaped_of_normalize : ∀ c : CST, c.normalize.Shaped → c.LayoutOk → c.Shaped
  | .atom _, h, _ => h
  | .str _ _, _, _ => trivial
  | .bin _ l _ _ r, h, hl => by
    simp only [normalize, Shaped, normalize_tree, normalize_isParen] at h
    exact ⟨shaped_of_normalize l h.1 hl.1, shaped_of_normalize r h.2.1 hl.2.1, h.2.2.1, h.2.2.2⟩
  | .un _ e, h, hl => by
    simp only [normalize, Shaped, normalize_tree, normalize_isParen] at h
    exact ⟨h.1, shaped_of_normalize e h.2.1 hl, h.2.2⟩
  | .fact e, h, hl => by
    simp only [normalize, Shaped, normalize_tree, normalize_isParen] at h
    exact ⟨shaped_of_normalize e h.1 hl, h.2⟩
  | .paren _ e _, h, hl => by
    simp only [normalize, Shaped] at h
    exact shaped_of_normalize e h hl
  | .call0 f _, h, hl => by
    simp only [normalize, Shaped, normalize_tree, normalize_isParen] at h
    exact ⟨shaped_of_normalize f h.1 hl, h.2⟩
  | .call f _ as _, h, hl => by
    simp only [normalize, Shaped, normalize_tree, normalize_isParen] at h
    exact ⟨shaped_of_normalize f h.1 hl.1, h.2.1, argsShaped_of_normalize as h.2.2 hl.2.1⟩
  | .access e _ i _, h, hl => by
    simp only [normalize, Shaped, normalize_tree, normalize_isParen] at h
    exact ⟨shaped_of_normalize e h.1 hl.1, h.2.1, shaped_of_normalize i h.2.2 hl.2.1⟩
  | .dot e _, h, hl => by
    simp only [normalize, Shaped, normalize_tree, normalize_isParen] at h
    exact ⟨shaped_of_normalize e h.1 hl, h.2.1, h.2.2⟩
  | .list0 _, _, _ => trivial
  | .list _ as _, h, hl => by
    simp only [normalize, Shaped] at h
    exact argsShaped_of_normalize as h hl.1
  | .lambda hd _ _ b, h, hl => by
    simp only [normalize, Shaped, normalize_tree, normalize_isParen, normalize_items] at h
    exact ⟨namesOk_of_norm h.1 hl.1, shaped_of_normalize b h.2.1 hl.2.2, h.2.2.1, h.2.2.2⟩
  | .cond _ c _ _ t _ _ e, h, hl => by
    simp only [normalize, Shaped] at h
    exact ⟨shaped_of_normalize c h.1 hl.2.1, shaped_of_normalize t h.2.1 hl.2.2.1,
      shaped_of_normalize e h.2.2 hl.2.2.2⟩
  | .rec0 _, _, _ => trivial
  | .record _ es _, h, hl => by
    simp only [normalize, Shaped] at h
    exact entsShaped_of_normalize es h hl.1
  | .doB _ _ ss _ e _, h, hl => by
    simp only [normalize, Shaped] at h
    exact ⟨stmtsShaped_of_normalize ss h.1 hl.2.1, shaped_of_normalize e h.2 hl.2.2⟩
  | .asg _ _ _ v, h, hl => by
    simp only [normalize, Shaped] at h
    exact ⟨h.1, shaped_of_normalize v h.2 hl.2.2⟩
theorem argsShaped_of_normalize : ∀ as : Args, ArgsShaped (normArgs as) → ArgsLayoutOk as →
    ArgsShaped as
  | .last _ a, h, hl => shaped_of_normalize a h hl
  | .cons _ a _ _ rest, h, hl =>
    ⟨shaped_of_normalize a h.1 hl.1, argsShaped_of_normalize rest h.2 hl.2.2⟩
theorem entShaped_of_normalize : ∀ e : Ent, EntShaped (normEnt e) → EntLayoutOk e → EntShaped e
  | .pairId k _ _ v, h, hl => by
    simp only [normEnt] at h
    exact shaped_of_normalize v (keyEnt_shaped_inv h) hl.2.2
  | .pairStr _ s _ _ v, h, hl => by
    simp only [normEnt] at h
    exact shaped_of_normalize v (keyEnt_shaped_inv h) hl.2.2
  | .pairDyn _ e _ _ _ v, h, hl =>
    ⟨shaped_of_normalize e h.1 hl.2.1, shaped_of_normalize v h.2 hl.2.2⟩
  | .short _, h, _ => h
  | .spread e, h, hl => shaped_of_normalize e h hl
  | .raw _, h, _ => h
theorem entsShaped_of_normalize : ∀ es : Ents, EntsShaped (normEnts es) → EntsLayoutOk es →
    EntsShaped es
  | .last e, h, hl => entShaped_of_normalize e h hl
  | .cons e _ _ rest, h, hl =>
    ⟨entShaped_of_normalize e h.1 hl.1, entsShaped_of_normalize rest h.2 hl.2.2⟩
theorem stmtsShaped_of_normalize : ∀ ss : Stmts, StmtsShaped (normStmts ss) → StmtsLayoutOk ss →
    StmtsShaped ss
  | .nil, _, _ => trivial
  | .cons s _ rest, h, hl =>
    ⟨shaped_of_normalize s h.1 hl.1, fun _ => stmtsHeadOk_of_normalize rest (h.2.1 rfl),
      stmtsShaped_of_normalize rest h.2.2 hl.2.2⟩
end

end CST

/-- `c` is a RE-LAYOUT of the printed `t`: resetting every layout string of `c` gives the
    printer's CST (same atoms, operators, parentheses, arguments, items), and every layout
    string of `c` is admissible at its position (`CST.LayoutOk`: `CST.layOk` around a binary
    operator; anything between a parenthesis and its content; in a call and in a list anything
    behind the opening bracket and behind a comma, blanks only in front of a comma, an optional
    trailing comma — in a call followed, after blanks, by a line break; line breaks only
    inside `[ ]` of an index) -/
def Relayout (t : Expr) (c : CST) : Prop := c.normalize = canon t ∧ c.LayoutOk

theorem wrap_normalize (b : Bool) (c : CST) : (wrap b c).normalize = wrap b c.normalize := by
  cases b <;> rfl

def normPair (q : Bool × CST) : Bool × CST := (q.1, q.2.normalize)

theorem mkArgs_normalize : ∀ (ps : List (Bool × CST)) (p : Bool × CST),
    CST.normArgs (mkArgs p ps) = mkArgs (normPair p) (ps.map normPair)
  | [], _ => rfl
  | q :: ps, _ => by simp only [mkArgs, CST.normArgs, mkArgs_normalize ps q, List.map_cons, normPair]

theorem mkCall_normalize (f : CST) (ps : List (Bool × CST)) :
    (mkCall f ps).normalize = mkCall f.normalize (ps.map normPair) := by
  cases ps with
  | nil => rfl
  | cons p ps => simp only [mkCall, CST.normalize, mkArgs_normalize, List.map_cons]

theorem mkList_normalize (ps : List (Bool × CST)) :
    (mkList ps).normalize = mkList (ps.map normPair) := by
  cases ps with
  | nil => rfl
  | cons p ps => simp only [mkList, CST.normalize, mkArgs_normalize, List.map_cons]

theorem normEnt_keyEnt (k : String) (v : CST) : CST.normEnt (keyEnt k v) = keyEnt k v.normalize := by
  unfold keyEnt
  split
  · rename_i h; simp only [CST.normEnt, keyEnt, h, if_true]
  · rename_i h; simp only [CST.normEnt, keyEnt, h, Bool.false_eq_true, if_false]

theorem protC_normalize (c : CST) : (protC c).normalize = protC c.normalize := by
  unfold protC
  rw [CST.startsMinus_normalize]
  split <;> rfl

theorem mkEnts_normalize : ∀ (es : List Ent) (e : Ent),
    CST.normEnts (mkEnts e es) = mkEnts (CST.normEnt e) (es.map CST.normEnt)
  | [], _ => rfl
  | q :: es, _ => by simp only [mkEnts, CST.normEnts, mkEnts_normalize es q, List.map_cons]

theorem mkRecord_normalize (es : List Ent) :
    (mkRecord es).normalize = mkRecord (es.map CST.normEnt) := by
  cases es with
  | nil => rfl
  | cons e es => simp only [mkRecord, CST.normalize, mkEnts_normalize, List.map_cons]

mutual
theorem canon_normalize : ∀ t : Expr, (canon t).normalize = canon t
  | .bin op l r => by
    simp only [canon, CST.normalize, wrap_normalize, canon_normalize l, canon_normalize r]
  | .un op e => by simp only [canon, CST.normalize, wrap_normalize, canon_normalize e]
  | .fact e => by simp only [canon, CST.normalize, wrap_normalize, canon_normalize e]
  | .call f args => by
    simp only [canon, mkCall_normalize, wrap_normalize, canon_normalize f,
      canonArgs_normalize args]
  | .access e i => by
    simp only [canon, CST.normalize, wrap_normalize, canon_normalize e, canon_normalize i]
  | .dot e n => by simp only [canon, CST.normalize, wrap_normalize, canon_normalize e]
  | .spread e => by simp only [canon, canon_normalize e]
  | .list items => by simp only [canon, mkList_normalize, canonItems_normalize items]
  | .lambda args body => by
    simp only [canon, CST.normalize, headOf_args, wrap_normalize, canon_normalize body]
  | .cond c t e => by
    simp only [canon, CST.normalize, canon_normalize c, canon_normalize t, canon_normalize e]
  | .ident _ | .builtin _ | .bool _ | .null | .num _ => rfl
  | .str s => by
    simp only [canon]
    unfold canonStr
    split
    · rfl
    · rename_i h
      simp [CST.normalize, canonStr, h]
  | .record es => by simp only [canon, mkRecord_normalize, canonEntries_normalize es]
  | .doBlock ss (.mk _ e _) => by
    simp only [canon, CST.normalize, canonStmts_normalize ss, canon_normalize e]
  | .assign n v => by simp only [canon, CST.normalize, canon_normalize v]
  | .inref _ | .output _ => rfl
theorem canonArgs_normalize : ∀ args : List Expr, (canonArgs args).map normPair = canonArgs args
  | [] => rfl
  | a :: rest => by
    simp only [canonArgs, List.map_cons, normPair, canon_normalize a, canonArgs_normalize rest]
theorem canonItems_normalize : ∀ items : List Item,
    (canonItems items).map normPair = canonItems items
  | [] => rfl
  | (.mk _ e _) :: rest => by
    simp only [canonItems, List.map_cons, normPair, canon_normalize e, canonItems_normalize rest]
theorem canonStmts_normalize : ∀ ss : List Item, CST.normStmts (canonStmts ss) = canonStmts ss
  | [] => rfl
  | (.mk _ e _) :: rest => by
    simp only [canonStmts, CST.normStmts, protC_normalize, canon_normalize e,
      canonStmts_normalize rest]
theorem canonEntries_normalize : ∀ es : List Entry,
    (canonEntries es).map CST.normEnt = canonEntries es
  | [] => rfl
  | e :: rest => by
    simp only [canonEntries, List.map_cons, canonEnt_normalize e, canonEntries_normalize rest]
theorem canonEnt_normalize : ∀ en : Entry, CST.normEnt (canonEnt en) = canonEnt en
  | .mk lead (.static k) v tr => by
    simp only [canonEnt]
    split
    · simp only [normEnt_keyEnt, canon_normalize v]
    · rfl
  | .mk lead (.dyn ke) v tr => by
    simp only [canonEnt]
    split
    · simp only [CST.normEnt, canon_normalize ke, canon_normalize v]
    · rfl
  | .mk lead (.short n) v tr => by
    simp only [canonEnt]
    split <;> rfl
  | .mk lead (.spread (.spread e)) v tr => by
    simp only [canonEnt]
    split
    · simp only [CST.normEnt, canon_normalize e]
    · rfl
  | .mk _ (.spread (.num _)) _ _ | .mk _ (.spread (.str _)) _ _
  | .mk _ (.spread (.bool _)) _ _ | .mk _ (.spread .null) _ _
  | .mk _ (.spread (.ident _)) _ _ | .mk _ (.spread (.inref _)) _ _
  | .mk _ (.spread (.builtin _)) _ _ | .mk _ (.spread (.list _)) _ _
  | .mk _ (.spread (.record _)) _ _ | .mk _ (.spread (.lambda _ _)) _ _
  | .mk _ (.spread (.cond _ _ _)) _ _ | .mk _ (.spread (.doBlock _ _)) _ _
  | .mk _ (.spread (.assign _ _)) _ _ | .mk _ (.spread (.output _)) _ _
  | .mk _ (.spread (.call _ _)) _ _ | .mk _ (.spread (.access _ _)) _ _
  | .mk _ (.spread (.dot _ _)) _ _ | .mk _ (.spread (.bin _ _ _)) _ _
  | .mk _ (.spread (.un _ _)) _ _ | .mk _ (.spread (.fact _)) _ _ => rfl
end

theorem relayout_self (t : Expr) : Relayout t (canon t) :=
  ⟨canon_normalize t, canon_layout t⟩

theorem relayout_wf {t : Expr} {c : CST} (h : Frag t) (hr : Relayout t c) :
    c.WF ∧ c.items = PrattRT.items t ∧ c.tree = t := by
  obtain ⟨hn, hl⟩ := hr
  refine ⟨⟨CST.shaped_of_normalize c (hn ▸ canon_shaped false t h) hl, hl⟩, ?_, ?_⟩
  · rw [← CST.normalize_items, hn, canon_items_frag t h]
  · rw [← CST.normalize_tree, hn, canon_tree_frag t h]

/-! ### (17) redundant parentheses

Lemmas named `wrap_tree`, `wrap_text`, … further up are about the function `wrap` (the printer's
optional parentheses); `wrap_infs`, `wrap_headOk`, `wrap_lamSafe`, `wrap_facts`, `wraps_facts` here
are about the relations `Wrap` / `Wraps`. -/

mutual
/-- `Wrap c c'`: `c'` is `c` with ONE sub-expression (any, at any depth — possibly all of
    `c`; also inside an argument or an index) put into an extra pair of parentheses, with any
    layout inside them -/
inductive Wrap : CST → CST → Prop
  | here (a : Lay) (c : CST) (b : Lay) : Wrap c (.paren a c b)
  | binL {l l' : CST} (op : BinOp) (a b : Lay) (r : CST) : Wrap l l' → Wrap (.bin op l a b r) (.bin op l' a b r)
  | binR {r r' : CST} (op : BinOp) (l : CST) (a b : Lay) : Wrap r r' → Wrap (.bin op l a b r) (.bin op l a b r')
  | un {e e' : CST} (op : UnOp) : Wrap e e' → Wrap (.un op e) (.un op e')
  | fact {e e' : CST} : Wrap e e' → Wrap (.fact e) (.fact e')
  | paren {e e' : CST} (a b : Lay) : Wrap e e' → Wrap (.paren a e b) (.paren a e' b)
  | call0 {f f' : CST} (l : Lay) : Wrap f f' → Wrap (.call0 f l) (.call0 f' l)
  | callF {f f' : CST} (l : Lay) (as : Args) (c : Close) : Wrap f f' → Wrap (.call f l as c) (.call f' l as c)
  | callA {as as' : Args} (f : CST) (l : Lay) (c : Close) : WrapArgs as as' → Wrap (.call f l as c) (.call f l as' c)
  | accE {e e' : CST} (a : Lay) (i : CST) (b : Lay) : Wrap e e' → Wrap (.access e a i b) (.access e' a i b)
  | accI {i i' : CST} (e : CST) (a b : Lay) : Wrap i i' → Wrap (.access e a i b) (.access e a i' b)
  | dot {e e' : CST} (n : String) : Wrap e e' → Wrap (.dot e n) (.dot e' n)
  | listA {as as' : Args} (l : Lay) (c : Close) : WrapArgs as as' → Wrap (.list l as c) (.list l as' c)
  | lamB {b b' : CST} (hd : LamHead) (w l : Lay) : Wrap b b' → Wrap (.lambda hd w l b) (.lambda hd w l b')
  | condC {c c' : CST} (w l1 l2 : Lay) (t : CST) (l3 l4 : Lay) (e : CST) : Wrap c c' →
      Wrap (.cond w c l1 l2 t l3 l4 e) (.cond w c' l1 l2 t l3 l4 e)
  | condT {t t' : CST} (w : Lay) (c : CST) (l1 l2 l3 l4 : Lay) (e : CST) : Wrap t t' →
      Wrap (.cond w c l1 l2 t l3 l4 e) (.cond w c l1 l2 t' l3 l4 e)
  | condE {e e' : CST} (w : Lay) (c : CST) (l1 l2 : Lay) (t : CST) (l3 l4 : Lay) : Wrap e e' →
      Wrap (.cond w c l1 l2 t l3 l4 e) (.cond w c l1 l2 t l3 l4 e')
  | recA {es es' : Ents} (l : Lay) (c : Close) : WrapEnts es es' → Wrap (.record l es c) (.record l es' c)
  | doS {ss ss' : Stmts} (l0 l1 w : Lay) (e : CST) (l2 : Lay) : WrapStmts ss ss' →
      Wrap (.doB l0 l1 ss w e l2) (.doB l0 l1 ss' w e l2)
  | doE {e e' : CST} (l0 l1 : Lay) (ss : Stmts) (w l2 : Lay) : Wrap e e' →
      Wrap (.doB l0 l1 ss w e l2) (.doB l0 l1 ss w e' l2)
  | asgV {v v' : CST} (n : String) (w l : Lay) : Wrap v v' → Wrap (.asg n w l v) (.asg n w l v')
inductive WrapArgs : Args → Args → Prop
  | last {a a' : CST} (sp : Bool) : Wrap a a' → WrapArgs (.last sp a) (.last sp a')
  | consA {a a' : CST} (sp : Bool) (w l : Lay) (rest : Args) : Wrap a a' → WrapArgs (.cons sp a w l rest) (.cons sp a' w l rest)
  | consR {rest rest' : Args} (sp : Bool) (a : CST) (w l : Lay) : WrapArgs rest rest' → WrapArgs (.cons sp a w l rest) (.cons sp a w l rest')
/-- `Wrap` inside a record entry: in its value, in its computed key, in the operand of a spread -/
inductive WrapEnt : Ent → Ent → Prop
  | pairIdV {v v' : CST} (k : String) (w l : Lay) : Wrap v v' → WrapEnt (.pairId k w l v) (.pairId k w l v')
  | pairStrV {v v' : CST} (dq : Bool) (s : String) (w l : Lay) : Wrap v v' →
      WrapEnt (.pairStr dq s w l v) (.pairStr dq s w l v')
  | pairDynK {e e' : CST} (a b w l : Lay) (v : CST) : Wrap e e' →
      WrapEnt (.pairDyn a e b w l v) (.pairDyn a e' b w l v)
  | pairDynV {v v' : CST} (a : Lay) (e : CST) (b w l : Lay) : Wrap v v' →
      WrapEnt (.pairDyn a e b w l v) (.pairDyn a e b w l v')
  | spread {e e' : CST} : Wrap e e' → WrapEnt (.spread e) (.spread e')
inductive WrapEnts : Ents → Ents → Prop
  | last {e e' : Ent} : WrapEnt e e' → WrapEnts (.last e) (.last e')
  | consE {e e' : Ent} (w l : Lay) (rest : Ents) : WrapEnt e e' → WrapEnts (.cons e w l rest) (.cons e' w l rest)
  | consR {rest rest' : Ents} (e : Ent) (w l : Lay) : WrapEnts rest rest' → WrapEnts (.cons e w l rest) (.cons e w l rest')
/-- `Wrap` inside one statement of a do-block -/
inductive WrapStmts : Stmts → Stmts → Prop
  | here {s s' : CST} (sep : Sep) (rest : Stmts) : Wrap s s' → WrapStmts (.cons s sep rest) (.cons s' sep rest)
  | rest {r r' : Stmts} (s : CST) (sep : Sep) : WrapStmts r r' → WrapStmts (.cons s sep r) (.cons s sep r')
end

/-- extra parentheses only remove operators from the top-level item sequence -/
theorem wrap_infs : ∀ {c c' : CST}, Wrap c c' → ∀ rule, PItem.inf rule ∈ c'.items →
    PItem.inf rule ∈ c.items
  | _, _, .binL op a b r hw => by
    intro rule hm
    simp only [CST.items, List.mem_append, List.mem_cons] at hm ⊢
    rcases hm with hm | hm
    · exact Or.inl (wrap_infs hw rule hm)
    · exact Or.inr hm
  | _, _, .binR op l a b hw => by
    intro rule hm
    simp only [CST.items, List.mem_append, List.mem_cons] at hm ⊢
    rcases hm with hm | hm | hm
    · exact Or.inl hm
    · exact Or.inr (Or.inl hm)
    · exact Or.inr (Or.inr (wrap_infs hw rule hm))
  | _, _, .un op hw => by
    intro rule hm
    simp only [CST.items, List.mem_cons] at hm ⊢
    rcases hm with hm | hm
    · cases hm
    · exact Or.inr (wrap_infs hw rule hm)
  -- behind the operand comes one postfix item
  | _, _, .fact hw | _, _, .call0 _ hw | _, _, .callF _ _ _ hw | _, _, .accE _ _ _ hw
  | _, _, .dot _ hw => by
    intro rule hm
    simp only [CST.items, List.mem_append, List.mem_singleton] at hm ⊢
    rcases hm with hm | hm
    · exact Or.inl (wrap_infs hw rule hm)
    · cases hm
  | _, _, .callA _ _ _ _ | _, _, .accI _ _ _ _ => by
    intro rule hm
    simp only [CST.items, List.mem_append, List.mem_singleton] at hm ⊢
    rcases hm with hm | hm
    · exact Or.inl hm
    · cases hm
  -- the result is a single primary
  | _, _, .here .. | _, _, .paren .. | _, _, .listA .. | _, _, .lamB .. | _, _, .condC ..
  | _, _, .condT .. | _, _, .condE .. | _, _, .recA .. | _, _, .doS .. | _, _, .doE ..
  | _, _, .asgV .. => by intro rule hm; simp [CST.items] at hm

theorem wrap_headOk : ∀ {c c' : CST}, Wrap c c' → c.headOk → c'.headOk
  | _, _, .binL _ _ _ _ hw, h | _, _, .fact hw, h | _, _, .call0 _ hw, h | _, _, .callF _ _ _ hw, h
  | _, _, .accE _ _ _ hw, h | _, _, .dot _ hw, h => by
    have := wrap_headOk hw h
    exact this
  | _, _, .binR .., h | _, _, .un .., h | _, _, .callA .., h | _, _, .accI .., h | _, _, .lamB .., h
  | _, _, .asgV .., h => h
  | _, _, .here .., _ | _, _, .paren .., _ | _, _, .listA .., _ | _, _, .condC .., _
  | _, _, .condT .., _ | _, _, .condE .., _ | _, _, .recA .., _ | _, _, .doS .., _
  | _, _, .doE .., _ => trivial

theorem wrap_lamSafe {c c' : CST} (hw : Wrap c c') (h : LamSafe c.items) : LamSafe c'.items :=
  fun op hm => h op (wrap_infs hw _ hm)

mutual
/-- One more pair of parentheses keeps the tree, shapedness and admissible layout.  The second
    component (`c'` is a parenthesis node whenever `c` is) is what the induction needs where
    `Shaped` asks `needsParens … = false` of an operand only when it is no parenthesis node. -/
theorem wrap_facts : ∀ {c c' : CST}, Wrap c c' →
    c'.tree = c.tree ∧ (c'.isParen = false → c.isParen = false) ∧ (c.Shaped → c'.Shaped) ∧
      (c.LayoutOk → c'.LayoutOk)
  | _, _, .here a c b => ⟨rfl, fun h => by simp [CST.isParen] at h, fun h => h, fun h => h⟩
  | _, _, .binL op a b r hw => by
    obtain ⟨i1, i2, i3, i4⟩ := wrap_facts hw
    refine ⟨by simp only [CST.tree, i1], fun _ => rfl, ?_, ?_⟩
    · rintro ⟨h1, h2, h3, h4⟩
      exact ⟨i3 h1, h2, fun hp => by rw [i1]; exact h3 (i2 hp), h4⟩
    · rintro ⟨h1, h2, h3⟩
      exact ⟨i4 h1, h2, h3⟩
  | _, _, .binR op l a b hw => by
    obtain ⟨i1, i2, i3, i4⟩ := wrap_facts hw
    refine ⟨by simp only [CST.tree, i1], fun _ => rfl, ?_, ?_⟩
    · rintro ⟨h1, h2, h3, h4⟩
      exact ⟨h1, i3 h2, h3, fun hp => by rw [i1]; exact h4 (i2 hp)⟩
    · rintro ⟨h1, h2, h3⟩
      exact ⟨h1, i4 h2, h3⟩
  | _, _, .un op hw => by
    obtain ⟨i1, i2, i3, i4⟩ := wrap_facts hw
    refine ⟨by simp only [CST.tree, i1], fun _ => rfl, ?_, i4⟩
    rintro ⟨h1, h2, h3⟩
    exact ⟨h1, i3 h2, fun hp => by rw [i1]; exact h3 (i2 hp)⟩
  | _, _, .paren a b hw => by
    obtain ⟨i1, _, i3, i4⟩ := wrap_facts hw
    exact ⟨by simp only [CST.tree, i1], fun h => by simp [CST.isParen] at h, i3, i4⟩
  | _, _, .fact hw | _, _, .call0 _ hw => by
    obtain ⟨i1, i2, i3, i4⟩ := wrap_facts hw
    refine ⟨by simp only [CST.tree, i1], fun _ => rfl, ?_, i4⟩
    rintro ⟨h1, h2⟩
    exact ⟨i3 h1, fun hp => by rw [i1]; exact h2 (i2 hp)⟩
  | _, _, .callF _ _ _ hw | _, _, .accE _ _ _ hw => by
    obtain ⟨i1, i2, i3, i4⟩ := wrap_facts hw
    refine ⟨by simp only [CST.tree, i1], fun _ => rfl, ?_, ?_⟩
    · rintro ⟨h1, h2, h3⟩
      exact ⟨i3 h1, fun hp => by rw [i1]; exact h2 (i2 hp), h3⟩
    · rintro ⟨h1, h2, h3⟩
      exact ⟨i4 h1, h2, h3⟩
  | _, _, .callA f l c hw => by
    obtain ⟨j1, j2, j3⟩ := wrapArgs_facts hw
    refine ⟨by simp only [CST.tree, j1], fun _ => rfl, ?_, ?_⟩
    · rintro ⟨h1, h2, h3⟩
      exact ⟨h1, h2, j2 h3⟩
    · rintro ⟨h1, h2, h3⟩
      exact ⟨h1, j3 h2, h3⟩
  | _, _, .accI e a b hw => by
    obtain ⟨i1, _, i3, i4⟩ := wrap_facts hw
    refine ⟨by simp only [CST.tree, i1], fun _ => rfl, ?_, ?_⟩
    · rintro ⟨h1, h2, h3⟩
      exact ⟨h1, h2, i3 h3⟩
    · rintro ⟨h1, h2, h3⟩
      exact ⟨h1, i4 h2, h3⟩
  | _, _, .dot n hw => by
    obtain ⟨i1, i2, i3, i4⟩ := wrap_facts hw
    refine ⟨by simp only [CST.tree, i1], fun _ => rfl, ?_, i4⟩
    rintro ⟨h1, h2, h3⟩
    exact ⟨i3 h1, fun hp => by rw [i1]; exact h2 (i2 hp), h3⟩
  | _, _, .listA l c hw => by
    obtain ⟨j1, j2, j3⟩ := wrapArgs_facts hw
    refine ⟨by simp only [CST.tree, j1], fun _ => rfl, j2, ?_⟩
    rintro ⟨h1, h2⟩
    exact ⟨j3 h1, h2⟩
  | _, _, .lamB hd w l hw => by
    obtain ⟨i1, i2, i3, i4⟩ := wrap_facts hw
    refine ⟨by simp only [CST.tree, i1], fun _ => rfl, ?_, ?_⟩
    · rintro ⟨h1, h2, h3, h4⟩
      refine ⟨h1, i3 h2, fun hp => by rw [i1]; exact h3 (i2 hp), ?_⟩
      -- the items of the body: unchanged, or one primary
      exact wrap_lamSafe hw h4
    · rintro ⟨h1, h2, h3⟩
      exact ⟨h1, h2, i4 h3⟩
  | _, _, .condC w l1 l2 t l3 l4 e hw => by
    obtain ⟨i1, _, i3, i4⟩ := wrap_facts hw
    refine ⟨by simp only [CST.tree, i1], fun _ => rfl, ?_, ?_⟩
    · rintro ⟨h1, h2, h3⟩; exact ⟨i3 h1, h2, h3⟩
    · rintro ⟨h0, h1, h2, h3⟩; exact ⟨h0, i4 h1, h2, h3⟩
  | _, _, .condT w c l1 l2 l3 l4 e hw => by
    obtain ⟨i1, _, i3, i4⟩ := wrap_facts hw
    refine ⟨by simp only [CST.tree, i1], fun _ => rfl, ?_, ?_⟩
    · rintro ⟨h1, h2, h3⟩; exact ⟨h1, i3 h2, h3⟩
    · rintro ⟨h0, h1, h2, h3⟩; exact ⟨h0, h1, i4 h2, h3⟩
  | _, _, .condE w c l1 l2 t l3 l4 hw => by
    obtain ⟨i1, _, i3, i4⟩ := wrap_facts hw
    refine ⟨by simp only [CST.tree, i1], fun _ => rfl, ?_, ?_⟩
    · rintro ⟨h1, h2, h3⟩; exact ⟨h1, h2, i3 h3⟩
    · rintro ⟨h0, h1, h2, h3⟩; exact ⟨h0, h1, h2, i4 h3⟩
  | _, _, .recA l c hw => by
    obtain ⟨j1, j2, j3⟩ := wrapEnts_facts hw
    refine ⟨by simp only [CST.tree, j1], fun _ => rfl, j2, ?_⟩
    rintro ⟨h1, h2⟩
    exact ⟨j3 h1, h2⟩
  | _, _, .doS l0 l1 w e l2 hw => by
    obtain ⟨j1, _, j2, j3⟩ := wrapStmts_facts hw
    refine ⟨by simp only [CST.tree, j1], fun _ => rfl, ?_, ?_⟩
    · rintro ⟨h1, h2⟩; exact ⟨j2 h1, h2⟩
    · rintro ⟨h0, h1, h2⟩; exact ⟨h0, j3 h1, h2⟩
  | _, _, .doE _ _ _ _ _ hw | _, _, .asgV _ _ _ hw => by
    obtain ⟨i1, _, i3, i4⟩ := wrap_facts hw
    refine ⟨by simp only [CST.tree, i1], fun _ => rfl, ?_, ?_⟩
    · rintro ⟨h1, h2⟩; exact ⟨h1, i3 h2⟩
    · rintro ⟨h0, h1, h2⟩; exact ⟨h0, h1, i4 h2⟩
theorem wrapArgs_facts : ∀ {as as' : Args}, WrapArgs as as' →
    CST.argsTrees as' = CST.argsTrees as ∧ (CST.ArgsShaped as → CST.ArgsShaped as') ∧
      (CST.ArgsLayoutOk as → CST.ArgsLayoutOk as')
  | _, _, .last sp hw => by
    obtain ⟨i1, _, i3, i4⟩ := wrap_facts hw
    exact ⟨by simp only [CST.argsTrees, i1], i3, i4⟩
  | _, _, .consA sp w l rest hw => by
    obtain ⟨i1, _, i3, i4⟩ := wrap_facts hw
    refine ⟨by simp only [CST.argsTrees, i1], ?_, ?_⟩
    · rintro ⟨h1, h2⟩; exact ⟨i3 h1, h2⟩
    · rintro ⟨h1, h2, h3⟩; exact ⟨i4 h1, h2, h3⟩
  | _, _, .consR sp a w l hw => by
    obtain ⟨j1, j2, j3⟩ := wrapArgs_facts hw
    refine ⟨by simp only [CST.argsTrees, j1], ?_, ?_⟩
    · rintro ⟨h1, h2⟩; exact ⟨h1, j2 h2⟩
    · rintro ⟨h1, h2, h3⟩; exact ⟨h1, h2, j3 h3⟩
theorem wrapEnt_facts : ∀ {e e' : Ent}, WrapEnt e e' →
    CST.entTree e' = CST.entTree e ∧ (CST.EntShaped e → CST.EntShaped e') ∧
      (CST.EntLayoutOk e → CST.EntLayoutOk e')
  | _, _, .pairIdV _ _ _ hw | _, _, .pairStrV _ _ _ _ hw => by
    obtain ⟨i1, _, i3, i4⟩ := wrap_facts hw
    refine ⟨by simp only [CST.entTree, i1], i3, ?_⟩
    rintro ⟨h1, h2, h3⟩; exact ⟨h1, h2, i4 h3⟩
  | _, _, .pairDynK a b w l v hw => by
    obtain ⟨i1, _, i3, i4⟩ := wrap_facts hw
    refine ⟨by simp only [CST.entTree, i1], ?_, ?_⟩
    · rintro ⟨h1, h2⟩; exact ⟨i3 h1, h2⟩
    · rintro ⟨h1, h2, h3⟩; exact ⟨h1, i4 h2, h3⟩
  | _, _, .pairDynV a e b w l hw => by
    obtain ⟨i1, _, i3, i4⟩ := wrap_facts hw
    refine ⟨by simp only [CST.entTree, i1], ?_, ?_⟩
    · rintro ⟨h1, h2⟩; exact ⟨h1, i3 h2⟩
    · rintro ⟨h1, h2, h3⟩; exact ⟨h1, h2, i4 h3⟩
  | _, _, .spread hw => by
    obtain ⟨i1, _, i3, i4⟩ := wrap_facts hw
    exact ⟨by simp only [CST.entTree, i1], i3, i4⟩
theorem wrapEnts_facts : ∀ {es es' : Ents}, WrapEnts es es' →
    CST.entsTrees es' = CST.entsTrees es ∧ (CST.EntsShaped es → CST.EntsShaped es') ∧
      (CST.EntsLayoutOk es → CST.EntsLayoutOk es')
  | _, _, .last hw => by
    obtain ⟨i1, i3, i4⟩ := wrapEnt_facts hw
    exact ⟨by simp only [CST.entsTrees, i1], i3, i4⟩
  | _, _, .consE w l rest hw => by
    obtain ⟨i1, i3, i4⟩ := wrapEnt_facts hw
    refine ⟨by simp only [CST.entsTrees, i1], ?_, ?_⟩
    · rintro ⟨h1, h2⟩; exact ⟨i3 h1, h2⟩
    · rintro ⟨h1, h2, h3⟩; exact ⟨i4 h1, h2, h3⟩
  | _, _, .consR e w l hw => by
    obtain ⟨j1, j2, j3⟩ := wrapEnts_facts hw
    refine ⟨by simp only [CST.entsTrees, j1], ?_, ?_⟩
    · rintro ⟨h1, h2⟩; exact ⟨h1, j2 h2⟩
    · rintro ⟨h1, h2, h3⟩; exact ⟨h1, h2, j3 h3⟩
theorem wrapStmts_facts : ∀ {ss ss' : Stmts}, WrapStmts ss ss' →
    CST.stmtsTrees ss' = CST.stmtsTrees ss ∧ (CST.StmtsHeadOk ss → CST.StmtsHeadOk ss') ∧
      (CST.StmtsShaped ss → CST.StmtsShaped ss') ∧ (CST.StmtsLayoutOk ss → CST.StmtsLayoutOk ss')
  | _, _, .here sep rest hw => by
    obtain ⟨i1, _, i3, i4⟩ := wrap_facts hw
    refine ⟨by simp only [CST.stmtsTrees, i1], wrap_headOk hw, ?_, ?_⟩
    · rintro ⟨h1, h2, h3⟩; exact ⟨i3 h1, h2, h3⟩
    · rintro ⟨h1, h2, h3⟩; exact ⟨i4 h1, h2, h3⟩
  | _, _, .rest s sep hw => by
    obtain ⟨j1, j0, j2, j3⟩ := wrapStmts_facts hw
    refine ⟨by simp only [CST.stmtsTrees, j1], fun h => h, ?_, ?_⟩
    · rintro ⟨h1, h2, h3⟩; exact ⟨h1, fun hl => j0 (h2 hl), j2 h3⟩
    · rintro ⟨h1, h2, h3⟩; exact ⟨h1, h2, j3 h3⟩
end

/-- any number of extra pairs of parentheses, one after the other, anywhere -/
inductive Wraps : CST → CST → Prop
  | refl (c : CST) : Wraps c c
  | step {c c' c'' : CST} : Wraps c c' → Wrap c' c'' → Wraps c c''

theorem wraps_facts {c c' : CST} (hw : Wraps c c') (h : c.WF) : c'.tree = c.tree ∧ c'.WF := by
  induction hw with
  | refl => exact ⟨rfl, h⟩
  | step _ hs ih =>
    obtain ⟨i1, _, i3, i4⟩ := wrap_facts hs
    exact ⟨i1.trans ih.1, i3 ih.2.1, i4 ih.2.2⟩

theorem wraps_trans {a b c : CST} (h1 : Wraps a b) (h2 : Wraps b c) : Wraps a c := by
  induction h2 with
  | refl => exact h1
  | step _ hs ih => exact .step ih hs

theorem wraps_map (F : CST → CST) (hF : ∀ {x y}, Wrap x y → Wrap (F x) (F y)) {a b : CST}
    (h : Wraps a b) : Wraps (F a) (F b) := by
  induction h with
  | refl => exact .refl _
  | step _ hs ih => exact .step ih (hF hs)

theorem wraps_wrap (b : Bool) {c c' : CST} (h : Wraps c c') : Wraps (wrap b c) (wrap b c') := by
  cases b
  · exact h
  · exact wraps_map (fun x => .paren [] x []) (Wrap.paren [] []) h

theorem print_reparses (t : Expr) (h : Frag t) : parseText (exprToSource t) = some t := by
  have := cst_roundtrip (canon t) (canon_wf t h)
  rwa [canon_text_frag t h, String.ofList_toList, canon_tree_frag t h] at this

/-! ### (18) a string with BOTH kinds of quote: the printed concatenation

  No literal denotes such a string (the grammar has no escapes), so `string_to_source` writes
  `("a" + '"' + "b")` (`PrintL.stringToSource_both`).  That text is a CST of the fragment —
  a parenthesised left-nested `+` of string literals — and is read back to that sum
  (`bothTree`), NOT to the string node it was printed from. -/

section bothq
open PrintL

/-- the literal of one (delimiter, content) pair -/
def pieceCST (qc : Char × List Char) : CST := .str (qc.1 == '"') (String.ofList qc.2)

/-- `acc + p₁ + p₂ + …` as the printer writes it (left-nested, one blank around each `+`) -/
def sumCST (acc : CST) (rest : List (Char × List Char)) : CST :=
  rest.foldl (fun a qc => .bin .add a [.sp] [.sp] (pieceCST qc)) acc

/-- the left-nested sum of string literals -/
def strSum (acc : Expr) (rest : List (List Char)) : Expr :=
  rest.foldl (fun a p => .bin .add a (.str (String.ofList p))) acc

/-- the CST of the printed form of a string with both kinds of quote -/
def bothCST (s : String) : CST :=
  match quotedPieces s.toList with
  | [] => .atom (.str s)
  | q0 :: rest => .paren [] (sumCST (pieceCST q0) rest) []

/-- what the printed form of a string with both kinds of quote is read back to: the
    left-nested `+` of the string literals of its pieces (`PrintL.pieces`: their contents
    concatenate to the string, `PrintL.pieces_flatten`) -/
def bothTree (s : String) : Expr :=
  match pieces s.toList with
  | [] => .str s
  | p0 :: rest => strSum (.str (String.ofList p0)) rest

theorem pieceCST_text (qc : Char × List Char) (hq : qc.1 = '"' ∨ qc.1 = '\'') :
    (pieceCST qc).text = (litOf qc).toList := by
  obtain ⟨q, c⟩ := qc
  rcases hq with h | h <;> simp only at h <;> subst h <;>
    simp [pieceCST, CST.text, litOf, quoteChar]

theorem pieceCST_layout (qc : Char × List Char) (hq : qc.1 = '"' ∨ qc.1 = '\'') (hf : qc.1 ∉ qc.2) :
    (pieceCST qc).LayoutOk := by
  obtain ⟨q, c⟩ := qc
  rcases hq with h | h <;> simp only at h hf <;> subst h <;>
    simpa [pieceCST, CST.LayoutOk, quoteChar] using hf

/-- what the induction over the sum carries -/
def SumOk (c : CST) : Prop :=
  c.Shaped ∧ c.LayoutOk ∧ c.isParen = false ∧ needsParens c.tree (.binLeft .add) = false

theorem sumOk_piece (qc : Char × List Char) (hq : qc.1 = '"' ∨ qc.1 = '\'') (hf : qc.1 ∉ qc.2) :
    SumOk (pieceCST qc) :=
  ⟨trivial, pieceCST_layout qc hq hf, rfl, rfl⟩

theorem sumOk_step {a : CST} (ha : SumOk a) (qc : Char × List Char) (hq : qc.1 = '"' ∨ qc.1 = '\'')
    (hf : qc.1 ∉ qc.2) : SumOk (.bin .add a [.sp] [.sp] (pieceCST qc)) := by
  obtain ⟨h1, h2, h3, h4⟩ := ha
  refine ⟨⟨h1, trivial, fun _ => h4, fun _ => rfl⟩, ⟨h2, pieceCST_layout qc hq hf, layOk_sp .add⟩, rfl, ?_⟩
  show needsParens (.bin .add a.tree (.str (String.ofList qc.2))) (.binLeft .add) = false
  rw [PrattRT.np_left]
  simp only [endsOpen]
  decide

theorem sumCST_ok : ∀ (rest : List (Char × List Char)) (acc : CST), SumOk acc →
    (∀ qc ∈ rest, (qc.1 = '"' ∨ qc.1 = '\'') ∧ qc.1 ∉ qc.2) → SumOk (sumCST acc rest)
  | [], _, ha, _ => ha
  | qc :: rest, acc, ha, h => by
    have hq := h qc List.mem_cons_self
    exact sumCST_ok rest _ (sumOk_step ha qc hq.1 hq.2) (fun x hx => h x (List.mem_cons_of_mem _ hx))

theorem sumCST_tree : ∀ (rest : List (Char × List Char)) (acc : CST),
    (sumCST acc rest).tree = strSum acc.tree (rest.map (·.2))
  | [], _ => rfl
  | qc :: rest, acc => by
    have := sumCST_tree rest (.bin .add acc [.sp] [.sp] (pieceCST qc))
    simpa [sumCST, strSum, CST.tree, pieceCST] using this

theorem sumCST_text : ∀ (rest : List (Char × List Char)) (acc : CST),
    (∀ qc ∈ rest, qc.1 = '"' ∨ qc.1 = '\'') →
    (sumCST acc rest).text = acc.text ++ (rest.map fun qc => [' ', '+', ' '] ++ (litOf qc).toList).flatten
  | [], _, _ => by simp [sumCST]
  | qc :: rest, acc, h => by
    have ih := sumCST_text rest (.bin .add acc [.sp] [.sp] (pieceCST qc))
      (fun x hx => h x (List.mem_cons_of_mem _ hx))
    have hsp : spell .add = ['+'] := by decide +kernel
    simp only [sumCST, List.foldl_cons] at ih ⊢
    rw [ih]
    simp [CST.text, pieceCST_text qc (h qc List.mem_cons_self), layChars, LayAtom.chars, hsp]

theorem bothCST_facts (s : String) (h1 : '"' ∈ s.toList) (h2 : '\'' ∈ s.toList) :
    (bothCST s).WF ∧ (bothCST s).tree = bothTree s ∧
      (bothCST s).text = (exprToSource (.str s)).toList := by
  have hne := quotedPieces_ne_nil s.toList h1
  have hok := quotedPieces_ok s.toList
  have hsrc := stringToSource_both s h1 h2
  unfold bothCST bothTree pieces
  cases hq : quotedPieces s.toList with
  | nil => exact absurd hq hne
  | cons q0 rest =>
    rw [hq] at hok hsrc
    have h0 := hok q0 List.mem_cons_self
    have hr : ∀ qc ∈ rest, (qc.1 = '"' ∨ qc.1 = '\'') ∧ qc.1 ∉ qc.2 :=
      fun x hx => hok x (List.mem_cons_of_mem _ hx)
    obtain ⟨w1, w2, _, _⟩ := sumCST_ok rest _ (sumOk_piece q0 h0.1 h0.2) hr
    refine ⟨⟨w1, w2⟩, ?_, ?_⟩
    · simp only [CST.tree, sumCST_tree, List.map_cons, pieceCST]
    · have ht := sumCST_text rest (pieceCST q0) (fun x hx => (hr x hx).1)
      simp only [exprToSource, exprSrc, hsrc, CST.text, layChars, List.nil_append, ht,
        pieceCST_text q0 h0.1, String.toList_append, String.toList_intercalate, List.map_cons,
        intercalate_cons_flatten, List.map_map, Function.comp_def, List.append_assoc]
      rfl

theorem both_quotes_parse (s : String) (h1 : '"' ∈ s.toList) (h2 : '\'' ∈ s.toList) :
    parseText (exprToSource (.str s)) = some (bothTree s) := by
  obtain ⟨hwf, ht, htx⟩ := bothCST_facts s h1 h2
  have := cst_roundtrip (bothCST s) hwf
  rwa [htx, String.ofList_toList, ht] at this

def isBinNode : Expr → Bool
  | .bin .. => true
  | _ => false

theorem strSum_isBin : ∀ (rest : List (List Char)) (acc : Expr), isBinNode acc = true →
    isBinNode (strSum acc rest) = true
  | [], _, h => h
  | p :: rest, acc, _ => strSum_isBin rest (.bin .add acc (.str (String.ofList p))) rfl

/-- the sum of the pieces is never the string node itself: the round trip fails exactly there -/
theorem bothTree_ne_str (s : String) (h1 : '"' ∈ s.toList) (h2 : '\'' ∈ s.toList) :
    bothTree s ≠ .str s := by
  have hne := quotedPieces_ne_nil s.toList h1
  have hok := quotedPieces_ok s.toList
  unfold bothTree pieces
  cases hq : quotedPieces s.toList with
  | nil => exact absurd hq hne
  | cons q0 rest =>
    simp only [List.map_cons]
    cases rest with
    | nil =>
      intro he
      simp only [List.map_nil, strSum, List.foldl_nil, Expr.str.injEq] at he
      have hp : q0.2 = s.toList := by rw [← he, String.toList_ofList]
      obtain ⟨hq1, hq2⟩ := hok q0 (by rw [hq]; exact List.mem_cons_self)
      rw [hp] at hq2
      rcases hq1 with e | e <;> rw [e] at hq2
      · exact hq2 h1
      · exact hq2 h2
    | cons q1 rest' =>
      intro he
      have := strSum_isBin (rest'.map (·.2))
        (.bin .add (.str (String.ofList q0.2)) (.str (String.ofList q1.2))) rfl
      simp only [List.map_cons, strSum, List.foldl_cons] at he
      simp only [strSum] at this
      rw [he] at this
      cases this

/-- THE ROUND TRIP OF A STRING LITERAL holds exactly when the string does not contain both
    kinds of quote -/
theorem string_roundtrip_iff (s : String) :
    parseText (exprToSource (.str s)) = some (.str s) ↔ Frag (.str s) := by
  constructor
  · intro h
    simp only [Frag, frag_str_eq, Bool.not_eq_true']
    cases hb : bothQuotes s with
    | false => rfl
    | true =>
      exfalso
      simp only [bothQuotes, Bool.and_eq_true, List.contains_iff_mem] at hb
      have := both_quotes_parse s hb.1 hb.2
      rw [h] at this
      simp only [Option.some.injEq] at this
      exact bothTree_ne_str s hb.1 hb.2 this.symm
  · exact print_reparses _

end bothq

end Blots.ExprPeg
