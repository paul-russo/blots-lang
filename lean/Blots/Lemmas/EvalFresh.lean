import Blots.Lemmas.EvalIds
import Blots.Lemmas.ValueAllOps
/-
  Evaluation keeps the freshness invariant `StateOk` (Lemmas/EvalIds.lean), for all fifteen
  functions of the evaluator and every outcome: if every function value reachable from the
  environment (and from the value arguments) lives in a cell `< nextId` and every named cell is
  `< nextId`, the same holds afterwards, and a successful result only contains cells `< nextId`
  of the final state (`FreshStep`, `fresh_group`).  The induction over the fuel is on `FreshRuns`,
  which adds that `nextId` never decreases; each step follows the equations of
  Lemmas/EvalEqns.lean.
-/
namespace Blots

/-- a run started when `N` cells existed: no cell is given back, the final state is fresh and a
    successful result is fresh in it (`G` is `Value.idsLt`, `Value.idsLtList` or `Value.idsLtRec`).
    `le` is also `NamesRel.next` of `names_group`; it is carried here because `bind` hands it to the
    continuation for any intermediate state, not only for the one a named run reached. -/
structure FreshRun {α} (G : Nat → α → Bool) (N : Nat) (r : R α) : Prop where
  le : N ≤ r.2.nextId
  fresh : StateOk r.2 ∧ ∀ a, r.1 = .ok a → G r.2.nextId a = true

namespace FreshRun
variable {α β : Type} {G : Nat → α → Bool} {G' : Nat → β → Bool} {N : Nat}

theorem pure {o : Outcome α} {s : ES} (hs : StateOk s) (h : ∀ a, o = .ok a → G s.nextId a = true) :
    FreshRun G s.nextId (o, s) := ⟨Nat.le_refl _, hs, h⟩

theorem ok {a : α} {s : ES} (hs : StateOk s) (ha : G s.nextId a = true) : FreshRun G s.nextId (.ok a, s) :=
  pure hs fun _ h => by cases h; exact ha

theorem err {k : ErrKind} {s : ES} (hs : StateOk s) : FreshRun G s.nextId (.err k, s) := pure hs nofun

/-- the continuation starts where the first part ended: what was fresh before is still fresh
    there by monotonicity in the bound (`idsLt_mono`) -/
theorem bind {r : R α} {k : α → ES → R β} (hr : FreshRun G N r)
    (hk : ∀ a s1, N ≤ s1.nextId → StateOk s1 → G s1.nextId a = true → FreshRun G' s1.nextId (k a s1)) :
    FreshRun G' N (R.bind r k) := by
  obtain ⟨le, hs1, hv⟩ := hr
  obtain ⟨o, s1⟩ := r
  cases o with
  | ok a => exact ⟨Nat.le_trans le (hk a s1 le hs1 (hv a rfl)).le, (hk a s1 le hs1 (hv a rfl)).fresh⟩
  | err e => exact ⟨le, hs1, nofun⟩
  | panic p => exact ⟨le, hs1, nofun⟩
  | fuel => exact ⟨le, hs1, nofun⟩

theorem bindPure {o : Outcome α} {s : ES} {k : α → ES → R β} (hs : StateOk s)
    (hk : ∀ a, o = .ok a → FreshRun G' s.nextId (k a s)) : FreshRun G' s.nextId (R.bind (o, s) k) := by
  cases o with
  | ok a => exact hk a rfl
  | err e => exact pure hs nofun
  | panic p => exact pure hs nofun
  | fuel => exact pure hs nofun

theorem ite {c : Prop} [Decidable c] {x y : R α} (hx : FreshRun G N x) (hy : FreshRun G N y) :
    FreshRun G N (if c then x else y) := by split <;> assumption

/-- leaving a do-block or a call: another environment, fresh in the final state -/
theorem restore {r : R α} (hr : FreshRun G N r) {e : List Frame} (he : envLt r.2.nextId e = true) :
    FreshRun G N (r.1, { r.2 with env := e }) := ⟨hr.le, hr.fresh.1.withEnv e he, hr.fresh.2⟩

end FreshRun

section leaves
variable {N : Nat}

theorem idsLtList_cons {x : Value} {xs : List Value} :
    Value.idsLtList N (x :: xs) = true ↔ x.idsLt N = true ∧ Value.idsLtList N xs = true := by
  rw [Value.idsLtList, Bool.and_eq_true]

theorem idsLtList_idxArgs {w : Bool} {x : Value} {i : Nat} (hx : x.idsLt N = true) :
    Value.idsLtList N (idxArgs w x i) = true := idsLtList_all.2 (allL_idxArgs (idsLt_all.1 hx) i)

theorem FreshRun.assign {s1 : ES} {val : Value} (hs1 : StateOk s1) (hv : val.idsLt s1.nextId = true)
    (k : Nat) (x : String) : FreshRun Value.idsLt s1.nextId (.ok val, assignIn k x val s1) :=
  ⟨Nat.le_of_eq (assignIn_nextId k x val s1).symm, hs1.assignIn x k val hv,
   fun a h => by cases h; rw [assignIn_nextId]; exact hv⟩

end leaves

/-- `FreshStep` strengthened for the induction: in addition no function gives a cell back, so
    that what was fresh before a sub-evaluation is still fresh after it -/
structure FreshRuns (ops : NumOps) (n : Nat) : Prop where
  eval : ∀ {d e s}, StateOk s → FreshRun Value.idsLt s.nextId (eval ops n d e s)
  evalList : ∀ {d es s}, StateOk s → FreshRun Value.idsLtList s.nextId (evalList ops n d es s)
  evalItems : ∀ {d es s}, StateOk s → FreshRun Value.idsLtList s.nextId (evalItems ops n d es s)
  evalEntries : ∀ {d es acc s}, StateOk s → Value.idsLtRec s.nextId acc = true →
    FreshRun Value.idsLtRec s.nextId (evalEntries ops n d es acc s)
  evalDoStmt : ∀ {d e s}, StateOk s → FreshRun Value.idsLt s.nextId (evalDoStmt ops n d e s)
  evalDo : ∀ {d st ret s}, StateOk s → FreshRun Value.idsLt s.nextId (evalDo ops n d st ret s)
  callFn : ∀ {fv this args d s}, StateOk s → fv.idsLt s.nextId = true → this.idsLt s.nextId = true →
    Value.idsLtList s.nextId args = true → FreshRun Value.idsLt s.nextId (callFn ops n fv this args d s)
  mapCalls : ∀ {f w L i d s}, StateOk s → f.idsLt s.nextId = true → Value.idsLtList s.nextId L = true →
    FreshRun Value.idsLtList s.nextId (mapCalls ops n f w L i d s)
  quantCalls : ∀ {f w q L i d s}, StateOk s → f.idsLt s.nextId = true → Value.idsLtList s.nextId L = true →
    FreshRun Value.idsLt s.nextId (quantCalls ops n f w q L i d s)
  foldCalls : ∀ {f w acc L i d s}, StateOk s → f.idsLt s.nextId = true → acc.idsLt s.nextId = true →
    Value.idsLtList s.nextId L = true → FreshRun Value.idsLt s.nextId (foldCalls ops n f w acc L i d s)
  keyCalls : ∀ {f L d s}, StateOk s → f.idsLt s.nextId = true → Value.idsLtList s.nextId L = true →
    s.nextId ≤ (keyCalls ops n f L d s).2.nextId ∧ StateOk (keyCalls ops n f L d s).2 ∧
      ∀ kr ∈ (keyCalls ops n f L d s).1, kr.1 ∈ L
  callHof : ∀ {name args d s}, StateOk s → Value.idsLtList s.nextId args = true →
    FreshRun Value.idsLt s.nextId (callHof ops n name args d s)
  evalBin : ∀ {d op a b s}, StateOk s → a.idsLt s.nextId = true → b.idsLt s.nextId = true →
    FreshRun Value.idsLt s.nextId (evalBin ops n d op a b s)
  viaPairs : ∀ {la lb d s}, StateOk s → Value.idsLtList s.nextId la = true →
    Value.idsLtList s.nextId lb = true → FreshRun Value.idsLt s.nextId (viaPairs ops n la lb d s)
  whereCalls : ∀ {f w L i d s}, StateOk s → f.idsLt s.nextId = true → Value.idsLtList s.nextId L = true →
    FreshRun Value.idsLt s.nextId (whereCalls ops n f w L i d s)

theorem freshRuns_zero (ops : NumOps) : FreshRuns ops 0 := by
  constructor
  case keyCalls =>
    intro f L d s hs _ _
    rw [keyCalls_zero]
    exact ⟨Nat.le_refl _, hs, fun kr h => by obtain ⟨x, hx, rfl⟩ := List.mem_map.mp h; exact hx⟩
  all_goals
    intros
    simp only [eval_zero, evalList_zero, evalItems_zero, evalEntries_zero, evalDoStmt_zero, evalDo_zero,
      callFn_zero, mapCalls_zero, quantCalls_zero, foldCalls_zero, callHof_zero, evalBin_zero, viaPairs_zero,
      whereCalls_zero]
    exact .pure ‹_› nofun

section step
variable {ops : NumOps} {n : Nat} (ih : FreshRuns ops n)
include ih

theorem fresh_eval {d e s} (hs : StateOk s) : FreshRun Value.idsLt s.nextId (eval ops (n+1) d e s) := by
  cases e with
  | num x => rw [eval_num]; exact .ok hs rfl
  | str x => rw [eval_str]; exact .ok hs rfl
  | bool b => rw [eval_bool]; exact .ok hs rfl
  | null => rw [eval_null]; exact .ok hs rfl
  | builtin x => rw [eval_builtin]; exact .ok hs rfl
  | ident x => rw [eval_ident]; exact .pure hs (sat_identOp (envLt_all.1 hs.env)).idsLt
  | inref f => rw [eval_inref]; exact .pure hs (sat_inrefOp (envLt_all.1 hs.env)).idsLt
  | list items =>
    rw [eval_list]
    exact .bind (ih.evalItems hs) fun vs s1 _ hs1 hvs =>
      .ok hs1 (idsLt_flattenSpreads hvs)
  | record es =>
    rw [eval_record]
    exact .bind (ih.evalEntries hs rfl) fun r s1 _ hs1 hr => .ok hs1 hr
  | lambda args body =>
    rw [eval_lambda]
    refine .ite (.err hs) ⟨Nat.le_succ _, hs.alloc _ (envLt_mono (Nat.le_succ _) _ hs.env), fun v h => ?_⟩
    cases h
    exact Bool.and_eq_true_iff.mpr ⟨decide_eq_true (Nat.lt_succ_self _),
      idsLtRec_mono (Nat.le_succ _) _ (idsLt_captureScope hs.env _)⟩
  | assign x v =>
    rw [eval_assign]
    exact .ite (.err hs) <| .ite (.err hs) <| .ite (.err hs) <|
      .bind (ih.eval hs) fun val s1 _ hs1 hv => .ite (.err hs1) (.assign hs1 hv _ _)
  | output e => rw [eval_output]; exact ih.eval hs
  | cond c t el =>
    rw [eval_cond]
    refine .bind (ih.eval hs) fun v s1 _ hs1 _ => ?_
    split
    · exact ih.eval hs1
    · exact ih.eval hs1
    · exact .err hs1
  | doBlock stmts ret =>
    rw [eval_doBlock]
    have h := ih.evalDo (d := d) (st := stmts) (ret := ret) (hs.withEnv ([] :: s.env) (by rw [envLt, hs.env]; rfl))
    exact h.restore (envLt_drop h.fresh.1.env 1)
  | call f args =>
    rw [eval_call]
    refine .bind (ih.eval hs) fun fv s1 _ hs1 hfv =>
      .bind (ih.evalList hs1) fun raw s2 h2 hs2 hraw => .ite (.err hs2) ?_
    have hfv2 := idsLt_mono h2 _ hfv
    exact ih.callFn hs2 hfv2 hfv2 (idsLt_flattenSpreads hraw)
  | access e i =>
    rw [eval_access]
    exact .bind (ih.eval hs) fun v s1 _ hs1 hv =>
      .bind (ih.eval hs1) fun iv s2 h2 hs2 _ =>
        .pure hs2 (sat_accessOp (idsLt_all.1 (idsLt_mono h2 _ hv))).idsLt
  | dot e f =>
    rw [eval_dot]
    exact .bind (ih.eval hs) fun v s1 _ hs1 hv =>
      .pure hs1 (sat_dotOp (idsLt_all.1 hv)).idsLt
  | bin op l r =>
    rw [eval_bin]
    exact .bind (ih.eval hs) fun a s1 _ hs1 ha =>
      .bind (ih.eval hs1) fun b s2 h2 hs2 hb =>
        (ih.evalBin hs2 (idsLt_mono h2 _ ha) hb)
  | un op e =>
    rw [eval_un]
    exact .bind (ih.eval hs) fun v s1 _ hs1 _ => .pure hs1 sat_unOp.idsLt
  | fact e =>
    rw [eval_fact]
    exact .bind (ih.eval hs) fun v s1 _ hs1 _ => .pure hs1 sat_factOp.idsLt
  | spread e =>
    rw [eval_spread]
    exact .bind (ih.eval hs) fun v s1 _ hs1 hv =>
      .pure hs1 (sat_spreadOp (idsLt_all.1 hv)).idsLt

theorem fresh_evalList {d es s} (hs : StateOk s) :
    FreshRun Value.idsLtList s.nextId (evalList ops (n+1) d es s) := by
  cases es with
  | nil => rw [evalList_nil]; exact .ok hs rfl
  | cons e es =>
    rw [evalList_cons]
    exact .bind (ih.eval hs) fun v s1 _ hs1 hv =>
      .bind (ih.evalList hs1) fun vs s2 h2 hs2 hvs =>
        .ok hs2 (idsLtList_cons.mpr ⟨idsLt_mono h2 _ hv, hvs⟩)

theorem fresh_evalItems {d es s} (hs : StateOk s) :
    FreshRun Value.idsLtList s.nextId (evalItems ops (n+1) d es s) := by
  rcases es with _ | ⟨⟨l, e, t⟩, es⟩
  · rw [evalItems_nil]; exact .ok hs rfl
  · rw [evalItems_cons]
    exact .bind (ih.eval hs) fun v s1 _ hs1 hv =>
      .bind (ih.evalItems hs1) fun vs s2 h2 hs2 hvs =>
        .ok hs2 (idsLtList_cons.mpr ⟨idsLt_mono h2 _ hv, hvs⟩)

theorem fresh_evalEntries {d es acc s} (hs : StateOk s) (ha : Value.idsLtRec s.nextId acc = true) :
    FreshRun Value.idsLtRec s.nextId (evalEntries ops (n+1) d es acc s) := by
  rcases es with _ | ⟨⟨l, k, v, t⟩, es⟩
  · rw [evalEntries_nil]; exact .ok hs ha
  · cases k with
    | static k =>
      rw [evalEntries_static]
      exact .bind (ih.eval hs) fun x s1 h1 hs1 hx =>
        (ih.evalEntries hs1 (idsLt_insertAL hx (idsLtRec_mono h1 _ ha)))
    | dyn ke =>
      rw [evalEntries_dyn]
      refine .bind (ih.eval hs) fun kv s1 h1 hs1 _ => ?_
      split
      · exact .bind (ih.eval hs1) fun x s2 h2 hs2 hx =>
          (ih.evalEntries hs2 (idsLt_insertAL hx (idsLtRec_mono (Nat.le_trans h1 h2) _ ha)))
      · exact .err hs1
    | short x =>
      rw [evalEntries_short]
      split
      · rename_i val hval
        exact ih.evalEntries hs (idsLt_insertAL (idsLt_envGet hs.env hval) ha)
      · exact .err hs
    | spread se =>
      rw [evalEntries_spread]
      refine .bind (ih.eval hs) fun x s1 h1 hs1 hx => ?_
      have ha1 := idsLtRec_mono h1 _ ha
      split
      · exact ih.evalEntries hs1 (idsLt_spreadIntoRecord ha1 hx)
      · exact ih.evalEntries hs1 ha1

theorem fresh_evalDoStmt {d e s} (hs : StateOk s) :
    FreshRun Value.idsLt s.nextId (evalDoStmt ops (n+1) d e s) := by
  by_cases he : ∃ x v, e = .assign x v
  · obtain ⟨x, v, rfl⟩ := he
    rw [evalDoStmt_assign]
    exact .ite (.err hs) <| .bind (ih.eval hs) fun val s1 _ hs1 hv =>
      .assign hs1 hv _ _
  · rw [evalDoStmt_other _ _ _ _ _ fun x v hx => he ⟨x, v, hx⟩]
    exact ih.eval hs

theorem fresh_evalDo {d st ret s} (hs : StateOk s) :
    FreshRun Value.idsLt s.nextId (evalDo ops (n+1) d st ret s) := by
  rcases ret with ⟨l, e, t⟩
  rcases st with _ | ⟨⟨l', e', t'⟩, rest⟩
  · rw [evalDo_nil]; exact ih.evalDoStmt hs
  · rw [evalDo_cons]
    exact .bind (ih.evalDoStmt hs) fun _ s1 _ hs1 _ =>
      (ih.evalDo hs1)

theorem fresh_mapCalls {f w L i d s} (hs : StateOk s)
    (hf : f.idsLt s.nextId = true) (hL : Value.idsLtList s.nextId L = true) :
    FreshRun Value.idsLtList s.nextId (mapCalls ops (n+1) f w L i d s) := by
  cases L with
  | nil => rw [mapCalls_nil]; exact .ok hs rfl
  | cons x xs =>
    obtain ⟨hx, hxs⟩ := idsLtList_cons.mp hL
    rw [mapCalls_cons]
    exact .bind (ih.callFn hs hf hf (idsLtList_idxArgs hx))
      fun v s1 h1 hs1 hv =>
        .bind (ih.mapCalls hs1 (idsLt_mono h1 _ hf) (idsLtList_mono h1 _ hxs))
          fun vs s2 h2 hs2 hvs => .ok hs2 (idsLtList_cons.mpr ⟨idsLt_mono h2 _ hv, hvs⟩)

theorem fresh_quantCalls {f w q L i d s} (hs : StateOk s)
    (hf : f.idsLt s.nextId = true) (hL : Value.idsLtList s.nextId L = true) :
    FreshRun Value.idsLt s.nextId (quantCalls ops (n+1) f w q L i d s) := by
  cases L with
  | nil => rw [quantCalls_nil]; exact .ok hs rfl
  | cons x xs =>
    obtain ⟨hx, hxs⟩ := idsLtList_cons.mp hL
    rw [quantCalls_cons]
    refine .bind (ih.callFn hs hf hf (idsLtList_idxArgs hx))
      fun v s1 h1 hs1 _ => ?_
    split
    · exact .ite (.ok hs1 rfl) <| .ite (.ok hs1 rfl) <|
        ih.quantCalls hs1 (idsLt_mono h1 _ hf) (idsLtList_mono h1 _ hxs)
    · exact .err hs1

theorem fresh_foldCalls {f w acc L i d s} (hs : StateOk s) (hf : f.idsLt s.nextId = true)
    (ha : acc.idsLt s.nextId = true) (hL : Value.idsLtList s.nextId L = true) :
    FreshRun Value.idsLt s.nextId (foldCalls ops (n+1) f w acc L i d s) := by
  cases L with
  | nil => rw [foldCalls_nil]; exact .ok hs ha
  | cons x xs =>
    obtain ⟨hx, hxs⟩ := idsLtList_cons.mp hL
    have hargs : Value.idsLtList s.nextId (if w then [acc, x, .num (F64.ofNat i)] else [acc, x]) = true := by
      cases w <;> exact idsLtList_cons.mpr ⟨ha, idsLtList_cons.mpr ⟨hx, rfl⟩⟩
    rw [foldCalls_cons]
    exact .bind (ih.callFn hs hf hf hargs) fun v s1 h1 hs1 hv =>
      (ih.foldCalls hs1 (idsLt_mono h1 _ hf) hv (idsLtList_mono h1 _ hxs))

/-- the keys are not looked at: the state stays fresh and the keyed elements are those of the list -/
theorem fresh_keyCalls {f L d s} (hs : StateOk s)
    (hf : f.idsLt s.nextId = true) (hL : Value.idsLtList s.nextId L = true) :
    s.nextId ≤ (keyCalls ops (n+1) f L d s).2.nextId ∧ StateOk (keyCalls ops (n+1) f L d s).2 ∧
      ∀ kr ∈ (keyCalls ops (n+1) f L d s).1, kr.1 ∈ L := by
  cases L with
  | nil => rw [keyCalls_nil]; exact ⟨Nat.le_refl _, hs, nofun⟩
  | cons x xs =>
    obtain ⟨hx, hxs⟩ := idsLtList_cons.mp hL
    rw [keyCalls_cons]
    have h1 := ih.callFn (args := [x]) (d := d) hs hf hf (idsLtList_cons.mpr ⟨hx, rfl⟩)
    obtain ⟨h2, hs2, hk⟩ := ih.keyCalls (d := d) h1.fresh.1 (idsLt_mono h1.le _ hf) (idsLtList_mono h1.le _ hxs)
    refine ⟨Nat.le_trans h1.le h2, hs2, fun kr hkr => ?_⟩
    rcases List.mem_cons.mp hkr with rfl | hkr
    · exact List.mem_cons_self
    · exact List.mem_cons_of_mem _ (hk kr hkr)

theorem fresh_viaPairs {la lb d s} (hs : StateOk s)
    (ha : Value.idsLtList s.nextId la = true) (hb : Value.idsLtList s.nextId lb = true) :
    FreshRun Value.idsLt s.nextId (viaPairs ops (n+1) la lb d s) := by
  cases la with
  | nil => rw [viaPairs_nil_left]; exact .ok hs rfl
  | cons x xs =>
    cases lb with
    | nil => rw [viaPairs_nil_right]; exact .ok hs rfl
    | cons f fs =>
      obtain ⟨hx, hxs⟩ := idsLtList_cons.mp ha
      obtain ⟨hf, hfs⟩ := idsLtList_cons.mp hb
      rw [viaPairs_cons]
      refine .ite (.err hs) <| .bind (ih.callFn hs hf hf (idsLtList_cons.mpr ⟨hx, rfl⟩)) fun v s1 h1 hs1 hv =>
        .bind (ih.viaPairs hs1 (idsLtList_mono h1 _ hxs) (idsLtList_mono h1 _ hfs)) fun r s2 h2 hs2 hr => ?_
      split
      · exact .ok hs2 (idsLtList_cons.mpr ⟨idsLt_mono h2 _ hv, hr⟩)
      · exact .ok hs2 hr

theorem fresh_whereCalls {f w L i d s} (hs : StateOk s)
    (hf : f.idsLt s.nextId = true) (hL : Value.idsLtList s.nextId L = true) :
    FreshRun Value.idsLt s.nextId (whereCalls ops (n+1) f w L i d s) := by
  cases L with
  | nil => rw [whereCalls_nil]; exact .ok hs rfl
  | cons x xs =>
    obtain ⟨hx, hxs⟩ := idsLtList_cons.mp hL
    rw [whereCalls_cons]
    refine .bind (ih.callFn hs hf hf (idsLtList_idxArgs hx))
      fun v s1 h1 hs1 _ => ?_
    split
    · refine .bind (ih.whereCalls hs1 (idsLt_mono h1 _ hf) (idsLtList_mono h1 _ hxs)) fun r s2 h2 hs2 hr => ?_
      split
      · refine .ok hs2 ?_
        split
        · exact idsLtList_cons.mpr ⟨idsLt_mono (Nat.le_trans h1 h2) _ hx, hr⟩
        · exact hr
      · exact .ok hs2 hr
    · exact .err hs1

theorem fresh_evalBin {d op a b s} (hs : StateOk s)
    (ha : a.idsLt s.nextId = true) (hb : b.idsLt s.nextId = true) :
    FreshRun Value.idsLt s.nextId (evalBin ops (n+1) d op a b s) := by
  by_cases hc : isCallOp op = false
  · rw [evalBin_value _ _ _ _ _ _ _ hc]; exact .pure hs (sat_binValue (idsLt_all.1 ha) (idsLt_all.1 hb)).idsLt
  · have hcall := ih.callFn (args := [a]) (d := d) hs hb hb (idsLtList_cons.mpr ⟨ha, rfl⟩)
    cases op <;> first | exact absurd rfl hc | skip
    · rw [evalBin_via]
      split
      · exact .ite (.err hs) (ih.viaPairs hs ha hb)
      · refine .ite (.err hs) ?_
        split
        · exact .err hs
        · exact .bind (ih.mapCalls hs hb ha)
            fun vs s1 _ hs1 hvs => .ok hs1 hvs
      · exact .err hs
      · exact .ite (.err hs) hcall
    · rw [evalBin_into]
      exact .ite (.err hs) (.ite (.err hs) hcall)
    · rw [evalBin_where]
      split
      · exact .ite (.err hs) (.err hs)
      · refine .ite (.err hs) ?_
        split
        · exact .err hs
        · exact ih.whereCalls hs hb ha
      · exact .err hs

theorem fresh_callHof {name args d s} (hs : StateOk s) (ha : Value.idsLtList s.nextId args = true) :
    FreshRun Value.idsLt s.nextId (callHof ops (n+1) name args d s) := by
  match args, ha with
  | [], _ => rw [callHof_short _ _ _ _ _ _ (by decide)]; exact .pure hs nofun
  | [x], _ => rw [callHof_short _ _ _ _ _ [x] (Nat.le_refl 2)]; exact .pure hs nofun
  | lv :: f :: rest, ha =>
    obtain ⟨hlv, hfr⟩ := idsLtList_cons.mp ha
    obtain ⟨hf, hrest⟩ := idsLtList_cons.mp hfr
    by_cases hsb : name = "sort_by"
    · subst hsb
      rw [callHof_sort_by]
      split
      · -- the sorted list is a rearrangement of the keyed elements
        rename_i l
        refine .ite (.ok hs hlv) ?_
        obtain ⟨hn, hs1, hk⟩ := ih.keyCalls (d := d+1) hs hf hlv
        refine .ite ⟨hn, hs1, nofun⟩ ⟨hn, hs1, fun v h => ?_⟩
        cases h
        refine (idsLtList_iff _).mpr fun x hx => ?_
        obtain ⟨kr, hkr, rfl⟩ := List.mem_map.mp hx
        exact idsLt_mono hn _ (idsLt_of_mem_list hlv (hk kr (mergeSortBy_mem _ _ _ _ hkr)))
      · exact .err hs
    · by_cases hl : ∃ l, lv = Value.list l
      · obtain ⟨l, rfl⟩ := hl
        rcases isHof_cases name with rfl | rfl | rfl | rfl | rfl | rfl | rfl | rfl | hn
        · exact absurd rfl hsb
        · rw [callHof_map]; split
          · exact .err hs
          · exact .bind (ih.mapCalls hs hf hlv) fun vs s1 _ hs1 hvs => .ok hs1 hvs
        · rw [callHof_filter]; split
          · exact .err hs
          · exact ih.whereCalls hs hf hlv
        · rw [callHof_every]; split
          · exact .err hs
          · exact ih.quantCalls hs hf hlv
        · rw [callHof_some]; split
          · exact .err hs
          · exact ih.quantCalls hs hf hlv
        · rw [callHof_reduce]; split
          · exact .err hs
          · split
            · rename_i init hinit
              exact ih.foldCalls hs hf (idsLt_getElem? hrest hinit) hlv
            · exact .pure hs nofun
        · rw [callHof_group_by]; split
          · exact .err hs
          · refine .bind (ih.mapCalls hs hf hlv) fun ks s1 h1 hs1 _ => ?_
            split
            · rename_i r hr
              exact .ok hs1 (idsLt_groupByKeys (idsLtList_mono h1 _ hlv) hr)
            · exact .err hs1
        · rw [callHof_count_by]; split
          · exact .err hs
          · refine .bind (ih.mapCalls hs hf hlv) fun ks s1 _ hs1 _ => ?_
            split
            · rename_i r hr
              exact .ok hs1 (idsLt_countByKeys hr)
            · exact .err hs1
        · rw [callHof_unknown _ _ _ _ _ hn]; split <;> exact .err hs
      · rw [callHof_not_list _ _ _ _ _ hsb _ _ _ fun l h => hl ⟨l, h⟩]; exact .err hs

/-- a call: the body runs in frames built from the caller's state, the captured scope, `this`
    and the arguments, all fresh; a built-in without callbacks only rearranges its arguments -/
theorem fresh_callFn {fv this args d s} (hs : StateOk s)
    (hf : fv.idsLt s.nextId = true) (ht : this.idsLt s.nextId = true)
    (ha : Value.idsLtList s.nextId args = true) :
    FreshRun Value.idsLt s.nextId (callFn ops (n+1) fv this args d s) := by
  by_cases hl : ∃ id ps b sc, fv = .lambda id ps b sc
  · obtain ⟨id, ps, b, sc, rfl⟩ := hl
    rw [callFn_lambda]
    refine .bindPure hs fun _ _ => .ite (.err hs) <| .bindPure hs fun pf hpf => ?_
    have h := ih.eval (d := d+1) (e := b) (hs.withEnv (bodyEnv s id sc this pf)
      (envLt_all.2 (allE_bodyEnv (envLt_all.1 hs.env) _ (all_lambda.1 (idsLt_all.1 hf)).2 (idsLt_all.1 ht)
        (idsLtRec_all.1 (idsLt_bindParams ha hpf)))))
    exact h.restore (envLt_mono h.le _ hs.env)
  · by_cases hb : ∃ x, fv = .builtin x
    · obtain ⟨name, rfl⟩ := hb
      rw [callFn_builtin]
      split
      · exact .err hs
      · refine .bindPure hs fun _ _ => .ite (.err hs) <|
          .ite (ih.callHof hs ha) ?_
        split
        · rename_i r hr
          exact .pure hs fun v hv => callPure_keeps_idsLt ops _ _ _ (hv ▸ hr) ha
        · exact .err hs
    · rw [callFn_other _ _ _ _ _ _ _ (fun id ps b sc hx => hl ⟨id, ps, b, sc, hx⟩) (fun x hx => hb ⟨x, hx⟩)]
      exact .err hs

theorem freshRuns_succ : FreshRuns ops (n+1) :=
  ⟨fresh_eval ih, fresh_evalList ih, fresh_evalItems ih, fresh_evalEntries ih, fresh_evalDoStmt ih,
   fresh_evalDo ih, fresh_callFn ih, fresh_mapCalls ih, fresh_quantCalls ih, fresh_foldCalls ih,
   fresh_keyCalls ih, fresh_callHof ih, fresh_evalBin ih, fresh_viaPairs ih, fresh_whereCalls ih⟩

end step

theorem freshRuns (ops : NumOps) : ∀ n, FreshRuns ops n
  | 0 => freshRuns_zero ops
  | n + 1 => freshRuns_succ (freshRuns ops n)

def FreshV (p : Outcome Value × ES) : Prop :=
  StateOk p.2 ∧ ∀ v, p.1 = .ok v → v.idsLt p.2.nextId = true
def FreshL (p : Outcome (List Value) × ES) : Prop :=
  StateOk p.2 ∧ ∀ vs, p.1 = .ok vs → Value.idsLtList p.2.nextId vs = true
def FreshR (p : Outcome Frame × ES) : Prop :=
  StateOk p.2 ∧ ∀ r, p.1 = .ok r → Value.idsLtRec p.2.nextId r = true

structure FreshStep (ops : NumOps) (n : Nat) : Prop where
  eval : ∀ d e s, StateOk s → FreshV (eval ops n d e s)
  evalList : ∀ d es s, StateOk s → FreshL (evalList ops n d es s)
  evalItems : ∀ d es s, StateOk s → FreshL (evalItems ops n d es s)
  evalEntries : ∀ d es acc s, StateOk s → Value.idsLtRec s.nextId acc = true →
    FreshR (evalEntries ops n d es acc s)
  evalDoStmt : ∀ d e s, StateOk s → FreshV (evalDoStmt ops n d e s)
  evalDo : ∀ d st ret s, StateOk s → FreshV (evalDo ops n d st ret s)
  callFn : ∀ fv this args d s, StateOk s → fv.idsLt s.nextId = true → this.idsLt s.nextId = true →
    Value.idsLtList s.nextId args = true → FreshV (callFn ops n fv this args d s)
  mapCalls : ∀ f w L i d s, StateOk s → f.idsLt s.nextId = true → Value.idsLtList s.nextId L = true →
    FreshL (mapCalls ops n f w L i d s)
  quantCalls : ∀ f w q L i d s, StateOk s → f.idsLt s.nextId = true → Value.idsLtList s.nextId L = true →
    FreshV (quantCalls ops n f w q L i d s)
  foldCalls : ∀ f w acc L i d s, StateOk s → f.idsLt s.nextId = true → acc.idsLt s.nextId = true →
    Value.idsLtList s.nextId L = true → FreshV (foldCalls ops n f w acc L i d s)
  keyCalls : ∀ f L d s, StateOk s → f.idsLt s.nextId = true → Value.idsLtList s.nextId L = true →
    StateOk (keyCalls ops n f L d s).2 ∧ ∀ kr ∈ (keyCalls ops n f L d s).1, kr.1 ∈ L
  callHof : ∀ name args d s, StateOk s → Value.idsLtList s.nextId args = true →
    FreshV (callHof ops n name args d s)
  evalBin : ∀ d op a b s, StateOk s → a.idsLt s.nextId = true → b.idsLt s.nextId = true →
    FreshV (evalBin ops n d op a b s)
  viaPairs : ∀ la lb d s, StateOk s → Value.idsLtList s.nextId la = true →
    Value.idsLtList s.nextId lb = true → FreshV (viaPairs ops n la lb d s)
  whereCalls : ∀ f w L i d s, StateOk s → f.idsLt s.nextId = true → Value.idsLtList s.nextId L = true →
    FreshV (whereCalls ops n f w L i d s)

theorem fresh_group (ops : NumOps) (n : Nat) : FreshStep ops n where
  eval _ _ _ hs := ((freshRuns ops n).eval hs).fresh
  evalList _ _ _ hs := ((freshRuns ops n).evalList hs).fresh
  evalItems _ _ _ hs := ((freshRuns ops n).evalItems hs).fresh
  evalEntries _ _ _ _ hs ha := ((freshRuns ops n).evalEntries hs ha).fresh
  evalDoStmt _ _ _ hs := ((freshRuns ops n).evalDoStmt hs).fresh
  evalDo _ _ _ _ hs := ((freshRuns ops n).evalDo hs).fresh
  callFn _ _ _ _ _ hs hf ht ha := ((freshRuns ops n).callFn hs hf ht ha).fresh
  mapCalls _ _ _ _ _ _ hs hf hL := ((freshRuns ops n).mapCalls hs hf hL).fresh
  quantCalls _ _ _ _ _ _ _ hs hf hL := ((freshRuns ops n).quantCalls hs hf hL).fresh
  foldCalls _ _ _ _ _ _ _ hs hf ha hL := ((freshRuns ops n).foldCalls hs hf ha hL).fresh
  keyCalls _ _ _ _ hs hf hL := ((freshRuns ops n).keyCalls hs hf hL).2
  callHof _ _ _ _ hs ha := ((freshRuns ops n).callHof hs ha).fresh
  evalBin _ _ _ _ _ hs ha hb := ((freshRuns ops n).evalBin hs ha hb).fresh
  viaPairs _ _ _ _ hs ha hb := ((freshRuns ops n).viaPairs hs ha hb).fresh
  whereCalls _ _ _ _ _ _ hs hf hL := ((freshRuns ops n).whereCalls hs hf hL).fresh

theorem eval_fresh (ops : NumOps) (fuel d e s) (hs : StateOk s) : FreshV (eval ops fuel d e s) :=
  (fresh_group ops fuel).eval d e s hs

theorem runStmts_stateOk (ops : NumOps) (fuel : Nat) : ∀ (stmts : List Expr) (s : ES), StateOk s →
    StateOk (runStmts ops fuel s stmts).2
  | [], _, hs => hs
  | e :: es, s, hs => runStmts_stateOk ops fuel es _ (eval_fresh ops fuel 0 e s hs).1

theorem root0_stateOk : StateOk root0 := ⟨rfl, nofun⟩

end Blots
