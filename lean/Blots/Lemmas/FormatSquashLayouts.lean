import Blots.Lemmas.FormatSquashFlat
/-
  The width-driven layouts differ from the single-line printer only in layout: for every tree
  (with `namesOk`, `lamOk`), width and indent, `Eqv (rt (fmtImplP w indent e)) (flat e).toList`
  (`sq_both`, by mutual structural induction).  A layout is compared with the single-line form
  `flat` text piece by text piece (`Eqv.txt`; `Eqv.lit`: a computation on two literals) and part
  by part.  `hd_impl`: along its left spine a layout starts with `-` exactly when `flat` does,
  and with `via` / `into` / `where` and a blank as little as `flat` (`nw_flat`), so that
  `protect_statement_start` decides alike on both sides.
-/
namespace Blots
namespace Squash
open FormatL FormatP

/-- the characters of the pieces that are not comments -/
def rt (ps : List Piece) : List Char := (render (textOnly ps)).toList

theorem textOnly_nil : textOnly [] = [] := rfl
theorem textOnly_text (s : String) (l : List Piece) : textOnly (.text s :: l) = .text s :: textOnly l :=
  List.filter_cons_of_pos rfl
theorem textOnly_comment (s : String) (l : List Piece) : textOnly (.comment s :: l) = textOnly l :=
  List.filter_cons_of_neg (by simp [Piece.isText])
theorem textOnly_append (a b : List Piece) : textOnly (a ++ b) = textOnly a ++ textOnly b := by
  simp [textOnly]

theorem rt_nil : rt [] = [] := rfl
theorem rt_text (s : String) (l : List Piece) : rt (.text s :: l) = s.toList ++ rt l := by
  simp only [rt, textOnly_text, render_text, String.toList_append]
theorem rt_comment (s : String) (l : List Piece) : rt (.comment s :: l) = rt l := by
  simp only [rt, textOnly_comment]
theorem rt_append (a b : List Piece) : rt (a ++ b) = rt a ++ rt b := by
  simp only [rt, textOnly_append, render_append, String.toList_append]

theorem textOnly_of_noComments : ∀ ps : List Piece, commentPieces ps = [] → textOnly ps = ps
  | [], _ => rfl
  | .text s :: l, h => by
    rw [commentPieces_text] at h
    rw [textOnly_text, textOnly_of_noComments l h]
  | .comment s :: l, h => by
    rw [commentPieces_comment] at h; cases h

/-- Normal form of an `Eqv` goal about a layout: on the left the texts `s.toList` of its text
    pieces and the `rt` of its parts, on the right the texts of the single-line form, both as
    right-nested `++`.  The two sides are then walked in parallel with `Eqv.txt` / `Eqv.ind` /
    `Eqv.dropL` (a text of the layout against its counterpart, an indentation, a text without
    counterpart) and `Eqv.app` (a part against its single-line form). -/
macro "seg_norm" : tactic => `(tactic| simp only [rt_nil, rt_text, rt_comment, rt_append,
  String.toList_append, List.append_assoc, List.append_nil, List.nil_append])

-- a hypothesis about a layout, down to single characters
macro "rt_norm" " at " h:ident : tactic => `(tactic| simp only [rt_nil, rt_text, rt_comment, rt_append,
  String.toList_append, String.reduceToList, makeIndent_toList, List.append_assoc,
  List.cons_append, List.nil_append, List.append_nil] at $h:ident)

theorem Eqv.dropL {a c d : List Char} (h : Eqv a []) (h' : Eqv c d) : Eqv (a ++ c) d :=
  Eqv.app h h'

theorem Eqv.dropEndL {a b c : List Char} (h : Eqv a b) (h' : Eqv c []) : Eqv (a ++ c) b := by
  have := Eqv.app h h'
  rwa [List.append_nil] at this

theorem Eqv.txt {s t : String} {a b : List Char} (h : sameSolid s t = true) (h' : Eqv a b) :
    Eqv (s.toList ++ a) (t.toList ++ b) := Eqv.app (Eqv.lit h) h'

theorem Eqv.ind {a b : List Char} (k : Nat) (h : Eqv a b) : Eqv ((makeIndent k).toList ++ a) b := by
  rw [makeIndent_toList]
  exact Eqv.skipIndentL k h

theorem Eqv.nl {a b : List Char} (k : Nat) (h : Eqv a b) :
    Eqv ("\n".toList ++ ((makeIndent k).toList ++ a)) b :=
  Eqv.dropL (Eqv.blank (by decide)) (Eqv.ind k h)

theorem Eqv.brk {a b : List Char} (k : Nat) (h : Eqv a b) :
    Eqv ("\n".toList ++ ((makeIndent k).toList ++ a)) (" ".toList ++ b) :=
  Eqv.txt (by decide) (Eqv.ind k h)

theorem comma_toList : ",".toList = [','] := by decide

def hm (s : List Char) : Bool := s.head? == some '-'

/-- in front of anything that agrees on "starts with `-`", `R` and `F` agree on it -/
def HM (R F : List Char) : Prop := ∀ x y, hm x = hm y → hm (R ++ x) = hm (F ++ y)

theorem HM.same (t : List Char) : HM t t := fun x y h => by
  cases t with
  | nil => simpa using h
  | cons c t => rfl

theorem HM.cons (c : Char) (R F : List Char) : HM (c :: R) (c :: F) := fun _ _ _ => rfl

theorem HM.neither {c d : Char} (R F : List Char) (hc : (c == '-') = false) (hd : (d == '-') = false) :
    HM (c :: R) (d :: F) := fun _ _ _ => by
  simp only [hm, List.cons_append, List.head?_cons]
  have e1 : (some c == some '-') = (c == '-') := rfl
  have e2 : (some d == some '-') = (d == '-') := rfl
  rw [e1, e2, hc, hd]

theorem HM.app {R1 F1 R2 F2 : List Char} (h1 : HM R1 F1) (h2 : HM R2 F2) :
    HM (R1 ++ R2) (F1 ++ F2) := fun x y h => by
  rw [List.append_assoc, List.append_assoc]
  exact h1 _ _ (h2 x y h)

theorem HM.head {R F : List Char} (h : HM R F) : hm R = hm F := by
  have := h [] [] rfl
  rwa [List.append_nil, List.append_nil] at this

theorem hm_true_iff (s : List Char) : hm s = true ↔ ∃ t, s = '-' :: t := by
  cases s with
  | nil => simp [hm]
  | cons c t =>
    have e1 : hm (c :: t) = (c == '-') := rfl
    rw [e1]
    simp

/-- the rendered text of a layout and the single-line text as characters, so that their first
    ones show -/
macro "head_norm" : tactic => `(tactic| simp only [flat, render_nil, render_text, render_append,
  String.toList_append, String.reduceToList, String.toList_empty, makeIndent_toList,
  List.append_assoc, List.cons_append, List.nil_append, List.append_nil])

/-! #### a text that cannot become a `via` / `into` / `where` start, whatever follows it

  `NW R`: in front of anything that does not start with a letter, `R` does not start with one
  of the three words followed by a blank.  It holds for the single-line text and for every
  layout of a tree whose leftmost name is none of the three (`headSafe`). -/

/-- ends a name: nothing, or a character that is no letter -/
def ctxOk : List Char → Bool
  | [] => true
  | c :: _ => !isAsciiAlpha c

def NW (R : List Char) : Prop := ∀ x, ctxOk x = true → wordOperatorStart (R ++ x) = false

theorem wos_head {c : Char} (t : List Char) (h1 : c ≠ 'v') (h2 : c ≠ 'i') (h3 : c ≠ 'w') :
    wordOperatorStart (c :: t) = false := by
  have e1 : ¬ ('v' = c) := fun e => h1 e.symm
  have e2 : ¬ ('i' = c) := fun e => h2 e.symm
  have e3 : ¬ ('w' = c) := fun e => h3 e.symm
  simp [wordOperatorStart, List.isPrefixOf, e1, e2, e3]

theorem NW.nil : NW [] := by
  intro x hx
  cases x with
  | nil => simp [wordOperatorStart]
  | cons c t =>
    simp only [ctxOk, Bool.not_eq_true'] at hx
    refine wos_head t ?_ ?_ ?_ <;> (intro e; subst e; revert hx; decide)

theorem NW.head {c : Char} (R : List Char) (h : (c != 'v' && c != 'i' && c != 'w') = true) :
    NW (c :: R) := fun _ _ => by
  simp only [Bool.and_eq_true, bne_iff_ne, ne_eq] at h
  exact wos_head _ h.1.1 h.1.2 h.2

theorem NW.kwIf (R : List Char) : NW ('i' :: 'f' :: ' ' :: R) := fun _ _ => by
  simp [wordOperatorStart, List.isPrefixOf]

theorem ctxOk_append {S : List Char} (hne : S ≠ []) (x : List Char) : ctxOk (S ++ x) = ctxOk S := by
  cases S with
  | nil => exact absurd rfl hne
  | cons c S => rfl

theorem NW.app {R S : List Char} (h : NW R) (hne : S ≠ []) (hS : ctxOk S = true) : NW (R ++ S) := by
  intro x _
  rw [List.append_assoc]
  exact h _ (by rw [ctxOk_append hne]; exact hS)

theorem isPrefixOf_append_cases : ∀ (p n x : List Char), p.isPrefixOf (n ++ x) = true →
    p.isPrefixOf n = true ∨ ∃ k, k < p.length ∧ n = p.take k ∧ (p.drop k).isPrefixOf x = true
  | [], n, x, _ => Or.inl (by simp [List.isPrefixOf])
  | d :: p', [], x, h => Or.inr ⟨0, by simp, by simp, by simpa using h⟩
  | d :: p', c :: n', x, h => by
    simp only [List.cons_append, List.isPrefixOf, Bool.and_eq_true, beq_iff_eq] at h
    obtain ⟨rfl, h'⟩ := h
    rcases isPrefixOf_append_cases p' n' x h' with hl | ⟨k, hk, hn, hd⟩
    · exact Or.inl (by simp [List.isPrefixOf, hl])
    · exact Or.inr ⟨k + 1, by simp only [List.length_cons]; omega, by simp [hn], by simpa using hd⟩

theorem wos_iff (cs : List Char) : wordOperatorStart cs = true ↔
    ∃ w ∈ ["via", "into", "where"], ∃ b ∈ [' ', '\t'], (w.toList ++ [b]).isPrefixOf cs = true := by
  simp only [wordOperatorStart, List.any_eq_true, Bool.or_eq_true]
  constructor
  · rintro ⟨w, hw, h | h⟩
    · exact ⟨w, hw, ' ', by simp, h⟩
    · exact ⟨w, hw, '\t', by simp, h⟩
  · rintro ⟨w, hw, b, hb, h⟩
    simp only [List.mem_cons, List.not_mem_nil, or_false] at hb
    rcases hb with rfl | rfl
    · exact ⟨w, hw, Or.inl h⟩
    · exact ⟨w, hw, Or.inr h⟩

theorem word_letters : ∀ w ∈ ["via", "into", "where"], ∀ c ∈ w.toList, isAsciiAlpha c = true := by
  decide

theorem NW.name {n : String} (h : headNameOk n = true) : NW n.toList := by
  intro x hx
  simp only [headNameOk, Bool.and_eq_true, Bool.not_eq_true', Bool.or_eq_false_iff,
    beq_eq_false_iff_ne, ne_eq] at h
  obtain ⟨⟨⟨h1, h2⟩, h3⟩, h4⟩ := h
  cases hw : wordOperatorStart (n.toList ++ x) with
  | false => rfl
  | true =>
    exfalso
    obtain ⟨w, hwm, b, hb, hp⟩ := (wos_iff _).mp hw
    rcases isPrefixOf_append_cases _ _ _ hp with hl | ⟨k, hk, hn, hd⟩
    · have : wordOperatorStart n.toList = true := (wos_iff _).mpr ⟨w, hwm, b, hb, hl⟩
      rw [h4] at this; cases this
    · simp only [List.length_append, List.length_cons, List.length_nil] at hk
      by_cases hkw : k = w.toList.length
      · -- `n` is the word itself
        subst hkw
        have : n.toList = w.toList := by rw [hn]; simp
        have : n = w := String.toList_inj.mp this
        subst this
        simp only [List.mem_cons, List.not_mem_nil, or_false] at hwm
        rcases hwm with rfl | rfl | rfl
        · exact h1 rfl
        · exact h2 rfl
        · exact h3 rfl
      · -- `x` continues the word with a letter
        have hlt : k < w.toList.length := by omega
        have hdrop : (w.toList ++ [b]).drop k = w.toList[k] :: ((w.toList ++ [b]).drop (k + 1)) := by
          rw [List.drop_eq_getElem_cons (by simp; omega)]
          congr 1
          exact List.getElem_append_left hlt
        rw [hdrop] at hd
        cases x with
        | nil => simp [List.isPrefixOf] at hd
        | cons c x' =>
          simp only [List.isPrefixOf, Bool.and_eq_true, beq_iff_eq] at hd
          have hc : isAsciiAlpha (w.toList[k]) = true := word_letters w hwm _ (List.getElem_mem hlt)
          rw [hd.1] at hc
          simp only [ctxOk, Bool.not_eq_true'] at hx
          rw [hx] at hc; cases hc

theorem NW.parenIf (b : Bool) {f : List Char} (h : NW f) :
    NW (if b then '(' :: (f ++ [')']) else f) := by
  cases b
  · exact h
  · exact NW.head _ rfl

theorem nw_argsPart (args : List LArg)
    (h : (match args with | [.req n] => headNameOk n | _ => true) = true) :
    NW (lambdaArgsPart args).toList := by
  unfold lambdaArgsPart
  split
  · rename_i n
    exact NW.name h
  · simp only [String.toList_append, String.reduceToList, List.cons_append, List.nil_append]
    exact NW.head _ rfl

/-- a child on the left spine: parenthesised, or itself safe -/
theorem nw_spine (b : Bool) {e : Expr} (ih : headSafe e = true → NW (flat e).toList)
    (h : (b || headSafe e) = true) : NW (parenIf b (flat e)).toList := by
  rw [PrintL.parenIf_toList]
  cases b
  · exact ih (by simpa using h)
  · exact NW.head _ rfl

theorem nw_flat : ∀ e : Expr, headSafe e = true → NW (flat e).toList
  | .ident _, h | .builtin _, h => NW.name h
  | .assign n v, h => by
    head_norm
    exact NW.app (NW.name h) (List.cons_ne_nil _ _) rfl
  | .bin _ e _, h | .call e _, h | .access e _, h | .dot e _, h | .fact e, h => by
    head_norm
    exact NW.app (nw_spine _ (nw_flat e) h) (List.cons_ne_nil _ _) rfl
  | .lambda args body, h => by
    head_norm
    exact NW.app (nw_argsPart args h) (List.cons_ne_nil _ _) rfl
  | .num x, h => by
    simp only [headSafe] at h
    simp only [flat]
    cases hn : (numberToSource x).toList with
    | nil => exact NW.nil
    | cons c t =>
      rw [hn] at h
      exact NW.head _ h
  | .str s, _ => by
    simp only [flat, stringToSource]
    split
    · head_norm; exact NW.head _ rfl
    · split <;> (head_norm; exact NW.head _ rfl)
  | .bool b, _ => by cases b <;> (head_norm; exact NW.head _ rfl)
  | .un op e, _ => by cases op <;> (simp only [flat, unaryOpToSource]; head_norm; exact NW.head _ rfl)
  | .cond c t e, _ => by head_norm; exact NW.kwIf _
  | .inref _, _ | .null, _ | .list _, _ | .record _, _ | .doBlock _ _, _ | .output _, _
  | .spread _, _ => by head_norm; exact NW.head _ rfl

theorem NW.wos {R : List Char} (h : NW R) : wordOperatorStart R = false := by
  have := h [] rfl
  rwa [List.append_nil] at this

/-! ### what `protect_statement_start` sees of a layout

  `Hd safe R F`: the layout text `R` starts with `-` exactly when the single-line text `F` does,
  and, when `safe` (the leftmost name of the tree is none of the three words), it does not start
  with one of them followed by a blank.  Both hold in front of any continuation, so that they
  pass from a node on the left spine to its parent. -/

def Hd (safe : Bool) (R F : List Char) : Prop := HM R F ∧ (safe = true → NW R)

theorem Hd.same {safe : Bool} {F : List Char} (h : safe = true → NW F) : Hd safe F F :=
  ⟨HM.same F, h⟩

theorem Hd.lit {safe : Bool} {c : Char} (R F : List Char)
    (h : (c != 'v' && c != 'i' && c != 'w') = true) : Hd safe (c :: R) (c :: F) :=
  ⟨HM.cons c R F, fun _ => NW.head R h⟩

/-- a character that ends a name and is not `-` -/
def sepHead : List Char → Bool
  | c :: _ => !isAsciiAlpha c && !(c == '-')
  | [] => false

theorem Hd.app {safe : Bool} {R F S S' : List Char} (h : Hd safe R F) (hS : sepHead S = true)
    (hS' : sepHead S' = true) : Hd safe (R ++ S) (F ++ S') := by
  cases S with
  | nil => cases hS
  | cons c S =>
    cases S' with
    | nil => cases hS'
    | cons d S' =>
      simp only [sepHead, Bool.and_eq_true, Bool.not_eq_true'] at hS hS'
      exact ⟨HM.app h.1 (HM.neither _ _ hS.2 hS'.2), fun hs =>
        NW.app (h.2 hs) (List.cons_ne_nil _ _) (by simp only [ctxOk, hS.1, Bool.not_false])⟩

theorem Hd.paren (b : Bool) {safe hc : Bool} {ps : List Piece} {f : String}
    (h : Hd hc (render ps).toList f.toList) (hb : safe = (b || hc)) :
    Hd safe (render (parenP b ps)).toList (parenIf b f).toList := by
  subst hb
  cases b
  · simpa only [parenP, parenIf, Bool.false_eq_true, if_false, Bool.false_or] using h
  · simp only [parenP, parenIf, if_true]
    head_norm
    exact Hd.lit _ _ rfl

theorem Hd.ofMulti {safe : Bool} {w indent : Nat} {e : Expr} {multi : Unit → List Piece}
    (hs : hasNewline (fmtSingle e) = false → fmtSingle e = flat e)
    (hf : safe = true → NW (flat e).toList)
    (h : Hd safe (render (multi ())).toList (flat e).toList) :
    Hd safe (render (orSingle w indent e multi)).toList (flat e).toList := by
  unfold orSingle
  simp only
  split
  · rename_i hc
    simp only [Bool.and_eq_true, Bool.not_eq_true', decide_eq_true_eq] at hc
    rw [render_single, hs hc.1]
    exact Hd.same hf
  · exact h

/-- Along the left spine of every layout.  Every case but lambda and do-block first disposes of
    the single-line alternative (`Hd.ofMulti`: there the text is `flat e` itself); what remains
    starts either with a fixed character (`Hd.lit`), or with the layout of the leftmost child,
    perhaps parenthesised, followed by a separator (`Hd.paren` on the induction hypothesis, then
    `Hd.app`). -/
theorem hd_impl : ∀ (e : Expr) (w indent : Nat), lamOk e = true →
    Hd (headSafe e) (render (fmtImplP w indent e)).toList (flat e).toList
  | .lambda args body, w, indent, _ => by
    have hA : Hd (headSafe (.lambda args body)) (lambdaArgsPart args).toList
        (lambdaArgsPart args).toList := Hd.same (nw_argsPart args)
    simp only [fmtImplP]
    unfold lambdaLayout
    simp only
    split
    · head_norm; exact Hd.app hA rfl rfl
    · split
      · head_norm; exact Hd.app hA rfl rfl
      · split <;> (head_norm; exact Hd.app hA rfl rfl)
  | .doBlock ss r, w, indent, _ => by
    simp only [fmtImplP]
    head_norm
    exact Hd.lit _ _ rfl
  | .output e, w, indent, hl | .spread e, w, indent, hl => by
    simp only [fmtImplP]
    refine Hd.ofMulti (single_flat _ hl) (nw_flat _) ?_
    head_norm
    exact Hd.lit _ _ rfl
  | .assign n v, w, indent, hl => by
    simp only [fmtImplP]
    refine Hd.ofMulti (single_flat _ hl) (nw_flat _) ?_
    head_norm
    exact Hd.app (Hd.same fun h => NW.name h) rfl rfl
  | .list _, w, indent, hl | .record _, w, indent, hl => by
    simp only [fmtImplP]
    refine Hd.ofMulti (single_flat _ hl) (nw_flat _) ?_
    split <;> (head_norm; exact Hd.lit _ _ rfl)
  | .cond c t e, w, indent, hl => by
    simp only [fmtImplP]
    refine Hd.ofMulti (single_flat _ hl) (nw_flat _) ?_
    unfold condLayout
    simp only
    split <;> (head_norm; exact ⟨HM.cons _ _ _, fun _ => NW.kwIf _⟩)
  | .call f args, w, indent, hl => by
    simp only [fmtImplP]
    refine Hd.ofMulti (single_flat _ hl) (nw_flat _) ?_
    simp only [lamOk, Bool.and_eq_true] at hl
    split <;> (head_norm; exact Hd.app (Hd.paren _ (hd_impl f w indent hl.1) rfl) rfl rfl)
  | .bin op l r, w, indent, hl => by
    simp only [fmtImplP]
    refine Hd.ofMulti (single_flat _ hl) (nw_flat _) ?_
    simp only [lamOk, Bool.and_eq_true] at hl
    have ih := hd_impl l w indent (lamOk_of_noBare l hl.1)
    unfold binLayout
    simp only
    split
    · split <;> (head_norm; exact Hd.app (Hd.paren _ ih rfl) rfl rfl)
    · head_norm; exact Hd.app (Hd.paren _ ih rfl) rfl rfl
  | .un op e, w, indent, hl => by
    simp only [fmtImplP]
    refine Hd.ofMulti (single_flat _ hl) (nw_flat _) ?_
    cases op <;> (simp only [flat, unaryOpToSource]; head_norm; exact Hd.lit _ _ rfl)
  | .fact e, w, indent, hl | .dot e _, w, indent, hl => by
    simp only [fmtImplP]
    refine Hd.ofMulti (single_flat _ hl) (nw_flat _) ?_
    simp only [lamOk] at hl
    head_norm
    exact Hd.app (Hd.paren _ (hd_impl e w indent (lamOk_of_noBare e hl)) rfl) rfl rfl
  | .access e i, w, indent, hl => by
    simp only [fmtImplP]
    refine Hd.ofMulti (single_flat _ hl) (nw_flat _) ?_
    simp only [lamOk, Bool.and_eq_true] at hl
    head_norm
    exact Hd.app (Hd.paren _ (hd_impl e w indent (lamOk_of_noBare e hl.1)) rfl) rfl rfl
  | .num _, w, indent, hl | .str _, w, indent, hl | .bool _, w, indent, hl | .null, w, indent, hl
  | .ident _, w, indent, hl | .inref _, w, indent, hl | .builtin _, w, indent, hl => by
    simp only [fmtImplP]
    rw [render_leafP]
    · exact Hd.same (nw_flat _)
    · rfl

theorem eqv_orSingle (w indent : Nat) (e : Expr) (multi : Unit → List Piece) (f : String)
    (hs : hasNewline (fmtSingle e) = false → fmtSingle e = f)
    (h : Eqv (rt (multi ())) f.toList) : Eqv (rt (orSingle w indent e multi)) f.toList := by
  unfold orSingle
  simp only
  split
  · rename_i hc
    simp only [Bool.and_eq_true, Bool.not_eq_true', decide_eq_true_eq] at hc
    rw [hs hc.1, rt_text, rt_nil, List.append_nil]
    exact Eqv.refl h.balR
  · exact h

theorem eqv_paren (b : Bool) {ps : List Piece} {f : String} (h : Eqv (rt ps) f.toList) :
    Eqv (rt (parenP b ps)) (parenIf b f).toList := by
  cases b
  · simpa only [parenP, parenIf, Bool.false_eq_true, if_false] using h
  · simp only [parenP, parenIf, if_true]
    seg_norm
    exact Eqv.txt (by decide) (Eqv.app h (Eqv.lit (by decide)))

theorem rt_protectP (ps : List Piece) :
    rt (protectP ps) =
      if protectDecide (render ps).toList then '(' :: (rt ps ++ [')']) else rt ps := by
  unfold protectP
  split
  · simp only [rt_text, rt_append, rt_nil, String.reduceToList, List.cons_append, List.nil_append,
      List.append_nil]
  · rfl

theorem toList_protect (s : String) :
    (protectStatementStart s).toList =
      if protectDecide s.toList then '(' :: (s.toList ++ [')']) else s.toList := by
  unfold protectStatementStart
  split
  · simp only [String.toList_append, String.reduceToList, List.cons_append, List.nil_append]
  · rfl

theorem protectDecide_eq (s : List Char) : protectDecide s = (hm s || wordOperatorStart s) := rfl

theorem eqv_protect (ps : List Piece) (f : String) (hh : HM (render ps).toList f.toList)
    (hw1 : wordOperatorStart (render ps).toList = false) (hw2 : wordOperatorStart f.toList = false)
    (h : Eqv (rt ps) f.toList) : Eqv (rt (protectP ps)) (protectStatementStart f).toList := by
  rw [rt_protectP, toList_protect, protectDecide_eq, protectDecide_eq, hh.head, hw1, hw2]
  split
  · exact Eqv.cons_same (by decide) (Eqv.app h (Eqv.cons_same (by decide) Eqv.nil))
  · exact h

theorem eqv_lead (k : Nat) : ∀ cs : List String, Eqv (rt (leadP (makeIndent k) cs)) []
  | [] => Eqv.nil
  | c :: cs => by
    simp only [leadP]
    seg_norm
    exact Eqv.nl k (eqv_lead k cs)

theorem eqv_trail : ∀ t : Option String, Eqv (rt (trailP t)) []
  | none => Eqv.nil
  | some t => by
    simp only [trailP]
    seg_norm
    exact Eqv.blank (by decide)

theorem eqv_lambdaLayout (w indent : Nat) (args : List LArg) (body : Expr) (b : List Piece)
    (bIn : Unit → List Piece) (fb : String) (hA : Bal (lambdaArgsPart args).toList)
    (hb : Eqv (rt b) fb.toList) (hbIn : Eqv (rt (bIn ())) fb.toList) :
    Eqv (rt (lambdaLayout w indent args body b bIn))
      (lambdaArgsPart args ++ " => " ++ parenIf (lambdaBodyNeedsParens body) fb).toList := by
  have hsame : Eqv ((lambdaArgsPart args).toList ++ (" =>".toList ++ (" ".toList ++ rt b)))
      ((lambdaArgsPart args).toList ++ (" => ".toList ++ fb.toList)) :=
    Eqv.app (Eqv.refl hA) (Eqv.txt (by decide) (Eqv.dropL (Eqv.blank (by decide)) hb))
  unfold lambdaLayout
  simp only
  cases hp : lambdaBodyNeedsParens body
  · simp only [Bool.false_eq_true, if_false, parenIf]
    split
    · seg_norm; exact hsame
    · split
      · seg_norm; exact hsame
      · seg_norm
        exact Eqv.app (Eqv.refl hA) (Eqv.txt (by decide) (Eqv.nl _ hbIn))
  · simp only [if_true, parenIf]
    seg_norm
    exact Eqv.app (Eqv.refl hA) (Eqv.txt (by decide) (Eqv.txt (by decide)
      (Eqv.app hb (Eqv.lit (by decide)))))

theorem eqv_elseLayout (indent : Nat) (chain : Option (List Piece)) (plain : Unit → List Piece)
    (fe : String) (hchain : ∀ ps, chain = some ps → Eqv (rt ps) fe.toList)
    (hplain : Eqv (rt (plain ())) fe.toList) :
    Eqv (rt (elseLayout indent chain plain)) ("else " ++ fe).toList := by
  unfold elseLayout
  split
  · seg_norm; exact Eqv.txt (by decide) (hchain _ rfl)
  · seg_norm; exact Eqv.txt (by decide) (Eqv.ind _ hplain)

theorem eqv_condLayout (w indent : Nat) (cP : List Piece) (cIn : Unit → List Piece)
    (tIn elseP : List Piece) (fc ft fe : String) (hc : Eqv (rt cP) fc.toList)
    (hcIn : Eqv (rt (cIn ())) fc.toList) (ht : Eqv (rt tIn) ft.toList)
    (he : Eqv (rt elseP) ("else " ++ fe).toList) :
    Eqv (rt (condLayout w indent cP cIn tIn elseP))
      ("if " ++ fc ++ " then " ++ ft ++ " else " ++ fe).toList := by
  have hsp : " else ".toList = " ".toList ++ "else ".toList := by decide
  rw [String.toList_append] at he
  have htail : Eqv (rt tIn ++ ("\n".toList ++ ((makeIndent indent).toList ++ rt elseP)))
      (ft.toList ++ (" ".toList ++ ("else ".toList ++ fe.toList))) :=
    Eqv.app ht (Eqv.brk _ he)
  unfold condLayout
  simp only
  split
  · seg_norm
    rw [hsp, List.append_assoc]
    exact Eqv.txt (by decide) (Eqv.app hc (Eqv.txt (by decide) (Eqv.ind _ htail)))
  · seg_norm
    rw [hsp, List.append_assoc]
    exact Eqv.txt (by decide) (Eqv.app hcIn (Eqv.nl _ (Eqv.txt (by decide) (Eqv.ind _ htail))))

theorem eqv_binLayout (w indent : Nat) (op : BinOp) (l r : Expr) (lP : List Piece)
    (rSame rIn : Unit → List Piece) (fl fr : String) (hl : Eqv (rt lP) fl.toList)
    (hrS : Eqv (rt (rSame ())) fr.toList) (hrI : Eqv (rt (rIn ())) fr.toList) :
    Eqv (rt (binLayout w indent op l r lP rSame rIn))
      (parenIf (needsParens l (.binLeft op)) fl ++ " " ++ opSpelling op ++ " " ++
        parenIf (needsParens r (.binRight op)) fr).toList := by
  have hL := eqv_paren (needsParens l (.binLeft op)) hl
  have hS := eqv_paren (needsParens r (.binRight op)) hrS
  have hI := eqv_paren (needsParens r (.binRight op)) hrI
  have hop : Bal (opSpelling op).toList := balS_opSpelling op
  unfold binLayout
  simp only [PrintL.fmtSpelling_eq_opSpelling]
  split
  · split
    · seg_norm
      exact Eqv.app hL (Eqv.txt (by decide) (Eqv.app (Eqv.refl hop) (Eqv.txt (by decide) hS)))
    · seg_norm
      exact Eqv.app hL (Eqv.brk _ (Eqv.app (Eqv.refl hop) (Eqv.txt (by decide) hS)))
  · seg_norm
    exact Eqv.app hL (Eqv.brk _ (Eqv.app (Eqv.refl hop) (Eqv.txt (by decide) hI)))

/-- every element followed by a comma (the multi-line layouts of lists, records, arguments) -/
def trailAll : List String → String
  | [] => ""
  | s :: r => s ++ "," ++ trailAll r

theorem trailAll_cons (s : String) (r : List String) :
    (trailAll (s :: r)).toList = s.toList ++ ',' :: (trailAll r).toList := by
  rw [trailAll, String.toList_append, String.toList_append, comma_toList, List.append_assoc]
  rfl

theorem intercalate_cons_cons (sep x y : String) (r : List String) :
    (sep.intercalate (x :: y :: r)).toList = x.toList ++ (sep.toList ++ (sep.intercalate (y :: r)).toList) := by
  simp only [String.toList_intercalate, List.map_cons, List.intercalate, List.intersperse_cons_cons,
    List.flatten_cons]

theorem intercalate_single (sep x : String) : (sep.intercalate [x]).toList = x.toList := by
  simp

/-- The one place where the trailing comma is absorbed: after the last element `Eqv.trailing`
    sets `,` line break, indentation, `c` against the bare `c`; every earlier `,` stands against
    the `,` of `", "`, whose blank is layout (`Eqv.skipR`). -/
theorem trail_close : ∀ (Fs : List String), Fs ≠ [] → (∀ F ∈ Fs, Bal F.toList) →
    ∀ (k : Nat) (c : Char), isClose c = true →
    Eqv ((trailAll Fs).toList ++ '\n' :: (List.replicate k ' ' ++ [c]))
      ((", ".intercalate Fs).toList ++ [c])
  | [], h, _, _, _, _ => absurd rfl h
  | [F], _, hB, k, c, hc => by
    rw [intercalate_single, trailAll_cons, trailAll, String.toList_empty, List.append_assoc]
    exact Eqv.app (Eqv.refl (hB F List.mem_cons_self)) (Eqv.trailing k hc Eqv.nil)
  | F :: G :: r, _, hB, k, c, hc => by
    have ih := trail_close (G :: r) (by simp) (fun X hX => hB X (List.mem_cons_of_mem _ hX)) k c hc
    have hsep : ", ".toList = [',', ' '] := by decide
    rw [intercalate_cons_cons, trailAll_cons, hsep, List.append_assoc, List.append_assoc]
    exact Eqv.app (Eqv.refl (hB F List.mem_cons_self))
      (Eqv.cons_same (by decide) (Eqv.skipR (by decide) ih))

/-- `o` items `c` over several lines against `o` items `c` on one line -/
theorem eqv_bracketed {o c : String} {ch : Char} (ho : nameOk o = true) (hc : c.toList = [ch])
    (hcl : isClose ch = true) {R : List Char} {Fs : List String} (k : Nat) (hne : Fs ≠ [])
    (hR : Eqv R (trailAll Fs).toList) (hB : ∀ F ∈ Fs, Bal F.toList) :
    Eqv (o.toList ++ (R ++ ("\n".toList ++ ((makeIndent k).toList ++ c.toList))))
      (o.toList ++ ((", ".intercalate Fs).toList ++ c.toList)) := by
  have hnl : "\n".toList = ['\n'] := by decide
  have hcq : isQuote ch = false := by
    simp only [isClose, Bool.or_eq_true, beq_iff_eq] at hcl
    rcases hcl with (h | h) | h <;> subst h <;> decide
  rw [hc, hnl, makeIndent_toList]
  refine Eqv.app (Eqv.refl (BalS.of_nameOk ho))
    (Eqv.trans (Eqv.app hR (Eqv.refl ?_)) (trail_close Fs hne hB k ch hcl))
  exact (Eqv.skipL (c := '\n') (b := [ch]) (by decide)
    (Eqv.skipIndentL k (Eqv.cons_same hcq Eqv.nil))).balL

theorem flatItems_ne : ∀ items : List Item, items.isEmpty = false → flatItems items ≠ []
  | [], h => by simp at h
  | i :: is, _ => by simp [flatItems]

theorem flatEntries_ne : ∀ es : List Entry, es.isEmpty = false → flatEntries es ≠ []
  | [], h => by simp at h
  | e :: es, _ => by simp [flatEntries]

theorem flatExprs_ne : ∀ es : List Expr, es.isEmpty = false → flatExprs es ≠ []
  | [], h => by simp at h
  | e :: es, _ => by simp [flatExprs]

/-- an item / entry on its own line with its comments and its trailing comma -/
theorem eqv_commented (k : Nat) (lead : List String) (tr : Option String) (core : List Piece)
    (F : List Char) (h : Eqv (rt core) F) :
    Eqv (rt (leadP (makeIndent k) lead ++ .text ("\n" ++ makeIndent k) :: (core ++ .text "," :: trailP tr)))
      (F ++ [',']) := by
  seg_norm
  rw [comma_toList]
  exact Eqv.dropL (eqv_lead k lead) (Eqv.nl k
    (Eqv.app h (Eqv.dropEndL (Eqv.refl (Bal.of_noQuote _ (by decide))) (eqv_trail tr))))

theorem nl_brace (k : Nat) :
    "\n".toList ++ ((makeIndent k).toList ++ "}".toList) = '\n' :: (List.replicate k ' ' ++ ['}']) := by
  simp only [String.reduceToList, makeIndent_toList, List.cons_append, List.nil_append]

/-- `format_multiline` is reached from `format_expr_impl` for every node but a lambda -/
abbrev notLambda (e : Expr) : Prop := ∀ args body, e ≠ .lambda args body

/-- `format_expr_impl` from `format_multiline`: the single-line text, when it is taken, is `flat`.
    The conclusion repeats `h` under `notLambda e →` so that it is literally the conjunction
    `sq_both` states: each case there is `refine both_of_multi hl nofun ?_`, leaving `h`. -/
theorem both_of_multi {e : Expr} {w indent : Nat} (hl : lamOk e = true) (hnl : notLambda e)
    (h : Eqv (rt (fmtMultiP w indent e)) (flat e).toList) :
    (notLambda e → Eqv (rt (fmtMultiP w indent e)) (flat e).toList) ∧
      Eqv (rt (fmtImplP w indent e)) (flat e).toList := by
  refine ⟨fun _ => h, ?_⟩
  rw [fmtImplP_eq]
  cases e with
  | lambda a b => exact absurd rfl (hnl a b)
  | doBlock ss r => exact h
  | _ => exact eqv_orSingle _ _ _ _ _ (single_flat _ hl) h

theorem eqv_fmtCondP (w indent : Nat) (c t e : Expr)
    (hc : ∀ i, Eqv (rt (fmtImplP w i c)) (flat c).toList)
    (ht : ∀ i, Eqv (rt (fmtImplP w i t)) (flat t).toList)
    (he : ∀ i, Eqv (rt (fmtImplP w i e)) (flat e).toList)
    (hch : ∀ ps, fmtChainP w indent e = some ps → Eqv (rt ps) (flat e).toList) :
    Eqv (rt (fmtCondP w indent c t e)) (flat (.cond c t e)).toList := by
  simp only [fmtCondP, flat]
  exact eqv_condLayout _ _ _ _ _ _ _ _ _ (hc _) (hc _) (ht _) (eqv_elseLayout _ _ _ _ hch (he _))

mutual
/-- for every node: `format_multiline` (when `format_expr_impl` can reach it: not a lambda) and
    `format_expr_impl` print the single-line form up to layout -/
theorem sq_both : ∀ (e : Expr) (w indent : Nat), namesOk e = true → lamOk e = true →
    (notLambda e → Eqv (rt (fmtMultiP w indent e)) (flat e).toList) ∧
      Eqv (rt (fmtImplP w indent e)) (flat e).toList
  | .lambda args body, w, indent, hn, hl => by
    simp only [namesOk, Bool.and_eq_true] at hn
    simp only [lamOk] at hl
    refine ⟨fun h => absurd rfl (h args body), ?_⟩
    simp only [fmtImplP, flat]
    exact eqv_lambdaLayout _ _ _ _ _ _ _ (balS_lambdaArgsPart args hn.1)
      (sq_both body w indent hn.2 hl).2 (sq_both body w _ hn.2 hl).2
  | .doBlock ss r, w, indent, hn, hl => by
    refine both_of_multi hl nofun ?_
    simp only [lamOk, namesOk, Bool.and_eq_true] at hl hn
    simp only [fmtMultiP, flat]
    seg_norm
    rw [nl_brace]
    exact Eqv.txt (by decide) (Eqv.app (sq_stmts ss w _ hn.1 hl.1) (sq_ret r w _ indent hn.2 hl.2))
  | .output e, w, indent, hn, hl => by
    refine both_of_multi hl nofun ?_
    simp only [lamOk, namesOk] at hl hn
    simp only [fmtMultiP, flat]
    seg_norm
    exact Eqv.txt (by decide) (sq_both e w indent hn hl).2
  | .assign n v, w, indent, hn, hl => by
    refine both_of_multi hl nofun ?_
    simp only [lamOk, namesOk, Bool.and_eq_true] at hl hn
    simp only [fmtMultiP, flat]
    seg_norm
    exact Eqv.app (Eqv.refl (BalS.of_nameOk hn.1)) (Eqv.txt (by decide) (sq_both v w indent hn.2 hl).2)
  | .list items, w, indent, hn, hl => by
    refine both_of_multi hl nofun ?_
    simp only [lamOk, namesOk] at hl hn
    obtain ⟨hR, hB⟩ := sq_items items w (indent + INDENT_SIZE) hn hl
    simp only [fmtMultiP, flat]
    split
    · rename_i h
      rw [List.isEmpty_iff] at h
      subst h
      rw [rt_text, rt_nil, List.append_nil]
      exact Eqv.lit (by decide)
    · rename_i h
      seg_norm
      exact eqv_bracketed (ch := ']') (by decide) (by decide) (by decide) _
        (flatItems_ne items (by simpa using h)) hR hB
  | .record es, w, indent, hn, hl => by
    refine both_of_multi hl nofun ?_
    simp only [lamOk, namesOk] at hl hn
    obtain ⟨hR, hB⟩ := sq_entries es w (indent + INDENT_SIZE) hn hl
    simp only [fmtMultiP, flat]
    split
    · rename_i h
      rw [List.isEmpty_iff] at h
      subst h
      rw [rt_text, rt_nil, List.append_nil]
      exact Eqv.lit (by decide)
    · rename_i h
      seg_norm
      exact eqv_bracketed (ch := '}') (by decide) (by decide) (by decide) _
        (flatEntries_ne es (by simpa using h)) hR hB
  | .cond c t e, w, indent, hn, hl => by
    refine both_of_multi hl nofun ?_
    simp only [lamOk, namesOk, Bool.and_eq_true] at hl hn
    have le := lamOk_of_noBare e hl.2.2
    simp only [fmtMultiP]
    exact eqv_fmtCondP w indent c t e (fun i => (sq_both c w i hn.1 (lamOk_of_noBare c hl.1)).2)
      (fun i => (sq_both t w i hn.2.1 (lamOk_of_noBare t hl.2.1)).2)
      (fun i => (sq_both e w i hn.2.2 le).2) (fun ps h => sq_chain e w indent ps h hn.2.2 le)
  | .call f args, w, indent, hn, hl => by
    refine both_of_multi hl nofun ?_
    simp only [lamOk, namesOk, Bool.and_eq_true] at hl hn
    have hf := eqv_paren (needsParens f .postfix_) (sq_both f w indent hn.1 hl.1).2
    obtain ⟨hR, hB⟩ := sq_args args w (indent + INDENT_SIZE) hn.2 hl.2
    simp only [fmtMultiP, flat]
    split
    · rename_i h
      rw [List.isEmpty_iff] at h
      subst h
      rw [rt_append, rt_text, rt_nil, List.append_nil, String.append_assoc, String.append_assoc,
        String.toList_append]
      exact Eqv.app hf (Eqv.lit (by decide))
    · rename_i h
      seg_norm
      exact Eqv.app hf (eqv_bracketed (ch := ')') (by decide) (by decide) (by decide) _
        (flatExprs_ne args (by simpa using h)) hR hB)
  | .bin op l r, w, indent, hn, hl => by
    refine both_of_multi hl nofun ?_
    simp only [lamOk, namesOk, Bool.and_eq_true] at hl hn
    have lr := lamOk_of_noBare r hl.2
    simp only [fmtMultiP, fmtBinP, flat]
    exact eqv_binLayout _ _ _ _ _ _ _ _ _ _ (sq_both l w _ hn.1 (lamOk_of_noBare l hl.1)).2
      (sq_both r w _ hn.2 lr).2 (sq_both r w _ hn.2 lr).2
  | .un op e, w, indent, hn, hl => by
    refine both_of_multi hl nofun ?_
    simp only [lamOk, namesOk] at hl hn
    simp only [fmtMultiP, flat]
    seg_norm
    exact Eqv.app (Eqv.refl (balS_unaryOp op))
      (eqv_paren _ (sq_both e w indent hn (lamOk_of_noBare e hl)).2)
  | .fact e, w, indent, hn, hl => by
    refine both_of_multi hl nofun ?_
    simp only [lamOk, namesOk] at hl hn
    simp only [fmtMultiP, flat]
    seg_norm
    exact Eqv.app (eqv_paren _ (sq_both e w indent hn (lamOk_of_noBare e hl)).2)
      (Eqv.lit (by decide))
  | .access e i, w, indent, hn, hl => by
    refine both_of_multi hl nofun ?_
    simp only [lamOk, namesOk, Bool.and_eq_true] at hl hn
    simp only [fmtMultiP, flat]
    seg_norm
    exact Eqv.app (eqv_paren _ (sq_both e w indent hn.1 (lamOk_of_noBare e hl.1)).2)
      (Eqv.txt (by decide) (Eqv.app (sq_both i w indent hn.2 (lamOk_of_noBare i hl.2)).2
        (Eqv.lit (by decide))))
  | .dot e f, w, indent, hn, hl => by
    refine both_of_multi hl nofun ?_
    simp only [lamOk, namesOk, Bool.and_eq_true] at hl hn
    simp only [fmtMultiP, flat]
    seg_norm
    exact Eqv.app (eqv_paren _ (sq_both e w indent hn.1 (lamOk_of_noBare e hl)).2)
      (Eqv.txt (by decide) (Eqv.refl (BalS.of_nameOk hn.2)))
  | .spread e, w, indent, hn, hl => by
    refine both_of_multi hl nofun ?_
    simp only [lamOk, namesOk] at hl hn
    simp only [fmtMultiP, flat]
    seg_norm
    exact Eqv.txt (by decide) (sq_both e w indent hn (lamOk_of_noBare e hl)).2
  | .num x, w, indent, _, hl => by
    refine both_of_multi hl nofun ?_
    simp only [fmtMultiP, exprToSource, exprSrc, flat, rt_text, rt_nil, List.append_nil]
    exact Eqv.refl (balS_numberToSource x)
  | .str s, w, indent, _, hl => by
    refine both_of_multi hl nofun ?_
    simp only [fmtMultiP, exprToSource, exprSrc, flat, rt_text, rt_nil, List.append_nil]
    exact Eqv.refl (balS_stringToSource s)
  | .bool b, w, indent, _, hl => by
    refine both_of_multi hl nofun ?_
    simp only [fmtMultiP, exprToSource, exprSrc, flat, rt_text, rt_nil, List.append_nil]
    cases b <;> exact Eqv.lit (by decide)
  | .null, w, indent, _, hl => by
    refine both_of_multi hl nofun ?_
    simp only [fmtMultiP, exprToSource, exprSrc, flat, rt_text, rt_nil, List.append_nil]
    exact Eqv.lit (by decide)
  | .ident n, w, indent, hn, hl => by
    simp only [namesOk] at hn
    refine both_of_multi hl nofun ?_
    simp only [fmtMultiP, exprToSource, exprSrc, lookupAL, flat, rt_text, rt_nil, List.append_nil]
    exact Eqv.refl (BalS.of_nameOk hn)
  | .inref f, w, indent, hn, hl => by
    simp only [namesOk] at hn
    refine both_of_multi hl nofun ?_
    simp only [fmtMultiP, exprToSource, exprSrc, flat, rt_text, rt_nil, List.append_nil]
    exact Eqv.refl (BalS.app (BalS.of_nameOk (by decide)) (BalS.of_nameOk hn))
  | .builtin n, w, indent, hn, hl => by
    simp only [namesOk] at hn
    refine both_of_multi hl nofun ?_
    simp only [fmtMultiP, exprToSource, exprSrc, flat, rt_text, rt_nil, List.append_nil]
    exact Eqv.refl (BalS.of_nameOk hn)
theorem sq_chain : ∀ (e : Expr) (w indent : Nat) (ps : List Piece),
    fmtChainP w indent e = some ps → namesOk e = true → lamOk e = true → Eqv (rt ps) (flat e).toList
  | .cond c t e => fun w indent ps h hn hl => by
    rw [fmtChainP_cond, Option.some.injEq] at h
    subst h
    simp only [lamOk, Bool.and_eq_true] at hl
    simp only [namesOk, Bool.and_eq_true] at hn
    have le := lamOk_of_noBare e hl.2.2
    exact eqv_fmtCondP w indent c t e (fun i => (sq_both c w i hn.1 (lamOk_of_noBare c hl.1)).2)
      (fun i => (sq_both t w i hn.2.1 (lamOk_of_noBare t hl.2.1)).2)
      (fun i => (sq_both e w i hn.2.2 le).2) (fun ps h => sq_chain e w indent ps h hn.2.2 le)
  | .num _ | .str _ | .bool _ | .null | .ident _ | .inref _ | .builtin _ | .list _ | .record _
  | .lambda _ _ | .doBlock _ _ | .assign _ _ | .output _ | .call _ _ | .access _ _ | .dot _ _
  | .bin _ _ _ | .un _ _ | .fact _ | .spread _ => fun _ _ _ h => by simp [fmtChainP] at h
theorem sq_item : ∀ (i : Item) (w inner : Nat), itemNamesOk i = true → itemLamOk i = true →
    Eqv (rt (fmtItemP w inner i)) ((flatItem i).toList ++ [',']) ∧ Bal (flatItem i).toList
  | .mk lead e tr, w, inner, hn, hl => by
    simp only [itemNamesOk] at hn
    simp only [itemLamOk] at hl
    have ih := (sq_both e w inner hn hl).2
    simp only [fmtItemP, flatItem]
    exact ⟨eqv_commented inner lead tr _ _ ih, ih.balR⟩
theorem sq_items : ∀ (is : List Item) (w inner : Nat), itemsNamesOk is = true →
    itemsLamOk is = true →
    Eqv (rt (fmtItemsP w inner is)) (trailAll (flatItems is)).toList ∧
      ∀ F ∈ flatItems is, Bal F.toList
  | [], _, _, _, _ => ⟨by simp only [fmtItemsP, flatItems, trailAll]; exact Eqv.nil,
      fun F h => by simp [flatItems] at h⟩
  | i :: rest, w, inner, hn, hl => by
    simp only [itemsNamesOk, Bool.and_eq_true] at hn
    simp only [itemsLamOk, Bool.and_eq_true] at hl
    obtain ⟨hi, hBi⟩ := sq_item i w inner hn.1 hl.1
    obtain ⟨hr, hB⟩ := sq_items rest w inner hn.2 hl.2
    refine ⟨?_, ?_⟩
    · rw [fmtItemsP, flatItems, trailAll_cons, rt_append]
      simpa only [List.append_assoc, List.cons_append, List.nil_append] using Eqv.app hi hr
    · exact List.forall_mem_cons.mpr ⟨hBi, hB⟩
theorem sq_entry : ∀ (en : Entry) (w inner : Nat), entryNamesOk en = true → entryLamOk en = true →
    Eqv (rt (fmtEntryP w inner en)) ((flatEntry en).toList ++ [',']) ∧ Bal (flatEntry en).toList
  | .mk lead (.static k) v tr, w, inner, hn, hl => by
    simp only [entryNamesOk, keyNamesOk] at hn
    simp only [entryLamOk, keyLamOk] at hl
    have hcore : Eqv (rt (fmtKeyedP w inner (.static k) (fmtImplP w inner v)))
        (flatEntry (.mk lead (.static k) v tr)).toList := by
      simp only [fmtKeyedP, flatEntry, flatKeyed]
      seg_norm
      exact Eqv.app (Eqv.refl (balS_formatRecordKey k)) (Eqv.txt (by decide) (sq_both v w inner hn hl).2)
    simp only [fmtEntryP]
    exact ⟨eqv_commented inner lead tr _ _ hcore, hcore.balR⟩
  | .mk lead (.dyn ke) v tr, w, inner, hn, hl => by
    simp only [entryNamesOk, keyNamesOk, Bool.and_eq_true] at hn
    simp only [entryLamOk, keyLamOk, Bool.and_eq_true] at hl
    have hcore : Eqv (rt (fmtKeyedP w inner (.dyn ke) (fmtImplP w inner v)))
        (flatEntry (.mk lead (.dyn ke) v tr)).toList := by
      simp only [fmtKeyedP, flatEntry, flatKeyed]
      seg_norm
      exact Eqv.txt (by decide) (Eqv.app (sq_both ke w inner hn.1 hl.1).2
        (Eqv.txt (by decide) (sq_both v w inner hn.2 hl.2).2))
    simp only [fmtEntryP]
    exact ⟨eqv_commented inner lead tr _ _ hcore, hcore.balR⟩
  | .mk lead (.short n) v tr, w, inner, hn, _ => by
    simp only [entryNamesOk, keyNamesOk] at hn
    have hcore : Eqv (rt (fmtKeyedP w inner (.short n) (fmtImplP w inner v)))
        (flatEntry (.mk lead (.short n) v tr)).toList := by
      simp only [fmtKeyedP, flatEntry, flatKeyed, rt_text, rt_nil, List.append_nil]
      exact Eqv.refl (BalS.of_nameOk hn)
    simp only [fmtEntryP]
    exact ⟨eqv_commented inner lead tr _ _ hcore, hcore.balR⟩
  | .mk lead (.spread e) v tr, w, inner, hn, hl => by
    simp only [entryNamesOk, keyNamesOk] at hn
    simp only [entryLamOk, keyLamOk] at hl
    have hcore : Eqv (rt (fmtKeyedP w inner (.spread e) (fmtImplP w inner v)))
        (flatEntry (.mk lead (.spread e) v tr)).toList := by
      simp only [fmtKeyedP, flatEntry, flatKeyed]
      exact (sq_both e w inner hn hl).2
    simp only [fmtEntryP]
    exact ⟨eqv_commented inner lead tr _ _ hcore, hcore.balR⟩
theorem sq_entries : ∀ (es : List Entry) (w inner : Nat), entriesNamesOk es = true →
    entriesLamOk es = true →
    Eqv (rt (fmtEntriesP w inner es)) (trailAll (flatEntries es)).toList ∧
      ∀ F ∈ flatEntries es, Bal F.toList
  | [], _, _, _, _ => ⟨by simp only [fmtEntriesP, flatEntries, trailAll]; exact Eqv.nil,
      fun F h => by simp [flatEntries] at h⟩
  | e :: rest, w, inner, hn, hl => by
    simp only [entriesNamesOk, Bool.and_eq_true] at hn
    simp only [entriesLamOk, Bool.and_eq_true] at hl
    obtain ⟨hi, hBi⟩ := sq_entry e w inner hn.1 hl.1
    obtain ⟨hr, hB⟩ := sq_entries rest w inner hn.2 hl.2
    refine ⟨?_, ?_⟩
    · rw [fmtEntriesP, flatEntries, trailAll_cons, rt_append]
      simpa only [List.append_assoc, List.cons_append, List.nil_append] using Eqv.app hi hr
    · exact List.forall_mem_cons.mpr ⟨hBi, hB⟩
theorem sq_args : ∀ (as : List Expr) (w inner : Nat), exprsNamesOk as = true →
    exprsLamOk as = true →
    Eqv (rt (fmtArgsP w inner as)) (trailAll (flatExprs as)).toList ∧
      ∀ F ∈ flatExprs as, Bal F.toList
  | [], _, _, _, _ => ⟨by simp only [fmtArgsP, flatExprs, trailAll]; exact Eqv.nil,
      fun F h => by simp [flatExprs] at h⟩
  | a :: rest, w, inner, hn, hl => by
    simp only [exprsNamesOk, Bool.and_eq_true] at hn
    simp only [exprsLamOk, Bool.and_eq_true] at hl
    have ia := (sq_both a w inner hn.1 hl.1).2
    obtain ⟨hr, hB⟩ := sq_args rest w inner hn.2 hl.2
    refine ⟨?_, ?_⟩
    · rw [fmtArgsP, flatExprs, trailAll_cons]
      seg_norm
      rw [comma_toList]
      exact Eqv.nl _ (Eqv.app ia (Eqv.cons_same (by decide) hr))
    · exact List.forall_mem_cons.mpr ⟨ia.balR, hB⟩
theorem sq_stmt : ∀ (i : Item) (w inner : Nat), itemNamesOk i = true → headSafe i.node = true →
    itemLamOk i = true → Eqv (rt (fmtStmtP w inner i)) (flatStmt i).toList
  | .mk lead e tr, w, inner, hn, hs, hl => by
    simp only [itemNamesOk] at hn
    simp only [itemLamOk] at hl
    simp only [Item.node] at hs
    have hd := hd_impl e w inner hl
    have hp := eqv_protect _ _ hd.1 (hd.2 hs).wos (nw_flat e hs).wos (sq_both e w inner hn hl).2
    simp only [fmtStmtP, flatStmt]
    seg_norm
    exact Eqv.dropL (eqv_lead inner lead) (Eqv.txt (by decide) (Eqv.ind _
      (Eqv.dropEndL hp (eqv_trail tr))))
theorem sq_stmts : ∀ (is : List Item) (w inner : Nat), stmtsNamesOk is = true →
    itemsLamOk is = true → Eqv (rt (fmtStmtsP w inner is)) (flatStmts is).toList
  | [], _, _, _, _ => by simp only [fmtStmtsP, flatStmts]; exact Eqv.nil
  | (.mk lead e tr) :: rest, w, inner, hn, hl => by
    simp only [stmtsNamesOk, Bool.and_eq_true] at hn
    simp only [itemsLamOk, Bool.and_eq_true] at hl
    have hi := sq_stmt (.mk lead e tr) w inner (by simpa only [itemNamesOk] using hn.1.1)
      (by simpa only [Item.node] using hn.1.2) hl.1
    rw [fmtStmtsP, flatStmts, rt_append, String.toList_append]
    exact Eqv.app hi (sq_stmts rest w inner hn.2 hl.2)
/-- the `return` line and the closing brace at indentation `k` -/
theorem sq_ret : ∀ (i : Item) (w inner k : Nat), itemNamesOk i = true → itemLamOk i = true →
    Eqv (rt (fmtRetP w inner i) ++ '\n' :: (List.replicate k ' ' ++ ['}'])) (flatRet i).toList
  | .mk lead e tr, w, inner, k, hn, hl => by
    simp only [itemNamesOk] at hn
    simp only [itemLamOk] at hl
    simp only [fmtRetP, flatRet]
    rw [← nl_brace]
    seg_norm
    exact Eqv.dropL (eqv_lead inner lead) (Eqv.nl _ (Eqv.txt (by decide)
      (Eqv.app (sq_both e w inner hn hl).2 (Eqv.nl k (Eqv.lit (by decide))))))
end

theorem sq_impl (e : Expr) (w indent : Nat) (hn : namesOk e = true) (hl : lamOk e = true) :
    Eqv (rt (fmtImplP w indent e)) (flat e).toList := (sq_both e w indent hn hl).2

theorem sq_multi (e : Expr) (w indent : Nat) (hn : namesOk e = true) (hl : lamOk e = true)
    (h : notLambda e) : Eqv (rt (fmtMultiP w indent e)) (flat e).toList :=
  (sq_both e w indent hn hl).1 h

theorem sq_lambda (w indent : Nat) (args : List LArg) (body : Expr)
    (hn : namesOk (.lambda args body) = true) (hl : lamOk (.lambda args body) = true) :
    Eqv (rt (fmtLambdaP w indent args body)) (flat (.lambda args body)).toList := by
  have := sq_impl (.lambda args body) w indent hn hl
  rwa [fmtImplP_eq] at this

theorem sq_cond (w indent : Nat) (c t e : Expr) (hn : namesOk (.cond c t e) = true)
    (hl : lamOk (.cond c t e) = true) :
    Eqv (rt (fmtCondP w indent c t e)) (flat (.cond c t e)).toList :=
  sq_chain (.cond c t e) w indent _ (fmtChainP_cond w indent c t e) hn hl

theorem sq_bin (w indent : Nat) (op : BinOp) (l r : Expr) (hn : namesOk (.bin op l r) = true)
    (hl : lamOk (.bin op l r) = true) :
    Eqv (rt (fmtBinP w indent op l r)) (flat (.bin op l r)).toList := by
  have := sq_multi (.bin op l r) w indent hn hl (fun _ _ h => by cases h)
  simpa only [fmtMultiP] using this

theorem squash_of_eqv {ps : List Piece} {f : String} (h : Eqv (rt ps) f.toList) :
    squash (render (textOnly ps)) = squash f := EqvS.squash_eq h

theorem eqv_formatExprP (e : Expr) (mw : Option Nat) (hn : namesOk e = true) (hl : lamOk e = true)
    (hs : headSafe e = true) :
    Eqv (rt (formatExprP e mw)) (protectStatementStart (flat e)).toList :=
  eqv_protect _ _ (hd_impl e _ 0 hl).1 ((hd_impl e _ 0 hl).2 hs).wos (nw_flat e hs).wos
    (sq_impl e _ 0 hn hl)

theorem render_formatExprP (e : Expr) (mw : Option Nat) : render (formatExprP e mw) = formatExpr e mw := by
  simp only [formatExprP, formatExpr, fmtImpl, render_protectP]

theorem textOnly_impl (e : Expr) (w indent : Nat) (hc : anyComment e = false) :
    textOnly (fmtImplP w indent e) = fmtImplP w indent e := by
  apply textOnly_of_noComments
  have := good_impl e w indent
  unfold Good at this
  rw [this, commentsG_nil e false hc]

theorem textOnly_formatExprP (e : Expr) (mw : Option Nat) (hc : anyComment e = false) :
    textOnly (formatExprP e mw) = formatExprP e mw := by
  apply textOnly_of_noComments
  have := Good.protect (good_impl e (mw.getD DEFAULT_MAX_COLUMNS) 0)
  unfold Good at this
  rw [formatExprP, this, commentsG_nil e false hc]

theorem fmtImpl_single (e : Expr) (w indent : Nat) (h1 : ∀ args body, e ≠ .lambda args body)
    (h2 : ∀ ss r, e ≠ .doBlock ss r) (hnl : hasNewline (fmtSingle e) = false)
    (hfit : indent + blen (firstLine (fmtSingle e)) ≤ w) : fmtImpl w indent e = fmtSingle e := by
  have hor : render (orSingle w indent e fun _ => fmtMultiP w indent e) = fmtSingle e := by
    unfold orSingle
    simp only [hnl, Bool.not_false, Bool.true_and, decide_eq_true_eq, hfit, if_true]
    exact render_single _
  unfold fmtImpl
  rw [fmtImplP_eq]
  cases e with
  | lambda args body => exact absurd rfl (h1 args body)
  | doBlock ss r => exact absurd rfl (h2 ss r)
  | _ => exact hor

theorem outp_inq (q : Char) : ∀ (s : List Char), q ∉ s → outp (.inq q) s = s
  | [], _ => rfl
  | c :: s, h => by
    have hc : (c == q) = false := by
      simp only [beq_eq_false_iff_ne, ne_eq]
      exact fun e => h (by simp [e])
    simp only [outp, step, hc, Bool.false_eq_true, if_false, List.cons_append, List.nil_append]
    rw [outp_inq q s (fun m => h (List.mem_cons_of_mem _ m))]

theorem step_solid (c : Char) (h1 : isLayout c = false) (h2 : c ≠ ',') (h3 : isQuote c = false) :
    step (.out 0) c = ([c], .out 0) := by
  have h2' : (c == ',') = false := by simpa using h2
  simp only [step, h1, h2', h3, Bool.false_eq_true, if_false, commas, List.replicate_zero,
    List.nil_append]
  split <;> rfl

theorem outp_fin_solid : ∀ (s : List Char),
    (∀ c ∈ s, isLayout c = false ∧ c ≠ ',' ∧ isQuote c = false) →
    outp (.out 0) s = s ∧ fin (.out 0) s = .out 0
  | [], _ => ⟨rfl, rfl⟩
  | c :: s, h => by
    obtain ⟨h1, h2, h3⟩ := h c List.mem_cons_self
    obtain ⟨ih1, ih2⟩ := outp_fin_solid s (fun d hd => h d (List.mem_cons_of_mem _ hd))
    simp only [outp, fin, step_solid c h1 h2 h3, ih1, ih2, List.cons_append, List.nil_append,
      and_self]

theorem squashL_literal (q : Char) (hq : isQuote q = true) (s rest : List Char) (h : q ∉ s) :
    squashL (q :: (s ++ q :: rest)) = q :: (s ++ q :: squashL rest) := by
  have e : q :: (s ++ q :: rest) = (q :: (s ++ [q])) ++ rest := by simp
  have hout : outp (.out 0) (q :: (s ++ [q])) = q :: (s ++ [q]) := by
    have hl : outp (.inq q) [q] = [q] := by
      simp only [outp, step, List.append_nil]
    simp only [outp, step_quote 0 q hq, commas, List.replicate_zero, List.nil_append,
      List.cons_append]
    rw [outp_append, outp_inq q s h, fin_inq q s h, hl]
  rw [e, squashL_append_of_fin _ _ (fin_quoted 0 q hq s h), hout]
  simp

end Squash
end Blots
