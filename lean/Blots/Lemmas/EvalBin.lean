import Blots.Lemmas.EvalEqns
import Blots.Lemmas.ValueEq
/-
  Helpers for C11 (scalar operators, broadcasting): the `Outcome.mapM'` calculus ("in order,
  first failure wins"), the reduction of the list arms of `evalBin` (`mapScalar`, `zipScalar`)
  to it, the three classes of operators (broadcasting, dot comparisons, calls) with what
  `evalBin` does on the first two, and what a scalar operator can return (`scalarOp_cases`).
-/
namespace Blots

namespace Outcome

theorem isOk_iff {α} (r : Outcome α) : r.isOk = true ↔ ∃ a, r = ok a := by
  cases r <;> simp [isOk]

theorem isErr_iff {α} (r : Outcome α) : r.isErr = true ↔ ∃ k, r = err k := by
  cases r <;> simp [isErr]

@[simp] theorem mapM'_nil {α β} (f : α → Outcome β) : mapM' f [] = ok [] := rfl

theorem bind_eq_ok {α β} {x : Outcome α} {k : α → Outcome β} {b : β} (h : x.bind k = ok b) :
    ∃ a, x = ok a ∧ k a = ok b := by
  cases x with
  | ok a => exact ⟨a, rfl, h⟩
  | _ => cases h

theorem mapM'_cons {α β} (f : α → Outcome β) (x : α) (xs : List α) :
    mapM' f (x :: xs) = (f x).bind fun y => (mapM' f xs).bind fun ys => ok (y :: ys) := by
  rw [mapM']
  cases f x with
  | ok y => cases mapM' f xs <;> rfl
  | _ => rfl

theorem mapM'_ok_iff_get {α β} (f : α → Outcome β) : ∀ (L : List α) (ys : List β),
    mapM' f L = ok ys ↔
      ys.length = L.length ∧ ∀ (i : Nat) (h1 : i < L.length) (h2 : i < ys.length), f L[i] = ok ys[i]
  | [], ys => by
    cases ys <;> simp [mapM']
  | x :: xs, ys => by
    rw [mapM'_cons]
    constructor
    · intro h
      obtain ⟨y, hx, h⟩ := bind_eq_ok h
      obtain ⟨zs, hxs, h⟩ := bind_eq_ok h
      cases h
      obtain ⟨hl, hg⟩ := (mapM'_ok_iff_get f xs zs).mp hxs
      refine ⟨congrArg (· + 1) hl, fun i h1 h2 => ?_⟩
      cases i with
      | zero => exact hx
      | succ j => exact hg j (Nat.lt_of_succ_lt_succ h1) (Nat.lt_of_succ_lt_succ h2)
    · rintro ⟨hl, hg⟩
      cases ys with
      | nil => cases hl
      | cons y zs =>
        have h0 : f x = ok y := hg 0 (Nat.zero_lt_succ _) (Nat.zero_lt_succ _)
        rw [h0, (mapM'_ok_iff_get f xs zs).mpr ⟨Nat.succ.inj hl, fun i h1 h2 =>
          hg (i + 1) (Nat.succ_lt_succ h1) (Nat.succ_lt_succ h2)⟩]
        rfl

theorem mapM'_first_failure {α β} (f : α → Outcome β) (pre : List α) (x : α) (post : List α)
    (hpre : ∀ y ∈ pre, (f y).isOk = true) :
    (∀ k, f x = err k → mapM' f (pre ++ x :: post) = err k) ∧
    (∀ p, f x = panic p → mapM' f (pre ++ x :: post) = panic p) ∧
    (f x = fuel → mapM' f (pre ++ x :: post) = fuel) := by
  induction pre with
  | nil =>
    simp only [List.nil_append, mapM'_cons]
    exact ⟨fun k h => by rw [h]; rfl, fun p h => by rw [h]; rfl, fun h => by rw [h]; rfl⟩
  | cons y ys ih =>
    obtain ⟨v, hv⟩ := (isOk_iff _).mp (hpre y (List.mem_cons_self ..))
    obtain ⟨h1, h2, h3⟩ := ih fun z hz => hpre z (List.mem_cons_of_mem _ hz)
    simp only [List.cons_append, mapM'_cons, hv]
    exact ⟨fun k h => by rw [h1 k h]; rfl, fun p h => by rw [h2 p h]; rfl, fun h => by rw [h3 h]; rfl⟩

theorem mapM'_isOk_eq_all {α β} (f : α → Outcome β) : ∀ (L : List α),
    (mapM' f L).isOk = L.all fun x => (f x).isOk
  | [] => rfl
  | x :: xs => by
    rw [mapM'_cons, List.all_cons, ← mapM'_isOk_eq_all f xs]
    cases f x with
    | ok y => cases mapM' f xs <;> rfl
    | _ => rfl

theorem mapM'_isErr_iff {α β} (f : α → Outcome β) (L : List α)
    (h : ∀ x ∈ L, (f x).isOk = true ∨ (f x).isErr = true) :
    ((mapM' f L).isOk = true ∨ (mapM' f L).isErr = true) ∧
    ((mapM' f L).isErr = true ↔ ∃ x ∈ L, (f x).isErr = true) := by
  induction L with
  | nil => exact ⟨.inl rfl, fun h => (nomatch h), fun ⟨_, hx, _⟩ => (nomatch hx)⟩
  | cons x xs ih =>
    obtain ⟨ih1, ih2⟩ := ih fun y hy => h y (List.mem_cons_of_mem _ hy)
    rw [mapM'_cons]
    simp only [List.mem_cons, exists_eq_or_imp, ← ih2]
    rcases h x (List.mem_cons_self ..) with hx | hx
    · obtain ⟨v, hv⟩ := (isOk_iff _).mp hx
      rw [hv]
      revert ih1
      cases mapM' f xs with
      | ok zs => exact fun _ => ⟨.inl rfl, Or.inr, fun h => h.elim (fun h => nomatch h) id⟩
      | err k => exact fun _ => ⟨.inr rfl, Or.inr, fun h => h.elim (fun h => nomatch h) id⟩
      | _ => exact fun ih1 => ih1.elim (fun h => nomatch h) (fun h => nomatch h)
    · obtain ⟨k, hk⟩ := (isErr_iff _).mp hx
      rw [hk]
      exact ⟨.inr rfl, fun _ => .inl rfl, fun _ => rfl⟩

end Outcome

/-- the 17 operators that broadcast over lists -/
def bcast : List BinOp :=
  [.add, .sub, .mul, .div, .mod, .pow, .eq, .ne, .lt, .le, .gt, .ge, .and, .nand, .or, .nor,
   .coalesce]

/-- the six dot-prefixed comparisons -/
def dotOps : List BinOp := [.deq, .dne, .dlt, .dle, .dgt, .dge]

/-- the three operators that call a function -/
def callOps : List BinOp := [.via, .into, .where_]

theorem binOp_trichotomy (op : BinOp) : op ∈ bcast ∨ op ∈ dotOps ∨ op ∈ callOps := by
  cases op <;> decide

theorem mem_dotOps_iff (op : BinOp) : op ∈ dotOps ↔ isDot op = true := by
  cases op <;> decide

theorem mem_callOps_iff (op : BinOp) : op ∈ callOps ↔ isCallOp op = true := by
  cases op <;> decide

theorem mem_bcast_iff (op : BinOp) : op ∈ bcast ↔ isDot op = false ∧ isCallOp op = false := by
  cases op <;> decide

theorem bcast_not_dot {op : BinOp} (h : op ∈ bcast) : isDot op = false := ((mem_bcast_iff op).mp h).1

def listOf (r : Outcome (List Value)) : Outcome Value := r.bind fun vs => .ok (.list vs)

@[simp] theorem listOf_ok (vs : List Value) : listOf (.ok vs) = .ok (.list vs) := rfl
@[simp] theorem listOf_err (k : ErrKind) : listOf (.err k) = .err k := rfl
@[simp] theorem listOf_panic (p : String) : listOf (.panic p) = .panic p := rfl
@[simp] theorem listOf_fuel : listOf .fuel = .fuel := rfl

theorem listOf_eq_ok_iff (r : Outcome (List Value)) (v : Value) :
    listOf r = .ok v ↔ ∃ vs, r = .ok vs ∧ v = .list vs := by
  cases r <;> simp [listOf, Outcome.bind, eq_comm]

theorem listOf_isErr (r : Outcome (List Value)) : (listOf r).isErr = r.isErr := by
  cases r <;> rfl

theorem listOf_isOk (r : Outcome (List Value)) : (listOf r).isOk = r.isOk := by
  cases r <;> rfl

theorem mapScalar_eq (ops : NumOps) (op : BinOp) (lf : Bool) (sc : Value) : ∀ (L : List Value),
    mapScalar ops op lf L sc = listOf (Outcome.mapM' (fun x => elemScalar ops op lf x sc) L)
  | [] => rfl
  | x :: xs => by
    rw [mapScalar, Outcome.mapM'_cons, mapScalar_eq ops op lf sc xs]
    cases elemScalar ops op lf x sc with
    | ok r => cases Outcome.mapM' (fun x => elemScalar ops op lf x sc) xs <;> rfl
    | _ => rfl

theorem zipScalar_eq (ops : NumOps) (op : BinOp) : ∀ (la lb : List Value),
    zipScalar ops op la lb =
      listOf (Outcome.mapM' (fun p : Value × Value => scalarOp ops true op p.1 p.2) (la.zip lb))
  | [], _ => by simp [zipScalar]
  | _ :: _, [] => by simp [zipScalar]
  | x :: xs, y :: ys => by
    rw [zipScalar, List.zip_cons_cons, Outcome.mapM'_cons, zipScalar_eq ops op xs ys]
    cases scalarOp ops true op x y with
    | ok r => cases Outcome.mapM' (fun p : Value × Value => scalarOp ops true op p.1 p.2) (xs.zip ys) <;> rfl
    | _ => rfl

theorem evalBin_bcast (ops : NumOps) (fuel depth : Nat) (op : BinOp) (a b : Value) (s : ES)
    (h : op ∈ bcast) : evalBin ops (fuel+1) depth op a b s = (binValue ops op a b, s) :=
  evalBin_value _ _ _ _ _ _ _ ((mem_bcast_iff op).mp h).2

theorem evalBin_dot (ops : NumOps) (fuel depth : Nat) (op : BinOp) (a b : Value) (s : ES)
    (h : op ∈ dotOps) : evalBin ops (fuel+1) depth op a b s = (compareOp op a b, s) := by
  have hd := (mem_dotOps_iff op).mp h
  rw [evalBin_value _ _ _ _ _ _ _ (by cases op <;> first | rfl | cases hd)]
  exact congrArg (·, s) (if_pos hd)

section arms
variable (ops : NumOps) {op : BinOp} (hd : isDot op = false)
include hd

theorem binValue_scalar_scalar (a b : Value) (ha : isListV a = false) (hb : isListV b = false) :
    binValue ops op a b = scalarOp ops false op a b := by
  unfold binValue
  simp only [hd, Bool.false_eq_true, if_false]
  split
  · cases ha
  · cases ha
  · cases hb
  · rfl

theorem binValue_list_scalar (L : List Value) (sc : Value) (hs : isListV sc = false) :
    binValue ops op (.list L) sc = mapScalar ops op true L sc := by
  unfold binValue
  simp only [hd, Bool.false_eq_true, if_false]
  cases sc with
  | list _ => cases hs
  | _ => rfl

theorem binValue_scalar_list (sc : Value) (L : List Value) (hs : isListV sc = false) :
    binValue ops op sc (.list L) = mapScalar ops op false L sc := by
  unfold binValue
  simp only [hd, Bool.false_eq_true, if_false]
  cases sc with
  | list _ => cases hs
  | _ => rfl

theorem binValue_list_list (la lb : List Value) :
    binValue ops op (.list la) (.list lb) =
      if la.length = lb.length then zipScalar ops op la lb else .err .length := by
  unfold binValue
  simp only [hd, Bool.false_eq_true, if_false]
  by_cases h : la.length = lb.length <;> simp [h]

end arms

theorem listOf_mapM'_ok_iff {α} (f : α → Outcome Value) (L : List α) (v : Value) :
    listOf (Outcome.mapM' f L) = .ok v ↔
      ∃ vs : List Value, v = .list vs ∧ vs.length = L.length ∧
        ∀ (i : Nat) (h1 : i < L.length) (h2 : i < vs.length), f L[i] = .ok vs[i] := by
  rw [listOf_eq_ok_iff]
  constructor
  · rintro ⟨vs, h, rfl⟩
    exact ⟨vs, rfl, (Outcome.mapM'_ok_iff_get f L vs).mp h⟩
  · rintro ⟨vs, rfl, h⟩
    exact ⟨vs, (Outcome.mapM'_ok_iff_get f L vs).mpr h, rfl⟩

theorem listOf_mapM'_isErr_iff {α} (f : α → Outcome Value) (L : List α)
    (h : ∀ x, (f x).isOk = true ∨ (f x).isErr = true) :
    ((listOf (Outcome.mapM' f L)).isOk = true ∨ (listOf (Outcome.mapM' f L)).isErr = true) ∧
    ((listOf (Outcome.mapM' f L)).isErr = true ↔ ∃ x ∈ L, (f x).isErr = true) := by
  rw [listOf_isErr, listOf_isOk]
  exact Outcome.mapM'_isErr_iff f L (fun x _ => h x)

/-- the dot spelling of a plain comparison -/
def dotted : BinOp → BinOp
  | .eq => .deq | .ne => .dne | .lt => .dlt | .le => .dle | .gt => .dgt | .ge => .dge
  | op => op

/-- what the model does for `sc op L`: the scalar is the LEFT operand of each element operation,
    except that `*`, `==`, `!=` are written with the list element first -/
def scalarLeftRule (ops : NumOps) (op : BinOp) (sc x : Value) : Outcome Value :=
  if op = .mul ∨ op = .eq ∨ op = .ne then scalarOp ops false op x sc else scalarOp ops false op sc x

/-- The two spellings of `+` in the Rust code ((string,string) | (number,number) | error in the
    scalar rule, "left is a string: right must be one; otherwise both must be numbers" in the
    list arms) accept the same pairs, give the same results and fail with the same kind. -/
theorem scalarOp_elementwise_irrelevant (ops : NumOps) (op : BinOp) (a b : Value) :
    scalarOp ops true op a b = scalarOp ops false op a b := by
  cases op with
  | add =>
    cases a with
    | str x => cases b <;> rfl
    | num x => cases b <;> rfl
    | _ => rfl
  | _ => rfl

theorem scalarOp_flag (ops : NumOps) (ew : Bool) (op : BinOp) (a b : Value) :
    scalarOp ops ew op a b = scalarOp ops false op a b := by
  cases ew
  · rfl
  · exact scalarOp_elementwise_irrelevant ops op a b

theorem scalarOp_compare (ops : NumOps) (ew : Bool) {op : BinOp} (a b : Value) (h : isCompare op = true) :
    scalarOp ops ew op a b = compareOp op a b := by
  cases op <;> first | rfl | cases h

section cases
variable {β : Type} {P : Outcome β → Prop} (herr : ∀ k, P (.err k))
include herr

theorem asNumber_bind_cases (v : Value) (k : F64 → Outcome β) (hk : ∀ x, P (k x)) :
    P ((asNumber v).bind k) := by
  cases v with
  | num x => exact hk x
  | _ => exact herr _

theorem logicalOperands_bind_cases (a b : Value) (k : Bool × Bool → Outcome β) (hk : ∀ p, P (k p)) :
    P ((logicalOperands a b).bind k) := by
  cases a with
  | bool x =>
    cases b with
    | bool y => exact hk (x, y)
    | _ => exact herr _
  | _ => exact herr _

end cases

theorem logicalOperands_bind_not_bool {β} {a b : Value} (k : Bool × Bool → Outcome β)
    (h : ¬ ∃ p q, a = .bool p ∧ b = .bool q) : (logicalOperands a b).bind k = .err .type_ := by
  cases a with
  | bool p =>
    cases b with
    | bool q => exact absurd ⟨p, q, rfl, rfl⟩ h
    | _ => rfl
  | _ => rfl

theorem compareOp_cases {P : Outcome Value → Prop} (op : BinOp) (a b : Value)
    (herr : ∀ k, P (.err k)) (hbool : ∀ x, P (.ok (.bool x))) : P (compareOp op a b) := by
  unfold compareOp
  split
  · exact hbool _
  · exact hbool _
  · exact hbool _
  · exact hbool _
  · split
    · cases vcmp a b
      · exact herr _
      · exact hbool _
    · exact herr _

/-- `ha`, `hb`: `??` returns one of its operands.  Comparisons go through `compareOp`, the
    logical operators through `logicalOperands`, arithmetic through `asNumber`. -/
theorem scalarOp_cases {P : Outcome Value → Prop} (ops : NumOps) (ew : Bool) (op : BinOp) (a b : Value)
    (herr : ∀ k, P (.err k)) (hbool : ∀ x, P (.ok (.bool x))) (hnum : ∀ x, P (.ok (.num x)))
    (hstr : ∀ x, P (.ok (.str x))) (ha : P (.ok a)) (hb : P (.ok b)) :
    P (scalarOp ops ew op a b) := by
  rw [scalarOp_flag]
  by_cases hc : isCompare op = true
  · rw [scalarOp_compare ops false a b hc]; exact compareOp_cases op a b herr hbool
  have harith : ∀ f : F64 → F64 → F64,
      P ((asNumber a).bind fun x => (asNumber b).bind fun y => .ok (.num (f x y))) := fun f =>
    asNumber_bind_cases herr a _ fun x => asNumber_bind_cases herr b _ fun y => hnum _
  cases op with
  | eq | ne | lt | le | gt | ge | deq | dne | dlt | dle | dgt | dge => exact absurd rfl hc
  | and | nand | or | nor => exact logicalOperands_bind_cases herr a b _ fun _ => hbool _
  | sub => exact harith ops.sub
  | mul => exact harith ops.mul
  | div => exact harith ops.div
  | mod => exact harith ops.rem
  | pow => exact harith ops.powf
  | add =>
    cases a with
    | str x =>
      cases b with
      | str y => exact hstr _
      | _ => exact herr _
    | num x => exact asNumber_bind_cases herr b _ fun y => hnum _
    | _ => exact herr _
  | coalesce =>
    cases a with
    | null => exact hb
    | _ => exact ha
  | via | into | where_ => exact herr _

theorem scalarOp_ok_or_err (ops : NumOps) (ew : Bool) (op : BinOp) (a b : Value) :
    (scalarOp ops ew op a b).isOk = true ∨ (scalarOp ops ew op a b).isErr = true :=
  scalarOp_cases (P := fun r => r.isOk = true ∨ r.isErr = true) ops ew op a b (fun _ => .inr rfl)
    (fun _ => .inl rfl) (fun _ => .inl rfl) (fun _ => .inl rfl) (.inl rfl) (.inl rfl)

theorem elemScalar_listFirst (ops : NumOps) (op : BinOp) (v sc : Value) :
    elemScalar ops op true v sc = scalarOp ops true op v sc := by
  cases op <;> rfl

theorem elemScalar_scalarFirst (ops : NumOps) (op : BinOp) (v sc : Value) :
    elemScalar ops op false v sc =
      if op = .mul ∨ op = .eq ∨ op = .ne then scalarOp ops true op v sc else scalarOp ops true op sc v := by
  cases op <;> rfl

theorem elemScalar_ok_or_err (ops : NumOps) (op : BinOp) (lf : Bool) (v sc : Value) :
    (elemScalar ops op lf v sc).isOk = true ∨ (elemScalar ops op lf v sc).isErr = true := by
  cases lf
  · rw [elemScalar_scalarFirst]; split <;> exact scalarOp_ok_or_err ..
  · rw [elemScalar_listFirst]; exact scalarOp_ok_or_err ..

/-- operations that are total functions on bit patterns (`mul` returns its second argument,
    every other binary operation its first): enough to run the evaluator in `example`s; all
    theorems hold for every `NumOps` -/
def toyOps : NumOps :=
  { add := fun x _ => x, sub := fun x _ => x, mul := fun _ y => y, div := fun x _ => x,
    rem := fun x _ => x, powf := fun x _ => x, sqrt := id, sin := id, cos := id, tan := id,
    asin := id, acos := id, atan := id, ln := id, log10 := id, exp := id, floor := id,
    ceil := id, round := id, trunc := id }
def demoState : ES := { env := [[("x", .null)]], nextId := 3, names := [] }
def vOne : Value := .num F64.one
def vTwo : Value := .num (F64.ofNat 2)

end Blots
