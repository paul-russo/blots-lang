import Blots.Lemmas.FormatSquashDefs
/-
  `flat` against the two single-line printers: it is `expr_to_source` of the comment-free tree
  when no lambda has exactly one required parameter (`src_erase`), and it is
  `format_single_line` whenever `format_expr_impl` uses its result (`single_flat`).
-/
namespace Blots
namespace Squash
open FormatL FormatP

theorem endsOpen_erase : ∀ e : Expr, endsOpen (eraseComments e) = endsOpen e
  | .bin _ _ r => by simp only [eraseComments, endsOpen, endsOpen_erase r]
  | .un _ e => by simp only [eraseComments, endsOpen, endsOpen_erase e]
  | .lambda _ _ | .cond _ _ _ | .assign _ _ | .output _ | .num _ | .str _ | .bool _ | .null
  | .ident _ | .inref _ | .builtin _ | .list _ | .record _ | .doBlock _ _ | .call _ _
  | .access _ _ | .dot _ _ | .fact _ | .spread _ => by simp only [eraseComments, endsOpen]

theorem needsParens_erase (e : Expr) (pos : Pos) :
    needsParens (eraseComments e) pos = needsParens e pos := by
  unfold needsParens
  rw [endsOpen_erase]
  cases e <;> simp only [eraseComments]

theorem lambdaBodyNeedsParens_erase : ∀ e : Expr,
    lambdaBodyNeedsParens (eraseComments e) = lambdaBodyNeedsParens e
  | .bin _ l _ => by
    simp only [eraseComments, lambdaBodyNeedsParens, lambdaBodyNeedsParens_erase l]
  | .un _ _ | .lambda _ _ | .cond _ _ _ | .assign _ _ | .output _ | .num _ | .str _ | .bool _
  | .null | .ident _ | .inref _ | .builtin _ | .list _ | .record _ | .doBlock _ _ | .call _ _
  | .access _ _ | .dot _ _ | .fact _ | .spread _ => by
    simp only [eraseComments, lambdaBodyNeedsParens]

theorem lambdaArgsPart_not_bare (args : List LArg) (h : bareArgs args = false) :
    lambdaArgsPart args = "(" ++ ", ".intercalate (args.map lambdaArgToSource) ++ ")" := by
  unfold lambdaArgsPart
  split
  · simp [bareArgs] at h
  · rfl

theorem commentLines_nil : commentLines [] = "" := rfl

mutual
theorem src_erase : ∀ e : Expr, noBare e = true → exprSrc [] (eraseComments e) = flat e
  | .ident n, _ => by simp only [eraseComments, exprSrc, lookupAL, flat]
  | .inref _, _ | .num _, _ | .str _, _ | .bool _, _ | .null, _ | .builtin _, _ => by
    simp only [eraseComments, exprSrc, flat]
  | .list items, h => by
    simp only [noBare] at h
    simp only [eraseComments, exprSrc, flat, src_erase_items items h]
  | .record es, h => by
    simp only [noBare] at h
    simp only [eraseComments, exprSrc, flat, src_erase_entries es h]
  | .lambda args b, h => by
    simp only [noBare, Bool.and_eq_true, Bool.not_eq_true'] at h
    simp only [eraseComments, exprSrc, flat, PrintL.foldl_scopeRemove_nil, lambdaBodyNeedsParens_erase,
      src_erase b h.2, lambdaArgsPart_not_bare args h.1, String.append_assoc]
    have e1 : ∀ x : String, ") => " ++ x = ")" ++ (" => " ++ x) := fun x => by
      rw [← String.append_assoc]; rfl
    rw [e1]
  | .cond c t e, h => by
    simp only [noBare, Bool.and_eq_true] at h
    simp only [eraseComments, exprSrc, flat, src_erase c h.1, src_erase t h.2.1, src_erase e h.2.2]
  | .doBlock ss r, h => by
    simp only [noBare, Bool.and_eq_true] at h
    simp only [eraseComments, exprSrc, flat, PrintL.scopeAfterStmts_nil, src_erase_stmts ss h.1,
      src_erase_ret r h.2]
  | .assign _ e, h | .output e, h | .spread e, h => by
    simp only [noBare] at h
    simp only [eraseComments, exprSrc, flat, src_erase e h]
  | .call f as, h => by
    simp only [noBare, Bool.and_eq_true] at h
    simp only [eraseComments, exprSrc, flat, needsParens_erase, src_erase f h.1,
      src_erase_exprs as h.2]
  | .access l r, h | .bin _ l r, h => by
    simp only [noBare, Bool.and_eq_true] at h
    simp only [eraseComments, exprSrc, flat, needsParens_erase, src_erase l h.1, src_erase r h.2]
  | .dot e _, h | .un _ e, h | .fact e, h => by
    simp only [noBare] at h
    simp only [eraseComments, exprSrc, flat, needsParens_erase, src_erase e h]
theorem src_erase_exprs : ∀ es : List Expr, exprsNoBare es = true →
    exprsSrc [] (eraseExprs es) = flatExprs es
  | [], _ => rfl
  | e :: es, h => by
    simp only [exprsNoBare, Bool.and_eq_true] at h
    simp only [eraseExprs, exprsSrc, flatExprs, src_erase e h.1, src_erase_exprs es h.2]
theorem src_erase_item : ∀ i : Item, itemNoBare i = true → itemSrc [] (eraseItem i) = flatItem i
  | .mk _ e _, h => by
    simp only [itemNoBare] at h
    simp only [eraseItem, itemSrc, flatItem, src_erase e h]
theorem src_erase_items : ∀ is : List Item, itemsNoBare is = true →
    itemsSrc [] (eraseItems is) = flatItems is
  | [], _ => rfl
  | i :: is, h => by
    simp only [itemsNoBare, Bool.and_eq_true] at h
    simp only [eraseItems, itemsSrc, flatItems, src_erase_item i h.1, src_erase_items is h.2]
theorem src_erase_entry : ∀ en : Entry, entryNoBare en = true →
    entrySrc [] (eraseEntry en) = flatEntry en
  | .mk _ (.static k) v _, h => by
    simp only [entryNoBare, keyNoBare] at h
    simp only [eraseEntry, entrySrc, keyedSrc, flatEntry, flatKeyed, src_erase v h]
  | .mk _ (.dyn ke) v _, h => by
    simp only [entryNoBare, keyNoBare, Bool.and_eq_true] at h
    simp only [eraseEntry, entrySrc, keyedSrc, flatEntry, flatKeyed, src_erase ke h.1,
      src_erase v h.2]
  | .mk _ (.short n) v _, _ => by
    simp only [eraseEntry, entrySrc, keyedSrc, lookupAL, flatEntry, flatKeyed]
  | .mk _ (.spread e) v _, h => by
    simp only [entryNoBare, keyNoBare] at h
    simp only [eraseEntry, entrySrc, keyedSrc, flatEntry, flatKeyed, src_erase e h]
theorem src_erase_entries : ∀ es : List Entry, entriesNoBare es = true →
    entriesSrc [] (eraseEntries es) = flatEntries es
  | [], _ => rfl
  | e :: es, h => by
    simp only [entriesNoBare, Bool.and_eq_true] at h
    simp only [eraseEntries, entriesSrc, flatEntries, src_erase_entry e h.1,
      src_erase_entries es h.2]
theorem src_erase_stmts : ∀ is : List Item, itemsNoBare is = true →
    doStmtsSrc [] (eraseItems is) = flatStmts is
  | [], _ => rfl
  | (.mk l e t) :: is, h => by
    simp only [itemsNoBare, itemNoBare, Bool.and_eq_true] at h
    simp only [eraseItems, eraseItem, doStmtsSrc, stmtSrc, PrintL.scopeAfterStmt_nil, flatStmts, flatStmt,
      commentLines_nil, src_erase e h.1, src_erase_stmts is h.2, String.empty_append,
      String.append_empty]
theorem src_erase_ret : ∀ i : Item, itemNoBare i = true → retSrc [] (eraseItem i) = flatRet i
  | .mk _ e _, h => by
    simp only [itemNoBare] at h
    simp only [eraseItem, retSrc, flatRet, commentLines_nil, src_erase e h, String.empty_append]
end

theorem src_flat (e : Expr) (h : noBare e = true) (ha : anyComment e = false) :
    exprToSource e = flat e := by
  have := src_erase e h
  rwa [erase_id e ha] at this

mutual
theorem lamOk_of_noBare : ∀ e : Expr, noBare e = true → lamOk e = true
  | .list items, h => by simp only [noBare] at h; simp only [lamOk, lamOk_items items h]
  | .record es, h => by simp only [noBare] at h; simp only [lamOk, lamOk_entries es h]
  | .lambda _ b, h => by
    simp only [noBare, Bool.and_eq_true] at h; simp only [lamOk, lamOk_of_noBare b h.2]
  | .doBlock ss r, h => by
    simp only [noBare, Bool.and_eq_true] at h
    simp only [lamOk, lamOk_items ss h.1, lamOk_item r h.2, Bool.and_self]
  | .assign _ e, h | .output e, h => by
    simp only [noBare] at h; simp only [lamOk, lamOk_of_noBare e h]
  | .call f as, h => by
    simp only [noBare, Bool.and_eq_true] at h
    simp only [lamOk, lamOk_of_noBare f h.1, lamOk_exprs as h.2, Bool.and_self]
  | .cond _ _ _, h | .access _ _, h | .dot _ _, h | .bin _ _ _, h | .un _ _, h | .fact _, h
  | .spread _, h => by simpa only [noBare, lamOk] using h
  | .num _, _ | .str _, _ | .bool _, _ | .null, _ | .ident _, _ | .inref _, _
  | .builtin _, _ => by simp only [lamOk]
theorem lamOk_exprs : ∀ es : List Expr, exprsNoBare es = true → exprsLamOk es = true
  | [], _ => rfl
  | e :: es, h => by
    simp only [exprsNoBare, Bool.and_eq_true] at h
    simp only [exprsLamOk, lamOk_of_noBare e h.1, lamOk_exprs es h.2, Bool.and_self]
theorem lamOk_item : ∀ i : Item, itemNoBare i = true → itemLamOk i = true
  | .mk _ e _, h => by simp only [itemNoBare] at h; simp only [itemLamOk, lamOk_of_noBare e h]
theorem lamOk_items : ∀ is : List Item, itemsNoBare is = true → itemsLamOk is = true
  | [], _ => rfl
  | i :: is, h => by
    simp only [itemsNoBare, Bool.and_eq_true] at h
    simp only [itemsLamOk, lamOk_item i h.1, lamOk_items is h.2, Bool.and_self]
theorem lamOk_entry : ∀ en : Entry, entryNoBare en = true → entryLamOk en = true
  | .mk _ (.static k) v _, h => by
    simp only [entryNoBare, keyNoBare] at h
    simp only [entryLamOk, keyLamOk, lamOk_of_noBare v h]
  | .mk _ (.dyn ke) v _, h => by
    simp only [entryNoBare, keyNoBare, Bool.and_eq_true] at h
    simp only [entryLamOk, keyLamOk, lamOk_of_noBare ke h.1, lamOk_of_noBare v h.2, Bool.and_self]
  | .mk _ (.short n) v _, _ => by simp only [entryLamOk, keyLamOk]
  | .mk _ (.spread e) v _, h => by
    simp only [entryNoBare, keyNoBare] at h
    simp only [entryLamOk, keyLamOk, lamOk_of_noBare e h]
theorem lamOk_entries : ∀ es : List Entry, entriesNoBare es = true → entriesLamOk es = true
  | [], _ => rfl
  | e :: es, h => by
    simp only [entriesNoBare, Bool.and_eq_true] at h
    simp only [entriesLamOk, lamOk_entry e h.1, lamOk_entries es h.2, Bool.and_self]
end

theorem noNewline_of_intercalate {sep : String} {l : List String}
    (h : hasNewline (sep.intercalate l) = false) : ∀ x ∈ l, hasNewline x = false := by
  intro x hx
  cases hn : hasNewline x
  · rfl
  · rw [hasNewline_intercalate sep l x hx hn] at h; cases h

/-- the last arm of `format_single_line` -/
theorem fallback_flat (e : Expr) (hnb : noBare e = true) (hn : hasNewline (fmtSingle e) = false)
    (hf : fmtSingle e = if containsComments e then "\n" else exprToSource e) :
    fmtSingle e = flat e := by
  have ha := anyComment_false_of_single hn
  have hc : containsComments e = false := by
    cases h : containsComments e
    · rfl
    · rw [cfm e h] at hn; cases hn
  rw [hf, hc]
  simp only [Bool.false_eq_true, if_false]
  exact src_flat e hnb ha

theorem items_any_false : ∀ items : List Item, itemsAnyComment items = false →
    items.any Item.hasComments = false
  | [], _ => rfl
  | (.mk l e t) :: is, h => by
    simp only [itemsAnyComment, itemAnyComment, Bool.or_eq_false_iff] at h
    simp only [List.any_cons, Item.hasComments, Item.leading, Item.trailing, h.1.1.1, h.1.1.2,
      Bool.or_self, items_any_false is h.2]

theorem entries_any_false : ∀ es : List Entry, entriesAnyComment es = false →
    es.any Entry.hasComments = false
  | [], _ => rfl
  | (.mk l k v t) :: es, h => by
    simp only [entriesAnyComment, entryAnyComment, Bool.or_eq_false_iff] at h
    simp only [List.any_cons, Entry.hasComments, Entry.leading, Entry.trailing, h.1.1.1, h.1.1.2,
      Bool.or_self, entries_any_false es h.2]

mutual
theorem single_flat : ∀ e : Expr, lamOk e = true → hasNewline (fmtSingle e) = false →
    fmtSingle e = flat e
  | .assign _ e | .output e => fun hl hn => by
    simp only [lamOk] at hl
    simp only [fmtSingle, hasNewline_append, Bool.or_eq_false_iff] at hn
    simp only [fmtSingle, flat, single_flat e hl hn.2]
  | .lambda args body => fun hl hn => by
    simp only [lamOk] at hl
    simp only [fmtSingle] at hn
    simp only [fmtSingle, flat]
    cases hp : lambdaBodyNeedsParens body
    · simp only [hp, Bool.false_eq_true, if_false, hasNewline_append, Bool.or_eq_false_iff] at hn
      simp only [parenIf, Bool.false_eq_true, if_false, single_flat body hl hn.2]
    · simp only [hp, if_true, hasNewline_append, Bool.or_eq_false_iff] at hn
      simp only [parenIf, if_true, single_flat body hl hn.1.2, String.append_assoc]
      have e1 : ∀ x : String, " => (" ++ x = " => " ++ ("(" ++ x) := fun x => by
        rw [← String.append_assoc]; rfl
      rw [e1]
  | .call f args => fun hl hn => by
    simp only [lamOk, Bool.and_eq_true] at hl
    simp only [fmtSingle, hasNewline_append, hasNewline_parenIf, Bool.or_eq_false_iff] at hn
    simp only [fmtSingle, flat, single_flat f hl.1 hn.1.1.1,
      single_flat_list args hl.2 (noNewline_of_intercalate hn.1.2)]
  | .list items => fun hl hn => by
    simp only [lamOk] at hl
    have ha := anyComment_false_of_single hn
    simp only [anyComment] at ha
    simp only [fmtSingle, items_any_false items ha, Bool.false_eq_true, if_false,
      hasNewline_append, Bool.or_eq_false_iff] at hn
    simp only [fmtSingle, items_any_false items ha, Bool.false_eq_true, if_false, flat,
      single_flat_items items hl (noNewline_of_intercalate hn.1.2)]
  | .record es => fun hl hn => by
    simp only [lamOk] at hl
    have ha := anyComment_false_of_single hn
    simp only [anyComment] at ha
    simp only [fmtSingle, entries_any_false es ha, Bool.false_eq_true, if_false,
      hasNewline_append, Bool.or_eq_false_iff] at hn
    simp only [fmtSingle, entries_any_false es ha, Bool.false_eq_true, if_false, flat,
      single_flat_entries es hl (noNewline_of_intercalate hn.1.2)]
  | .doBlock ss r => fun _ hn => by
    rw [doFmt (.doBlock ss r) (by simp only [hasDo])] at hn; cases hn
  | .cond _ _ _ | .access _ _ | .dot _ _ | .bin _ _ _ | .un _ _ | .fact _ | .spread _ => fun hl hn =>
    fallback_flat _ (by simpa only [noBare, lamOk] using hl) hn (by simp only [fmtSingle])
  | .num _ | .str _ | .bool _ | .null | .ident _ | .inref _ | .builtin _ => fun _ hn =>
    fallback_flat _ (by simp only [noBare]) hn (by simp only [fmtSingle])
theorem single_flat_list : ∀ es : List Expr, exprsLamOk es = true →
    (∀ s ∈ fmtSingleList es, hasNewline s = false) → fmtSingleList es = flatExprs es
  | [] => fun _ _ => rfl
  | e :: es => fun hl hn => by
    simp only [exprsLamOk, Bool.and_eq_true] at hl
    simp only [fmtSingleList, List.mem_cons, forall_eq_or_imp] at hn
    simp only [fmtSingleList, flatExprs, single_flat e hl.1 hn.1, single_flat_list es hl.2 hn.2]
theorem single_flat_item : ∀ i : Item, itemLamOk i = true → hasNewline (fmtSingleItem i) = false →
    fmtSingleItem i = flatItem i
  | .mk _ e _ => fun hl hn => by
    simp only [itemLamOk] at hl
    simp only [fmtSingleItem] at hn
    simp only [fmtSingleItem, flatItem, single_flat e hl hn]
theorem single_flat_items : ∀ is : List Item, itemsLamOk is = true →
    (∀ s ∈ fmtSingleItems is, hasNewline s = false) → fmtSingleItems is = flatItems is
  | [] => fun _ _ => rfl
  | i :: is => fun hl hn => by
    simp only [itemsLamOk, Bool.and_eq_true] at hl
    simp only [fmtSingleItems, List.mem_cons, forall_eq_or_imp] at hn
    simp only [fmtSingleItems, flatItems, single_flat_item i hl.1 hn.1,
      single_flat_items is hl.2 hn.2]
theorem single_flat_entry : ∀ en : Entry, entryLamOk en = true →
    hasNewline (fmtSingleEntry en) = false → fmtSingleEntry en = flatEntry en
  | .mk _ (.static k) v _ => fun hl hn => by
    simp only [entryLamOk, keyLamOk] at hl
    simp only [fmtSingleEntry, fmtSingleKeyed, hasNewline_append, Bool.or_eq_false_iff] at hn
    simp only [fmtSingleEntry, fmtSingleKeyed, flatEntry, flatKeyed, single_flat v hl hn.2]
  | .mk _ (.dyn ke) v _ => fun hl hn => by
    simp only [entryLamOk, keyLamOk, Bool.and_eq_true] at hl
    simp only [fmtSingleEntry, fmtSingleKeyed, hasNewline_append, Bool.or_eq_false_iff] at hn
    simp only [fmtSingleEntry, fmtSingleKeyed, flatEntry, flatKeyed, single_flat ke hl.1 hn.1.1.2,
      single_flat v hl.2 hn.2]
  | .mk _ (.short n) v _ => fun _ _ => by
    simp only [fmtSingleEntry, fmtSingleKeyed, flatEntry, flatKeyed]
  | .mk _ (.spread e) v _ => fun hl hn => by
    simp only [entryLamOk, keyLamOk] at hl
    simp only [fmtSingleEntry, fmtSingleKeyed] at hn
    simp only [fmtSingleEntry, fmtSingleKeyed, flatEntry, flatKeyed, single_flat e hl hn]
theorem single_flat_entries : ∀ es : List Entry, entriesLamOk es = true →
    (∀ s ∈ fmtSingleEntries es, hasNewline s = false) → fmtSingleEntries es = flatEntries es
  | [] => fun _ _ => rfl
  | e :: es => fun hl hn => by
    simp only [entriesLamOk, Bool.and_eq_true] at hl
    simp only [fmtSingleEntries, List.mem_cons, forall_eq_or_imp] at hn
    simp only [fmtSingleEntries, flatEntries, single_flat_entry e hl.1 hn.1,
      single_flat_entries es hl.2 hn.2]
end

end Squash
end Blots
