import Blots.Lemmas.EvalDepthMono
/-
  A concrete run in the band next to the depth limit where `L via f` and `map(L, f)` BOTH succeed
  with DIFFERENT values: `f = l => sort_by(l, to_string)`, `L = [["b","a"]]`, the two forms
  evaluated at call depth 996.  `via` runs `f` at 996, its body at 997, `sort_by` at 997, the key
  calls at 999: sorted.  `map` runs `f` at 998, its body at 999, `sort_by` at 999, the key calls at
  1001 > 1000: each key call fails with the depth error, `sort_by` swallows it, the list is
  returned unsorted.
-/
namespace Blots

/-- `l => sort_by(l, to_string)` -/
def sortFn : Value :=
  .lambda 5 [.req "l"] (.call (.builtin "sort_by") [.ident "l", .builtin "to_string"]) []
def sortState : ES := { env := [[]], nextId := 6, names := [] }
def listBA : Value := .list [.str "b", .str "a"]
def listAB : Value := .list [.str "a", .str "b"]

theorem ar_sort_by : builtinArity "sort_by" = some (.exact 2) := by decide +kernel
theorem ar_to_string : builtinArity "to_string" = some (.exact 1) := by decide +kernel
theorem pure_to_string (ops : NumOps) (s : String) :
    callPure ops "to_string" [.str s] = some (.ok (.str s)) := rfl

set_option maxRecDepth 8000 in
theorem sort_via_996 : evalBin toyOps 12 996 .via (.list [listBA]) sortFn sortState =
    (.ok (.list [listAB]), sortState) := by
  rw [evalBin_via_list toyOps 11 996 [listBA] sortFn sortState (.exact 1) rfl]
  simp [wrapList, sortFn, Value.isCallable, lambdaArity,
    Gen.Arity.canAccept, mapCalls, callFn, checkArity, MAX_DEPTH, nameOf, sortState, lookupAL, envGet,
    bindParams, bindParams.go, insertAL, eval, evalList, flattenSpreads, ar_sort_by, ar_to_string, isHof,
    callHof, keyCalls, pure_to_string, listBA, listAB, mergeSortBy, mergeBy, sortByLt, vcmp, strCmp,
    strCmpL]

set_option maxRecDepth 8000 in
theorem sort_map_996 : callFn toyOps 13 (.builtin "map") .null [.list [listBA], sortFn] 996 sortState =
    (.ok (.list [listBA]), sortState) := by
  rw [callFn_hof toyOps 12 "map" .null [.list [listBA], sortFn] 996 sortState hof_arities.1 rfl,
    if_neg (by decide), callHof_map, show arityOf sortFn = some (.exact 1) from rfl]
  simp [sortFn, Value.isCallable, lambdaArity,
    Gen.Arity.canAccept, mapCalls, callFn, checkArity, MAX_DEPTH, nameOf, sortState, lookupAL, envGet,
    bindParams, bindParams.go, insertAL, eval, evalList, flattenSpreads, ar_sort_by, ar_to_string, isHof,
    callHof, keyCalls, listBA, mergeSortBy, mergeBy, sortByLt]

theorem listAB_ne_listBA : listAB ≠ listBA := by simp [listAB, listBA]

end Blots
