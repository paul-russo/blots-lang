import Blots.Lemmas.Nsb
import Blots.Lemmas.ValueAllOps
/-
  Two facts about runs on `sort_by`-free inputs, proved in one induction over the fuel because
  the second needs the first for every intermediate result:
  * a successful run returns a `sort_by`-free result and leaves a `sort_by`-free environment;
  * a run that does not end in the depth error is the same run (outcome and state) when started
    at any smaller call depth.
  Both are stated as one relation `Dep` between the run at the smaller and at the larger depth,
  with one rule per combinator of `Lemmas/EvalEqns.lean` and one fact per value-level operation;
  the step lemmas then follow the evaluator's equations.  Taking the two depths equal gives the
  invariant alone (`Pres`), dropping it gives antitonicity (`Anti`, `Lemmas/EvalDepthMono.lean`).
-/
namespace Blots

/-! two data lemmas of `Lemmas/Nsb.lean` with the equation first -/

theorem fwd_lookupAL {r : List (String × Value)} {k : String} {v : Value} (h : lookupAL k r = some v)
    (hr : Value.nsbRec r = true) : v.nsb = true := nsb_lookupAL hr h
theorem fwd_bindParams {params : List LArg} {args : List Value} {pf : Frame}
    (h : bindParams params args = .ok pf) (ha : Value.nsbList args = true) :
    Value.nsbRec pf = true := nsb_bindParams ha h

/-- `r` is a run at some call depth, `r'` the same call started at a smaller depth: an `ok`
    result of `r` satisfies `P` and leaves a `sort_by`-free environment, and `r'` is `r` unless
    `r` ends in the depth error -/
def Dep {α} (P : α → Bool) (r' r : R α) : Prop :=
  (∀ a s', r = (.ok a, s') → P a = true ∧ nsbEnv s'.env = true) ∧
    (r.1 ≠ .err .depth → r' = r)

namespace Dep
variable {α β : Type} {P : α → Bool} {Q : β → Bool} {s : ES}

theorem pure {o : Outcome α} (hs : nsbEnv s.env = true) (ho : ∀ a, o = .ok a → P a = true) :
    Dep P (o, s) (o, s) :=
  ⟨fun a s' h => by cases h; exact ⟨ho a rfl, hs⟩, fun _ => rfl⟩

theorem ok {a : α} (hs : nsbEnv s.env = true) (ha : P a = true) : Dep P (.ok a, s) (.ok a, s) :=
  pure hs fun _ h => by cases h; exact ha

theorem fail {o : Outcome α} (ho : ∀ a, o ≠ .ok a) : Dep P (o, s) (o, s) :=
  ⟨fun a _ h => absurd (congrArg Prod.fst h) (ho a), fun _ => rfl⟩

theorem err {k : ErrKind} : Dep P ((.err k : Outcome α), s) (.err k, s) := fail nofun

/-- if the whole run does not end in the depth error, neither does its first part, which is then
    the same at the smaller depth; its result is `sort_by`-free, so the continuations are related -/
theorem bind {r' r : R α} {k' k : α → ES → R β} (h : Dep P r' r)
    (hk : ∀ a s1, P a = true → nsbEnv s1.env = true → Dep Q (k' a s1) (k a s1)) :
    Dep Q (R.bind r' k') (R.bind r k) := by
  obtain ⟨o, s1⟩ := r
  cases o with
  | ok a =>
    rw [h.2 fun hc => nomatch hc]
    exact hk a s1 (h.1 a s1 rfl).1 (h.1 a s1 rfl).2
  | err e =>
    refine ⟨nofun, fun hnd => ?_⟩
    rw [h.2 fun hc => hnd (congrArg Outcome.err (Outcome.err.inj hc))]; rfl
  | panic p => refine ⟨nofun, fun _ => ?_⟩; rw [h.2 fun hc => nomatch hc]; rfl
  | fuel => refine ⟨nofun, fun _ => ?_⟩; rw [h.2 fun hc => nomatch hc]; rfl

theorem bindPure {o : Outcome α} {k' k : α → ES → R β} (hk : ∀ a, o = .ok a → Dep Q (k' a s) (k a s)) :
    Dep Q (R.bind (o, s) k') (R.bind (o, s) k) := by
  cases o with
  | ok a => exact hk a rfl
  | _ => exact fail nofun

theorem ite {c : Prop} [Decidable c] {x' x y' y : R α} (hx : Dep P x' x) (hy : Dep P y' y) :
    Dep P (if c then x' else y') (if c then x else y) := by split <;> assumption

/-- the depth guard of `callFn`: passed at the larger depth, it is passed at the smaller -/
theorem guard {d d' : Nat} (hdd : d' ≤ d) {x' x : R α} (h : Dep P x' x) :
    Dep P (if d' > MAX_DEPTH then (.err .depth, s) else x')
      (if d > MAX_DEPTH then (.err .depth, s) else x) := by
  by_cases hd : d > MAX_DEPTH
  · rw [if_pos hd]; exact ⟨nofun, fun hc => absurd rfl hc⟩
  · rw [if_neg hd, if_neg fun hc => hd (Nat.lt_of_lt_of_le hc hdd)]; exact h

theorem restore {r' r : R α} (h : Dep P r' r) (g : ES → ES)
    (hg : ∀ s1, nsbEnv s1.env = true → nsbEnv (g s1).env = true) :
    Dep P (r'.1, g r'.2) (r.1, g r.2) := by
  refine ⟨?_, fun hnd => by rw [h.2 hnd]⟩
  obtain ⟨o, s1⟩ := r
  intro a s' hc; cases hc
  exact ⟨(h.1 a s1 rfl).1, hg s1 (h.1 a s1 rfl).2⟩

end Dep

theorem nsbList_idxArgs {x : Value} (hx : x.nsb = true) (w : Bool) (i : Nat) :
    Value.nsbList (idxArgs w x i) = true := nsbList_all.2 (allL_idxArgs (nsb_all.1 hx) i)

theorem nsbEnv_assignIn {first : Nat} {x : String} {v : Value} {s : ES} (hs : nsbEnv s.env = true)
    (hv : v.nsb = true) : nsbEnv (assignIn first x v s).env = true :=
  nsbEnv_all.2 (allE_assignIn (nsbEnv_all.1 hs) (nsb_all.1 hv) first x)

/-- `Dep` at fuel `n` for fourteen of the evaluator's fifteen functions: all but `keyCalls`, which
    only `sort_by` calls.  The functions that evaluate expressions at the given depth itself need
    the two depths on the same side of "top level or inside a call", because an assignment
    consults `alreadyDefined depth …`; the call-level functions evaluate bodies at `depth + 1`
    and need no such condition. -/
structure DepAll (ops : NumOps) (n : Nat) : Prop where
  eval : ∀ {d d' e s}, d' ≤ d → alreadyDefined d' = alreadyDefined d → e.nsb = true →
    nsbEnv s.env = true → Dep Value.nsb (eval ops n d' e s) (eval ops n d e s)
  evalList : ∀ {d d' es s}, d' ≤ d → alreadyDefined d' = alreadyDefined d → Expr.nsbList es = true →
    nsbEnv s.env = true → Dep Value.nsbList (evalList ops n d' es s) (evalList ops n d es s)
  evalItems : ∀ {d d' es s}, d' ≤ d → alreadyDefined d' = alreadyDefined d → Item.nsbList es = true →
    nsbEnv s.env = true → Dep Value.nsbList (evalItems ops n d' es s) (evalItems ops n d es s)
  evalEntries : ∀ {d d' es acc s}, d' ≤ d → alreadyDefined d' = alreadyDefined d →
    Entry.nsbList es = true → Value.nsbRec acc = true → nsbEnv s.env = true →
    Dep Value.nsbRec (evalEntries ops n d' es acc s) (evalEntries ops n d es acc s)
  evalDoStmt : ∀ {d d' e s}, d' ≤ d → alreadyDefined d' = alreadyDefined d → e.nsb = true →
    nsbEnv s.env = true → Dep Value.nsb (evalDoStmt ops n d' e s) (evalDoStmt ops n d e s)
  evalDo : ∀ {d d' st ret s}, d' ≤ d → alreadyDefined d' = alreadyDefined d → Item.nsbList st = true →
    ret.nsb = true → nsbEnv s.env = true → Dep Value.nsb (evalDo ops n d' st ret s) (evalDo ops n d st ret s)
  callFn : ∀ {d d' fv this args s}, d' ≤ d → fv.nsb = true → this.nsb = true →
    Value.nsbList args = true → nsbEnv s.env = true →
    Dep Value.nsb (callFn ops n fv this args d' s) (callFn ops n fv this args d s)
  mapCalls : ∀ {d d' f w L i s}, d' ≤ d → f.nsb = true → Value.nsbList L = true → nsbEnv s.env = true →
    Dep Value.nsbList (mapCalls ops n f w L i d' s) (mapCalls ops n f w L i d s)
  quantCalls : ∀ {d d' f w q L i s}, d' ≤ d → f.nsb = true → Value.nsbList L = true →
    nsbEnv s.env = true → Dep Value.nsb (quantCalls ops n f w q L i d' s) (quantCalls ops n f w q L i d s)
  foldCalls : ∀ {d d' f w acc L i s}, d' ≤ d → f.nsb = true → acc.nsb = true → Value.nsbList L = true →
    nsbEnv s.env = true → Dep Value.nsb (foldCalls ops n f w acc L i d' s) (foldCalls ops n f w acc L i d s)
  callHof : ∀ {d d' name args s}, d' ≤ d → name ≠ "sort_by" → Value.nsbList args = true →
    nsbEnv s.env = true → Dep Value.nsb (callHof ops n name args d' s) (callHof ops n name args d s)
  evalBin : ∀ {d d' op a b s}, d' ≤ d → a.nsb = true → b.nsb = true → nsbEnv s.env = true →
    Dep Value.nsb (evalBin ops n d' op a b s) (evalBin ops n d op a b s)
  viaPairs : ∀ {d d' la lb s}, d' ≤ d → Value.nsbList la = true → Value.nsbList lb = true →
    nsbEnv s.env = true → Dep Value.nsb (viaPairs ops n la lb d' s) (viaPairs ops n la lb d s)
  whereCalls : ∀ {d d' f w L i s}, d' ≤ d → f.nsb = true → Value.nsbList L = true → nsbEnv s.env = true →
    Dep Value.nsb (whereCalls ops n f w L i d' s) (whereCalls ops n f w L i d s)

theorem depAll_zero (ops : NumOps) : DepAll ops 0 := by
  constructor <;> intros <;>
    simp only [eval_zero, evalList_zero, evalItems_zero, evalEntries_zero, evalDoStmt_zero, evalDo_zero,
      callFn_zero, mapCalls_zero, quantCalls_zero, foldCalls_zero, callHof_zero, evalBin_zero,
      viaPairs_zero, whereCalls_zero] <;>
    exact .fail nofun

section step
variable {ops : NumOps} {n : Nat} (ih : DepAll ops n) {d d' : Nat} (hdd : d' ≤ d) {s : ES}
  (hs : nsbEnv s.env = true)
include ih hdd hs

section expressions
variable (hd : alreadyDefined d' = alreadyDefined d)
include hd

theorem eval_dep {e : Expr} (he : e.nsb = true) :
    Dep Value.nsb (eval ops (n+1) d' e s) (eval ops (n+1) d e s) := by
  cases e with
  | num x => rw [eval_num, eval_num]; exact .ok hs rfl
  | str x => rw [eval_str, eval_str]; exact .ok hs rfl
  | bool b => rw [eval_bool, eval_bool]; exact .ok hs rfl
  | null => rw [eval_null, eval_null]; exact .ok hs rfl
  | builtin x => rw [eval_builtin, eval_builtin]; exact .ok hs he
  | ident x => rw [eval_ident, eval_ident]; exact .pure hs (sat_identOp (nsbEnv_all.1 hs)).nsb
  | inref f => rw [eval_inref, eval_inref]; exact .pure hs (sat_inrefOp (nsbEnv_all.1 hs)).nsb
  | list items =>
    rw [eval_list, eval_list]
    exact .bind (ih.evalItems hdd hd he hs) fun _ _ hvs hs1 => .ok hs1 (nsb_flattenSpreads hvs)
  | record es =>
    rw [eval_record, eval_record]
    exact .bind (ih.evalEntries hdd hd he rfl hs) fun _ _ hr hs1 => .ok hs1 hr
  | lambda args body =>
    rw [eval_lambda, eval_lambda]
    refine .ite .err (.ok hs ?_)
    rw [Value.nsb, Bool.and_eq_true]
    exact ⟨he, nsb_captureScope hs _⟩
  | assign x v =>
    rw [eval_assign, eval_assign, hd]
    exact .ite .err <| .ite .err <| .ite .err <|
      .bind (ih.eval hdd hd he hs) fun _ _ hv hs1 => .ite .err (.ok (nsbEnv_assignIn hs1 hv) hv)
  | output e => rw [eval_output, eval_output]; exact ih.eval hdd hd he hs
  | cond c t el =>
    rw [Expr.nsb, Bool.and_eq_true, Bool.and_eq_true] at he
    rw [eval_cond, eval_cond]
    refine .bind (ih.eval hdd hd he.1.1 hs) fun v s1 _ hs1 => ?_
    split
    · exact ih.eval hdd hd he.1.2 hs1
    · exact ih.eval hdd hd he.2 hs1
    · exact .err
  | doBlock stmts ret =>
    rw [Expr.nsb, Bool.and_eq_true] at he
    rw [eval_doBlock, eval_doBlock]
    exact .restore (ih.evalDo (s := { s with env := [] :: s.env }) hdd hd he.1 he.2 hs)
      (fun s1 => { s1 with env := s1.env.drop 1 }) fun _ h => nsbEnv_drop h 1
  | call f args =>
    rw [Expr.nsb, Bool.and_eq_true] at he
    rw [eval_call, eval_call]
    exact .bind (ih.eval hdd hd he.1 hs) fun _ _ hf hs1 =>
      .bind (ih.evalList hdd hd he.2 hs1) fun _ _ hraw hs2 =>
        .ite .err (ih.callFn hdd hf hf (nsb_flattenSpreads hraw) hs2)
  | access e i =>
    rw [Expr.nsb, Bool.and_eq_true] at he
    rw [eval_access, eval_access]
    exact .bind (ih.eval hdd hd he.1 hs) fun _ _ hv hs1 =>
      .bind (ih.eval hdd hd he.2 hs1) fun _ _ _ hs2 => .pure hs2 (sat_accessOp (nsb_all.1 hv)).nsb
  | dot e f =>
    rw [eval_dot, eval_dot]
    exact .bind (ih.eval hdd hd he hs) fun _ _ hv hs1 => .pure hs1 (sat_dotOp (nsb_all.1 hv)).nsb
  | bin op l r =>
    rw [Expr.nsb, Bool.and_eq_true] at he
    rw [eval_bin, eval_bin]
    exact .bind (ih.eval hdd hd he.1 hs) fun _ _ ha hs1 =>
      .bind (ih.eval hdd hd he.2 hs1) fun _ _ hb hs2 => ih.evalBin hdd ha hb hs2
  | un op e =>
    rw [eval_un, eval_un]
    exact .bind (ih.eval hdd hd he hs) fun _ _ _ hs1 => .pure hs1 sat_unOp.nsb
  | fact e =>
    rw [eval_fact, eval_fact]
    exact .bind (ih.eval hdd hd he hs) fun _ _ _ hs1 => .pure hs1 sat_factOp.nsb
  | spread e =>
    rw [eval_spread, eval_spread]
    exact .bind (ih.eval hdd hd he hs) fun _ _ hv hs1 => .pure hs1 (sat_spreadOp (nsb_all.1 hv)).nsb

theorem evalList_dep {es : List Expr} (he : Expr.nsbList es = true) :
    Dep Value.nsbList (evalList ops (n+1) d' es s) (evalList ops (n+1) d es s) := by
  cases es with
  | nil => rw [evalList_nil, evalList_nil]; exact .ok hs rfl
  | cons e es =>
    rw [Expr.nsbList, Bool.and_eq_true] at he
    rw [evalList_cons, evalList_cons]
    exact .bind (ih.eval hdd hd he.1 hs) fun _ _ hv hs1 =>
      .bind (ih.evalList hdd hd he.2 hs1) fun _ _ hvs hs2 => .ok hs2 (nsbList_cons hv hvs)

theorem evalItems_dep {es : List Item} (he : Item.nsbList es = true) :
    Dep Value.nsbList (evalItems ops (n+1) d' es s) (evalItems ops (n+1) d es s) := by
  rcases es with _ | ⟨⟨l, e, t⟩, es⟩
  · rw [evalItems_nil, evalItems_nil]; exact .ok hs rfl
  · rw [Item.nsbList, Bool.and_eq_true] at he
    rw [evalItems_cons, evalItems_cons]
    exact .bind (ih.eval hdd hd he.1 hs) fun _ _ hv hs1 =>
      .bind (ih.evalItems hdd hd he.2 hs1) fun _ _ hvs hs2 => .ok hs2 (nsbList_cons hv hvs)

theorem evalEntries_dep {es : List Entry} {acc : Frame} (he : Entry.nsbList es = true)
    (ha : Value.nsbRec acc = true) :
    Dep Value.nsbRec (evalEntries ops (n+1) d' es acc s) (evalEntries ops (n+1) d es acc s) := by
  rcases es with _ | ⟨⟨l, k, v, t⟩, es⟩
  · rw [evalEntries_nil, evalEntries_nil]; exact .ok hs ha
  · rw [Entry.nsbList, Entry.nsb, Bool.and_eq_true, Bool.and_eq_true] at he
    obtain ⟨⟨hk, hv⟩, hes⟩ := he
    cases k with
    | static k =>
      rw [evalEntries_static, evalEntries_static]
      exact .bind (ih.eval hdd hd hv hs) fun _ _ hx hs1 =>
        ih.evalEntries hdd hd hes (nsb_insertAL hx ha) hs1
    | dyn ke =>
      rw [evalEntries_dyn, evalEntries_dyn]
      refine .bind (ih.eval hdd hd hk hs) fun kv s1 _ hs1 => ?_
      split
      · exact .bind (ih.eval hdd hd hv hs1) fun _ _ hx hs2 =>
          ih.evalEntries hdd hd hes (nsb_insertAL hx ha) hs2
      · exact .err
    | short x =>
      rw [evalEntries_short, evalEntries_short]
      split
      · exact ih.evalEntries hdd hd hes (nsb_insertAL (nsb_envGet hs ‹_›) ha) hs
      · exact .err
    | spread se =>
      rw [evalEntries_spread, evalEntries_spread]
      refine .bind (ih.eval hdd hd hk hs) fun x s1 hx hs1 => ?_
      split
      · exact ih.evalEntries hdd hd hes (nsb_spreadIntoRecord ha hx) hs1
      · exact ih.evalEntries hdd hd hes ha hs1

theorem evalDoStmt_dep {e : Expr} (he : e.nsb = true) :
    Dep Value.nsb (evalDoStmt ops (n+1) d' e s) (evalDoStmt ops (n+1) d e s) := by
  by_cases hx : ∃ x v, e = .assign x v
  · obtain ⟨x, v, rfl⟩ := hx
    rw [evalDoStmt_assign, evalDoStmt_assign]
    exact .ite .err <| .bind (ih.eval hdd hd he hs) fun _ _ hv hs1 =>
      .ok (nsbEnv_assignIn hs1 hv) hv
  · have hx' := fun x v h => hx ⟨x, v, h⟩
    rw [evalDoStmt_other _ _ _ _ _ hx', evalDoStmt_other _ _ _ _ _ hx']
    exact ih.eval hdd hd he hs

theorem evalDo_dep {st : List Item} {ret : Item} (hst : Item.nsbList st = true)
    (hr : ret.nsb = true) : Dep Value.nsb (evalDo ops (n+1) d' st ret s) (evalDo ops (n+1) d st ret s) := by
  rcases ret with ⟨l, e, t⟩
  rcases st with _ | ⟨⟨l', e', t'⟩, rest⟩
  · rw [evalDo_nil, evalDo_nil]; exact ih.evalDoStmt hdd hd hr hs
  · rw [Item.nsbList, Bool.and_eq_true] at hst
    rw [evalDo_cons, evalDo_cons]
    exact .bind (ih.evalDoStmt hdd hd hst.1 hs) fun _ _ _ hs1 => ih.evalDo hdd hd hst.2 hr hs1

end expressions

theorem mapCalls_dep {f : Value} {w : Bool} {L : List Value} {i : Nat} (hf : f.nsb = true)
    (hL : Value.nsbList L = true) :
    Dep Value.nsbList (mapCalls ops (n+1) f w L i d' s) (mapCalls ops (n+1) f w L i d s) := by
  cases L with
  | nil => rw [mapCalls_nil, mapCalls_nil]; exact .ok hs rfl
  | cons x xs =>
    rw [Value.nsbList, Bool.and_eq_true] at hL
    rw [mapCalls_cons, mapCalls_cons]
    exact .bind (ih.callFn hdd hf hf (nsbList_idxArgs hL.1 w i) hs) fun _ _ hv hs1 =>
      .bind (ih.mapCalls hdd hf hL.2 hs1) fun _ _ hvs hs2 => .ok hs2 (nsbList_cons hv hvs)

theorem quantCalls_dep {f : Value} {w q : Bool} {L : List Value} {i : Nat} (hf : f.nsb = true)
    (hL : Value.nsbList L = true) :
    Dep Value.nsb (quantCalls ops (n+1) f w q L i d' s) (quantCalls ops (n+1) f w q L i d s) := by
  cases L with
  | nil => rw [quantCalls_nil, quantCalls_nil]; exact .ok hs rfl
  | cons x xs =>
    rw [Value.nsbList, Bool.and_eq_true] at hL
    rw [quantCalls_cons, quantCalls_cons]
    refine .bind (ih.callFn hdd hf hf (nsbList_idxArgs hL.1 w i) hs) fun v s1 _ hs1 => ?_
    split
    · exact .ite (.ok hs1 rfl) <| .ite (.ok hs1 rfl) (ih.quantCalls hdd hf hL.2 hs1)
    · exact .err

theorem foldCalls_dep {f : Value} {w : Bool} {acc : Value} {L : List Value} {i : Nat}
    (hf : f.nsb = true) (ha : acc.nsb = true) (hL : Value.nsbList L = true) :
    Dep Value.nsb (foldCalls ops (n+1) f w acc L i d' s) (foldCalls ops (n+1) f w acc L i d s) := by
  cases L with
  | nil => rw [foldCalls_nil, foldCalls_nil]; exact .ok hs ha
  | cons x xs =>
    rw [Value.nsbList, Bool.and_eq_true] at hL
    rw [foldCalls_cons, foldCalls_cons]
    exact .bind (ih.callFn hdd hf hf (nsbList_all.2 (allL_foldArgs (nsb_all.1 ha) (nsb_all.1 hL.1) i)) hs)
      fun _ _ hv hs1 => ih.foldCalls hdd hf hv hL.2 hs1

theorem whereCalls_dep {f : Value} {w : Bool} {L : List Value} {i : Nat} (hf : f.nsb = true)
    (hL : Value.nsbList L = true) :
    Dep Value.nsb (whereCalls ops (n+1) f w L i d' s) (whereCalls ops (n+1) f w L i d s) := by
  cases L with
  | nil => rw [whereCalls_nil, whereCalls_nil]; exact .ok hs rfl
  | cons x xs =>
    rw [Value.nsbList, Bool.and_eq_true] at hL
    rw [whereCalls_cons, whereCalls_cons]
    refine .bind (ih.callFn hdd hf hf (nsbList_idxArgs hL.1 w i) hs) fun v s1 _ hs1 => ?_
    split
    · refine .bind (ih.whereCalls hdd hf hL.2 hs1) fun r s2 hr hs2 => ?_
      split
      · refine .ok hs2 ?_
        split
        · exact nsbList_cons hL.1 hr
        · exact hr
      · exact .ok hs2 hr
    · exact .err

theorem viaPairs_dep {la lb : List Value} (ha : Value.nsbList la = true)
    (hb : Value.nsbList lb = true) :
    Dep Value.nsb (viaPairs ops (n+1) la lb d' s) (viaPairs ops (n+1) la lb d s) := by
  cases la with
  | nil => rw [viaPairs_nil_left, viaPairs_nil_left]; exact .ok hs rfl
  | cons x xs =>
    cases lb with
    | nil => rw [viaPairs_nil_right, viaPairs_nil_right]; exact .ok hs rfl
    | cons f fs =>
      rw [Value.nsbList, Bool.and_eq_true] at ha hb
      rw [viaPairs_cons, viaPairs_cons]
      refine .ite .err <| .bind (ih.callFn hdd hb.1 hb.1 (nsbList_one ha.1) hs) fun v s1 hv hs1 =>
        .bind (ih.viaPairs hdd ha.2 hb.2 hs1) fun r s2 hr hs2 => ?_
      split
      · exact .ok hs2 (nsbList_cons hv hr)
      · exact .ok hs2 hr

theorem evalBin_dep {op : BinOp} {a b : Value} (ha : a.nsb = true) (hb : b.nsb = true) :
    Dep Value.nsb (evalBin ops (n+1) d' op a b s) (evalBin ops (n+1) d op a b s) := by
  by_cases hc : isCallOp op = false
  · rw [evalBin_value _ _ _ _ _ _ _ hc, evalBin_value _ _ _ _ _ _ _ hc]
    exact .pure hs (sat_binValue (nsb_all.1 ha) (nsb_all.1 hb)).nsb
  · cases op <;> first | exact absurd rfl hc | skip
    · rw [evalBin_via, evalBin_via]
      split
      · exact .ite .err (ih.viaPairs hdd ha hb hs)
      · refine .ite .err ?_
        split
        · exact .err
        · exact .bind (ih.mapCalls hdd hb ha hs) fun _ _ hvs hs1 => .ok hs1 hvs
      · exact .err
      · exact .ite .err (ih.callFn hdd hb hb (nsbList_one ha) hs)
    · rw [evalBin_into, evalBin_into]
      exact .ite .err <| .ite .err (ih.callFn hdd hb hb (nsbList_one ha) hs)
    · rw [evalBin_where, evalBin_where]
      split
      · exact .ite .err .err
      · refine .ite .err ?_
        split
        · exact .err
        · exact ih.whereCalls hdd hb ha hs
      · exact .err

/-- every higher-order built-in but `sort_by` only returns what its callbacks returned, or parts
    of its list argument; the callbacks run one level below the built-in, at both depths -/
theorem callHof_dep {name : String} {args : List Value} (hn : name ≠ "sort_by")
    (ha : Value.nsbList args = true) :
    Dep Value.nsb (callHof ops (n+1) name args d' s) (callHof ops (n+1) name args d s) := by
  have hdd1 : d' + 1 ≤ d + 1 := Nat.succ_le_succ hdd
  rcases args with _ | ⟨lv, _ | ⟨f, rest⟩⟩
  · rw [callHof_short _ _ _ _ _ _ (by decide), callHof_short _ _ _ _ _ _ (by decide)]
    exact .fail nofun
  · rw [callHof_short _ _ _ _ _ [lv] (Nat.le_refl 2), callHof_short _ _ _ _ _ [lv] (Nat.le_refl 2)]
    exact .fail nofun
  · rw [Value.nsbList, Value.nsbList, Bool.and_eq_true, Bool.and_eq_true] at ha
    obtain ⟨hl, hf, hrest⟩ := ha
    by_cases hlv : ∃ l, lv = Value.list l
    · obtain ⟨l, rfl⟩ := hlv
      rcases isHof_cases name with rfl | rfl | rfl | rfl | rfl | rfl | rfl | rfl | hh
      · exact absurd rfl hn
      · rw [callHof_map, callHof_map]; split
        · exact .err
        · exact .bind (ih.mapCalls hdd1 hf hl hs) fun _ _ hvs hs1 => .ok hs1 hvs
      · rw [callHof_filter, callHof_filter]; split
        · exact .err
        · exact ih.whereCalls hdd1 hf hl hs
      · rw [callHof_every, callHof_every]; split
        · exact .err
        · exact ih.quantCalls hdd1 hf hl hs
      · rw [callHof_some, callHof_some]; split
        · exact .err
        · exact ih.quantCalls hdd1 hf hl hs
      · rw [callHof_reduce, callHof_reduce]; split
        · exact .err
        · split
          · exact ih.foldCalls hdd1 hf (nsb_getElem? hrest ‹_›) hl hs
          · exact .fail nofun
      · rw [callHof_group_by, callHof_group_by]; split
        · exact .err
        · refine .bind (ih.mapCalls hdd1 hf hl hs) fun ks s1 _ hs1 => ?_
          split
          · exact .ok hs1 (nsb_groupByKeys hl ‹_›)
          · exact .err
      · rw [callHof_count_by, callHof_count_by]; split
        · exact .err
        · refine .bind (ih.mapCalls hdd1 hf hl hs) fun ks s1 _ hs1 => ?_
          split
          · exact .ok hs1 (nsb_countByKeys ‹_›)
          · exact .err
      · rw [callHof_unknown _ _ _ _ _ hh, callHof_unknown _ _ _ _ _ hh]; split <;> exact .err
    · have hlv' := fun l h => hlv ⟨l, h⟩
      rw [callHof_not_list _ _ _ _ _ hn _ _ _ hlv', callHof_not_list _ _ _ _ _ hn _ _ _ hlv']
      exact .err

/-- the two places that look at the depth: the guard, and the body (in the captured scope over
    the caller's frames, arguments bound) or the callbacks one level deeper.  A callback-free
    built-in does not look at the depth and keeps the invariant (`callPure_keeps_nsb`). -/
theorem callFn_dep {fv this : Value} {args : List Value}
    (hf : fv.nsb = true) (ht : this.nsb = true) (ha : Value.nsbList args = true) :
    Dep Value.nsb (callFn ops (n+1) fv this args d' s) (callFn ops (n+1) fv this args d s) := by
  have hdd1 : d' + 1 ≤ d + 1 := Nat.succ_le_succ hdd
  cases fv with
  | lambda id ps b sc =>
    rw [Value.nsb, Bool.and_eq_true] at hf
    rw [callFn_lambda, callFn_lambda]
    refine .bindPure fun _ _ => .guard hdd <| .bindPure fun pf hpf => ?_
    have hpf := nsb_bindParams ha hpf
    exact .restore (ih.eval hdd1 (alreadyDefined_pos (Nat.succ_pos d) (Nat.succ_pos d')) hf.1
      (nsbEnv_all.2 (allE_bodyEnv (nsbEnv_all.1 hs) _ (nsbRec_all.1 hf.2) (nsb_all.1 ht) (nsbRec_all.1 hpf))))
      (fun s1 => { s1 with env := s.env }) fun _ _ => hs
  | builtin name =>
    rw [callFn_builtin, callFn_builtin]
    split
    · exact .err
    · refine .bindPure fun _ _ => .guard hdd <| .ite (ih.callHof hdd1 (bne_iff_ne.mp hf) ha hs) ?_
      split
      · rename_i r hr
        exact .pure hs (fun v hv => callPure_keeps_nsb ops (hv ▸ hr) ha)
      · exact .err
  | _ => rw [callFn_not_callable _ _ _ _ rfl, callFn_not_callable _ _ _ _ rfl]; exact .err

end step

theorem depAll_succ {ops : NumOps} {n : Nat} (ih : DepAll ops n) :
    DepAll ops (n+1) where
  eval hdd hd he hs := eval_dep ih hdd hs hd he
  evalList hdd hd he hs := evalList_dep ih hdd hs hd he
  evalItems hdd hd he hs := evalItems_dep ih hdd hs hd he
  evalEntries hdd hd he ha hs := evalEntries_dep ih hdd hs hd he ha
  evalDoStmt hdd hd he hs := evalDoStmt_dep ih hdd hs hd he
  evalDo hdd hd hst hr hs := evalDo_dep ih hdd hs hd hst hr
  callFn hdd hf ht ha hs := callFn_dep ih hdd hs hf ht ha
  mapCalls hdd hf hL hs := mapCalls_dep ih hdd hs hf hL
  quantCalls hdd hf hL hs := quantCalls_dep ih hdd hs hf hL
  foldCalls hdd hf ha hL hs := foldCalls_dep ih hdd hs hf ha hL
  callHof hdd hn ha hs := callHof_dep ih hdd hs hn ha
  evalBin hdd ha hb hs := evalBin_dep ih hdd hs ha hb
  viaPairs hdd ha hb hs := viaPairs_dep ih hdd hs ha hb
  whereCalls hdd hf hL hs := whereCalls_dep ih hdd hs hf hL

theorem depAll (ops : NumOps) : ∀ n, DepAll ops n
  | 0 => depAll_zero ops
  | n + 1 => depAll_succ (depAll ops n)

/-- results of successful calls on `sort_by`-free inputs are `sort_by`-free (value and state) -/
structure Pres (ops : NumOps) (n : Nat) : Prop where
  eval : ∀ {d e s v s'}, eval ops n d e s = (.ok v, s') → e.nsb = true → nsbEnv s.env = true →
    v.nsb = true ∧ nsbEnv s'.env = true
  evalList : ∀ {d es s vs s'}, evalList ops n d es s = (.ok vs, s') → Expr.nsbList es = true →
    nsbEnv s.env = true → Value.nsbList vs = true ∧ nsbEnv s'.env = true
  evalItems : ∀ {d es s vs s'}, evalItems ops n d es s = (.ok vs, s') → Item.nsbList es = true →
    nsbEnv s.env = true → Value.nsbList vs = true ∧ nsbEnv s'.env = true
  evalEntries : ∀ {d es acc s r s'}, evalEntries ops n d es acc s = (.ok r, s') →
    Entry.nsbList es = true → Value.nsbRec acc = true → nsbEnv s.env = true →
    Value.nsbRec r = true ∧ nsbEnv s'.env = true
  evalDoStmt : ∀ {d e s v s'}, evalDoStmt ops n d e s = (.ok v, s') → e.nsb = true →
    nsbEnv s.env = true → v.nsb = true ∧ nsbEnv s'.env = true
  evalDo : ∀ {d st ret s v s'}, evalDo ops n d st ret s = (.ok v, s') → Item.nsbList st = true →
    ret.nsb = true → nsbEnv s.env = true → v.nsb = true ∧ nsbEnv s'.env = true
  callFn : ∀ {fv this args d s v s'}, callFn ops n fv this args d s = (.ok v, s') → fv.nsb = true →
    this.nsb = true → Value.nsbList args = true → nsbEnv s.env = true →
    v.nsb = true ∧ nsbEnv s'.env = true
  mapCalls : ∀ {f w L i d s vs s'}, mapCalls ops n f w L i d s = (.ok vs, s') → f.nsb = true →
    Value.nsbList L = true → nsbEnv s.env = true → Value.nsbList vs = true ∧ nsbEnv s'.env = true
  quantCalls : ∀ {f w q L i d s v s'}, quantCalls ops n f w q L i d s = (.ok v, s') → f.nsb = true →
    Value.nsbList L = true → nsbEnv s.env = true → v.nsb = true ∧ nsbEnv s'.env = true
  foldCalls : ∀ {f w acc L i d s v s'}, foldCalls ops n f w acc L i d s = (.ok v, s') → f.nsb = true →
    acc.nsb = true → Value.nsbList L = true → nsbEnv s.env = true →
    v.nsb = true ∧ nsbEnv s'.env = true
  callHof : ∀ {name args d s v s'}, callHof ops n name args d s = (.ok v, s') → name ≠ "sort_by" →
    Value.nsbList args = true → nsbEnv s.env = true → v.nsb = true ∧ nsbEnv s'.env = true
  evalBin : ∀ {d op a b s v s'}, evalBin ops n d op a b s = (.ok v, s') → a.nsb = true →
    b.nsb = true → nsbEnv s.env = true → v.nsb = true ∧ nsbEnv s'.env = true
  viaPairs : ∀ {la lb d s v s'}, viaPairs ops n la lb d s = (.ok v, s') → Value.nsbList la = true →
    Value.nsbList lb = true → nsbEnv s.env = true → v.nsb = true ∧ nsbEnv s'.env = true
  whereCalls : ∀ {f w L i d s v s'}, whereCalls ops n f w L i d s = (.ok v, s') → f.nsb = true →
    Value.nsbList L = true → nsbEnv s.env = true → v.nsb = true ∧ nsbEnv s'.env = true

theorem pres (ops : NumOps) (n : Nat) : Pres ops n :=
  have B := depAll ops n
  have le {d : Nat} : d ≤ d := Nat.le_refl d
  { eval := fun h he hs => (B.eval le rfl he hs).1 _ _ h
    evalList := fun h he hs => (B.evalList le rfl he hs).1 _ _ h
    evalItems := fun h he hs => (B.evalItems le rfl he hs).1 _ _ h
    evalEntries := fun h he ha hs => (B.evalEntries le rfl he ha hs).1 _ _ h
    evalDoStmt := fun h he hs => (B.evalDoStmt le rfl he hs).1 _ _ h
    evalDo := fun h hst hr hs => (B.evalDo le rfl hst hr hs).1 _ _ h
    callFn := fun h hf ht ha hs => (B.callFn le hf ht ha hs).1 _ _ h
    mapCalls := fun h hf hL hs => (B.mapCalls le hf hL hs).1 _ _ h
    quantCalls := fun h hf hL hs => (B.quantCalls le hf hL hs).1 _ _ h
    foldCalls := fun h hf ha hL hs => (B.foldCalls le hf ha hL hs).1 _ _ h
    callHof := fun h hn ha hs => (B.callHof le hn ha hs).1 _ _ h
    evalBin := fun h ha hb hs => (B.evalBin le ha hb hs).1 _ _ h
    viaPairs := fun h ha hb hs => (B.viaPairs le ha hb hs).1 _ _ h
    whereCalls := fun h hf hL hs => (B.whereCalls le hf hL hs).1 _ _ h }

end Blots
