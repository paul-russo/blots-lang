import Blots.Lemmas.NumText
import Blots.Lemmas.OfRatio
/-
  Lemmas about the integer path of `format_display_number`: which bit patterns take it, and
  that `as i64` is then the exact value.
-/

namespace Blots.Display

theorem abs_key (x : F64) : x.abs.key = Int.ofNat x.mag := by
  have h := F64.mag_lt x
  have hn := F64.nbits_abs x
  have h2 : x.mag / 2 ^ 63 % 2 = 0 := by omega
  have h3 : x.mag % 2 ^ 63 = x.mag := Nat.mod_eq_of_lt h
  simp only [F64.key, F64.neg, F64.mag, F64.abs] at *
  simp [hn, h3]

/-- `0x4340000000000000` is the bit pattern of 2^53 -/
theorem intPart_lt_of_mag_lt (x : F64) (h : x.mag < 0x4340000000000000) :
    x.ratio.1 / x.ratio.2 < 2 ^ 53 := by
  have hE : x.expField ≤ 1075 := by
    simp only [F64.expField, F64.mag] at *
    omega
  have hf := F64.frac_lt x
  by_cases h0 : x.expField = 0
  · rw [F64.ratio_subnormal x h0]
    calc x.frac / 2 ^ 1074 ≤ x.frac := Nat.div_le_self _ _
      _ < 2 ^ 53 := by omega
  · by_cases h1 : x.expField = 1075
    · rw [F64.ratio_normal_nonneg x (by omega)]
      simp [h1]
      omega
    · rw [F64.ratio_normal_neg x (by omega) (by omega)]
      calc (x.frac + 2 ^ 52) / 2 ^ (1075 - x.expField) ≤ x.frac + 2 ^ 52 := Nat.div_le_self _ _
        _ < 2 ^ 53 := by omega


theorem twoPow53_key : twoPow53.key = 0x4340000000000000 := by decide

theorem mag_lt_of_flt_twoPow53 (x : F64) (h : F64.flt x.abs twoPow53 = true) :
    x.mag < 0x4340000000000000 := by
  simp only [F64.flt, Bool.and_eq_true, decide_eq_true_eq] at h
  have := h.2
  rw [abs_key, twoPow53_key] at this
  simp only [Int.ofNat_eq_natCast] at this
  omega

theorem path_integer_facts (x : F64) (h : path x = .integer) :
    x.isNaN = false ∧ x.isInf = false ∧ F64.feq x F64.zero = false ∧ x.isIntegral = true ∧
      F64.flt x.abs twoPow53 = true := by
  have hp := path_spec x
  rw [h] at hp
  obtain ⟨h1, h2, h3, _, h5⟩ := hp
  rw [Bool.and_eq_true] at h5
  exact ⟨h1, h2, h3, h5.1, h5.2⟩

theorem truncInt_eq (x : F64) :
    x.truncInt = if x.neg then - Int.ofNat (x.ratio.1 / x.ratio.2) else Int.ofNat (x.ratio.1 / x.ratio.2) := by
  unfold F64.truncInt
  rfl

theorem toI64_eq_truncInt (x : F64) (h1 : x.isNaN = false) (h2 : x.isInf = false)
    (hq : x.ratio.1 / x.ratio.2 < 2 ^ 63) : x.toI64 = x.truncInt := by
  unfold F64.toI64
  simp only [h1, h2, Bool.false_eq_true, ↓reduceIte]
  rw [truncInt_eq]
  generalize x.ratio.1 / x.ratio.2 = q at *
  cases x.neg <;> simp only [Int.ofNat_eq_natCast, Bool.false_eq_true, ↓reduceIte] <;>
    (repeat' split) <;> omega

theorem intPart_pos (x : F64) (hz : F64.feq x F64.zero = false) (hn : x.isNaN = false)
    (hi : x.ratio.1 % x.ratio.2 = 0) : 0 < x.ratio.1 / x.ratio.2 := by
  have hmag : x.mag ≠ 0 := by
    intro h0
    have hk : x.key = 0 := by
      simp only [F64.key, h0]
      split <;> rfl
    have hzk : F64.zero.key = 0 := by decide
    have hzn : F64.zero.isNaN = false := by decide
    simp [F64.feq, hn, hzn, hk, hzk] at hz
  have hden := F64.ratio_snd_pos x
  have hnum : x.ratio.1 ≠ 0 := by
    have hf := F64.frac_lt x
    by_cases h0 : x.expField = 0
    · rw [F64.ratio_subnormal x h0]
      simp only [F64.mag, F64.expField, F64.frac] at *
      omega
    · by_cases h1 : 1075 ≤ x.expField
      · rw [F64.ratio_normal_nonneg x h1]
        exact Nat.ne_of_gt (Nat.mul_pos (by omega) (Nat.two_pow_pos _))
      · rw [F64.ratio_normal_neg x (by omega) (by omega)]
        simp only []
        omega
  have : x.ratio.2 ≤ x.ratio.1 := by
    have := Nat.div_add_mod x.ratio.1 x.ratio.2
    rw [hi] at this
    have hq : x.ratio.1 / x.ratio.2 ≠ 0 := by
      intro h0
      rw [h0] at this
      simp at this
      exact hnum this.symm
    have : 1 ≤ x.ratio.1 / x.ratio.2 := Nat.one_le_iff_ne_zero.mpr hq
    calc x.ratio.2 = x.ratio.2 * 1 := (Nat.mul_one _).symm
      _ ≤ x.ratio.2 * (x.ratio.1 / x.ratio.2) := Nat.mul_le_mul_left _ this
      _ ≤ x.ratio.1 := Nat.mul_div_le _ _
  exact Nat.div_pos this hden

end Blots.Display
