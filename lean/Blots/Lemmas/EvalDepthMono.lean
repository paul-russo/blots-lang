import Blots.Lemmas.EvalDepth
import Blots.Lemmas.EvalHof
/-
  Depth antitonicity on `sort_by`-free inputs: a run that does not end in the depth error is the
  same run (outcome and state) when started at any smaller call depth.  For the six functions
  that evaluate expressions at the given depth itself the smaller depth must stay positive,
  because an assignment consults `alreadyDefined depth …` (top level versus inside a call);
  the call-level functions evaluate bodies at `depth + 1` and need no such condition.
-/
namespace Blots

structure Anti (ops : NumOps) (n : Nat) : Prop where
  eval : ∀ (d d' : Nat) (e : Expr) (s : ES), d' ≤ d → 0 < d' → e.nsb = true → nsbEnv s.env = true →
    ND (eval ops n d e s) → eval ops n d' e s = eval ops n d e s
  evalList : ∀ (d d' : Nat) (es : List Expr) (s : ES), d' ≤ d → 0 < d' → Expr.nsbList es = true →
    nsbEnv s.env = true → ND (evalList ops n d es s) → evalList ops n d' es s = evalList ops n d es s
  evalItems : ∀ (d d' : Nat) (es : List Item) (s : ES), d' ≤ d → 0 < d' → Item.nsbList es = true →
    nsbEnv s.env = true → ND (evalItems ops n d es s) → evalItems ops n d' es s = evalItems ops n d es s
  evalEntries : ∀ (d d' : Nat) (es : List Entry) (acc : Frame) (s : ES), d' ≤ d → 0 < d' →
    Entry.nsbList es = true → Value.nsbRec acc = true → nsbEnv s.env = true →
    ND (evalEntries ops n d es acc s) → evalEntries ops n d' es acc s = evalEntries ops n d es acc s
  evalDoStmt : ∀ (d d' : Nat) (e : Expr) (s : ES), d' ≤ d → 0 < d' → e.nsb = true →
    nsbEnv s.env = true → ND (evalDoStmt ops n d e s) → evalDoStmt ops n d' e s = evalDoStmt ops n d e s
  evalDo : ∀ (d d' : Nat) (st : List Item) (ret : Item) (s : ES), d' ≤ d → 0 < d' →
    Item.nsbList st = true → ret.nsb = true → nsbEnv s.env = true →
    ND (evalDo ops n d st ret s) → evalDo ops n d' st ret s = evalDo ops n d st ret s
  callFn : ∀ (d d' : Nat) (fv this : Value) (args : List Value) (s : ES), d' ≤ d → fv.nsb = true →
    this.nsb = true → Value.nsbList args = true → nsbEnv s.env = true →
    ND (callFn ops n fv this args d s) → callFn ops n fv this args d' s = callFn ops n fv this args d s
  mapCalls : ∀ (d d' : Nat) (f : Value) (w : Bool) (L : List Value) (i : Nat) (s : ES), d' ≤ d →
    f.nsb = true → Value.nsbList L = true → nsbEnv s.env = true →
    ND (mapCalls ops n f w L i d s) → mapCalls ops n f w L i d' s = mapCalls ops n f w L i d s
  quantCalls : ∀ (d d' : Nat) (f : Value) (w q : Bool) (L : List Value) (i : Nat) (s : ES), d' ≤ d →
    f.nsb = true → Value.nsbList L = true → nsbEnv s.env = true →
    ND (quantCalls ops n f w q L i d s) → quantCalls ops n f w q L i d' s = quantCalls ops n f w q L i d s
  foldCalls : ∀ (d d' : Nat) (f : Value) (w : Bool) (acc : Value) (L : List Value) (i : Nat) (s : ES),
    d' ≤ d → f.nsb = true → acc.nsb = true → Value.nsbList L = true → nsbEnv s.env = true →
    ND (foldCalls ops n f w acc L i d s) →
    foldCalls ops n f w acc L i d' s = foldCalls ops n f w acc L i d s
  callHof : ∀ (d d' : Nat) (name : String) (args : List Value) (s : ES), d' ≤ d → name ≠ "sort_by" →
    Value.nsbList args = true → nsbEnv s.env = true →
    ND (callHof ops n name args d s) → callHof ops n name args d' s = callHof ops n name args d s
  evalBin : ∀ (d d' : Nat) (op : BinOp) (a b : Value) (s : ES), d' ≤ d → a.nsb = true → b.nsb = true →
    nsbEnv s.env = true → ND (evalBin ops n d op a b s) → evalBin ops n d' op a b s = evalBin ops n d op a b s
  viaPairs : ∀ (d d' : Nat) (la lb : List Value) (s : ES), d' ≤ d → Value.nsbList la = true →
    Value.nsbList lb = true → nsbEnv s.env = true →
    ND (viaPairs ops n la lb d s) → viaPairs ops n la lb d' s = viaPairs ops n la lb d s
  whereCalls : ∀ (d d' : Nat) (f : Value) (w : Bool) (L : List Value) (i : Nat) (s : ES), d' ≤ d →
    f.nsb = true → Value.nsbList L = true → nsbEnv s.env = true →
    ND (whereCalls ops n f w L i d s) → whereCalls ops n f w L i d' s = whereCalls ops n f w L i d s

/-- the second half of `DepAll`; two positive depths are on the same side of `alreadyDefined` -/
theorem anti (ops : NumOps) (n : Nat) : Anti ops n :=
  have B := depAll ops n
  have pos {d d' : Nat} (hdd : d' ≤ d) (hd0 : 0 < d') : alreadyDefined d' = alreadyDefined d :=
    alreadyDefined_pos (Nat.lt_of_lt_of_le hd0 hdd) hd0
  { eval := fun _ _ _ _ hdd hd0 he hs => (B.eval hdd (pos hdd hd0) he hs).2
    evalList := fun _ _ _ _ hdd hd0 he hs => (B.evalList hdd (pos hdd hd0) he hs).2
    evalItems := fun _ _ _ _ hdd hd0 he hs => (B.evalItems hdd (pos hdd hd0) he hs).2
    evalEntries := fun _ _ _ _ _ hdd hd0 he ha hs => (B.evalEntries hdd (pos hdd hd0) he ha hs).2
    evalDoStmt := fun _ _ _ _ hdd hd0 he hs => (B.evalDoStmt hdd (pos hdd hd0) he hs).2
    evalDo := fun _ _ _ _ _ hdd hd0 hst hr hs => (B.evalDo hdd (pos hdd hd0) hst hr hs).2
    callFn := fun _ _ _ _ _ _ hdd hf ht ha hs => (B.callFn hdd hf ht ha hs).2
    mapCalls := fun _ _ _ _ _ _ _ hdd hf hL hs => (B.mapCalls hdd hf hL hs).2
    quantCalls := fun _ _ _ _ _ _ _ _ hdd hf hL hs => (B.quantCalls hdd hf hL hs).2
    foldCalls := fun _ _ _ _ _ _ _ _ hdd hf ha hL hs => (B.foldCalls hdd hf ha hL hs).2
    callHof := fun _ _ _ _ _ hdd hn ha hs => (B.callHof hdd hn ha hs).2
    evalBin := fun _ _ _ _ _ _ hdd ha hb hs => (B.evalBin hdd ha hb hs).2
    viaPairs := fun _ _ _ _ _ hdd ha hb hs => (B.viaPairs hdd ha hb hs).2
    whereCalls := fun _ _ _ _ _ _ _ hdd hf hL hs => (B.whereCalls hdd hf hL hs).2 }

@[simp] theorem wrapList_fst_ne_depth (x : R (List Value)) :
    (wrapList x).1 ≠ Outcome.err ErrKind.depth ↔ x.1 ≠ Outcome.err ErrKind.depth := by
  obtain ⟨r, s⟩ := x; cases r <;> simp [wrapList]

theorem ES.nsb_iff (s : ES) : s.nsb = true ↔ nsbEnv s.env = true := Iff.rfl

end Blots
