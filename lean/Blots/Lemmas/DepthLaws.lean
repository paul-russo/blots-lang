import Blots.Lemmas.EvalEqns
import Blots.Lemmas.AssocList
/-
  Helper lemmas for C18 (runaway recursion ends in a call-depth error), over the equations of
  `EvalEqns`.

  * the definitions C18 states its theorems with (`callFrame`, `callParent`, `wrapList`, `cbArgs`),
    each related to the form the equations use;
  * the guard of `callFn` (`FunctionDef::call`): arity first, then `depth > MAX_DEPTH`; above
    the limit nothing is evaluated (`callFn_above_limit`) and the counter is irrelevant
    (`depth_saturates`, by induction on fuel over the whole mutual block);
  * runaway recursion: a set of functions `n => g(a)`, each calling the next one level deeper
    (`Runaway`), only ever ends in `fuel` or `err depth`, with the fuel thresholds for `err depth`;
    `f = n => f(n + 1)` and `g = n => h(n); h = n => g(n)` are such sets.
-/
namespace Blots.DepthL

/-- the callee's frame exactly as `callFn` builds it -/
def callFrame (s : ES) (id : Nat) (scope : Frame) (this : Value) (pf : Frame) : Frame :=
  let name := nameOf s.names id
  let f0 : Frame :=
    match name with
    | some n => if (lookupAL n scope).isSome then [] else [(n, this)]
    | none => []
  let f1 : Frame :=
    match envGet s.env "inputs" with
    | some v => insertAL "inputs" v f0
    | none => f0
  pf.foldl (fun f kv => insertAL kv.1 kv.2 f) f1

def callParent (s : ES) (scope : Frame) : List Frame :=
  if scope.isEmpty then s.env else scope :: s.env

theorem bodyEnv_eq (s : ES) (id : Nat) (scope : Frame) (this : Value) (pf : Frame) :
    bodyEnv s id scope this pf = callFrame s id scope this pf :: callParent s scope := by
  unfold bodyEnv bodyFrame callFrame callParent
  cases envGet s.env "inputs" <;> rfl

def wrapList : R (List Value) → R Value
  | (.ok vs, s1) => (.ok (.list vs), s1)
  | (.err k, s1) => (.err k, s1)
  | (.panic p, s1) => (.panic p, s1)
  | (.fuel, s1) => (.fuel, s1)

theorem wrapList_eq_bind (r : R (List Value)) :
    wrapList r = R.bind r fun vs s1 => (.ok (.list vs), s1) := by
  rcases r with ⟨_ | _ | _ | _, s1⟩ <;> rfl

/-- the argument list a list callback gets: the element, and its index when the callee takes two -/
def cbArgs (withIdx : Bool) (x : Value) (start : Nat) : List Value :=
  if withIdx then [x, .num (F64.ofNat start)] else [x]

theorem cbArgs_eq : cbArgs = idxArgs := rfl

theorem cbArgs_length (w : Bool) (x : Value) (st : Nat) : (cbArgs w x st).length = if w then 2 else 1 :=
  idxArgs_length w x st

theorem callFn_builtin_arity (ops : NumOps) (fuel : Nat) {name : String} {ar : Gen.Arity}
    (hb : builtinArity name = some ar) (this : Value) (args : List Value) (d : Nat) (s : ES) :
    callFn ops (fuel + 1) (.builtin name) this args d s =
      R.bind (checkArity ar args.length, s) fun _ _ =>
        if d > MAX_DEPTH then (.err .depth, s)
        else if isHof name then callHof ops fuel name args (d + 1) s
        else match callPure ops name args with
          | some r => (r, s)
          | none => (.err .other, s) := by
  rw [callFn_builtin, hb]; rfl

theorem evalBin_into_call (ops : NumOps) (fuel depth : Nat) (x : Value) {f : Value} (s : ES)
    (hc : f.isCallable = true) :
    evalBin ops (fuel + 1) depth .into x f s = callFn ops fuel f f [x] depth s := by
  have hl : isListV f = false := by cases f <;> first | rfl | cases hc
  rw [evalBin_into, hl, hc]; rfl

/-- the outcomes `callFn` can have above the limit -/
def AboveLimitOutcome (fuel : Nat) (r : Outcome Value) : Prop :=
  (fuel = 0 ∧ r = .fuel) ∨
  (fuel ≠ 0 ∧ (r = .err .arity ∨ r = .err .depth ∨ r = .err .other ∨ r = .err .notCallable))

theorem callFn_above_limit (ops : NumOps) (fuel : Nat) (fv this : Value) (args : List Value)
    (depth : Nat) (s : ES) (hd : depth > MAX_DEPTH) :
    (callFn ops fuel fv this args depth s).2 = s ∧
    AboveLimitOutcome fuel (callFn ops fuel fv this args depth s).1 := by
  cases fuel with
  | zero => rw [callFn_zero]; exact ⟨rfl, .inl ⟨rfl, rfl⟩⟩
  | succ fuel =>
    have nz := Nat.succ_ne_zero fuel
    cases fv with
    | lambda id ps body sc =>
      rw [callFn_lambda]
      cases ha : (lambdaArity ps).canAccept args.length
      · rw [checkArity_err ha]; exact ⟨rfl, .inr ⟨nz, .inl rfl⟩⟩
      · rw [checkArity_ok ha, R.bind_ok, if_pos hd]; exact ⟨rfl, .inr ⟨nz, .inr (.inl rfl)⟩⟩
    | builtin name =>
      rw [callFn_builtin]; split
      · exact ⟨rfl, .inr ⟨nz, .inr (.inr (.inl rfl))⟩⟩
      · rename_i ar _
        cases ha : ar.canAccept args.length
        · rw [checkArity_err ha]; exact ⟨rfl, .inr ⟨nz, .inl rfl⟩⟩
        · rw [checkArity_ok ha, R.bind_ok, if_pos hd]; exact ⟨rfl, .inr ⟨nz, .inr (.inl rfl)⟩⟩
    | _ => rw [callFn_not_callable _ _ _ _ rfl]; exact ⟨rfl, .inr ⟨nz, .inr (.inr (.inr rfl))⟩⟩

theorem callFn_depth_le (ops : NumOps) (fuel : Nat) (fv this : Value) (args : List Value)
    (depth : Nat) (s : ES) (hf : (callFn ops fuel fv this args depth s).1 ≠ .fuel)
    (he : ∀ k, (callFn ops fuel fv this args depth s).1 ≠ .err k) : depth ≤ MAX_DEPTH :=
  Nat.le_of_not_gt fun hd => by
    rcases (callFn_above_limit ops fuel fv this args depth s hd).2 with
      ⟨_, h⟩ | ⟨_, h | h | h | h⟩
    · exact hf h
    all_goals exact he _ h

structure DepthIrrelevant (ops : NumOps) (fuel d d' : Nat) : Prop where
  eval : ∀ e s, eval ops fuel d e s = eval ops fuel d' e s
  evalList : ∀ es s, evalList ops fuel d es s = evalList ops fuel d' es s
  evalItems : ∀ es s, evalItems ops fuel d es s = evalItems ops fuel d' es s
  evalEntries : ∀ es acc s, evalEntries ops fuel d es acc s = evalEntries ops fuel d' es acc s
  evalDoStmt : ∀ e s, evalDoStmt ops fuel d e s = evalDoStmt ops fuel d' e s
  evalDo : ∀ st r s, evalDo ops fuel d st r s = evalDo ops fuel d' st r s
  callFn : ∀ fv this args s, callFn ops fuel fv this args d s = callFn ops fuel fv this args d' s
  mapCalls : ∀ f w xs st s, mapCalls ops fuel f w xs st d s = mapCalls ops fuel f w xs st d' s
  quantCalls : ∀ f w e xs st s,
    quantCalls ops fuel f w e xs st d s = quantCalls ops fuel f w e xs st d' s
  foldCalls : ∀ f w a xs st s, foldCalls ops fuel f w a xs st d s = foldCalls ops fuel f w a xs st d' s
  keyCalls : ∀ f xs s, keyCalls ops fuel f xs d s = keyCalls ops fuel f xs d' s
  callHof : ∀ n args s, callHof ops fuel n args d s = callHof ops fuel n args d' s
  evalBin : ∀ op a b s, evalBin ops fuel d op a b s = evalBin ops fuel d' op a b s
  viaPairs : ∀ la lb s, viaPairs ops fuel la lb d s = viaPairs ops fuel la lb d' s
  whereCalls : ∀ f w xs st s, whereCalls ops fuel f w xs st d s = whereCalls ops fuel f w xs st d' s

/-- One step of fuel.  Every arm is closed the same way: the equation of the arm on both sides,
    then the sub-runs at `d` are rewritten to `d'`.  The counter itself is read in two places:
    the guard of `callFn` (both depths are above the limit) and the check of an assignment (both
    are positive). -/
theorem depthIrrelevant_succ {ops : NumOps} {fuel d d' : Nat} (hd : d > MAX_DEPTH) (hd' : d' > MAX_DEPTH)
    (h0 : DepthIrrelevant ops fuel d d') (h1 : DepthIrrelevant ops fuel (d + 1) (d' + 1)) :
    DepthIrrelevant ops (fuel + 1) d d' := by
  have hA : alreadyDefined d = alreadyDefined d' := alreadyDefined_pos (by omega) (by omega)
  constructor
  · intro e s
    cases e <;> simp only [eval_num, eval_str, eval_bool, eval_null, eval_builtin, eval_ident,
      eval_inref, eval_list, eval_record, eval_lambda, eval_assign, eval_output, eval_cond,
      eval_doBlock, eval_call, eval_access, eval_dot, eval_bin, eval_un, eval_fact, eval_spread,
      hA, h0.eval, h0.evalItems, h0.evalEntries, h0.evalDo, h0.evalList, h0.callFn, h0.evalBin]
  · intro es s
    cases es <;> simp only [evalList_nil, evalList_cons, h0.eval, h0.evalList]
  · intro es s
    rcases es with _ | ⟨⟨l, e, t⟩, es⟩ <;> simp only [evalItems_nil, evalItems_cons, h0.eval, h0.evalItems]
  · intro es acc s
    rcases es with _ | ⟨⟨l, k, v, t⟩, es⟩
    · simp only [evalEntries_nil]
    · cases k <;> simp only [evalEntries_static, evalEntries_dyn, evalEntries_short,
        evalEntries_spread, h0.eval, h0.evalEntries]
  · intro e s
    cases e <;> simp only [evalDoStmt, h0.eval]
  · intro st r s
    rcases r with ⟨l, e, t⟩
    rcases st with _ | ⟨⟨l', e', t'⟩, rest⟩ <;> simp only [evalDo_nil, evalDo_cons, h0.evalDoStmt, h0.evalDo]
  · intro fv this args s
    cases fv with
    | lambda id ps b sc => rw [callFn_lambda, callFn_lambda, if_pos hd, if_pos hd']
    | builtin x => rw [callFn_builtin, callFn_builtin, if_pos hd, if_pos hd']
    | _ => rw [callFn_not_callable _ _ _ _ rfl, callFn_not_callable _ _ _ _ rfl]
  · intro f w xs st s
    cases xs <;> simp only [mapCalls_nil, mapCalls_cons, h0.callFn, h0.mapCalls]
  · intro f w e xs st s
    cases xs <;> simp only [quantCalls_nil, quantCalls_cons, h0.callFn, h0.quantCalls]
  · intro f w a xs st s
    cases xs <;> simp only [foldCalls_nil, foldCalls_cons, h0.callFn, h0.foldCalls]
  · intro f xs s
    cases xs <;> simp only [keyCalls_nil, keyCalls_cons, h0.callFn, h0.keyCalls]
  · intro n args s
    rw [callHof.eq_def, callHof.eq_def]
    simp only [h1.keyCalls, h1.mapCalls, h1.whereCalls, h1.quantCalls, h1.foldCalls]
  · intro op a b s
    rw [evalBin.eq_def, evalBin.eq_def]
    simp only [h0.viaPairs, h0.mapCalls, h0.callFn, h0.whereCalls]
  · intro la lb s
    rw [viaPairs.eq_def, viaPairs.eq_def]
    simp only [h0.callFn, h0.viaPairs]
  · intro f w xs st s
    cases xs <;> simp only [whereCalls_nil, whereCalls_cons, h0.callFn, h0.whereCalls]

theorem depth_saturates (ops : NumOps) : ∀ (fuel d d' : Nat), d > MAX_DEPTH → d' > MAX_DEPTH →
    DepthIrrelevant ops fuel d d'
  | 0, d, d', _, _ => by constructor <;> intros <;> simp
  | fuel + 1, d, d', hd, hd' =>
    depthIrrelevant_succ hd hd' (depth_saturates ops fuel d d' hd hd')
      (depth_saturates ops fuel (d + 1) (d' + 1) (by omega) (by omega))

theorem depth_clamped (ops : NumOps) (fuel d : Nat) :
    DepthIrrelevant ops fuel d (min d (MAX_DEPTH + 1)) := by
  by_cases h : d ≤ MAX_DEPTH + 1
  · rw [Nat.min_eq_left h]; constructor <;> intros <;> rfl
  · rw [Nat.min_eq_right (by omega)]
    exact depth_saturates ops fuel d (MAX_DEPTH + 1) (by omega) (by omega)

theorem identOp_of_envGet {env : List Frame} {k : String} {v : Value} (h : envGet env k = some v)
    (h1 : (k == "infinity" || k == "inf") = false) (h2 : (k == "constants") = false) :
    identOp env k = .ok v := by
  simp only [identOp, h1, h2, h, Bool.false_eq_true, if_false]

theorem alreadyDefined_of_not_contains (d : Nat) (env : List Frame) (k : String)
    (h : envContains env k = false) : alreadyDefined d env k = false := by
  unfold alreadyDefined
  split
  · cases env with
    | nil => rfl
    | cons f rest =>
      simp only [envContains, envGet] at h
      cases hl : lookupAL k f with
      | none => simp [hl]
      | some v => simp [hl] at h
  · exact h

theorem eval_assign_lambda (ops : NumOps) (fuel depth : Nat) (s : ES) (nm : String) (ps : List LArg)
    (body : Expr) (hb : isBuiltinIdent nm = false) (hk : Gen.assignKeywords.contains nm = false)
    (hin : ps.any (fun a => a.name == "inputs") = false) (h : envContains s.env nm = false)
    (hfr : nameOf s.names s.nextId = none) :
    eval ops (fuel + 2) depth (.assign nm (.lambda ps body)) s =
      (.ok (.lambda s.nextId ps body (captureScope s.env (freeVars (ps.map LArg.name) body))),
       { env := envInsert s.env nm
           (.lambda s.nextId ps body (captureScope s.env (freeVars (ps.map LArg.name) body))),
         nextId := s.nextId + 1, names := (s.nextId, nm) :: s.names }) := by
  have hA := alreadyDefined_of_not_contains depth s.env nm h
  simp only [eval_assign, eval_lambda, hb, hk, hin, hA, Bool.false_eq_true, if_false, R.bind_ok,
    assignIn, createdSince, Nat.le_refl, if_true, setNameIfLambda, hfr]

/-- `ha`: the argument evaluates to the number `y` from fuel `c` on, without touching the state -/
theorem eval_call_named (ops : NumOps) {d : Nat} {s : ES} {g : String} {a : Expr} {fv : Value}
    {c : Nat} {y : F64} (hc : 0 < c) (hg : identOp s.env g = .ok fv) (hf : fv.isCallable = true)
    (ha : ∀ m, eval ops m d a s = if m < c then (.fuel, s) else (.ok (.num y), s)) (m : Nat) :
    eval ops m d (.call (.ident g) [a]) s =
      if m < c + 2 then (.fuel, s) else callFn ops (m - 1) fv fv [.num y] d s := by
  match m with
  | 0 => rw [eval_zero, if_pos (by omega)]
  | 1 => rw [eval_call, eval_zero, R.bind_fuel, if_pos (by omega)]
  | k + 2 =>
    rw [eval_call, eval_ident, hg, R.bind_ok, evalList_cons, ha k]
    by_cases hk : k < c
    · rw [if_pos hk, R.bind_fuel, R.bind_fuel, if_pos (by omega)]
    · obtain ⟨j, rfl⟩ : ∃ j, k = j + 1 := ⟨k - 1, by omega⟩
      rw [if_neg hk, R.bind_ok, evalList_nil, R.bind_ok, R.bind_ok, if_neg (by rw [hf]; decide),
        if_neg (by omega)]
      rfl

/-- the state in which the body of `F(x)` runs when called in `s` -/
def inCall (s : ES) (id : Nat) (sc : Frame) (F : Value) (x : F64) : ES :=
  { s with env := bodyEnv s id sc F [("n", .num x)] }

theorem lookupAL_bodyFrame_param (s : ES) (id : Nat) (sc : Frame) (this v : Value) :
    lookupAL "n" (bodyFrame s id sc this [("n", v)]) = some v :=
  lookupAL_insertAL_self _ _ _

theorem lookupAL_bodyFrame_self (s : ES) (id : Nat) (sc : Frame) (this v : Value) (nm k : String)
    (hn : nameOf s.names id = some nm) (hsc : lookupAL nm sc = none) (hk1 : k ≠ "n")
    (hk2 : k ≠ "inputs") :
    lookupAL k (bodyFrame s id sc this [("n", v)]) = if nm = k then some this else none := by
  have h0 : lookupAL k [(nm, this)] = if nm = k then some this else none := by
    simp only [lookupAL]
  unfold bodyFrame
  simp only [List.foldl, hn, hsc, Option.isSome_none, Bool.false_eq_true, if_false]
  rw [lookupAL_insertAL_ne _ _ _ hk1]
  cases envGet s.env "inputs" with
  | none => exact h0
  | some w => simp only []; rw [lookupAL_insertAL_ne _ _ _ hk2, h0]

theorem callFn_calls_next (ops : NumOps) {F : Value} {id : Nat} {g : String} {a : Expr} {sc : Frame}
    {next : Value} {c : Nat} {x y : F64} {d : Nat} {s : ES}
    (hF : F = .lambda id [.req "n"] (.call (.ident g) [a]) sc) (hd : d ≤ MAX_DEPTH) (hc : 0 < c)
    (hg : identOp (inCall s id sc F x).env g = .ok next) (hn : next.isCallable = true)
    (ha : ∀ m, eval ops m (d + 1) a (inCall s id sc F x) =
      if m < c then (.fuel, inCall s id sc F x) else (.ok (.num y), inCall s id sc F x))
    (m : Nat) :
    callFn ops (m + 1) F F [.num x] d s =
      if m < c + 2 then (.fuel, s)
      else
        ((callFn ops (m - 1) next next [.num y] (d + 1) (inCall s id sc F x)).1,
         { (callFn ops (m - 1) next next [.num y] (d + 1) (inCall s id sc F x)).2 with
           env := s.env }) := by
  subst hF
  have e := eval_call_named ops hc hg hn ha m
  unfold inCall at e ⊢
  rw [callFn_lambda, checkArity_ok rfl, R.bind_ok, if_neg (Nat.not_lt.mpr hd),
    show bindParams [.req "n"] [.num x] = .ok [("n", .num x)] from rfl, R.bind_ok, e]
  split <;> rfl

/-- A set `P` of (function, caller's state) pairs closed under the call the function makes:
    every `F` in it is `n => g(a)`; in the frames of a call `F(x)` the name `g` is bound to a
    function `next`, again in `P` with the state inside the call; and `a` evaluates to a number
    from fuel `c` on, leaving that state alone. -/
def Runaway (ops : NumOps) (c : Nat) (P : Value → ES → Prop) : Prop :=
  ∀ F s, P F s → ∀ (x : F64) (d : Nat), ∃ id g a sc next y,
    F = .lambda id [.req "n"] (.call (.ident g) [a]) sc ∧
    identOp (inCall s id sc F x).env g = .ok next ∧ next.isCallable = true ∧
    (∀ m, eval ops m (d + 1) a (inCall s id sc F x) =
      if m < c then (.fuel, inCall s id sc F x) else (.ok (.num y), inCall s id sc F x)) ∧
    P next (inCall s id sc F x)

namespace Runaway
variable {ops : NumOps} {c : Nat} {P : Value → ES → Prop} (h : Runaway ops c P)
include h

theorem refused {F : Value} {s : ES} (hF : P F s) (x : F64) {d : Nat} (hd : d > MAX_DEPTH) (m : Nat) :
    callFn ops (m + 1) F F [.num x] d s = (.err .depth, s) := by
  obtain ⟨id, g, a, sc, next, y, rfl, -⟩ := h F s hF x d
  rw [callFn_lambda, checkArity_ok rfl, R.bind_ok, if_pos hd]

/-- `(o, s')` with the same `s'`: the deeper call is followed only when it leaves its state alone,
    which `dichotomy` shows it does -/
theorem call (hc : 0 < c) {F : Value} {s : ES} (hF : P F s) (x : F64) {d : Nat} (hd : d ≤ MAX_DEPTH)
    (m : Nat) :
    (m < c + 2 → callFn ops (m + 1) F F [.num x] d s = (.fuel, s)) ∧
    ∃ next y s', P next s' ∧ ∀ o, callFn ops (m - 1) next next [.num y] (d + 1) s' = (o, s') →
      c + 2 ≤ m → callFn ops (m + 1) F F [.num x] d s = (o, s) := by
  obtain ⟨id, g, a, sc, next, y, rfl, hg, hn, ha, hP⟩ := h F s hF x d
  have e := callFn_calls_next ops rfl hd hc hg hn ha m
  refine ⟨fun hm => ?_, next, y, _, hP, fun o ho hm => ?_⟩
  · rw [e, if_pos hm]
  · rw [e, if_neg (by omega), ho]; rfl

theorem dichotomy (hc : 0 < c) : ∀ (fuel : Nat) (F : Value) (s : ES) (x : F64) (d : Nat), P F s →
    callFn ops fuel F F [.num x] d s = (.fuel, s) ∨
    callFn ops fuel F F [.num x] d s = (.err .depth, s) := by
  intro fuel
  induction fuel using Nat.strongRecOn with
  | _ fuel ih =>
    intro F s x d hF
    match fuel with
    | 0 => exact .inl (callFn_zero ..)
    | m + 1 =>
      by_cases hd : d > MAX_DEPTH
      · exact .inr (h.refused hF x hd m)
      · obtain ⟨hs, next, y, s', hn, hnext⟩ := h.call hc hF x (Nat.le_of_not_gt hd) m
        by_cases hm : m < c + 2
        · exact .inl (hs hm)
        · exact (ih (m - 1) (by omega) next s' y (d + 1) hn).imp (hnext _ · (by omega))
            (hnext _ · (by omega))

/-- `k` = levels left before the guard refuses; a level costs two units of fuel (`callFn`, then
    `eval` of the call), and the last one needs `c` more for its argument -/
theorem hits_limit (hc : 0 < c) : ∀ (k d : Nat), d + k = MAX_DEPTH + 1 →
    ∀ (fuel : Nat) (F : Value) (s : ES) (x : F64), P F s → fuel ≥ 2 * k + c + 1 →
      callFn ops fuel F F [.num x] d s = (.err .depth, s)
  | 0, d, hk, fuel, F, s, x, hF, hf => by
    obtain ⟨m, rfl⟩ : ∃ m, fuel = m + 1 := ⟨fuel - 1, by omega⟩
    exact h.refused hF x (by omega) m
  | k + 1, d, hk, fuel, F, s, x, hF, hf => by
    obtain ⟨m, rfl⟩ : ∃ m, fuel = m + 1 := ⟨fuel - 1, by omega⟩
    obtain ⟨-, next, y, s', hn, hnext⟩ := h.call hc hF x (d := d) (by omega) m
    exact hnext _ (hits_limit hc k (d + 1) (by omega) (m - 1) next s' y hn (by omega)) (by omega)

theorem below_threshold (hc : 0 < c) : ∀ (k d : Nat), d + (k + 1) = MAX_DEPTH + 1 →
    ∀ (fuel : Nat) (F : Value) (s : ES) (x : F64), P F s → fuel < 2 * (k + 1) + c + 1 →
      callFn ops fuel F F [.num x] d s = (.fuel, s) := by
  intro k
  induction k with
  | zero =>
    intro d hk fuel F s x hF hf
    match fuel with
    | 0 => exact callFn_zero ..
    | m + 1 => exact (h.call hc hF x (d := d) (by omega) m).1 (by omega)
  | succ k ih =>
    intro d hk fuel F s x hF hf
    match fuel with
    | 0 => exact callFn_zero ..
    | m + 1 =>
      obtain ⟨hs, next, y, s', hn, hnext⟩ := h.call hc hF x (d := d) (by omega) m
      by_cases hm : m < c + 2
      · exact hs hm
      · exact hnext _ (ih (d + 1) (by omega) (m - 1) next s' y hn (by omega)) (by omega)

end Runaway

theorem eval_num_arg (ops : NumOps) (d : Nat) (s : ES) (x : F64) (m : Nat) :
    eval ops m d (.num x) s = if m < 1 then (.fuel, s) else (.ok (.num x), s) := by
  cases m with
  | zero => rw [eval_zero]; rfl
  | succ k => rw [eval_num]; rfl

theorem eval_param (ops : NumOps) (d : Nat) {s : ES} {x : F64} (hn : envGet s.env "n" = some (.num x))
    (m : Nat) : eval ops m d (.ident "n") s = if m < 1 then (.fuel, s) else (.ok (.num x), s) := by
  cases m with
  | zero => rw [eval_zero]; rfl
  | succ k => rw [eval_ident, identOp_of_envGet hn rfl rfl]; rfl

theorem eval_param_succ (ops : NumOps) (d : Nat) {s : ES} {x : F64}
    (hn : envGet s.env "n" = some (.num x)) (m : Nat) :
    eval ops m d (.bin .add (.ident "n") (.num F64.one)) s =
      if m < 2 then (.fuel, s) else (.ok (.num (ops.add x F64.one)), s) := by
  match m with
  | 0 => rw [eval_zero]; rfl
  | 1 => rw [eval_bin, eval_zero]; rfl
  | k + 2 =>
    rw [eval_bin, eval_ident, identOp_of_envGet hn rfl rfl, R.bind_ok, eval_num, R.bind_ok,
      evalBin_value _ _ _ _ _ _ _ rfl]
    rfl

def selfBody : Expr := .call (.ident "f") [.bin .add (.ident "n") (.num F64.one)]
def selfLamExpr : Expr := .lambda [.req "n"] selfBody
def selfDef : Expr := .assign "f" selfLamExpr
def selfCall : Expr := .call (.ident "f") [.num F64.zero]
/-- the value of `n => f(n + 1)` when `f` is not yet bound: nothing is captured -/
def selfLam (id : Nat) : Value := .lambda id [.req "n"] selfBody []

/-- in any state in which its cell is named `f` the function finds itself under that name -/
theorem runaway_self (ops : NumOps) (id : Nat) :
    Runaway ops 2 fun F s => F = selfLam id ∧ nameOf s.names id = some "f" := by
  rintro F s ⟨rfl, hn⟩ x d
  have hf := lookupAL_bodyFrame_self s id [] (selfLam id) (.num x) "f" "f" hn rfl (by decide) (by decide)
  refine ⟨id, "f", _, [], selfLam id, ops.add x F64.one, rfl, identOp_of_envGet ?_ rfl rfl, rfl,
    eval_param_succ ops (d + 1) ?_, rfl, hn⟩
  · simp only [inCall, bodyEnv, envGet, hf, if_true]
  · simp only [inCall, bodyEnv, envGet, lookupAL_bodyFrame_param]

/-- the state after `f = n => f(n + 1)` -/
def afterSelfDef (s : ES) : ES :=
  { env := envInsert s.env "f" (selfLam s.nextId), nextId := s.nextId + 1,
    names := (s.nextId, "f") :: s.names }

theorem afterSelfDef_f (s : ES) : envGet (afterSelfDef s).env "f" = some (selfLam s.nextId) :=
  envGet_envInsert_self _ _ _

theorem afterSelfDef_name (s : ES) : nameOf (afterSelfDef s).names s.nextId = some "f" := by
  simp [afterSelfDef, nameOf]

theorem eval_selfCall (ops : NumOps) (fuel depth id : Nat) (s : ES)
    (hf : envGet s.env "f" = some (selfLam id)) :
    eval ops fuel depth selfCall s =
      if fuel < 3 then (.fuel, s)
      else callFn ops (fuel - 1) (selfLam id) (selfLam id) [.num F64.zero] depth s :=
  eval_call_named ops Nat.one_pos (identOp_of_envGet hf rfl rfl) rfl (eval_num_arg ops depth s _) fuel

def pairGBody : Expr := .call (.ident "h") [.ident "n"]
def pairHBody : Expr := .call (.ident "g") [.ident "n"]
def pairGDef : Expr := .assign "g" (.lambda [.req "n"] pairGBody)
def pairHDef : Expr := .assign "h" (.lambda [.req "n"] pairHBody)
def pairCall : Expr := .call (.ident "g") [.num F64.zero]
/-- `g`: created while `h` is unbound, captures nothing -/
def pairG (idg : Nat) : Value := .lambda idg [.req "n"] pairGBody []
/-- `h`: created after `g`, captures it -/
def pairH (idg idh : Nat) : Value := .lambda idh [.req "n"] pairHBody [("g", pairG idg)]

/-- `g` finds `h` through its caller's environment, `h` finds `g` in its captured scope, and
    inside a call of `h` the name `h` is bound again (the call's own frame) -/
theorem runaway_pair (ops : NumOps) (idg idh : Nat) :
    Runaway ops 1 fun F s => nameOf s.names idg = some "g" ∧ nameOf s.names idh = some "h" ∧
      (F = pairG idg ∧ envGet s.env "h" = some (pairH idg idh) ∨ F = pairH idg idh) := by
  rintro F s ⟨hg, hh, ⟨rfl, he⟩ | rfl⟩ x d
  · have hf := lookupAL_bodyFrame_self s idg [] (pairG idg) (.num x) "g" "h" hg rfl (by decide) (by decide)
    refine ⟨idg, "h", _, [], pairH idg idh, x, rfl, identOp_of_envGet ?_ rfl rfl, rfl,
      eval_param ops (d + 1) ?_, hg, hh, .inr rfl⟩
    · simp only [inCall, bodyEnv, envGet, hf, List.isEmpty_nil, if_true]
      exact he
    · simp only [inCall, bodyEnv, envGet, lookupAL_bodyFrame_param]
  · have hf := lookupAL_bodyFrame_self s idh [("g", pairG idg)] (pairH idg idh) (.num x) "h"
    refine ⟨idh, "g", _, _, pairG idg, x, rfl, identOp_of_envGet ?_ rfl rfl, rfl,
      eval_param ops (d + 1) ?_, hg, hh, .inl ⟨rfl, ?_⟩⟩
    · simp only [inCall, bodyEnv, envGet, hf "g" hh rfl (by decide) (by decide)]
      rfl
    · simp only [inCall, bodyEnv, envGet, lookupAL_bodyFrame_param]
    · simp only [inCall, bodyEnv, envGet, hf "h" hh rfl (by decide) (by decide), if_true]

/-- the state after `g = n => h(n)` and `h = n => g(n)` -/
def afterPairDefs (s : ES) : ES :=
  { env := envInsert (envInsert s.env "g" (pairG s.nextId)) "h" (pairH s.nextId (s.nextId + 1)),
    nextId := s.nextId + 2,
    names := (s.nextId + 1, "h") :: (s.nextId, "g") :: s.names }

theorem afterPairDefs_g (s : ES) : envGet (afterPairDefs s).env "g" = some (pairG s.nextId) := by
  simp only [afterPairDefs]
  rw [envGet_envInsert_ne _ _ _ _ (by decide), envGet_envInsert_self]

theorem afterPairDefs_h (s : ES) :
    envGet (afterPairDefs s).env "h" = some (pairH s.nextId (s.nextId + 1)) := by
  simp only [afterPairDefs, envGet_envInsert_self]

theorem afterPairDefs_names (s : ES) :
    nameOf (afterPairDefs s).names s.nextId = some "g" ∧
    nameOf (afterPairDefs s).names (s.nextId + 1) = some "h" := by
  simp [afterPairDefs, nameOf, List.find?]

theorem eval_pairCall (ops : NumOps) (fuel depth idg : Nat) (s : ES)
    (hf : envGet s.env "g" = some (pairG idg)) :
    eval ops fuel depth pairCall s =
      if fuel < 3 then (.fuel, s)
      else callFn ops (fuel - 1) (pairG idg) (pairG idg) [.num F64.zero] depth s :=
  eval_call_named ops Nat.one_pos (identOp_of_envGet hf rfl rfl) rfl (eval_num_arg ops depth s _) fuel

end Blots.DepthL
