import Lean.Elab.Tactic
/-
  Forward chaining over the hypotheses of a goal: `fwd_all [g₁, …]` applies each of the given
  lemmas to every hypothesis that is an equation and keeps what type-checks.  `fwdAllI` and
  `fwdc_all` are the same tactic, `fwd` only tries a lemma on equations about the function its
  first hypothesis speaks of.  Meant for exploring a proof state; no proof of the
  development depends on them.
-/
namespace Blots

open Lean Elab Tactic Meta in
/-- `fwd_all [g₁, …]`: for every hypothesis `h` that is an equation add `gᵢ h` for each lemma
    that applies (no filtering: the lemmas are matched up to unfolding of `match` auxiliaries) -/
elab "fwd_all " "[" gs:ident,* "]" : tactic => withMainContext do
  let lctx ← getLCtx
  for d in lctx do
    if d.isImplementationDetail then continue
    let ty ← instantiateMVars d.type
    let some _ := ty.eq? | continue
    for g in gs.getElems do
      try
        let hstx ← Term.exprToSyntax d.toExpr
        evalTactic (← `(tactic| have := $g:ident $hstx))
      catch _ => pure ()

open Lean Elab Tactic Meta in
/-- `fwdAllI [g₁, …]`: for every hypothesis `h` that is an equation add `gᵢ h` for each lemma
    that applies (no filtering: the lemmas are matched up to unfolding of `match` auxiliaries) -/
elab "fwdAllI " "[" gs:ident,* "]" : tactic => withMainContext do
  let lctx ← getLCtx
  for d in lctx do
    if d.isImplementationDetail then continue
    let ty ← instantiateMVars d.type
    let some _ := ty.eq? | continue
    for g in gs.getElems do
      try
        let hstx ← Term.exprToSyntax d.toExpr
        evalTactic (← `(tactic| have := $g:ident $hstx))
      catch _ => pure ()

open Lean Elab Tactic Meta in
/-- `fwdc_all [g₁, …]`: for every hypothesis `h` that is an equation add `gᵢ h` for each lemma
    that applies -/
elab "fwdc_all " "[" gs:ident,* "]" : tactic => withMainContext do
  let lctx ← getLCtx
  for d in lctx do
    if d.isImplementationDetail then continue
    let ty ← instantiateMVars d.type
    let some _ := ty.eq? | continue
    for g in gs.getElems do
      try
        let hstx ← Term.exprToSyntax d.toExpr
        evalTactic (← `(tactic| have := $g:ident $hstx))
      catch _ => pure ()

open Lean Elab Tactic Meta in
/-- `fwd [g₁, …]`: for every hypothesis `h : F … = …` add `gᵢ h` for each of the given lemmas
    whose first explicit hypothesis is an equation about the same function `F` -/
elab "fwd " "[" gs:ident,* "]" : tactic => withMainContext do
  -- head function of the first explicit hypothesis of each lemma
  let mut keyed : Array (Syntax.Ident × Name) := #[]
  for g in gs.getElems do
    try
      let e ← Term.withoutErrToSorry (Term.elabTerm g none)
      let mut t ← instantiateMVars (← inferType e)
      while t.isForall && t.bindingInfo! != .default do
        t := t.bindingBody!
      if t.isForall then
        if let some (_, lhs, _) := t.bindingDomain!.eq? then
          if let some c := lhs.getAppFn.constName? then
            keyed := keyed.push (g, c)
    catch _ => pure ()
  let lctx ← getLCtx
  for d in lctx do
    if d.isImplementationDetail then continue
    let ty ← instantiateMVars d.type
    let some (_, lhs, _) := ty.eq? | continue
    let some c := lhs.getAppFn.constName? | continue
    for (g, c') in keyed do
      if c == c' then
        try
          let hstx ← Term.exprToSyntax d.toExpr
          evalTactic (← `(tactic| have := $g:ident $hstx))
        catch _ => pure ()

end Blots
