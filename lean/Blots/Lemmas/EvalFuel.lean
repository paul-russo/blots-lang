import Blots.Lemmas.EvalBin
/-
  Fuel monotonicity of the evaluator: the fuel argument of the fifteen mutually recursive
  functions of `Model/Eval.lean` only decides WHETHER an answer is produced, never WHICH:
  if a call returns anything but `Outcome.fuel` with fuel `n`, it returns the same outcome and
  the same state with every larger fuel.  One step of this is the relation `FM` between the
  run with more fuel and the run with less; it has a rule for each way the equations of
  `EvalEqns` put runs together, and the step lemmas follow the equations.
-/
namespace Blots

/-- `NF x`: the call `x` did not run out of fuel (plain syntax for `x.1 ≠ .fuel`) -/
scoped macro "NF " x:term:max : term => `(Prod.fst $x ≠ Outcome.fuel)

/-- `sort_by`: no key call ran out of fuel -/
def NFK (x : List (Value × Outcome Value) × ES) : Prop := ∀ kr ∈ x.1, kr.2 ≠ Outcome.fuel

theorem any_fuel_key_iff (keyed : List (Value × Outcome Value)) (s : ES) :
    (keyed.any fun kr => match kr.2 with | .fuel => true | _ => false) = false ↔ NFK (keyed, s) := by
  unfold NFK
  rw [List.any_eq_false]
  exact forall₂_congr fun kr _ => by cases kr.2 <;> simp

/-- one step of fuel monotonicity, for all fifteen functions at once -/
structure FuelStep (ops : NumOps) (n : Nat) : Prop where
  eval : ∀ d e s, NF (eval ops n d e s) → eval ops (n+1) d e s = eval ops n d e s
  evalList : ∀ d es s, NF (evalList ops n d es s) → evalList ops (n+1) d es s = evalList ops n d es s
  evalItems : ∀ d es s, NF (evalItems ops n d es s) → evalItems ops (n+1) d es s = evalItems ops n d es s
  evalEntries : ∀ d es acc s, NF (evalEntries ops n d es acc s) →
    evalEntries ops (n+1) d es acc s = evalEntries ops n d es acc s
  evalDoStmt : ∀ d e s, NF (evalDoStmt ops n d e s) → evalDoStmt ops (n+1) d e s = evalDoStmt ops n d e s
  evalDo : ∀ d st ret s, NF (evalDo ops n d st ret s) → evalDo ops (n+1) d st ret s = evalDo ops n d st ret s
  callFn : ∀ fv this args d s, NF (callFn ops n fv this args d s) →
    callFn ops (n+1) fv this args d s = callFn ops n fv this args d s
  mapCalls : ∀ f w L i d s, NF (mapCalls ops n f w L i d s) →
    mapCalls ops (n+1) f w L i d s = mapCalls ops n f w L i d s
  quantCalls : ∀ f w q L i d s, NF (quantCalls ops n f w q L i d s) →
    quantCalls ops (n+1) f w q L i d s = quantCalls ops n f w q L i d s
  foldCalls : ∀ f w acc L i d s, NF (foldCalls ops n f w acc L i d s) →
    foldCalls ops (n+1) f w acc L i d s = foldCalls ops n f w acc L i d s
  keyCalls : ∀ f L d s, NFK (keyCalls ops n f L d s) → keyCalls ops (n+1) f L d s = keyCalls ops n f L d s
  callHof : ∀ name args d s, NF (callHof ops n name args d s) →
    callHof ops (n+1) name args d s = callHof ops n name args d s
  evalBin : ∀ d op a b s, NF (evalBin ops n d op a b s) → evalBin ops (n+1) d op a b s = evalBin ops n d op a b s
  viaPairs : ∀ la lb d s, NF (viaPairs ops n la lb d s) → viaPairs ops (n+1) la lb d s = viaPairs ops n la lb d s
  whereCalls : ∀ f w L i d s, NF (whereCalls ops n f w L i d s) →
    whereCalls ops (n+1) f w L i d s = whereCalls ops n f w L i d s

/-- `r'`, the run with more fuel, is `r` unless `r` ran out of fuel -/
def FM {α} (r' r : R α) : Prop := NF r → r' = r

theorem FM.rfl {α} {r : R α} : FM r r := fun _ => Eq.refl r

/-- the first part does not run out of fuel, so it is unchanged; then the continuations -/
theorem FM.bind {α β} {r' r : R α} {k' k : α → ES → R β} (hr : FM r' r)
    (hk : ∀ a s1, FM (k' a s1) (k a s1)) : FM (R.bind r' k') (R.bind r k) := by
  obtain ⟨o, s1⟩ := r
  cases o with
  | ok a => intro h; rw [hr nofun]; exact hk a s1 h
  | err e => intro _; rw [hr nofun]; rfl
  | panic p => intro _; rw [hr nofun]; rfl
  | fuel => exact fun h => absurd (Eq.refl _) h

theorem FM.bindPure {α β} {o : Outcome α} {s : ES} {k' k : α → ES → R β}
    (hk : ∀ a, o = .ok a → FM (k' a s) (k a s)) : FM (R.bind (o, s) k') (R.bind (o, s) k) := by
  cases o with
  | ok a => exact hk a (Eq.refl _)
  | _ => exact FM.rfl

theorem FM.restore {α} {r' r : R α} (h : FM r' r) (g : ES → ES) : FM (r'.1, g r'.2) (r.1, g r.2) :=
  fun hn => by rw [h hn]

theorem FM.ite {α} {c : Prop} [Decidable c] {x' x y' y : R α} (hx : FM x' x) (hy : FM y' y) :
    FM (if c then x' else y') (if c then x else y) := by split <;> assumption

/-- the arm of a higher-order built-in after the arity of the callback is known -/
theorem FM.arity {f : Value} {k' k : Gen.Arity → R Value} {e : R Value} (hk : ∀ ar, FM (k' ar) (k ar)) :
    FM (match arityOf f with | none => e | some ar => k' ar)
      (match arityOf f with | none => e | some ar => k ar) := by
  split
  · exact FM.rfl
  · exact hk _

theorem fuelStep_zero (ops : NumOps) : FuelStep ops 0 := by
  constructor
  case keyCalls =>
    intro f L d s h
    cases L with
    | nil => rw [keyCalls_nil, keyCalls_zero]; rfl
    | cons x xs => rw [keyCalls_zero] at h; exact absurd rfl (h _ (List.mem_cons_self ..))
  all_goals intros; simp at *

theorem fuelStep_succ {ops : NumOps} {n : Nat} (h : FuelStep ops n) : FuelStep ops (n+1) where
  eval d e s := by
    cases e with
    | num _ | str _ | bool _ | null | builtin _ | ident _ | inref _ | lambda _ _ =>
      -- no sub-evaluation: the same value at every positive fuel
      simp only [eval_num, eval_str, eval_bool, eval_null, eval_builtin, eval_ident, eval_inref,
        eval_lambda, implies_true]
    | list items => rw [eval_list, eval_list]; exact FM.bind (h.evalItems _ _ _) fun _ _ => FM.rfl
    | record es => rw [eval_record, eval_record]; exact FM.bind (h.evalEntries _ _ _ _) fun _ _ => FM.rfl
    | assign x v =>
      rw [eval_assign, eval_assign]
      exact FM.ite FM.rfl <| FM.ite FM.rfl <| FM.ite FM.rfl <| FM.bind (h.eval _ _ _) fun _ _ => FM.rfl
    | output e => rw [eval_output, eval_output]; exact h.eval _ _ _
    | cond c t el =>
      rw [eval_cond, eval_cond]
      refine FM.bind (h.eval _ _ _) fun v s1 => ?_
      split
      · exact h.eval _ _ _
      · exact h.eval _ _ _
      · exact FM.rfl
    | doBlock stmts ret =>
      rw [eval_doBlock, eval_doBlock]
      exact FM.restore (h.evalDo _ _ _ _) fun s1 => { s1 with env := s1.env.drop 1 }
    | call f args =>
      rw [eval_call, eval_call]
      exact FM.bind (h.eval _ _ _) fun _ _ => FM.bind (h.evalList _ _ _) fun _ _ =>
        FM.ite FM.rfl (h.callFn _ _ _ _ _)
    | access e i =>
      rw [eval_access, eval_access]
      exact FM.bind (h.eval _ _ _) fun _ _ => FM.bind (h.eval _ _ _) fun _ _ => FM.rfl
    | bin op l r =>
      rw [eval_bin, eval_bin]
      exact FM.bind (h.eval _ _ _) fun _ _ => FM.bind (h.eval _ _ _) fun _ _ => h.evalBin _ _ _ _ _
    | dot e _ | un _ e | fact e | spread e =>
      simp only [eval_dot, eval_un, eval_fact, eval_spread]
      exact FM.bind (h.eval _ _ _) fun _ _ => FM.rfl
  evalList d es s := by
    cases es with
    | nil => rw [evalList_nil, evalList_nil]; exact FM.rfl
    | cons e es =>
      rw [evalList_cons, evalList_cons]
      exact FM.bind (h.eval _ _ _) fun _ _ => FM.bind (h.evalList _ _ _) fun _ _ => FM.rfl
  evalItems d es s := by
    rcases es with _ | ⟨⟨l, e, t⟩, es⟩
    · rw [evalItems_nil, evalItems_nil]; exact FM.rfl
    · rw [evalItems_cons, evalItems_cons]
      exact FM.bind (h.eval _ _ _) fun _ _ => FM.bind (h.evalItems _ _ _) fun _ _ => FM.rfl
  evalEntries d es acc s := by
    rcases es with _ | ⟨⟨l, k, v, t⟩, es⟩
    · rw [evalEntries_nil, evalEntries_nil]; exact FM.rfl
    · cases k with
      | static k =>
        rw [evalEntries_static, evalEntries_static]
        exact FM.bind (h.eval _ _ _) fun _ _ => h.evalEntries _ _ _ _
      | dyn ke =>
        rw [evalEntries_dyn, evalEntries_dyn]
        refine FM.bind (h.eval _ _ _) fun kv s1 => ?_
        split
        · exact FM.bind (h.eval _ _ _) fun _ _ => h.evalEntries _ _ _ _
        · exact FM.rfl
      | short x =>
        rw [evalEntries_short, evalEntries_short]
        split
        · exact h.evalEntries _ _ _ _
        · exact FM.rfl
      | spread se =>
        rw [evalEntries_spread, evalEntries_spread]
        refine FM.bind (h.eval _ _ _) fun x s1 => ?_
        split <;> exact h.evalEntries _ _ _ _
  evalDoStmt d e s := by
    by_cases he : ∃ x v, e = .assign x v
    · obtain ⟨x, v, rfl⟩ := he
      rw [evalDoStmt_assign, evalDoStmt_assign]
      exact FM.ite FM.rfl (FM.bind (h.eval _ _ _) fun _ _ => FM.rfl)
    · have he' : ∀ x v, e ≠ .assign x v := fun x v hx => he ⟨x, v, hx⟩
      rw [evalDoStmt_other _ _ _ _ _ he', evalDoStmt_other _ _ _ _ _ he']; exact h.eval _ _ _
  evalDo d st ret s := by
    rcases ret with ⟨l, e, t⟩
    rcases st with _ | ⟨⟨l', e', t'⟩, rest⟩
    · rw [evalDo_nil, evalDo_nil]; exact h.evalDoStmt _ _ _
    · rw [evalDo_cons, evalDo_cons]; exact FM.bind (h.evalDoStmt _ _ _) fun _ _ => h.evalDo _ _ _ _
  callFn fv this args d s := by
    cases fv with
    | lambda id ps b sc =>
      rw [callFn_lambda, callFn_lambda]
      exact FM.bindPure fun _ _ => FM.ite FM.rfl <| FM.bindPure fun _ _ =>
        FM.restore (h.eval _ _ _) fun s1 => { s1 with env := s.env }
    | builtin name =>
      rw [callFn_builtin, callFn_builtin]
      split
      · exact FM.rfl
      · exact FM.bindPure fun _ _ => FM.ite FM.rfl (FM.ite (h.callHof _ _ _ _) FM.rfl)
    | _ => rw [callFn_not_callable _ _ _ _ rfl, callFn_not_callable _ _ _ _ rfl]; exact FM.rfl
  mapCalls f w L i d s := by
    cases L with
    | nil => rw [mapCalls_nil, mapCalls_nil]; exact FM.rfl
    | cons x xs =>
      rw [mapCalls_cons, mapCalls_cons]
      exact FM.bind (h.callFn _ _ _ _ _) fun _ _ => FM.bind (h.mapCalls _ _ _ _ _ _) fun _ _ => FM.rfl
  quantCalls f w q L i d s := by
    cases L with
    | nil => rw [quantCalls_nil, quantCalls_nil]; exact FM.rfl
    | cons x xs =>
      rw [quantCalls_cons, quantCalls_cons]
      refine FM.bind (h.callFn _ _ _ _ _) fun v s1 => ?_
      split
      · exact FM.ite FM.rfl (FM.ite FM.rfl (h.quantCalls _ _ _ _ _ _ _))
      · exact FM.rfl
  foldCalls f w acc L i d s := by
    cases L with
    | nil => rw [foldCalls_nil, foldCalls_nil]; exact FM.rfl
    | cons x xs =>
      rw [foldCalls_cons, foldCalls_cons]
      exact FM.bind (h.callFn _ _ _ _ _) fun _ _ => h.foldCalls _ _ _ _ _ _ _
  keyCalls f L d s hk := by
    cases L with
    | nil => rw [keyCalls_nil, keyCalls_nil]
    | cons x xs =>
      rw [keyCalls_cons] at hk
      rw [keyCalls_cons, keyCalls_cons, h.callFn _ _ _ _ _ (hk _ (List.mem_cons_self ..)),
        h.keyCalls _ _ _ _ fun kr hkr => hk kr (List.mem_cons_of_mem _ hkr)]
  callHof name args d s := by
    match args with
    | [] =>
      rw [callHof_short _ _ _ _ _ [] Nat.zero_lt_two, callHof_short _ _ _ _ _ [] Nat.zero_lt_two]
      exact FM.rfl
    | [x] =>
      rw [callHof_short _ _ _ _ _ [x] Nat.one_lt_two, callHof_short _ _ _ _ _ [x] Nat.one_lt_two]
      exact FM.rfl
    | lv :: f :: rest =>
      by_cases hs : name = "sort_by"
      · subst hs
        rw [callHof_sort_by, callHof_sort_by]
        split
        next l =>
          refine FM.ite FM.rfl fun hnf => ?_
          -- some key call ran out of fuel and so did the whole, or none did
          split at hnf
          · exact absurd rfl hnf
          · rename_i hany
            rw [h.keyCalls _ _ _ _ ((any_fuel_key_iff _ s).mp (Bool.eq_false_iff.mpr hany))]
        · exact FM.rfl
      · by_cases hlv : ∃ l, lv = Value.list l
        · obtain ⟨l, rfl⟩ := hlv
          rcases isHof_cases name with rfl | rfl | rfl | rfl | rfl | rfl | rfl | rfl | hn
          · exact absurd rfl hs
          · rw [callHof_map, callHof_map]
            exact FM.arity fun _ => FM.bind (h.mapCalls _ _ _ _ _ _) fun _ _ => FM.rfl
          · rw [callHof_filter, callHof_filter]; exact FM.arity fun _ => h.whereCalls _ _ _ _ _ _
          · rw [callHof_every, callHof_every]; exact FM.arity fun _ => h.quantCalls _ _ _ _ _ _ _
          · rw [callHof_some, callHof_some]; exact FM.arity fun _ => h.quantCalls _ _ _ _ _ _ _
          · rw [callHof_reduce, callHof_reduce]
            refine FM.arity fun _ => ?_
            split
            · exact h.foldCalls _ _ _ _ _ _ _
            · exact FM.rfl
          · rw [callHof_group_by, callHof_group_by]
            exact FM.arity fun _ => FM.bind (h.mapCalls _ _ _ _ _ _) fun _ _ => FM.rfl
          · rw [callHof_count_by, callHof_count_by]
            exact FM.arity fun _ => FM.bind (h.mapCalls _ _ _ _ _ _) fun _ _ => FM.rfl
          · rw [callHof_unknown _ _ _ _ _ hn, callHof_unknown _ _ _ _ _ hn]; exact FM.rfl
        · have hlv' : ∀ l, lv ≠ .list l := fun l hl => hlv ⟨l, hl⟩
          rw [callHof_not_list _ _ _ _ _ hs _ _ _ hlv', callHof_not_list _ _ _ _ _ hs _ _ _ hlv']
          exact FM.rfl
  evalBin d op a b s := by
    by_cases hc : isCallOp op = false
    · rw [evalBin_value _ _ _ _ _ _ _ hc, evalBin_value _ _ _ _ _ _ _ hc]; exact FM.rfl
    · cases op <;> first | exact absurd rfl hc | skip
      · rw [evalBin_via, evalBin_via]
        split
        · exact FM.ite FM.rfl (h.viaPairs _ _ _ _)
        · refine FM.ite FM.rfl ?_
          split
          · exact FM.rfl
          · exact FM.bind (h.mapCalls _ _ _ _ _ _) fun _ _ => FM.rfl
        · exact FM.rfl
        · exact FM.ite FM.rfl (h.callFn _ _ _ _ _)
      · rw [evalBin_into, evalBin_into]
        exact FM.ite FM.rfl (FM.ite FM.rfl (h.callFn _ _ _ _ _))
      · rw [evalBin_where, evalBin_where]
        split
        · exact FM.rfl
        · refine FM.ite FM.rfl ?_
          split
          · exact FM.rfl
          · exact h.whereCalls _ _ _ _ _ _
        · exact FM.rfl
  viaPairs la lb d s := by
    cases la with
    | nil => rw [viaPairs_nil_left, viaPairs_nil_left]; exact FM.rfl
    | cons x xs =>
      cases lb with
      | nil => rw [viaPairs_nil_right, viaPairs_nil_right]; exact FM.rfl
      | cons f fs =>
        rw [viaPairs_cons, viaPairs_cons]
        exact FM.ite FM.rfl <| FM.bind (h.callFn _ _ _ _ _) fun _ _ =>
          FM.bind (h.viaPairs _ _ _ _) fun _ _ => FM.rfl
  whereCalls f w L i d s := by
    cases L with
    | nil => rw [whereCalls_nil, whereCalls_nil]; exact FM.rfl
    | cons x xs =>
      rw [whereCalls_cons, whereCalls_cons]
      refine FM.bind (h.callFn _ _ _ _ _) fun v s1 => ?_
      split
      · exact FM.bind (h.whereCalls _ _ _ _ _ _) fun _ _ => FM.rfl
      · exact FM.rfl

theorem fuelStep (ops : NumOps) : ∀ n, FuelStep ops n
  | 0 => fuelStep_zero ops
  | n + 1 => fuelStep_succ (fuelStep ops n)

theorem FM.mono {α} {F : Nat → R α} (hstep : ∀ k, FM (F (k+1)) (F k)) {n m : Nat} (hm : n ≤ m)
    (h : NF (F n)) : F m = F n := by
  induction hm with
  | refl => rfl
  | step _ ih => rw [hstep _ (ih ▸ h), ih]

theorem eval_fuel_mono (ops : NumOps) {n m : Nat} (hm : n ≤ m) {d e} {s : ES}
    (h : NF (eval ops n d e s)) : eval ops m d e s = eval ops n d e s :=
  FM.mono (fun k => (fuelStep ops k).eval _ _ _) hm h

theorem evalList_fuel_mono (ops : NumOps) {n m : Nat} (hm : n ≤ m) {d es} {s : ES}
    (h : NF (evalList ops n d es s)) : evalList ops m d es s = evalList ops n d es s :=
  FM.mono (fun k => (fuelStep ops k).evalList _ _ _) hm h

theorem evalItems_fuel_mono (ops : NumOps) {n m : Nat} (hm : n ≤ m) {d es} {s : ES}
    (h : NF (evalItems ops n d es s)) : evalItems ops m d es s = evalItems ops n d es s :=
  FM.mono (fun k => (fuelStep ops k).evalItems _ _ _) hm h

theorem evalEntries_fuel_mono (ops : NumOps) {n m : Nat} (hm : n ≤ m) {d es acc} {s : ES}
    (h : NF (evalEntries ops n d es acc s)) : evalEntries ops m d es acc s = evalEntries ops n d es acc s :=
  FM.mono (fun k => (fuelStep ops k).evalEntries _ _ _ _) hm h

theorem evalDoStmt_fuel_mono (ops : NumOps) {n m : Nat} (hm : n ≤ m) {d e} {s : ES}
    (h : NF (evalDoStmt ops n d e s)) : evalDoStmt ops m d e s = evalDoStmt ops n d e s :=
  FM.mono (fun k => (fuelStep ops k).evalDoStmt _ _ _) hm h

theorem evalDo_fuel_mono (ops : NumOps) {n m : Nat} (hm : n ≤ m) {d st ret} {s : ES}
    (h : NF (evalDo ops n d st ret s)) : evalDo ops m d st ret s = evalDo ops n d st ret s :=
  FM.mono (fun k => (fuelStep ops k).evalDo _ _ _ _) hm h

theorem callFn_fuel_mono (ops : NumOps) {n m : Nat} (hm : n ≤ m) {fv this args d} {s : ES}
    (h : NF (callFn ops n fv this args d s)) : callFn ops m fv this args d s = callFn ops n fv this args d s :=
  FM.mono (fun k => (fuelStep ops k).callFn _ _ _ _ _) hm h

theorem mapCalls_fuel_mono (ops : NumOps) {n m : Nat} (hm : n ≤ m) {f w L i d} {s : ES}
    (h : NF (mapCalls ops n f w L i d s)) : mapCalls ops m f w L i d s = mapCalls ops n f w L i d s :=
  FM.mono (fun k => (fuelStep ops k).mapCalls _ _ _ _ _ _) hm h

theorem quantCalls_fuel_mono (ops : NumOps) {n m : Nat} (hm : n ≤ m) {f w q L i d} {s : ES}
    (h : NF (quantCalls ops n f w q L i d s)) : quantCalls ops m f w q L i d s = quantCalls ops n f w q L i d s :=
  FM.mono (fun k => (fuelStep ops k).quantCalls _ _ _ _ _ _ _) hm h

theorem foldCalls_fuel_mono (ops : NumOps) {n m : Nat} (hm : n ≤ m) {f w acc L i d} {s : ES}
    (h : NF (foldCalls ops n f w acc L i d s)) : foldCalls ops m f w acc L i d s = foldCalls ops n f w acc L i d s :=
  FM.mono (fun k => (fuelStep ops k).foldCalls _ _ _ _ _ _ _) hm h

theorem callHof_fuel_mono (ops : NumOps) {n m : Nat} (hm : n ≤ m) {name args d} {s : ES}
    (h : NF (callHof ops n name args d s)) : callHof ops m name args d s = callHof ops n name args d s :=
  FM.mono (fun k => (fuelStep ops k).callHof _ _ _ _) hm h

theorem evalBin_fuel_mono (ops : NumOps) {n m : Nat} (hm : n ≤ m) {d op a b} {s : ES}
    (h : NF (evalBin ops n d op a b s)) : evalBin ops m d op a b s = evalBin ops n d op a b s :=
  FM.mono (fun k => (fuelStep ops k).evalBin _ _ _ _ _) hm h

theorem viaPairs_fuel_mono (ops : NumOps) {n m : Nat} (hm : n ≤ m) {la lb d} {s : ES}
    (h : NF (viaPairs ops n la lb d s)) : viaPairs ops m la lb d s = viaPairs ops n la lb d s :=
  FM.mono (fun k => (fuelStep ops k).viaPairs _ _ _ _) hm h

theorem whereCalls_fuel_mono (ops : NumOps) {n m : Nat} (hm : n ≤ m) {f w L i d} {s : ES}
    (h : NF (whereCalls ops n f w L i d s)) : whereCalls ops m f w L i d s = whereCalls ops n f w L i d s :=
  FM.mono (fun k => (fuelStep ops k).whereCalls _ _ _ _ _ _) hm h

theorem keyCalls_fuel_mono (ops : NumOps) {n m : Nat} (hm : n ≤ m) {f : Value} {L : List Value} {d : Nat}
    {s : ES} (h : NFK (keyCalls ops n f L d s)) : keyCalls ops m f L d s = keyCalls ops n f L d s :=
  by
  induction hm with
  | refl => rfl
  | step _ ih => rw [(fuelStep ops _).keyCalls _ _ _ _ (ih ▸ h), ih]

theorem callFn_fuel_mono' (ops : NumOps) {n m : Nat} (hm : n ≤ m) {fv this : Value} {args : List Value}
    {d : Nat} {s s' : ES} {r : Outcome Value} (h : callFn ops n fv this args d s = (r, s'))
    (hr : r ≠ .fuel) : callFn ops m fv this args d s = (r, s') := by
  rw [callFn_fuel_mono ops hm (by rw [h]; exact hr), h]

theorem eval_fuel_mono' (ops : NumOps) {n m : Nat} (hm : n ≤ m) {d : Nat} {e : Expr} {s s' : ES}
    {r : Outcome Value} (h : eval ops n d e s = (r, s')) (hr : r ≠ .fuel) :
    eval ops m d e s = (r, s') := by
  rw [eval_fuel_mono ops hm (by rw [h]; exact hr), h]

end Blots
