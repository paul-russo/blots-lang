import Blots.Model.Units
/-
  Helper lemmas for C17 (unit table): specifications of the small list functions of
  `Model/Units.lean`, the characterisation of `resolveIn`, the certificate lemmas that turn
  a whole-table Boolean check into a ∀-statement, the structure of `convert`, and the
  algebra of conversions over ℚ.
-/
namespace Blots.Units
open Blots Blots.Gen

theorem codesEq_iff (a b : List Nat) : codesEq a b = true ↔ a = b := by
  induction a generalizing b with
  | nil => cases b <;> simp [codesEq]
  | cons x xs ih =>
    cases b with
    | nil => simp [codesEq]
    | cons y ys => simp [codesEq, ih]

theorem isPrefixCodes_iff (p s rest : List Nat) : isPrefixCodes p s = some rest ↔ s = p ++ rest := by
  induction p generalizing s with
  | nil => simp [isPrefixCodes, eq_comm]
  | cons x xs ih =>
    cases s with
    | nil => simp [isPrefixCodes]
    | cons y ys =>
      simp only [isPrefixCodes, List.cons_append, List.cons.injEq]
      by_cases h : x = y
      · subst h; simp [ih]
      · have : Nat.beq x y = false := by
          cases hb : Nat.beq x y with
          | false => rfl
          | true => exact absurd (Nat.eq_of_beq_eq_true hb) h
        simp [this, Ne.symm h]

theorem matchesExact_iff (u : UnitRow) (q : List Nat) : matchesExact u q = true ↔ q ∈ u.ids := by
  simp only [matchesExact, List.any_eq_true, codesEq_iff]
  constructor
  · rintro ⟨a, ha, rfl⟩; exact ha
  · intro h; exact ⟨q, h, rfl⟩

theorem matchesCase_iff (u : UnitRow) (ql : List Nat) :
    matchesCase u ql = true ↔ ∃ a ∈ u.ids, lowerCodes a = ql := by
  simp only [matchesCase, List.any_eq_true, codesEq_iff]

theorem mem_indicesFrom (p : UnitRow → Bool) (s : Nat) (us : List UnitRow) (x : Nat) :
    x ∈ indicesFrom p s us ↔ ∃ k u, x = s + k ∧ us[k]? = some u ∧ p u = true := by
  induction us generalizing s with
  | nil => simp [indicesFrom]
  | cons v rest ih =>
    simp only [indicesFrom]
    constructor
    · intro h
      by_cases hp : p v = true
      · simp only [hp, if_true, List.mem_cons] at h
        rcases h with rfl | h
        · exact ⟨0, v, rfl, rfl, hp⟩
        · obtain ⟨k, u, hx, hk, hu⟩ := (ih (s + 1)).mp h
          exact ⟨k + 1, u, by omega, by simpa using hk, hu⟩
      · simp only [hp] at h
        obtain ⟨k, u, hx, hk, hu⟩ := (ih (s + 1)).mp h
        exact ⟨k + 1, u, by omega, by simpa using hk, hu⟩
    · rintro ⟨k, u, hx, hk, hu⟩
      cases k with
      | zero =>
        simp at hk; subst hk
        simp [hu, hx]
      | succ k =>
        have : x ∈ indicesFrom p (s + 1) rest :=
          (ih (s + 1)).mpr ⟨k, u, by omega, by simpa using hk, hu⟩
        by_cases hp : p v = true
        · simp [hp, this]
        · simp [hp, this]

theorem indicesFrom_eq_nil (p : UnitRow → Bool) (s : Nat) (us : List UnitRow)
    (h : ∀ (k : Nat) (u : UnitRow), us[k]? = some u → p u = false) : indicesFrom p s us = [] := by
  cases hL : indicesFrom p s us with
  | nil => rfl
  | cons x xs =>
    have hx : x ∈ indicesFrom p s us := by simp [hL]
    obtain ⟨k, u, _, hk, hu⟩ := (mem_indicesFrom p s us x).mp hx
    simp [h k u hk] at hu

theorem indicesFrom_eq_singleton (p : UnitRow → Bool) (s : Nat) (us : List UnitRow) (i : Nat)
    (u : UnitRow) (hi : us[i]? = some u) (hp : p u = true)
    (huniq : ∀ (j : Nat) (v : UnitRow), us[j]? = some v → p v = true → j = i) : indicesFrom p s us = [s + i] := by
  induction us generalizing s i with
  | nil => simp at hi
  | cons v rest ih =>
    cases i with
    | zero =>
      simp at hi; subst hi
      have hrest : indicesFrom p (s + 1) rest = [] := by
        apply indicesFrom_eq_nil
        intro k w hk
        cases hw : p w with
        | false => rfl
        | true =>
          have := huniq (k + 1) w (by simpa using hk) hw
          omega
      simp [indicesFrom, hp, hrest]
    | succ i =>
      have hv : p v = false := by
        cases hw : p v with
        | false => rfl
        | true =>
          have := huniq 0 v (by simp) hw
          omega
      have := ih (s + 1) i (by simpa using hi) (by
        intro j w hj hw
        have := huniq (j + 1) w (by simpa using hj) hw
        omega)
      simp only [indicesFrom, hv]
      rw [this]
      simp; omega

theorem indicesFrom_two (p : UnitRow → Bool) (us : List UnitRow) (i j : Nat) (u v : UnitRow)
    (hi : us[i]? = some u) (hj : us[j]? = some v) (hij : i ≠ j) (hu : p u = true) (hv : p v = true) :
    ∃ a b rest, indicesFrom p 0 us = a :: b :: rest := by
  have mi : i ∈ indicesFrom p 0 us := (mem_indicesFrom p 0 us i).mpr ⟨i, u, by omega, hi, hu⟩
  have mj : j ∈ indicesFrom p 0 us := (mem_indicesFrom p 0 us j).mpr ⟨j, v, by omega, hj, hv⟩
  cases hL : indicesFrom p 0 us with
  | nil => simp [hL] at mi
  | cons a t =>
    cases t with
    | nil =>
      simp [hL] at mi mj
      omega
    | cons b rest => exact ⟨a, b, rest, rfl⟩

theorem resolve_exact_unique (us : List UnitRow) (q : List Nat) (i : Nat) (u : UnitRow)
    (hi : us[i]? = some u) (hq : q ∈ u.ids)
    (huniq : ∀ (j : Nat) (v : UnitRow), us[j]? = some v → q ∈ v.ids → j = i) : resolveIn us q = .ok i := by
  have := indicesFrom_eq_singleton (fun u => matchesExact u q) 0 us i u hi
    ((matchesExact_iff u q).mpr hq)
    (fun j v hj hv => huniq j v hj ((matchesExact_iff v q).mp hv))
  simp [resolveIn, this]

theorem resolve_exact_shared (us : List UnitRow) (q : List Nat) (i j : Nat) (u v : UnitRow)
    (hi : us[i]? = some u) (hj : us[j]? = some v) (hij : i ≠ j) (hu : q ∈ u.ids) (hv : q ∈ v.ids) :
    resolveIn us q = .ambiguous := by
  obtain ⟨a, b, rest, h⟩ := indicesFrom_two (fun u => matchesExact u q) us i j u v hi hj hij
    ((matchesExact_iff u q).mpr hu) ((matchesExact_iff v q).mpr hv)
  simp [resolveIn, h]

theorem indicesFrom_exact_nil (us : List UnitRow) (q : List Nat)
    (hex : ∀ (j : Nat) (v : UnitRow), us[j]? = some v → q ∉ v.ids) :
    indicesFrom (fun u => matchesExact u q) 0 us = [] := by
  apply indicesFrom_eq_nil
  intro k w hk
  cases hw : matchesExact w q with
  | false => rfl
  | true => exact absurd ((matchesExact_iff w q).mp hw) (hex k w hk)

theorem resolve_case_unique (us : List UnitRow) (q : List Nat) (i : Nat) (u : UnitRow)
    (hex : ∀ (j : Nat) (v : UnitRow), us[j]? = some v → q ∉ v.ids)
    (hi : us[i]? = some u) (hq : ∃ a ∈ u.ids, lowerCodes a = lowerCodes q)
    (huniq : ∀ (j : Nat) (v : UnitRow), us[j]? = some v → (∃ a ∈ v.ids, lowerCodes a = lowerCodes q) → j = i) :
    resolveIn us q = .ok i := by
  have h0 := indicesFrom_exact_nil us q hex
  have h1 := indicesFrom_eq_singleton (fun u => matchesCase u (lowerCodes q)) 0 us i u hi
    ((matchesCase_iff u _).mpr hq)
    (fun j v hj hv => huniq j v hj ((matchesCase_iff v _).mp hv))
  simp [resolveIn, h0, h1]

theorem resolve_case_shared (us : List UnitRow) (q : List Nat) (i j : Nat) (u v : UnitRow)
    (hex : ∀ (j : Nat) (v : UnitRow), us[j]? = some v → q ∉ v.ids)
    (hi : us[i]? = some u) (hj : us[j]? = some v) (hij : i ≠ j)
    (hu : ∃ a ∈ u.ids, lowerCodes a = lowerCodes q) (hv : ∃ a ∈ v.ids, lowerCodes a = lowerCodes q) :
    resolveIn us q = .ambiguous := by
  have h0 := indicesFrom_exact_nil us q hex
  obtain ⟨a, b, rest, h⟩ := indicesFrom_two (fun u => matchesCase u (lowerCodes q)) us i j u v hi hj hij
    ((matchesCase_iff u _).mpr hu) ((matchesCase_iff v _).mpr hv)
  simp [resolveIn, h0, h]

theorem resolve_unknown (us : List UnitRow) (q : List Nat)
    (h : ∀ (j : Nat) (v : UnitRow), us[j]? = some v → ∀ a ∈ v.ids, lowerCodes a ≠ lowerCodes q) :
    resolveIn us q = .unknown := by
  have h0 := indicesFrom_exact_nil us q fun j v hj hq => h j v hj q hq rfl
  have h1 : indicesFrom (fun u => matchesCase u (lowerCodes q)) 0 us = [] := by
    apply indicesFrom_eq_nil
    intro k w hk
    cases hw : matchesCase w (lowerCodes q) with
    | false => rfl
    | true =>
      obtain ⟨a, ha, hl⟩ := (matchesCase_iff w _).mp hw
      exact absurd hl (h k w hk a ha)
  simp [resolveIn, h0, h1]

theorem resolve_ok_sound (us : List UnitRow) (q : List Nat) (i : Nat) (h : resolveIn us q = .ok i) :
    ∃ u, us[i]? = some u ∧ (q ∈ u.ids ∨ ∃ a ∈ u.ids, lowerCodes a = lowerCodes q) := by
  unfold resolveIn at h
  split at h
  · rename_i j hj
    cases h
    have : i ∈ indicesFrom (fun u => matchesExact u q) 0 us := by simp [hj]
    obtain ⟨k, u, hx, hk, hu⟩ := (mem_indicesFrom _ 0 us i).mp this
    have : k = i := by omega
    subst this
    exact ⟨u, hk, Or.inl ((matchesExact_iff u q).mp hu)⟩
  · cases h
  · split at h
    · cases h
    · rename_i j hj
      cases h
      have : i ∈ indicesFrom (fun u => matchesCase u (lowerCodes q)) 0 us := by simp [hj]
      obtain ⟨k, u, hx, hk, hu⟩ := (mem_indicesFrom _ 0 us i).mp this
      have : k = i := by omega
      subst this
      exact ⟨u, hk, Or.inr ((matchesCase_iff u _).mp hu)⟩
    · cases h

/-! ### certificates: a lookup function that maps every identifier of unit `i` to `i`

  If such a function exists no identifier is listed by two units — whatever the function is
  (here: a generated search tree, `Gen.idTree` / `Gen.lowTree`; its shape is not trusted,
  the Boolean checks below run over the table itself). -/

/-- `chk (s+k) u` for the row `u` at every position `k` of the table -/
def allFrom (chk : Nat → UnitRow → Bool) : Nat → List UnitRow → Bool
  | _, [] => true
  | i, u :: rest => chk i u && allFrom chk (i + 1) rest

theorem allFrom_spec (chk : Nat → UnitRow → Bool) (s : Nat) (us : List UnitRow)
    (h : allFrom chk s us = true) :
    ∀ (k : Nat) (u : UnitRow), us[k]? = some u → chk (s + k) u = true := by
  induction us generalizing s with
  | nil => intro k u hk; simp at hk
  | cons v rest ih =>
    simp only [allFrom, Bool.and_eq_true] at h
    intro k u hk
    cases k with
    | zero => simp at hk; subst hk; exact h.1
    | succ k =>
      have := ih (s + 1) h.2 k u (by simpa using hk)
      rwa [show s + 1 + k = s + (k + 1) by omega] at this

/-- every identifier `q` of the row at position `s+k` has `f q = some (s+k)`, unless `q ∈ known` -/
def certExactFrom (f : List Nat → Option Nat) (known : List (List Nat)) : Nat → List UnitRow → Bool :=
  allFrom fun i u =>
    u.ids.all fun q => (match f q with | some j => Nat.beq j i | none => false) || known.any (codesEq q)

theorem certExactFrom_spec (f : List Nat → Option Nat) (known : List (List Nat)) (s : Nat)
    (us : List UnitRow) (h : certExactFrom f known s us = true) :
    ∀ (k : Nat) (u : UnitRow), us[k]? = some u → ∀ q ∈ u.ids, f q = some (s + k) ∨ q ∈ known := by
  intro k u hk q hq
  have h1 := List.all_eq_true.mp (allFrom_spec _ s us h k u hk) q hq
  simp only [Bool.or_eq_true, List.any_eq_true, codesEq_iff] at h1
  rcases h1 with h1 | ⟨a, ha, rfl⟩
  · left
    cases hf : f q with
    | none => simp [hf] at h1
    | some j => rw [hf] at h1; rw [Nat.eq_of_beq_eq_true h1]
  · exact Or.inr ha

theorem resolve_of_cert (f : List Nat → Option Nat) (known : List (List Nat)) (us : List UnitRow)
    (hc : certExactFrom f known 0 us = true) (i : Nat) (u : UnitRow) (hi : us[i]? = some u)
    (q : List Nat) (hq : q ∈ u.ids) (hk : q ∉ known) : resolveIn us q = .ok i := by
  have spec := certExactFrom_spec f known 0 us hc
  apply resolve_exact_unique us q i u hi hq
  intro j v hj hv
  have h1 := spec i u hi q hq
  have h2 := spec j v hj q hv
  rcases h1 with h1 | h1
  · rcases h2 with h2 | h2
    · rw [h1] at h2; simp at h2; omega
    · exact absurd h2 hk
  · exact absurd h1 hk

/-- every identifier `a` of the row at position `s+k` has `f (lower a) = some (s+k)` or `some n` -/
def certCaseFrom (f : List Nat → Option Nat) (n : Nat) : Nat → List UnitRow → Bool :=
  allFrom fun i u =>
    u.ids.all fun a => match f (lowerCodes a) with | some j => Nat.beq j i || Nat.beq j n | none => false

theorem certCaseFrom_spec (f : List Nat → Option Nat) (n s : Nat) (us : List UnitRow)
    (h : certCaseFrom f n s us = true) :
    ∀ (k : Nat) (u : UnitRow), us[k]? = some u → ∀ a ∈ u.ids,
      f (lowerCodes a) = some (s + k) ∨ f (lowerCodes a) = some n := by
  intro k u hk a ha
  have h1 := List.all_eq_true.mp (allFrom_spec _ s us h k u hk) a ha
  cases hf : f (lowerCodes a) with
  | none => simp [hf] at h1
  | some j =>
    simp only [hf, Bool.or_eq_true] at h1
    rcases h1 with h1 | h1
    · left; rw [Nat.eq_of_beq_eq_true h1]
    · right; rw [Nat.eq_of_beq_eq_true h1]

theorem case_owner_unique (f : List Nat → Option Nat) (us : List UnitRow)
    (hc : certCaseFrom f us.length 0 us = true) (q : List Nat) (i : Nat) (hi : i < us.length)
    (hf : f (lowerCodes q) = some i) :
    ∀ (j : Nat) (v : UnitRow), us[j]? = some v → (∃ a ∈ v.ids, lowerCodes a = lowerCodes q) → j = i := by
  intro j v hj ⟨a, ha, hl⟩
  have := certCaseFrom_spec f us.length 0 us hc j v hj a ha
  rw [hl, hf] at this
  rcases this with h | h
  · simp at h; omega
  · simp at h; omega

theorem withPair_resolved {α} (us : List UnitRow) (a b : List Nat) (k : UnitRow → UnitRow → α)
    (i j : Nat) (hi : resolveIn us a = .ok i) (hj : resolveIn us b = .ok j) :
    withPair us a b k =
      if (us.getD i default).cat = (us.getD j default).cat
      then .ok (k (us.getD i default) (us.getD j default)) else .category := by
  simp only [withPair, hi, hj]
  by_cases h : (us.getD i default).cat = (us.getD j default).cat
  · simp
  · simp

theorem withPair_ok_inv {α} (us : List UnitRow) (a b : List Nat) (k : UnitRow → UnitRow → α) (y : α)
    (h : withPair us a b k = .ok y) :
    ∃ i j, resolveIn us a = .ok i ∧ resolveIn us b = .ok j ∧
      (us.getD i default).cat = (us.getD j default).cat ∧
      y = k (us.getD i default) (us.getD j default) := by
  unfold withPair at h
  split at h
  · cases h
  · cases h
  · rename_i i hi
    split at h
    · cases h
    · cases h
    · rename_i j hj
      refine ⟨i, j, by assumption, by assumption, ?_⟩
      simp only at h
      split at h
      · rename_i hc
        cases h
        exact ⟨Nat.eq_of_beq_eq_true hc, rfl⟩
      · cases h

theorem withPair_congr {α} (us : List UnitRow) (a a' b b' : List Nat) (k : UnitRow → UnitRow → α)
    (ha : resolveIn us a = resolveIn us a') (hb : resolveIn us b = resolveIn us b') :
    withPair us a b k = withPair us a' b' k := by
  simp only [withPair, ha, hb]

theorem withPair_unresolved {α} (us : List UnitRow) (a b : List Nat) (k : UnitRow → UnitRow → α)
    (h : (∀ i, resolveIn us a ≠ .ok i) ∨ (∀ j, resolveIn us b ≠ .ok j)) :
    (withPair us a b k).isErr = true := by
  unfold withPair
  rcases h with h | h
  · cases hr : resolveIn us a with
    | ok i => exact absurd hr (h i)
    | unknown => rfl
    | ambiguous => rfl
  · cases hr : resolveIn us a with
    | unknown => rfl
    | ambiguous => rfl
    | ok i =>
      cases hr2 : resolveIn us b with
      | ok j => exact absurd hr2 (h j)
      | unknown => rfl
      | ambiguous => rfl

theorem QConv.fromBase_toBase (a : QConv) (ha : a.WellFormed) (x base : Rat)
    (h : a.toBase x = some base) : a.fromBase base = some x := by
  cases a with
  | linear c =>
    simp only [QConv.WellFormed] at ha
    simp only [QConv.toBase, Option.some.injEq] at h
    subst h
    simp only [QConv.fromBase, Option.some.injEq]
    grind
  | reciprocal c =>
    simp only [QConv.WellFormed] at ha
    simp only [QConv.toBase] at h
    split at h
    · cases h
    · rename_i hx
      simp only [Option.some.injEq] at h
      subst h
      have hne : c / x ≠ 0 := by grind
      simp only [QConv.fromBase, hne, if_false, Option.some.injEq]
      grind
  | temperature toK fromK =>
    simp only [QConv.toBase, Option.some.injEq] at h
    subst h
    simp [QConv.fromBase, ha.1 x]

theorem QConv.toBase_fromBase (b : QConv) (hb : b.WellFormed) (base y : Rat)
    (h : b.fromBase base = some y) : b.toBase y = some base := by
  cases b with
  | linear c =>
    simp only [QConv.WellFormed] at hb
    simp only [QConv.fromBase, Option.some.injEq] at h
    subst h
    simp only [QConv.toBase, Option.some.injEq]
    grind
  | reciprocal c =>
    simp only [QConv.WellFormed] at hb
    simp only [QConv.fromBase] at h
    split at h
    · cases h
    · rename_i hx
      simp only [Option.some.injEq] at h
      subst h
      have hne : c / base ≠ 0 := by grind
      simp only [QConv.toBase, hne, if_false, Option.some.injEq]
      grind
  | temperature toK fromK =>
    simp only [QConv.fromBase, Option.some.injEq] at h
    subst h
    simp [QConv.toBase, hb.2 base]

theorem convQ_some (a b : QConv) (x y : Rat) (h : convQ a b x = some y) :
    ∃ base, a.toBase x = some base ∧ b.fromBase base = some y := by
  unfold convQ at h
  cases hb : a.toBase x with
  | none => simp [hb] at h
  | some base => exact ⟨base, rfl, by simpa [hb] using h⟩

theorem convQ_self (a : QConv) (ha : a.WellFormed) (x y : Rat) (h : convQ a a x = some y) : y = x := by
  obtain ⟨base, h1, h2⟩ := convQ_some a a x y h
  have := QConv.fromBase_toBase a ha x base h1
  rw [h2] at this
  exact Option.some.inj this

theorem convQ_self_defined (a : QConv) (ha : a.WellFormed) (x : Rat)
    (hx : (∃ c, a = .reciprocal c) → x ≠ 0) : convQ a a x = some x := by
  have hb : ∃ base, a.toBase x = some base := by
    cases a with
    | linear c => exact ⟨_, rfl⟩
    | reciprocal c =>
      have := hx ⟨c, rfl⟩
      exact ⟨c / x, by simp [QConv.toBase, this]⟩
    | temperature toK fromK => exact ⟨_, rfl⟩
  obtain ⟨base, h1⟩ := hb
  simp [convQ, h1, QConv.fromBase_toBase a ha x base h1]

theorem convQ_there_back (a b : QConv) (ha : a.WellFormed) (hb : b.WellFormed) (x y : Rat)
    (h : convQ a b x = some y) : convQ b a y = some x := by
  obtain ⟨base, h1, h2⟩ := convQ_some a b x y h
  simp [convQ, QConv.toBase_fromBase b hb base y h2, QConv.fromBase_toBase a ha x base h1]

theorem convQ_triangle (a b c : QConv) (hb : b.WellFormed) (x y : Rat)
    (h : convQ a b x = some y) : convQ b c y = convQ a c x := by
  obtain ⟨base, h1, h2⟩ := convQ_some a b x y h
  simp [convQ, QConv.toBase_fromBase b hb base y h2, h1]

/-- the (to_kelvin, from_kelvin) pairs that are mutually inverse -/
def tempPairOk : TempFn → TempFn → Bool
  | .kelvin_to_kelvin, .kelvin_to_kelvin => true
  | .celsius_to_kelvin, .kelvin_to_celsius => true
  | .fahrenheit_to_kelvin, .kelvin_to_fahrenheit => true
  | _, _ => false

theorem tempPairOk_inverse (a b : TempFn) (h : tempPairOk a b = true) :
    (∀ x, b.evalQ (a.evalQ x) = x) ∧ (∀ y, a.evalQ (b.evalQ y) = y) := by
  cases a <;> cases b <;> simp [tempPairOk] at h <;>
    (constructor <;> intro x <;> simp only [TempFn.evalQ] <;> grind)

/-- coefficient fraction non-zero with a non-zero denominator / inverse temperature pair -/
def convOk : Conv → Bool
  | .linear n d _ _ => !(n == 0) && !(d == 0)
  | .reciprocal n d _ _ => !(n == 0) && !(d == 0)
  | .temperature a b => tempPairOk a b

theorem coefQ_ne_zero (n : Int) (d : Nat) (hn : n ≠ 0) (hd : d ≠ 0) : coefQ n d ≠ 0 := by
  unfold coefQ
  have h1 : (n : Rat) ≠ 0 := by exact_mod_cast hn
  have h2 : (d : Rat) ≠ 0 := by exact_mod_cast hd
  grind

theorem convOk_wf (c : Conv) (h : convOk c = true) : (toQ c).WellFormed := by
  cases c with
  | linear n d b p =>
    simp [convOk] at h
    exact coefQ_ne_zero n d h.1 h.2
  | reciprocal n d b p =>
    simp [convOk] at h
    exact coefQ_ne_zero n d h.1 h.2
  | temperature a b =>
    simp only [convOk] at h
    exact tempPairOk_inverse a b h

theorem all_wf_of_check (us : List UnitRow) (h : us.all (fun u => convOk u.conv) = true) :
    ∀ u ∈ us, (toQ u.conv).WellFormed := by
  intro u hu
  exact convOk_wf u.conv (List.all_eq_true.mp h u hu)

theorem units_all_convOk : units.all (fun u => convOk u.conv) = true := by decide +kernel

theorem resolved_unit_wf (q : List Nat) (j : Nat) (h : resolveIn units q = .ok j) :
    (toQ (units.getD j default).conv).WellFormed := by
  obtain ⟨u, hu, _⟩ := resolve_ok_sound units q j h
  have : units.getD j default = u := by simp [List.getD, hu]
  rw [this]
  exact all_wf_of_check units units_all_convOk u (List.mem_of_getElem? hu)

def coefPositive : Conv → Bool
  | .linear n d _ _ => decide (0 < n) && decide (0 < d)
  | .reciprocal n d _ _ => decide (0 < n) && decide (0 < d)
  | .temperature _ _ => true

/-- the double the code holds is the correctly rounded value of the source literal (rows whose
    coefficient is a single literal; expressions like `1.0 / 3.6` are rounded twice) -/
def coefBitsOk : Conv → Bool
  | .linear n d bits plain => !plain || (F64.ofRatio (decide (n < 0)) n.natAbs d == F64.ofNatBits bits)
  | .reciprocal n d bits plain => !plain || (F64.ofRatio (decide (n < 0)) n.natAbs d == F64.ofNatBits bits)
  | .temperature _ _ => true

def pow10 (k : Int) : Rat := if k ≥ 0 then (10 : Rat) ^ k.toNat else 1 / (10 : Rat) ^ (-k).toNat

theorem prefix_ratio_of_check (us : List UnitRow) (h : prefixAllOk us = true) :
    ∀ u ∈ us, ∀ idu ∈ u.ids, ∀ pk ∈ metricPrefixes, ∀ rest, idu = pk.1 ++ rest →
    ∀ v ∈ us, u.cat = v.cat → rest ∈ v.ids →
    ∃ nu du bu pu nv dv bv pv, u.conv = .linear nu du bu pu ∧ v.conv = .linear nv dv bv pv ∧
      ratioIsPow10 nu du nv dv pk.2 = true := by
  intro u hu idu hidu pk hpk rest hrest v hv hcat hmem
  simp only [prefixAllOk, List.all_eq_true] at h
  have h1 := h u hu idu hidu pk hpk
  have hp : isPrefixCodes pk.1 idu = some rest := (isPrefixCodes_iff pk.1 idu rest).mpr hrest
  simp only [prefixOkFor, hp, List.all_eq_true] at h1
  have h2 := h1 v hv
  have hc : Nat.beq u.cat v.cat = true := by rw [hcat]; exact Nat.beq_refl _
  have hm : matchesExact v rest = true := (matchesExact_iff v rest).mpr hmem
  simp only [hc, hm, Bool.and_self, if_true] at h2
  cases hcu : u.conv with
  | temperature a b => simp [hcu, coefFrac] at h2
  | reciprocal n d b p => simp [hcu, coefFrac] at h2
  | linear nu du bu pu =>
    cases hcv : v.conv with
    | temperature a b => simp [hcu, hcv, coefFrac] at h2
    | reciprocal n d b p => simp [hcu, hcv, coefFrac] at h2
    | linear nv dv bv pv =>
      simp only [hcu, hcv, coefFrac] at h2
      exact ⟨nu, du, bu, pu, nv, dv, bv, pv, rfl, rfl, h2⟩

theorem ten_pow_ne_zero (n : Nat) : (10 : Rat) ^ n ≠ 0 := by
  induction n with
  | zero => simp
  | succ n ih => rw [Rat.pow_succ]; grind

theorem ratioIsPow10_spec (nu : Int) (du : Nat) (nv : Int) (dv : Nat) (k : Int)
    (h : ratioIsPow10 nu du nv dv k = true) (hdu : du ≠ 0) (hdv : dv ≠ 0) :
    coefQ nu du = coefQ nv dv * pow10 k := by
  have h1 : (du : Rat) ≠ 0 := by exact_mod_cast hdu
  have h2 : (dv : Rat) ≠ 0 := by exact_mod_cast hdv
  unfold ratioIsPow10 at h
  unfold coefQ pow10
  split at h
  · rename_i hk
    simp only [decide_eq_true_eq] at h
    have hq : (nu : Rat) * (dv : Rat) = (nv : Rat) * (du : Rat) * (10 : Rat) ^ k.toNat := by
      exact_mod_cast h
    simp only [hk, if_true]
    grind
  · rename_i hk
    simp only [decide_eq_true_eq] at h
    have hq : (nu : Rat) * (dv : Rat) * (10 : Rat) ^ (-k).toNat = (nv : Rat) * (du : Rat) := by
      exact_mod_cast h
    have hp : (10 : Rat) ^ (-k).toNat ≠ 0 := ten_pow_ne_zero _
    simp only [hk, if_false]
    grind

end Blots.Units
