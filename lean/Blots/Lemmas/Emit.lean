import Blots.Lemmas.PrintLemmas
import Blots.Model.Json
import Blots.Lemmas.EvalFuel
import Blots.Lemmas.EvalEnvFree
import Blots.Lemmas.ToyOps
import Blots.Lemmas.AssocList
/-
  C05 — helpers for "emitted function source reloads to an equivalent function".

  The emitter (`exprSrc sc`, mirror of `expr_to_source_with_scope`) works on TEXT: it prints
  the body of a function and replaces every identifier found in the captured scope by the
  literal text of the captured value (`svToSource`).  The argument here is organised at the AST
  level with a small explicit interface to text (`Lemmas/EmitParse.lean` discharges that
  interface with the character-level parser model).

  `svToExpr pb v` is the expression the literal text `svToSource v` denotes (`pb : String →
  Option Expr` reads the body text of a captured function, exactly as `ParseBody` in
  Model/Json.lean); it evaluates to the captured value in every state (`lit_eval`).
  `substExpr pb sc e` is the inlining at the AST level, with the scope bookkeeping of `exprSrc`
  (parameters and do-block assignments remove their name).
  `emit_expr`: `exprSrc sc e = exprSrc [] (substExpr pb sc e)` for scopes whose literals are
  printed without `svToSource`'s own protective parentheses (`ScopeBare`); with a negative
  number / NaN / two-quote string / function in the scope the two texts differ by redundant
  parentheses (and, for NaN, blanks: `(0/0)` against `0 / 0`).
  `subst_eval`: on the fragment `frag`, evaluating `e` with the captured values in the
  environment = evaluating `substExpr pb sc e` without them.
  `reload_call`: calls of the original and of the reloaded function agree when their body
  environments are related (`Rel`), which closedness after capture gives (`rel_of_closed`) for
  the serialised image of the scope.
-/
namespace Blots
namespace Emit
open PrintL

/-- `(0/0)`, `(-a)`, or the number itself (`+inf` is the literal `1e999`, which the number
    parser reads as `+inf`) -/
def numToExpr (x : F64) : Expr :=
  if x.isNaN then .bin .div (.num F64.zero) (.num F64.zero)
  else if x.neg then .un .negate (.num x.negate)
  else .num x

/-- `p0 + p1 + … + pn`, left nested -/
def strChain : List (List Char) → Expr
  | [] => .str ""
  | p :: ps => ps.foldl (fun acc q => .bin .add acc (.str (String.ofList q))) (.str (String.ofList p))

def bothQuotes (s : String) : Bool := s.toList.contains '"' && s.toList.contains '\''

/-- one literal when one quote kind suffices, else the concatenation of the pieces -/
def strToExpr (s : String) : Expr :=
  if bothQuotes s then strChain (pieces s.toList) else .str s

/-- `format_record_key` read back: a bare or quoted key is a static key, a key with both quote
    kinds (never a valid identifier) is the computed key `[ … ]` -/
def keyToKey (k : String) : Key :=
  if bothQuotes k then .dyn (strToExpr k) else .static k

mutual
/-- the expression the text `svToSource v` denotes.  A captured function is text only
    (`SV.lambda args bodyText`): its body is what `pb` reads from that text (`null` when the
    text is not readable: junk, excluded by hypothesis where it matters). -/
def svToExpr (pb : String → Option Expr) : SV → Expr
  | .num x => numToExpr x
  | .bool b => .bool b
  | .null => .null
  | .str s => strToExpr s
  | .list xs => .list (svToItems pb xs)
  | .record kvs => .record (svToEntries pb kvs)
  | .lambda args body => .lambda args ((pb body).getD .null)
  | .builtin n => .builtin n
def svToItems (pb : String → Option Expr) : List SV → List Item
  | [] => []
  | x :: xs => Item.plain (svToExpr pb x) :: svToItems pb xs
def svToEntries (pb : String → Option Expr) : List (String × SV) → List Entry
  | [] => []
  | (k, v) :: r => Entry.mk [] (keyToKey k) (svToExpr pb v) none :: svToEntries pb r
end

def scopeMinusArgs (sc : Scope) (args : List LArg) : Scope :=
  args.foldl (fun s a => scopeRemove s a.name) sc

mutual
/-- inlining of the captured scope at the AST level, mirroring `exprSrc` -/
def substExpr (pb : String → Option Expr) (sc : Scope) : Expr → Expr
  | .ident n =>
    (match lookupAL n sc with
     | some v => svToExpr pb v
     | none => .ident n)
  | .list items => .list (substItems pb sc items)
  | .record es => .record (substEntries pb sc es)
  | .lambda args body => .lambda args (substExpr pb (scopeMinusArgs sc args) body)
  | .cond c t e => .cond (substExpr pb sc c) (substExpr pb sc t) (substExpr pb sc e)
  | .doBlock stmts ret => .doBlock (substStmts pb sc stmts) (substItem pb (scopeAfterStmts sc stmts) ret)
  | .assign n v => .assign n (substExpr pb sc v)
  | .output e => .output (substExpr pb sc e)
  | .call f args => .call (substExpr pb sc f) (substExprs pb sc args)
  | .access e i => .access (substExpr pb sc e) (substExpr pb sc i)
  | .dot e f => .dot (substExpr pb sc e) f
  | .bin op l r => .bin op (substExpr pb sc l) (substExpr pb sc r)
  | .un op e => .un op (substExpr pb sc e)
  | .fact e => .fact (substExpr pb sc e)
  | .spread e => .spread (substExpr pb sc e)
  | e => e
def substExprs (pb : String → Option Expr) (sc : Scope) : List Expr → List Expr
  | [] => []
  | e :: es => substExpr pb sc e :: substExprs pb sc es
def substItem (pb : String → Option Expr) (sc : Scope) : Item → Item
  | .mk l e t => .mk l (substExpr pb sc e) t
def substItems (pb : String → Option Expr) (sc : Scope) : List Item → List Item
  | [] => []
  | i :: is => substItem pb sc i :: substItems pb sc is
/-- do-block statements in order: a direct assignment removes its name for what follows -/
def substStmts (pb : String → Option Expr) (sc : Scope) : List Item → List Item
  | [] => []
  | i :: rest => substItem pb sc i :: substStmts pb (scopeAfterStmt sc i) rest
def substEntry (pb : String → Option Expr) (sc : Scope) : Entry → Entry
  | .mk l k v t => substKeyed pb sc l k (substExpr pb sc v) t
def substEntries (pb : String → Option Expr) (sc : Scope) : List Entry → List Entry
  | [] => []
  | e :: es => substEntry pb sc e :: substEntries pb sc es
/-- a record entry, given its substituted value: the shorthand `{x}` with `x` in the scope
    becomes `x: value` -/
def substKeyed (pb : String → Option Expr) (sc : Scope) (l : List String) : Key → Expr → Option String → Entry
  | .static k, v, t => .mk l (.static k) v t
  | .dyn ke, v, t => .mk l (.dyn (substExpr pb sc ke)) v t
  | .short n, v, t =>
    (match lookupAL n sc with
     | some sv => .mk l (.static n) (svToExpr pb sv) t
     | none => .mk l (.short n) v t)
  | .spread e, v, t => .mk l (.spread (substExpr pb sc e)) v t
end

theorem lookupAL_scopeRemove (sc : Scope) (n m : String) :
    lookupAL m (scopeRemove sc n) = if m = n then none else lookupAL m sc := by
  unfold scopeRemove
  rw [lookupAL_filter_key (fun k => k != n)]
  by_cases h : m = n <;> simp [h]

theorem lookupAL_scopeMinusArgs (m : String) : ∀ (args : List LArg) (sc : Scope),
    lookupAL m (scopeMinusArgs sc args) = if m ∈ args.map LArg.name then none else lookupAL m sc
  | [], sc => by simp [scopeMinusArgs]
  | a :: as, sc => by
    have ih := lookupAL_scopeMinusArgs m as (scopeRemove sc a.name)
    simp only [scopeMinusArgs, List.foldl_cons] at ih ⊢
    rw [ih, lookupAL_scopeRemove]
    by_cases h1 : m ∈ as.map LArg.name
    · simp [h1]
    · by_cases h2 : m = a.name <;> simp [h1, h2]

theorem lookupAL_scopeAfterStmt (m : String) (sc : Scope) (i : Item) :
    lookupAL m (scopeAfterStmt sc i) =
      if m ∈ boundAfterStmt [] i then none else lookupAL m sc := by
  obtain ⟨l, e, t⟩ := i
  cases e <;> simp [scopeAfterStmt, boundAfterStmt, lookupAL_scopeRemove]

theorem boundAfterStmt_mem (m : String) (bound : List String) (i : Item) :
    m ∈ boundAfterStmt bound i ↔ m ∈ boundAfterStmt [] i ∨ m ∈ bound := by
  obtain ⟨l, e, t⟩ := i
  cases e <;> simp [boundAfterStmt]

theorem boundAfterStmts_mem (m : String) : ∀ (stmts : List Item) (bound : List String),
    m ∈ boundAfterStmts bound stmts ↔ m ∈ boundAfterStmts [] stmts ∨ m ∈ bound
  | [], bound => by simp [boundAfterStmts]
  | i :: rest, bound => by
    have h1 := boundAfterStmts_mem m rest (boundAfterStmt bound i)
    have h2 := boundAfterStmts_mem m rest (boundAfterStmt [] i)
    simp only [boundAfterStmts, List.foldl_cons] at h1 h2 ⊢
    rw [h1, h2, boundAfterStmt_mem m bound i]
    simp only [or_assoc]

theorem lookupAL_scopeAfterStmts (m : String) : ∀ (stmts : List Item) (sc : Scope),
    lookupAL m (scopeAfterStmts sc stmts) =
      if m ∈ boundAfterStmts [] stmts then none else lookupAL m sc
  | [], sc => by simp [scopeAfterStmts, boundAfterStmts]
  | i :: rest, sc => by
    have ih := lookupAL_scopeAfterStmts m rest (scopeAfterStmt sc i)
    have hb := boundAfterStmts_mem m rest (boundAfterStmt [] i)
    simp only [scopeAfterStmts, boundAfterStmts, List.foldl_cons] at ih hb ⊢
    rw [ih, lookupAL_scopeAfterStmt]
    by_cases h1 : m ∈ List.foldl boundAfterStmt [] rest
    · simp [h1, hb]
    · by_cases h2 : m ∈ boundAfterStmt [] i <;> simp [h1, h2, hb]

theorem substExpr_ident_none (pb : String → Option Expr) (sc : Scope) (n : String)
    (h : lookupAL n sc = none) : substExpr pb sc (.ident n) = .ident n := by
  simp [substExpr, h]

/-- the unary minus clears the sign bit and keeps the magnitude, `-0.0` and `-inf` included -/
theorem F64.negate_of_neg (x : F64) (h : x.neg = true) :
    x.negate.negate = x ∧ x.negate.neg = false := by
  have hb : x.nbits < 2 ^ 64 := by unfold F64.nbits; exact x.bits.toNat_lt
  have hs : x.nbits / 2 ^ 63 % 2 = 1 := by simpa [F64.neg] using h
  have hmag : x.mag + 2 ^ 63 = x.nbits := by unfold F64.mag; omega
  have hm : x.mag < 2 ^ 63 := by unfold F64.mag; omega
  have e1 : x.negate = F64.ofNatBits x.mag := by simp [F64.negate, h]
  have hn1 : (F64.ofNatBits x.mag).nbits = x.mag := by
    simp only [F64.ofNatBits, F64.nbits, UInt64.toNat_ofNat']
    omega
  have hneg1 : (F64.ofNatBits x.mag).neg = false := by
    simp only [F64.neg, hn1, decide_eq_false_iff_not]
    omega
  have hmag1 : (F64.ofNatBits x.mag).mag = x.mag := by
    show (F64.ofNatBits x.mag).nbits % 2 ^ 63 = x.mag
    rw [hn1]; omega
  rw [e1]
  refine ⟨?_, hneg1⟩
  simp only [F64.negate, hneg1, hmag1, Bool.false_eq_true, if_false, hmag]
  unfold F64.ofNatBits F64.nbits
  cases x with | mk b => simp

theorem F64.negate_negate_of_neg (x : F64) (h : x.neg = true) : x.negate.negate = x :=
  (F64.negate_of_neg x h).1

theorem F64.negate_of_neg_not_neg (x : F64) (h : x.neg = true) : x.negate.neg = false :=
  (F64.negate_of_neg x h).2

mutual
/-- the value a literal denotes; `q` is what `0/0` evaluates to (some NaN) -/
def svToValueN (q : F64) : SV → Value
  | .num x => .num (if x.isNaN then q else x)
  | .bool b => .bool b
  | .null => .null
  | .str s => .str s
  | .list xs => .list (svListToValueN q xs)
  | .record kvs => .record (svRecToValueN q kvs [])
  | .lambda _ _ => .null
  | .builtin n => .builtin n
def svListToValueN (q : F64) : List SV → List Value
  | [] => []
  | x :: xs => svToValueN q x :: svListToValueN q xs
/-- entries inserted in order into an IndexMap (a repeated key keeps its first position and
    takes the last value) -/
def svRecToValueN (q : F64) : List (String × SV) → Frame → Frame
  | [], acc => acc
  | (k, v) :: r, acc => svRecToValueN q r (insertAL k (svToValueN q v) acc)
end

mutual
/-- no function value anywhere (built-in names are fine: they are literals) -/
def noLambda : SV → Bool
  | .lambda _ _ => false
  | .list xs => noLambdaList xs
  | .record kvs => noLambdaRec kvs
  | _ => true
def noLambdaList : List SV → Bool
  | [] => true
  | x :: xs => noLambda x && noLambdaList xs
def noLambdaRec : List (String × SV) → Bool
  | [] => true
  | (_, v) :: r => noLambda v && noLambdaRec r
end

def keyFuel (k : String) : Nat := 1 + (pieces k.toList).length

mutual
/-- fuel that suffices to evaluate the literal (a bound on its size) -/
def litFuel : SV → Nat
  | .num _ => 2
  | .str s => keyFuel s
  | .list xs => 1 + litFuelList xs
  | .record kvs => 1 + litFuelRec kvs
  | _ => 1
def litFuelList : List SV → Nat
  | [] => 1
  | x :: xs => 1 + litFuel x + litFuelList xs
def litFuelRec : List (String × SV) → Nat
  | [] => 1
  | (k, v) :: r => 1 + keyFuel k + litFuel v + litFuelRec r
end

theorem eval_add_str (ops : NumOps) (l : Expr) (a b : String) (n : Nat) (hn : 1 ≤ n)
    (hl : ∀ f, n ≤ f → ∀ d st, eval ops f d l st = (.ok (.str a), st)) :
    ∀ f, n + 1 ≤ f → ∀ d st, eval ops f d (.bin .add l (.str b)) st = (.ok (.str (a ++ b)), st) := by
  intro f hf d st
  obtain ⟨f', rfl⟩ : ∃ f', f = f' + 1 := ⟨f - 1, by omega⟩
  obtain ⟨f'', rfl⟩ : ∃ f'', f' = f'' + 1 := ⟨f' - 1, by omega⟩
  rw [eval_bin, hl (f''+1) (by omega), R.bind_ok, eval_str, R.bind_ok, evalBin_value _ _ _ _ _ _ _ rfl]
  rfl

theorem eval_chain (ops : NumOps) : ∀ (ps : List (List Char)) (acc : Expr) (a : String) (n : Nat), 1 ≤ n →
    (∀ f, n ≤ f → ∀ d st, eval ops f d acc st = (.ok (.str a), st)) →
    ∀ f, n + ps.length ≤ f → ∀ d st,
      eval ops f d (ps.foldl (fun acc q => .bin .add acc (.str (String.ofList q))) acc) st =
        (.ok (.str (a ++ String.ofList ps.flatten)), st)
  | [], acc, a, n, _, h => by
    intro f hf d st
    simp only [List.foldl_nil, List.flatten_nil]
    rw [h f (by simpa using hf)]
    simp
  | p :: ps, acc, a, n, hn, h => by
    intro f hf d st
    simp only [List.foldl_cons, List.flatten_cons]
    have h1 := eval_add_str ops acc a (String.ofList p) n hn h
    have := eval_chain ops ps _ _ (n + 1) (by omega) h1 f (by simp at hf; omega) d st
    rw [this]
    simp [String.append_assoc, String.ofList_append]

theorem eval_strToExpr (ops : NumOps) (s : String) (f : Nat) (hf : keyFuel s ≤ f) (d : Nat) (st : ES) :
    eval ops f d (strToExpr s) st = (.ok (.str s), st) := by
  unfold strToExpr
  unfold keyFuel at hf
  split
  · cases hp : pieces s.toList with
    | nil =>
      have := pieces_flatten s.toList
      rw [hp] at this
      simp only [List.flatten_nil] at this
      simp only [strChain]
      obtain ⟨f', rfl⟩ : ∃ f', f = f' + 1 := ⟨f - 1, by omega⟩
      rw [eval_str]
      have : s = "" := by apply String.toList_inj.mp; simp [← this]
      rw [this]
    | cons p ps =>
      simp only [strChain]
      rw [hp] at hf
      have h0 : ∀ f, 1 ≤ f → ∀ d st, eval ops f d (.str (String.ofList p)) st = (.ok (.str (String.ofList p)), st) := by
        intro f hf d st
        obtain ⟨f', rfl⟩ : ∃ f', f = f' + 1 := ⟨f - 1, by omega⟩
        rw [eval_str]
      rw [eval_chain ops ps _ _ 1 (by omega) h0 f (by simp at hf; omega) d st]
      have := pieces_flatten s.toList
      rw [hp] at this
      simp only [List.flatten_cons] at this
      have e : String.ofList p ++ String.ofList ps.flatten = s := by
        apply String.toList_inj.mp; simp [this]
      rw [e]
  · obtain ⟨f', rfl⟩ : ∃ f', f = f' + 1 := ⟨f - 1, by omega⟩
    rw [eval_str]

theorem eval_numToExpr (ops : NumOps) (x : F64) (f : Nat) (hf : 2 ≤ f) (d : Nat) (st : ES) :
    eval ops f d (numToExpr x) st =
      (.ok (.num (if x.isNaN then ops.div F64.zero F64.zero else x)), st) := by
  obtain ⟨f', rfl⟩ : ∃ f', f = f' + 1 + 1 := ⟨f - 2, by omega⟩
  unfold numToExpr
  by_cases hn : x.isNaN = true
  · simp only [hn, if_true]
    rw [eval_bin, eval_num, R.bind_ok, eval_num, R.bind_ok, evalBin_value _ _ _ _ _ _ _ rfl]
    rfl
  · simp only [hn, Bool.false_eq_true, if_false]
    by_cases hs : x.neg = true
    · simp only [hs, if_true]
      rw [eval_un, eval_num, R.bind_ok, unOp, F64.negate_negate_of_neg x hs]
    · simp only [hs, Bool.false_eq_true, if_false]
      rw [eval_num]

def isSpreadV : Value → Bool | .spread _ => true | _ => false

theorem flattenSpreads_of_noSpread : ∀ (vs : List Value), (∀ v ∈ vs, isSpreadV v = false) →
    flattenSpreads vs = vs
  | [], _ => rfl
  | v :: vs, h => by
    have ih := flattenSpreads_of_noSpread vs (fun w hw => h w (List.mem_cons_of_mem _ hw))
    have hv := h v List.mem_cons_self
    unfold flattenSpreads at ih ⊢
    rw [List.flatMap_cons, ih]
    cases v <;> simp_all [isSpreadV]

theorem svToValueN_noSpread (q : F64) (v : SV) : isSpreadV (svToValueN q v) = false := by
  cases v <;> simp [svToValueN, isSpreadV]

theorem svListToValueN_noSpread (q : F64) : ∀ (xs : List SV), ∀ v ∈ svListToValueN q xs, isSpreadV v = false
  | [], v, h => by simp [svListToValueN] at h
  | x :: xs, v, h => by
    simp only [svListToValueN, List.mem_cons] at h
    rcases h with h | h
    · rw [h]; exact svToValueN_noSpread q x
    · exact svListToValueN_noSpread q xs v h

theorem eval_keyToKey (ops : NumOps) (k : String) : bothQuotes k = true →
    ∀ f, keyFuel k ≤ f → ∀ d st, eval ops f d (strToExpr k) st = (.ok (.str k), st) :=
  fun _ f hf d st => eval_strToExpr ops k f hf d st

mutual
/-- the literal of a captured value evaluates, in every state and at every depth, to that
    value (NaN payloads: to whatever NaN `0/0` gives), and leaves the state alone -/
theorem lit_eval (ops : NumOps) (pb : String → Option Expr) : ∀ (v : SV), noLambda v = true →
    ∀ f, litFuel v ≤ f → ∀ d st,
      eval ops f d (svToExpr pb v) st = (.ok (svToValueN (ops.div F64.zero F64.zero) v), st)
  | .num x, _, f, hf, d, st => by
    simp only [litFuel] at hf
    simp only [svToExpr, svToValueN]
    exact eval_numToExpr ops x f hf d st
  | .bool b, _, f, hf, d, st => by
    simp only [litFuel] at hf
    obtain ⟨f', rfl⟩ : ∃ f', f = f' + 1 := ⟨f - 1, by omega⟩
    simp only [svToExpr, svToValueN]; rw [eval]
  | .null, _, f, hf, d, st => by
    simp only [litFuel] at hf
    obtain ⟨f', rfl⟩ : ∃ f', f = f' + 1 := ⟨f - 1, by omega⟩
    simp only [svToExpr, svToValueN]; rw [eval]
  | .builtin n, _, f, hf, d, st => by
    simp only [litFuel] at hf
    obtain ⟨f', rfl⟩ : ∃ f', f = f' + 1 := ⟨f - 1, by omega⟩
    simp only [svToExpr, svToValueN]; rw [eval]
  | .str s, _, f, hf, d, st => by
    simp only [litFuel] at hf
    simp only [svToExpr, svToValueN]
    exact eval_strToExpr ops s f hf d st
  | .lambda _ _, h, _, _, _, _ => by simp [noLambda] at h
  | .list xs, h, f, hf, d, st => by
    simp only [litFuel] at hf
    simp only [noLambda] at h
    obtain ⟨f', rfl⟩ : ∃ f', f = f' + 1 := ⟨f - 1, by omega⟩
    simp only [svToExpr, svToValueN]
    rw [eval_list, lit_evalItems ops pb xs h f' (by omega) d st, R.bind_ok,
      flattenSpreads_of_noSpread _ (svListToValueN_noSpread _ xs)]
  | .record kvs, h, f, hf, d, st => by
    simp only [litFuel] at hf
    simp only [noLambda] at h
    obtain ⟨f', rfl⟩ : ∃ f', f = f' + 1 := ⟨f - 1, by omega⟩
    simp only [svToExpr, svToValueN]
    rw [eval_record, lit_evalEntries ops pb kvs h f' (by omega) d [] st, R.bind_ok]
theorem lit_evalItems (ops : NumOps) (pb : String → Option Expr) : ∀ (xs : List SV), noLambdaList xs = true →
    ∀ f, litFuelList xs ≤ f → ∀ d st,
      evalItems ops f d (svToItems pb xs) st =
        (.ok (svListToValueN (ops.div F64.zero F64.zero) xs), st)
  | [], _, f, hf, d, st => by
    simp only [litFuelList] at hf
    obtain ⟨f', rfl⟩ : ∃ f', f = f' + 1 := ⟨f - 1, by omega⟩
    simp only [svToItems, svListToValueN]; rw [evalItems]
  | x :: xs, h, f, hf, d, st => by
    simp only [litFuelList] at hf
    simp only [noLambdaList, Bool.and_eq_true] at h
    obtain ⟨f', rfl⟩ : ∃ f', f = f' + 1 := ⟨f - 1, by omega⟩
    simp only [svToItems, svListToValueN, Item.plain]
    rw [evalItems_cons, lit_eval ops pb x h.1 f' (by omega) d st, R.bind_ok,
      lit_evalItems ops pb xs h.2 f' (by omega) d st, R.bind_ok]
theorem lit_evalEntries (ops : NumOps) (pb : String → Option Expr) : ∀ (kvs : List (String × SV)),
    noLambdaRec kvs = true → ∀ f, litFuelRec kvs ≤ f → ∀ d acc st,
      evalEntries ops f d (svToEntries pb kvs) acc st =
        (.ok (svRecToValueN (ops.div F64.zero F64.zero) kvs acc), st)
  | [], _, f, hf, d, acc, st => by
    simp only [litFuelRec] at hf
    obtain ⟨f', rfl⟩ : ∃ f', f = f' + 1 := ⟨f - 1, by omega⟩
    simp only [svToEntries, svRecToValueN]; rw [evalEntries]
  | (k, v) :: r, h, f, hf, d, acc, st => by
    simp only [litFuelRec] at hf
    simp only [noLambdaRec, Bool.and_eq_true] at h
    obtain ⟨f', rfl⟩ : ∃ f', f = f' + 1 := ⟨f - 1, by omega⟩
    simp only [svToEntries, svRecToValueN, keyToKey]
    by_cases hq : bothQuotes k = true
    · simp only [hq, if_true]
      rw [evalEntries_dyn, eval_strToExpr ops k f' (by omega) d st, R.bind_ok]
      dsimp only
      rw [lit_eval ops pb v h.1 f' (by omega) d st, R.bind_ok,
        lit_evalEntries ops pb r h.2 f' (by omega) d _ st]
    · simp only [hq, Bool.false_eq_true, if_false]
      rw [evalEntries_static, lit_eval ops pb v h.1 f' (by omega) d st, R.bind_ok,
        lit_evalEntries ops pb r h.2 f' (by omega) d _ st]
end

mutual
/-- the captured value itself, as a tree (records in their order); junk on functions -/
def svToValue : SV → Value
  | .num x => .num x
  | .bool b => .bool b
  | .null => .null
  | .str s => .str s
  | .list xs => .list (svListToValue xs)
  | .record kvs => .record (svRecToValue kvs)
  | .lambda _ _ => .null
  | .builtin n => .builtin n
def svListToValue : List SV → List Value
  | [] => []
  | x :: xs => svToValue x :: svListToValue xs
def svRecToValue : List (String × SV) → List (String × Value)
  | [] => []
  | (k, v) :: r => (k, svToValue v) :: svRecToValue r
end

def keysDistinct {α} : List (String × α) → Bool
  | [] => true
  | (k, _) :: r => r.all (fun kv => kv.1 != k) && keysDistinct r

mutual
/-- data as an evaluation can have produced it: no NaN (a NaN literal evaluates to SOME NaN,
    see `lit_eval`), no function, record keys distinct (as in an IndexMap) -/
def isLit : SV → Bool
  | .num x => !x.isNaN
  | .lambda _ _ => false
  | .list xs => isLitList xs
  | .record kvs => keysDistinct kvs && isLitRec kvs
  | _ => true
def isLitList : List SV → Bool
  | [] => true
  | x :: xs => isLit x && isLitList xs
def isLitRec : List (String × SV) → Bool
  | [] => true
  | (_, v) :: r => isLit v && isLitRec r
end

theorem svRecToValue_keys : ∀ (r : List (String × SV)) (kv : String × Value), kv ∈ svRecToValue r →
    ∃ kv' ∈ r, kv'.1 = kv.1
  | [], kv, h => by simp [svRecToValue] at h
  | (k, v) :: r, kv, h => by
    simp only [svRecToValue, List.mem_cons] at h
    rcases h with h | h
    · exact ⟨(k, v), List.mem_cons_self, by rw [h]⟩
    · obtain ⟨kv', h1, h2⟩ := svRecToValue_keys r kv h
      exact ⟨kv', List.mem_cons_of_mem _ h1, h2⟩

mutual
theorem svToValueN_lit (q : F64) : ∀ (v : SV), isLit v = true → svToValueN q v = svToValue v
  | .num x, h => by
    simp only [isLit, Bool.not_eq_true'] at h
    simp [svToValueN, svToValue, h]
  | .bool _, _ | .null, _ | .str _, _ | .builtin _, _ => by simp [svToValueN, svToValue]
  | .lambda _ _, h => by simp [isLit] at h
  | .list xs, h => by
    simp only [isLit] at h
    simp only [svToValueN, svToValue, svListToValueN_lit q xs h]
  | .record kvs, h => by
    simp only [isLit, Bool.and_eq_true] at h
    simp only [svToValueN, svToValue]
    rw [svRecToValueN_lit q kvs h.1 h.2 [] (by simp)]
    simp
theorem svListToValueN_lit (q : F64) : ∀ (xs : List SV), isLitList xs = true →
    svListToValueN q xs = svListToValue xs
  | [], _ => rfl
  | x :: xs, h => by
    simp only [isLitList, Bool.and_eq_true] at h
    simp only [svListToValueN, svListToValue, svToValueN_lit q x h.1, svListToValueN_lit q xs h.2]
theorem svRecToValueN_lit (q : F64) : ∀ (kvs : List (String × SV)), keysDistinct kvs = true →
    isLitRec kvs = true → ∀ (acc : Frame), (∀ a ∈ acc, ∀ kv ∈ kvs, a.1 ≠ kv.1) →
    svRecToValueN q kvs acc = acc ++ svRecToValue kvs
  | [], _, _, acc, _ => by simp [svRecToValueN, svRecToValue]
  | (k, v) :: r, hd, hl, acc, hacc => by
    simp only [keysDistinct, Bool.and_eq_true, List.all_eq_true, bne_iff_ne] at hd
    simp only [isLitRec, Bool.and_eq_true] at hl
    simp only [svRecToValueN, svRecToValue]
    rw [insertAL_fresh k _ acc (fun a ha => hacc a ha (k, v) List.mem_cons_self),
      svToValueN_lit q v hl.1, svRecToValueN_lit q r hd.2 hl.2]
    · simp
    · intro a ha kv hkv
      rcases List.mem_append.mp ha with ha | ha
      · exact hacc a ha kv (List.mem_cons_of_mem _ hkv)
      · simp only [List.mem_singleton] at ha
        rw [ha]
        exact fun e => hd.1 kv hkv e.symm
end

mutual
/-- the literal is printed by `svToSource` without protective parentheses of its own, at every
    level: no NaN, no number with the sign bit, no string or record key with both quote
    kinds, no function -/
def bare : SV → Bool
  | .num x => !x.isNaN && !x.neg
  | .str s => !bothQuotes s
  | .list xs => bareList xs
  | .record kvs => bareRec kvs
  | .lambda _ _ => false
  | _ => true
def bareList : List SV → Bool
  | [] => true
  | x :: xs => bare x && bareList xs
def bareRec : List (String × SV) → Bool
  | [] => true
  | (k, v) :: r => !bothQuotes k && bare v && bareRec r
end

/-- every captured value is `bare` and every captured name prints as itself as a record key
    (it is an identifier: `isValidIdentifier`) -/
def ScopeBare (sc : Scope) : Prop := ∀ kv ∈ sc, bare kv.2 = true ∧ formatRecordKey kv.1 = kv.1

theorem ScopeBare.nil : ScopeBare [] := fun _ h => by cases h

theorem ScopeBare.remove {sc : Scope} (h : ScopeBare sc) (n : String) : ScopeBare (scopeRemove sc n) :=
  fun kv hkv => h kv (List.mem_filter.mp hkv).1

theorem ScopeBare.minusArgs {sc : Scope} (h : ScopeBare sc) : ∀ (args : List LArg), ScopeBare (scopeMinusArgs sc args) := by
  intro args
  induction args generalizing sc with
  | nil => exact h
  | cons a as ih => exact ih (h.remove a.name)

theorem ScopeBare.afterStmt {sc : Scope} (h : ScopeBare sc) (i : Item) : ScopeBare (scopeAfterStmt sc i) := by
  obtain ⟨l, e, t⟩ := i
  cases e <;> first | exact h | exact h.remove _

theorem ScopeBare.afterStmts {sc : Scope} (h : ScopeBare sc) : ∀ (stmts : List Item), ScopeBare (scopeAfterStmts sc stmts) := by
  intro stmts
  induction stmts generalizing sc with
  | nil => exact h
  | cons i rest ih => exact ih (h.afterStmt i)

theorem ScopeBare.lookup {sc : Scope} (h : ScopeBare sc) {n : String} {v : SV} (hl : lookupAL n sc = some v) :
    bare v = true ∧ formatRecordKey n = n := h (n, v) (lookupAL_mem hl)

mutual
theorem svToSource_bare (pb : String → Option Expr) : ∀ (v : SV), bare v = true →
    svToSource v = exprSrc [] (svToExpr pb v)
  | .num x, h => by
    simp only [bare, Bool.and_eq_true, Bool.not_eq_true'] at h
    simp [svToSource, svToExpr, numToExpr, h.1, h.2, exprSrc]
  | .bool b, _ => by simp [svToSource, svToExpr, exprSrc]
  | .null, _ => by simp [svToSource, svToExpr, exprSrc]
  | .builtin n, _ => by simp [svToSource, svToExpr, exprSrc]
  | .str s, h => by
    simp only [bare, Bool.not_eq_true'] at h
    simp [svToSource, svToExpr, strToExpr, h, exprSrc]
  | .lambda _ _, h => by simp [bare] at h
  | .list xs, h => by
    simp only [bare] at h
    simp only [svToSource, svToExpr, exprSrc, svListToSource_bare pb xs h]
  | .record kvs, h => by
    simp only [bare] at h
    simp only [svToSource, svToExpr, exprSrc, svRecToSource_bare pb kvs h]
theorem svListToSource_bare (pb : String → Option Expr) : ∀ (xs : List SV), bareList xs = true →
    svListToSource xs = itemsSrc [] (svToItems pb xs)
  | [], _ => rfl
  | x :: xs, h => by
    simp only [bareList, Bool.and_eq_true] at h
    simp only [svListToSource, svToItems, itemsSrc, itemSrc, Item.plain, svToSource_bare pb x h.1,
      svListToSource_bare pb xs h.2]
theorem svRecToSource_bare (pb : String → Option Expr) : ∀ (kvs : List (String × SV)), bareRec kvs = true →
    svRecToSource kvs = entriesSrc [] (svToEntries pb kvs)
  | [], _ => rfl
  | (k, v) :: r, h => by
    simp only [bareRec, Bool.and_eq_true, Bool.not_eq_true'] at h
    simp only [svRecToSource, svToEntries, entriesSrc, entrySrc, keyToKey, h.1.1, Bool.false_eq_true,
      if_false, keyedSrc, svToSource_bare pb v h.1.2, svRecToSource_bare pb r h.2]
end

/-- literal heads: no operator, no open-ended form -/
def atomHead : Expr → Bool
  | .num _ | .str _ | .bool _ | .null | .list _ | .record _ | .builtin _ => true
  | _ => false

theorem atomHead_shape (e : Expr) (h : atomHead e = true) :
    (∀ pos, needsParens e pos = false) ∧ endsOpen e = false ∧ lambdaBodyNeedsParens e = false := by
  cases e <;> simp only [atomHead, Bool.false_eq_true] at h <;>
    (refine ⟨fun pos => ?_, by simp [endsOpen], by simp [lambdaBodyNeedsParens]⟩
     unfold needsParens
     cases pos <;> simp [endsOpen])

theorem bare_atomHead (pb : String → Option Expr) (v : SV) (h : bare v = true) :
    atomHead (svToExpr pb v) = true := by
  cases v with
  | num x =>
    simp only [bare, Bool.and_eq_true, Bool.not_eq_true'] at h
    simp [svToExpr, numToExpr, h.1, h.2, atomHead]
  | str s =>
    simp only [bare, Bool.not_eq_true'] at h
    simp [svToExpr, strToExpr, h, atomHead]
  | lambda _ _ => simp [bare] at h
  | bool _ | null | list _ | record _ | builtin _ => simp [svToExpr, atomHead]

/-- every captured literal is closed: it does not end with an open-ended form and is no
    `via` / `into` / `where` chain.  This is all the parenthesis decisions of the printer need to
    know about the scope. -/
def LitClosed (pb : String → Option Expr) (sc : Scope) : Prop :=
  ∀ n v, lookupAL n sc = some v →
    endsOpen (svToExpr pb v) = false ∧ lambdaBodyNeedsParens (svToExpr pb v) = false

theorem ScopeBare.litClosed {sc : Scope} (h : ScopeBare sc) (pb : String → Option Expr) :
    LitClosed pb sc := fun _ v hv =>
  (atomHead_shape _ (bare_atomHead pb v (h.lookup hv).1)).2

theorem endsOpen_subst (pb : String → Option Expr) : ∀ (e : Expr) (sc : Scope), LitClosed pb sc →
    endsOpen (substExpr pb sc e) = endsOpen e
  | .ident n, sc, h => by
    simp only [substExpr]
    split
    · rename_i v hv
      rw [(h n v hv).1]; rfl
    · rfl
  | .bin op l r, sc, h => by simp only [substExpr, endsOpen]; exact endsOpen_subst pb r sc h
  | .un op e, sc, h => by simp only [substExpr, endsOpen]; exact endsOpen_subst pb e sc h
  | .num _, _, _ | .str _, _, _ | .bool _, _, _ | .null, _, _ | .inref _, _, _ | .builtin _, _, _
  | .list _, _, _ | .record _, _, _ | .lambda _ _, _, _ | .cond _ _ _, _, _ | .doBlock _ _, _, _
  | .assign _ _, _, _ | .output _, _, _ | .call _ _, _, _ | .access _ _, _, _ | .dot _ _, _, _
  | .fact _, _, _ | .spread _, _, _ => by simp [substExpr, endsOpen]

theorem lbnp_subst (pb : String → Option Expr) : ∀ (e : Expr) (sc : Scope), LitClosed pb sc →
    lambdaBodyNeedsParens (substExpr pb sc e) = lambdaBodyNeedsParens e
  | .ident n, sc, h => by
    simp only [substExpr]
    split
    · rename_i v hv
      rw [(h n v hv).2]; rfl
    · rfl
  | .bin op l r, sc, h => by
    simp only [substExpr, lambdaBodyNeedsParens_bin, lbnp_subst pb l sc h]
  | .num _, _, _ | .str _, _, _ | .bool _, _, _ | .null, _, _ | .inref _, _, _ | .builtin _, _, _
  | .list _, _, _ | .record _, _, _ | .lambda _ _, _, _ | .cond _ _ _, _, _ | .doBlock _ _, _, _
  | .assign _ _, _, _ | .output _, _, _ | .call _ _, _, _ | .access _ _, _, _ | .dot _ _, _, _
  | .un _ _, _, _ | .fact _, _, _ | .spread _, _, _ => by simp [substExpr, lambdaBodyNeedsParens]

/-- the printer's decision on the substituted tree is its decision on the original one, provided
    the literal put in place of a captured name needs no parentheses at that position -/
theorem needsParens_subst (pb : String → Option Expr) (e : Expr) (sc : Scope) (h : LitClosed pb sc)
    (pos : Pos)
    (hid : ∀ n v, e = .ident n → lookupAL n sc = some v → needsParens (svToExpr pb v) pos = false) :
    needsParens (substExpr pb sc e) pos = needsParens e pos := by
  cases e with
  | ident n =>
    simp only [substExpr]
    split
    · rename_i v hv
      rw [hid n v rfl hv]
      unfold needsParens; cases pos <;> simp [endsOpen]
    · rfl
  | bin op l r =>
    have := endsOpen_subst pb (.bin op l r) sc h
    simp only [substExpr] at this ⊢
    unfold needsParens
    rw [this]
  | un op e =>
    have := endsOpen_subst pb (.un op e) sc h
    simp only [substExpr] at this ⊢
    unfold needsParens
    rw [this]
  | lambda _ _ | cond _ _ _ | assign _ _ | output _ =>
    simp only [substExpr]; unfold needsParens; simp [endsOpen]
  | num _ | str _ | bool _ | null | inref _ | builtin _ | list _ | record _ | doBlock _ _
  | call _ _ | access _ _ | dot _ _ | fact _ | spread _ =>
    simp only [substExpr] <;> (unfold needsParens; simp [endsOpen])

theorem ScopeBare.needsParens_subst {sc : Scope} (h : ScopeBare sc) (pb : String → Option Expr)
    (e : Expr) (pos : Pos) : needsParens (substExpr pb sc e) pos = needsParens e pos :=
  Emit.needsParens_subst pb e sc (h.litClosed pb) pos fun _ v _ hv =>
    (atomHead_shape _ (bare_atomHead pb v (h.lookup hv).1)).1 pos

mutual
theorem emit_expr (pb : String → Option Expr) : ∀ (e : Expr) (sc : Scope), ScopeBare sc →
    exprSrc sc e = exprSrc [] (substExpr pb sc e)
  | .ident n, sc, h => by
    simp only [substExpr, exprSrc]
    cases hv : lookupAL n sc with
    | some v => exact svToSource_bare pb v (h.lookup hv).1
    | none => simp [exprSrc, lookupAL]
  | .num _, _, _ | .str _, _, _ | .bool _, _, _ | .null, _, _ | .inref _, _, _ | .builtin _, _, _ => by
    simp [substExpr, exprSrc]
  | .list items, sc, h => by
    simp only [substExpr, exprSrc, emit_items pb items sc h]
  | .record es, sc, h => by
    simp only [substExpr, exprSrc, emit_entries pb es sc h]
  | .lambda args body, sc, h => by
    have hb := emit_expr pb body (scopeMinusArgs sc args) (h.minusArgs args)
    have hp := lbnp_subst pb body (scopeMinusArgs sc args) ((h.minusArgs args).litClosed pb)
    simp only [substExpr, exprSrc]
    rw [foldl_scopeRemove_nil,
      show List.foldl (fun s a => scopeRemove s a.name) sc args = scopeMinusArgs sc args from rfl,
      hp, hb]
  | .cond c t e, sc, h => by
    simp only [substExpr, exprSrc, emit_expr pb c sc h, emit_expr pb t sc h, emit_expr pb e sc h]
  | .doBlock stmts (.mk l e t), sc, h => by
    simp only [substExpr, substItem, exprSrc, retSrc, scopeAfterStmts_nil,
      emit_stmts pb stmts sc h, emit_expr pb e (scopeAfterStmts sc stmts) (h.afterStmts stmts)]
  | .assign n v, sc, h => by simp only [substExpr, exprSrc, emit_expr pb v sc h]
  | .output e, sc, h => by simp only [substExpr, exprSrc, emit_expr pb e sc h]
  | .call f args, sc, h => by
    simp only [substExpr, exprSrc, emit_expr pb f sc h, emit_exprs pb args sc h,
      h.needsParens_subst pb f _]
  | .access e i, sc, h => by
    simp only [substExpr, exprSrc, emit_expr pb e sc h, emit_expr pb i sc h, h.needsParens_subst pb e _]
  | .dot e f, sc, h => by
    simp only [substExpr, exprSrc, emit_expr pb e sc h, h.needsParens_subst pb e _]
  | .bin op l r, sc, h => by
    simp only [substExpr, exprSrc, emit_expr pb l sc h, emit_expr pb r sc h,
      h.needsParens_subst pb l _, h.needsParens_subst pb r _]
  | .un op e, sc, h => by
    simp only [substExpr, exprSrc, emit_expr pb e sc h, h.needsParens_subst pb e _]
  | .fact e, sc, h => by
    simp only [substExpr, exprSrc, emit_expr pb e sc h, h.needsParens_subst pb e _]
  | .spread e, sc, h => by simp only [substExpr, exprSrc, emit_expr pb e sc h]
theorem emit_exprs (pb : String → Option Expr) : ∀ (es : List Expr) (sc : Scope), ScopeBare sc →
    exprsSrc sc es = exprsSrc [] (substExprs pb sc es)
  | [], _, _ => rfl
  | e :: es, sc, h => by
    simp only [substExprs, exprsSrc, emit_expr pb e sc h, emit_exprs pb es sc h]
theorem emit_items (pb : String → Option Expr) : ∀ (is : List Item) (sc : Scope), ScopeBare sc →
    itemsSrc sc is = itemsSrc [] (substItems pb sc is)
  | [], _, _ => rfl
  | .mk l e t :: is, sc, h => by
    simp only [substItems, substItem, itemsSrc, itemSrc, emit_expr pb e sc h, emit_items pb is sc h]
theorem emit_stmts (pb : String → Option Expr) : ∀ (stmts : List Item) (sc : Scope), ScopeBare sc →
    doStmtsSrc sc stmts = doStmtsSrc [] (substStmts pb sc stmts)
  | [], _, _ => rfl
  | .mk l e t :: rest, sc, h => by
    simp only [substStmts, substItem, doStmtsSrc, stmtSrc, scopeAfterStmt_nil, emit_expr pb e sc h,
      emit_stmts pb rest (scopeAfterStmt sc (.mk l e t)) (h.afterStmt _)]
theorem emit_entries (pb : String → Option Expr) : ∀ (es : List Entry) (sc : Scope), ScopeBare sc →
    entriesSrc sc es = entriesSrc [] (substEntries pb sc es)
  | [], _, _ => rfl
  | .mk l (.static k) v t :: es, sc, h => by
    simp only [substEntries, substEntry, substKeyed, entriesSrc, entrySrc, keyedSrc,
      emit_expr pb v sc h, emit_entries pb es sc h]
  | .mk l (.dyn ke) v t :: es, sc, h => by
    simp only [substEntries, substEntry, substKeyed, entriesSrc, entrySrc, keyedSrc,
      emit_expr pb v sc h, emit_expr pb ke sc h, emit_entries pb es sc h]
  | .mk l (.spread se) v t :: es, sc, h => by
    simp only [substEntries, substEntry, substKeyed, entriesSrc, entrySrc, keyedSrc,
      emit_expr pb se sc h, emit_entries pb es sc h]
  | .mk l (.short n) v t :: es, sc, h => by
    simp only [substEntries, substEntry, substKeyed, entriesSrc, entrySrc, keyedSrc,
      emit_entries pb es sc h]
    cases hv : lookupAL n sc with
    | none => simp [entrySrc, keyedSrc, lookupAL]
    | some sv =>
      have := h.lookup hv
      simp [entrySrc, keyedSrc, this.2, svToSource_bare pb sv this.1]
end

mutual
/-- the covered fragment: literals, identifiers, `#field`, built-in names, lists, records
    (all four key forms), conditionals, index and field access, unary operators, factorial,
    spread, every binary operator except `via` / `into` / `where`, and do-blocks whose direct
    statements are such expressions or assignments of such expressions.  NOT covered: calls
    (and the three calling operators), lambda expressions, `output`, and assignments that are
    not direct do-block statements. -/
def frag : Expr → Bool
  | .num _ | .str _ | .bool _ | .null | .ident _ | .builtin _ | .inref _ => true
  | .list items => fragItems items
  | .record es => fragEntries es
  | .cond c t e => frag c && frag t && frag e
  | .access e i => frag e && frag i
  | .dot e _ => frag e
  | .bin op l r => op != .via && op != .into && op != .where_ && frag l && frag r
  | .un _ e => frag e
  | .fact e => frag e
  | .spread e => frag e
  | .doBlock stmts ret => fragStmts stmts && fragStmt ret
  | _ => false
def fragItems : List Item → Bool
  | [] => true
  | .mk _ e _ :: is => frag e && fragItems is
def fragEntries : List Entry → Bool
  | [] => true
  | .mk _ k v _ :: es => fragKey k && frag v && fragEntries es
def fragKey : Key → Bool
  | .static _ => true
  | .short _ => true
  | .dyn e => frag e
  | .spread e => frag e
def fragStmt : Item → Bool
  | .mk _ (.assign _ v) _ => frag v
  | .mk _ e _ => frag e
def fragStmts : List Item → Bool
  | [] => true
  | i :: is => fragStmt i && fragStmts is
end

/-- the two environments: `A` has the captured values (bound to the names of `sc`), `B` need
    not; every other name is resolved alike.  `q` is the NaN that `0/0` gives, `K` bounds the
    fuel the literals need. -/
structure Rel (q : F64) (K : Nat) (N : String → Prop) (sc : Scope) (A B : List Frame) : Prop where
  inl : ∀ n sv, lookupAL n sc = some sv →
    noLambda sv = true ∧ litFuel sv ≤ K ∧ envGet A n = some (svToValueN q sv) ∧ n ∉ Gen.specialIdents
  out : ∀ n, N n → lookupAL n sc = none → envGet A n = envGet B n
  inputs : lookupAL "inputs" sc = none ∧ envGet A "inputs" = envGet B "inputs"

theorem Rel.push {q K N sc A B} (h : Rel q K N sc A B) : Rel q K N sc ([] :: A) ([] :: B) :=
  ⟨fun n sv hn => by rw [envGet_push_nil]; exact h.inl n sv hn,
   fun n hN hn => by rw [envGet_push_nil, envGet_push_nil]; exact h.out n hN hn,
   ⟨h.inputs.1, by rw [envGet_push_nil, envGet_push_nil]; exact h.inputs.2⟩⟩

theorem Rel.assign {q K N sc fa ea fb eb} (h : Rel q K N sc (fa :: ea) (fb :: eb)) (x : String) (v : Value) :
    Rel q K (fun m => N m ∨ m = x) (scopeRemove sc x) (insertAL x v fa :: ea) (insertAL x v fb :: eb) := by
  refine ⟨fun n sv hn => ?_, fun n hN hn => ?_, ?_, ?_⟩
  · rw [lookupAL_scopeRemove] at hn
    by_cases hnx : n = x
    · simp [hnx] at hn
    · simp only [hnx, if_false] at hn
      have := h.inl n sv hn
      rw [envGet_insert]; simpa [hnx] using this
  · rw [lookupAL_scopeRemove] at hn
    rw [envGet_insert, envGet_insert]
    by_cases hnx : n = x
    · simp [hnx]
    · simp only [hnx, if_false] at hn ⊢
      exact h.out n (hN.resolve_right hnx) hn
  · rw [lookupAL_scopeRemove]; simp [h.inputs.1]
  · rw [envGet_insert, envGet_insert]
    by_cases hi : "inputs" = x
    · simp [hi]
    · simp only [hi, if_false]; exact h.inputs.2

/-- outcome `pA` of the original against `pB` of the substituted expression: the original
    leaves the environment alone, and unless it ran out of fuel the substituted one gives the
    same result and leaves its environment alone too -/
def SimE {α} (pA : R α) (sA : ES) (pB : R α) (sB : ES) : Prop :=
  pA.2.env = sA.env ∧ (pA.1 = .fuel ∨ (pB.1 = pA.1 ∧ pB.2.env = sB.env))

/-- the same for a do-block statement / a do-block body, which write the innermost frame -/
def SimD (post : List Frame → List Frame → Prop) (pA : R Value) (ea : List Frame) (pB : R Value)
    (eb : List Frame) : Prop :=
  (∃ fa', pA.2.env = fa' :: ea) ∧
  (pA.1 = .fuel ∨ (pB.1 = pA.1 ∧ (∃ fb', pB.2.env = fb' :: eb) ∧
     (pA.1.isOk = true → post pA.2.env pB.2.env)))

theorem Rel.mono {q K sc A B} {N N' : String → Prop} (h : Rel q K N sc A B) (hs : ∀ n, N' n → N n) :
    Rel q K N' sc A B := ⟨h.inl, fun n hn => h.out n (hs n hn), h.inputs⟩

/-- the simulation at one fuel, for the five functions the fragment reaches -/
structure SimStep (ops : NumOps) (pb : String → Option Expr) (K f : Nat) : Prop where
  eval : ∀ (N : String → Prop) d e sc (sA sB : ES), frag e = true → (∀ n, FreeIn n e → N n) →
    Rel (ops.div F64.zero F64.zero) K N sc sA.env sB.env →
    SimE (eval ops f d e sA) sA (eval ops (f + K) d (substExpr pb sc e) sB) sB
  items : ∀ (N : String → Prop) d is sc (sA sB : ES), fragItems is = true → (∀ n, FreeInItems n is → N n) →
    Rel (ops.div F64.zero F64.zero) K N sc sA.env sB.env →
    SimE (evalItems ops f d is sA) sA (evalItems ops (f + K) d (substItems pb sc is) sB) sB
  entries : ∀ (N : String → Prop) d es acc sc (sA sB : ES), fragEntries es = true →
    (∀ n, FreeInEntries n es → N n) →
    Rel (ops.div F64.zero F64.zero) K N sc sA.env sB.env →
    SimE (evalEntries ops f d es acc sA) sA (evalEntries ops (f + K) d (substEntries pb sc es) acc sB) sB
  stmt : ∀ (N : String → Prop) d l e t sc (sA sB : ES) fa ea fb eb, fragStmt (.mk l e t) = true →
    (∀ n, FreeIn n e → N n) →
    sA.env = fa :: ea → sB.env = fb :: eb →
    Rel (ops.div F64.zero F64.zero) K N sc sA.env sB.env →
    SimD (Rel (ops.div F64.zero F64.zero) K (fun m => N m ∨ ∃ v, e = .assign m v) (scopeAfterStmt sc (.mk l e t)))
      (evalDoStmt ops f d e sA) ea (evalDoStmt ops (f + K) d (substExpr pb sc e) sB) eb
  doo : ∀ (N : String → Prop) d stmts ret sc (sA sB : ES) fa ea fb eb, fragStmts stmts = true → fragStmt ret = true →
    (∀ n, FreeInDo n stmts ret → N n) →
    sA.env = fa :: ea → sB.env = fb :: eb →
    Rel (ops.div F64.zero F64.zero) K N sc sA.env sB.env →
    SimD (fun _ _ => True)
      (evalDo ops f d stmts ret sA) ea
      (evalDo ops (f + K) d (substStmts pb sc stmts) (substItem pb (scopeAfterStmts sc stmts) ret) sB) eb

theorem simStep_zero (ops : NumOps) (pb : String → Option Expr) (K : Nat) : SimStep ops pb K 0 := by
  refine ⟨?_, ?_, ?_, ?_, ?_⟩
  · intro N d e sc sA sB _ _ _; rw [eval]; exact ⟨rfl, Or.inl rfl⟩
  · intro N d is sc sA sB _ _ _; rw [evalItems]; exact ⟨rfl, Or.inl rfl⟩
  · intro N d es acc sc sA sB _ _ _; rw [evalEntries]; exact ⟨rfl, Or.inl rfl⟩
  · intro N d l e t sc sA sB fa ea fb eb _ _ hA _ _; rw [evalDoStmt]; exact ⟨⟨fa, hA⟩, Or.inl rfl⟩
  · intro N d stmts ret sc sA sB fa ea fb eb _ _ _ hA _ _; rw [evalDo]; exact ⟨⟨fa, hA⟩, Or.inl rfl⟩

theorem SimE.same {α} {r : Outcome α} {s1 t1 sA sB : ES} (hA : s1.env = sA.env) (hB : t1.env = sB.env) :
    SimE (r, s1) sA (r, t1) sB := ⟨hA, Or.inr ⟨rfl, hB⟩⟩

theorem SimE.via {α} {pA pB : R α} {s1 t1 sA sB : ES} (h : SimE pA s1 pB t1)
    (hA : s1.env = sA.env) (hB : t1.env = sB.env) : SimE pA sA pB sB :=
  ⟨h.1.trans hA, h.2.imp id (fun x => ⟨x.1, x.2.trans hB⟩)⟩

/-- how a simulated sub-evaluation is used: either the original ran out of fuel, or both sides
    gave the same outcome; the environments are as before on both sides -/
theorem SimE.cases {α} {pA pB : R α} {sA sB : ES} (h : SimE pA sA pB sB) :
    (∃ s1, pA = (.fuel, s1) ∧ s1.env = sA.env) ∨
    ∃ r s1 t1, pA = (r, s1) ∧ pB = (r, t1) ∧ s1.env = sA.env ∧ t1.env = sB.env := by
  obtain ⟨ra, s1⟩ := pA
  obtain ⟨rb, t1⟩ := pB
  obtain ⟨hA, hf | ⟨hr, hB⟩⟩ := h
  · exact Or.inl ⟨s1, by rw [show ra = .fuel from hf], hA⟩
  · exact Or.inr ⟨ra, s1, t1, rfl, by rw [show rb = ra from hr], hA, hB⟩

theorem SimE.bind {α β} {pA pB : R α} {sA sB : ES} (h : SimE pA sA pB sB) {kA kB : α → ES → R β}
    (hk : ∀ v s1 t1, s1.env = sA.env → t1.env = sB.env → SimE (kA v s1) sA (kB v t1) sB) :
    SimE (pA.bind kA) sA (pB.bind kB) sB := by
  rcases h.cases with ⟨s1, rfl, hA⟩ | ⟨r, s1, t1, rfl, rfl, hA, hB⟩
  · exact ⟨hA, Or.inl rfl⟩
  · cases r with
    | ok v => exact hk v s1 t1 hA hB
    | _ => exact SimE.same hA hB

theorem Rel.env {q K N sc} {A B A' B' : List Frame} (h : Rel q K N sc A B) (hA : A' = A)
    (hB : B' = B) : Rel q K N sc A' B' := hA ▸ hB ▸ h

theorem identOp_get {env : List Frame} {n : String} {v : Value} (hs : n ∉ Gen.specialIdents)
    (h : envGet env n = some v) : identOp env n = .ok v := by
  simp only [Gen.specialIdents, List.mem_cons, List.not_mem_nil, or_false, not_or] at hs
  simp [identOp, hs.1, hs.2.1, hs.2.2, h]

theorem identOp_congr {A B : List Frame} {n : String}
    (h : n ∉ Gen.specialIdents → envGet A n = envGet B n) : identOp A n = identOp B n := by
  unfold identOp
  split
  · rfl
  · split
    · rfl
    · rename_i h1 h2
      rw [h]
      simp only [Bool.or_eq_true, beq_iff_eq, not_or] at h1 h2
      simp [Gen.specialIdents, h1.1, h1.2, h2]

def isAssign : Expr → Bool
  | .assign _ _ => true
  | _ => false

theorem strChain_not_assign (ps : List (List Char)) : isAssign (strChain ps) = false := by
  cases ps with
  | nil => rfl
  | cons p ps =>
    simp only [strChain]
    have : ∀ (qs : List (List Char)) (acc : Expr), isAssign acc = false →
        isAssign (qs.foldl (fun acc q => Expr.bin .add acc (.str (String.ofList q))) acc) = false := by
      intro qs
      induction qs with
      | nil => intro acc h; exact h
      | cons q qs ih => intro acc _; exact ih _ rfl
    exact this ps _ rfl

theorem svToExpr_not_assign (pb : String → Option Expr) (v : SV) : isAssign (svToExpr pb v) = false := by
  cases v with
  | num x => simp only [svToExpr, numToExpr]; split <;> (try split) <;> rfl
  | str s => simp only [svToExpr, strToExpr]; split; exact strChain_not_assign _; rfl
  | _ => rfl

theorem substExpr_isAssign (pb : String → Option Expr) (sc : Scope) (e : Expr) :
    isAssign (substExpr pb sc e) = isAssign e := by
  cases e with
  | ident n =>
    simp only [substExpr]
    cases lookupAL n sc with
    | none => rfl
    | some v => exact svToExpr_not_assign pb v
  | _ => simp [substExpr, isAssign]

theorem evalDoStmt_nonassign (ops : NumOps) (f d : Nat) (e : Expr) (s : ES) (h : isAssign e = false) :
    evalDoStmt ops (f+1) d e s = eval ops f d e s :=
  evalDoStmt_other ops f d s e fun x v he => by rw [he] at h; cases h

theorem scopeAfterStmt_nonassign (sc : Scope) (l : List String) (e : Expr) (t : Option String)
    (h : isAssign e = false) : scopeAfterStmt sc (.mk l e t) = sc := by
  cases e <;> first | rfl | simp [isAssign] at h


theorem fragStmt_nonassign (l : List String) (e : Expr) (t : Option String) (h : isAssign e = false) :
    fragStmt (.mk l e t) = frag e := by
  cases e <;> first | rfl | simp [isAssign] at h

section step
variable {ops : NumOps} {pb : String → Option Expr} {K f : Nat} {N : String → Prop}

/-- one more unit of fuel, expressions: the two evaluations unfold alike (`substExpr` keeps the
    head of everything but a captured name), every operand is simulated by `ih`, and `SimE.bind`
    puts the pieces together -/
theorem eval_step (ih : SimStep ops pb K f) (d : Nat) (e : Expr) (sc : Scope) (sA sB : ES)
    (he : frag e = true) (hN : ∀ n, FreeIn n e → N n)
    (hrel : Rel (ops.div F64.zero F64.zero) K N sc sA.env sB.env) :
    SimE (eval ops (f+1) d e sA) sA (eval ops (f + 1 + K) d (substExpr pb sc e) sB) sB := by
  rw [show f + 1 + K = (f + K) + 1 by omega]
  cases e with
  | num _ | str _ | bool _ | null | builtin _ =>
    simp only [substExpr]; rw [eval, eval]; exact .same rfl rfl
  | ident n =>
    rw [eval_ident]
    cases hn : lookupAL n sc with
    | some sv =>
      obtain ⟨h1, h2, h3, h4⟩ := hrel.inl n sv hn
      simp only [substExpr, hn]
      rw [lit_eval ops pb sv h1 _ (by omega) d sB, identOp_get h4 h3]
      exact .same rfl rfl
    | none =>
      rw [substExpr_ident_none pb sc n hn, eval_ident,
        identOp_congr fun hs => hrel.out n (hN n (.ident hs)) hn]
      exact .same rfl rfl
  | inref x =>
    simp only [substExpr]
    rw [eval_inref, eval_inref, inrefOp, inrefOp, hrel.inputs.2]
    exact .same rfl rfl
  | list items =>
    rw [substExpr, eval_list, eval_list]
    exact (ih.items N d items sc sA sB he (fun n h => hN n (.list h)) hrel).bind
      fun _ _ _ hA hB => .same hA hB
  | record es =>
    rw [substExpr, eval_record, eval_record]
    exact (ih.entries N d es [] sc sA sB he (fun n h => hN n (.record h)) hrel).bind
      fun _ _ _ hA hB => .same hA hB
  | cond c t e =>
    simp only [frag, Bool.and_eq_true] at he
    rw [substExpr, eval_cond, eval_cond]
    refine (ih.eval N d c sc sA sB he.1.1 (fun n h => hN n (.condC h)) hrel).bind
      fun v s1 t1 hA hB => ?_
    cases v with
    | bool b =>
      cases b
      · exact (ih.eval N d e sc s1 t1 he.2 (fun n h => hN n (.condE h)) (hrel.env hA hB)).via hA hB
      · exact (ih.eval N d t sc s1 t1 he.1.2 (fun n h => hN n (.condT h)) (hrel.env hA hB)).via hA hB
    | _ => exact .same hA hB
  | access e i =>
    simp only [frag, Bool.and_eq_true] at he
    rw [substExpr, eval_access, eval_access]
    refine (ih.eval N d e sc sA sB he.1 (fun n h => hN n (.accessE h)) hrel).bind
      fun _ s1 t1 hA hB => ?_
    exact ((ih.eval N d i sc s1 t1 he.2 (fun n h => hN n (.accessI h)) (hrel.env hA hB)).via hA hB).bind
      fun _ _ _ hA2 hB2 => .same hA2 hB2
  | dot e fld =>
    rw [substExpr, eval_dot, eval_dot]
    exact (ih.eval N d e sc sA sB he (fun n h => hN n (.dot h)) hrel).bind
      fun _ _ _ hA hB => .same hA hB
  | bin op l r =>
    have hop : isCallOp op = false := by cases op <;> first | rfl | cases he
    simp only [frag, Bool.and_eq_true] at he
    rw [substExpr, eval_bin, eval_bin]
    refine (ih.eval N d l sc sA sB he.1.2 (fun n h => hN n (.binL h)) hrel).bind
      fun a s1 t1 hA hB => ?_
    refine ((ih.eval N d r sc s1 t1 he.2 (fun n h => hN n (.binR h)) (hrel.env hA hB)).via hA hB).bind
      fun b s2 t2 hA2 hB2 => ?_
    cases f with
    | zero => rw [evalBin_zero]; exact ⟨hA2, Or.inl rfl⟩
    | succ f' =>
      rw [evalBin_value _ _ _ _ _ _ _ hop, show f' + 1 + K = (f' + K) + 1 by omega,
        evalBin_value _ _ _ _ _ _ _ hop]
      exact .same hA2 hB2
  | un op e =>
    rw [substExpr, eval_un, eval_un]
    exact (ih.eval N d e sc sA sB he (fun n h => hN n (.un h)) hrel).bind
      fun _ _ _ hA hB => .same hA hB
  | fact e =>
    rw [substExpr, eval_fact, eval_fact]
    exact (ih.eval N d e sc sA sB he (fun n h => hN n (.fact h)) hrel).bind
      fun _ _ _ hA hB => .same hA hB
  | spread e =>
    rw [substExpr, eval_spread, eval_spread]
    exact (ih.eval N d e sc sA sB he (fun n h => hN n (.spread h)) hrel).bind
      fun _ _ _ hA hB => .same hA hB
  | doBlock stmts ret =>
    simp only [frag, Bool.and_eq_true] at he
    obtain ⟨⟨fa', hA⟩, h1⟩ := ih.doo N d stmts ret sc { sA with env := [] :: sA.env }
      { sB with env := [] :: sB.env } [] sA.env [] sB.env he.1 he.2 (fun n h => hN n (.doBlock h))
      rfl rfl hrel.push
    rw [substExpr, eval_doBlock, eval_doBlock]
    refine ⟨by simp [hA], h1.imp id fun ⟨h2, ⟨fb', hB⟩, _⟩ => ⟨h2, by simp [hB]⟩⟩
  | lambda _ _ | assign _ _ | output _ | call _ _ => cases he

theorem items_step (ih : SimStep ops pb K f) (d : Nat) (is : List Item) (sc : Scope) (sA sB : ES)
    (he : fragItems is = true) (hN : ∀ n, FreeInItems n is → N n) (hrel : Rel (ops.div F64.zero F64.zero) K N sc sA.env sB.env) :
    SimE (evalItems ops (f+1) d is sA) sA
      (evalItems ops (f + 1 + K) d (substItems pb sc is) sB) sB := by
  rw [show f + 1 + K = (f + K) + 1 by omega]
  cases is with
  | nil => rw [substItems, evalItems_nil, evalItems_nil]; exact .same rfl rfl
  | cons i rest =>
    obtain ⟨l, e, t⟩ := i
    simp only [fragItems, Bool.and_eq_true] at he
    rw [substItems, substItem, evalItems_cons, evalItems_cons]
    refine (ih.eval N d e sc sA sB he.1 (fun n h => hN n (.head h)) hrel).bind
      fun _ s1 t1 hA hB => ?_
    exact ((ih.items N d rest sc s1 t1 he.2 (fun n h => hN n (.tail h)) (hrel.env hA hB)).via hA hB).bind
      fun _ _ _ hA2 hB2 => .same hA2 hB2

theorem entries_step (ih : SimStep ops pb K f) (d : Nat) (es : List Entry) (acc : Frame) (sc : Scope)
    (sA sB : ES) (he : fragEntries es = true) (hN : ∀ n, FreeInEntries n es → N n)
    (hrel : Rel (ops.div F64.zero F64.zero) K N sc sA.env sB.env) :
    SimE (evalEntries ops (f+1) d es acc sA) sA
      (evalEntries ops (f + 1 + K) d (substEntries pb sc es) acc sB) sB := by
  rw [show f + 1 + K = (f + K) + 1 by omega]
  cases es with
  | nil => rw [substEntries, evalEntries_nil, evalEntries_nil]; exact .same rfl rfl
  | cons en rest =>
    obtain ⟨l, k, v, t⟩ := en
    simp only [fragEntries, Bool.and_eq_true] at he
    obtain ⟨⟨hk, hv⟩, hrest⟩ := he
    have hrestN : ∀ n, FreeInEntries n rest → N n := fun n h => hN n (.tail h)
    /- the rest of the entries, from states with the environments of the start -/
    have tail : ∀ acc' s1 t1, s1.env = sA.env → t1.env = sB.env →
        SimE (evalEntries ops f d rest acc' s1) sA
          (evalEntries ops (f + K) d (substEntries pb sc rest) acc' t1) sB :=
      fun acc' s1 t1 hA hB =>
        (ih.entries N d rest acc' sc s1 t1 hrest hrestN (hrel.env hA hB)).via hA hB
    rw [substEntries, substEntry]
    cases k with
    | static k =>
      rw [substKeyed, evalEntries_static, evalEntries_static]
      exact (ih.eval N d v sc sA sB hv (fun n h => hN n (.head (.static h))) hrel).bind
        fun _ s1 t1 hA hB => tail _ s1 t1 hA hB
    | dyn ke =>
      rw [substKeyed, evalEntries_dyn, evalEntries_dyn]
      refine (ih.eval N d ke sc sA sB hk (fun n h => hN n (.head (.dynK h))) hrel).bind
        fun kv s1 t1 hA hB => ?_
      cases kv <;> try exact .same hA hB
      exact ((ih.eval N d v sc s1 t1 hv (fun n h => hN n (.head (.dynV h))) (hrel.env hA hB)).via
        hA hB).bind fun _ s2 t2 hA2 hB2 => tail _ s2 t2 hA2 hB2
    | spread se =>
      rw [substKeyed, evalEntries_spread, evalEntries_spread]
      refine (ih.eval N d se sc sA sB hk (fun n h => hN n (.head (.spread h))) hrel).bind
        fun w s1 t1 hA hB => ?_
      cases w <;> exact tail _ s1 t1 hA hB
    | short n =>
      rw [substKeyed]
      cases hn : lookupAL n sc with
      | some sv =>
        obtain ⟨h1, h2, h3, h4⟩ := hrel.inl n sv hn
        dsimp only
        rw [evalEntries_short, evalEntries_static, h3,
          lit_eval ops pb sv h1 (f + K) (by omega) d sB]
        exact tail _ sA sB rfl rfl
      | none =>
        dsimp only
        rw [evalEntries_short, evalEntries_short, hrel.out n (hN n (.head .short)) hn]
        cases envGet sB.env n with
        | none => exact .same rfl rfl
        | some w => exact tail _ sA sB rfl rfl

theorem stmt_step (ih : SimStep ops pb K f) (d : Nat) (l : List String) (e : Expr) (t : Option String)
    (sc : Scope) (sA sB : ES) (fa : Frame) (ea : List Frame) (fb : Frame) (eb : List Frame)
    (he : fragStmt (.mk l e t) = true) (hN : ∀ n, FreeIn n e → N n) (hEA : sA.env = fa :: ea) (hEB : sB.env = fb :: eb)
    (hrel : Rel (ops.div F64.zero F64.zero) K N sc sA.env sB.env) :
    SimD (Rel (ops.div F64.zero F64.zero) K (fun m => N m ∨ ∃ v, e = .assign m v) (scopeAfterStmt sc (.mk l e t)))
      (evalDoStmt ops (f+1) d e sA) ea (evalDoStmt ops (f + 1 + K) d (substExpr pb sc e) sB) eb := by
  rw [show f + 1 + K = (f + K) + 1 by omega]
  by_cases ha : isAssign e = true
  · cases e <;> simp only [isAssign, Bool.false_eq_true] at ha
    rename_i n v
    simp only [fragStmt] at he
    rw [substExpr, scopeAfterStmt, evalDoStmt, evalDoStmt]
    by_cases hk : Gen.doAssignKeywords.contains n = true
    · simp only [hk, if_true]
      exact ⟨⟨fa, hEA⟩, Or.inr ⟨rfl, ⟨fb, hEB⟩, fun h => by cases h⟩⟩
    · simp only [hk, Bool.false_eq_true, if_false]
      rcases (ih.eval N d v sc sA sB he (fun m h => hN m (.assign h)) hrel).cases with
        ⟨s1, hpa, hA⟩ | ⟨r, s1, t1, hpa, hpb, hA, hB⟩
      · rw [hpa]; exact ⟨⟨fa, hA.trans hEA⟩, Or.inl rfl⟩
      · rw [hpa, hpb]
        cases r with
        | ok val =>
          dsimp only
          have e1 : envInsert (setNameIfLambda s1 n (createdSince sA.nextId val)).env n val =
              insertAL n val fa :: ea := by
            rw [setNameIfLambda_env, hA, hEA]; rfl
          have e2 : envInsert (setNameIfLambda t1 n (createdSince sB.nextId val)).env n val =
              insertAL n val fb :: eb := by
            rw [setNameIfLambda_env, hB, hEB]; rfl
          refine ⟨⟨_, e1⟩, Or.inr ⟨rfl, ⟨_, e2⟩, fun _ => ?_⟩⟩
          show Rel _ K _ (scopeRemove sc n)
            (envInsert (setNameIfLambda s1 n (createdSince sA.nextId val)).env n val)
            (envInsert (setNameIfLambda t1 n (createdSince sB.nextId val)).env n val)
          rw [e1, e2]
          rw [hEA, hEB] at hrel
          refine (hrel.assign n val).mono fun m hm => hm.imp id ?_
          rintro ⟨w, hw⟩
          injection hw with hw1 _
          exact hw1.symm
        | fuel => exact ⟨⟨fa, hA.trans hEA⟩, Or.inl rfl⟩
        | _ =>
          exact ⟨⟨fa, hA.trans hEA⟩, Or.inr ⟨rfl, ⟨fb, hB.trans hEB⟩, fun h => by cases h⟩⟩
  · have ha' : isAssign e = false := by simpa using ha
    rw [fragStmt_nonassign l e t ha'] at he
    rw [scopeAfterStmt_nonassign sc l e t ha', evalDoStmt_nonassign ops f d e sA ha',
      evalDoStmt_nonassign ops (f + K) d _ sB (by rw [substExpr_isAssign]; exact ha')]
    obtain ⟨hA, h1⟩ := ih.eval N d e sc sA sB he hN hrel
    refine ⟨⟨fa, hA.trans hEA⟩, h1.imp id fun ⟨h2, hB⟩ => ⟨h2, ⟨fb, hB.trans hEB⟩, fun _ => ?_⟩⟩
    rw [hA, hB]
    refine hrel.mono fun m hm => hm.resolve_right ?_
    rintro ⟨w, hw⟩
    rw [hw] at ha'
    cases ha'

theorem do_step (ih : SimStep ops pb K f) (d : Nat) (stmts : List Item) (ret : Item)
    (sc : Scope) (sA sB : ES) (fa : Frame) (ea : List Frame) (fb : Frame) (eb : List Frame)
    (hs : fragStmts stmts = true) (hr : fragStmt ret = true)
    (hN : ∀ n, FreeInDo n stmts ret → N n)
    (hEA : sA.env = fa :: ea) (hEB : sB.env = fb :: eb)
    (hrel : Rel (ops.div F64.zero F64.zero) K N sc sA.env sB.env) :
    SimD (fun _ _ => True)
      (evalDo ops (f+1) d stmts ret sA) ea
      (evalDo ops (f + 1 + K) d (substStmts pb sc stmts) (substItem pb (scopeAfterStmts sc stmts) ret) sB) eb := by
  rw [show f + 1 + K = (f + K) + 1 by omega]
  cases stmts with
  | nil =>
    obtain ⟨l, e, t⟩ := ret
    simp only [substStmts, substItem]
    rw [evalDo, evalDo]
    obtain ⟨h1, h2⟩ := ih.stmt N d l e t sc sA sB fa ea fb eb hr (fun n h => hN n (.ret h)) hEA hEB hrel
    exact ⟨h1, h2.imp id fun ⟨a, b, _⟩ => ⟨a, b, fun _ => trivial⟩⟩
  | cons i rest =>
    obtain ⟨l, e, t⟩ := i
    simp only [fragStmts, Bool.and_eq_true] at hs
    simp only [substStmts, substItem]
    rw [evalDo, evalDo]
    obtain ⟨⟨fa', hA⟩, h1⟩ := ih.stmt N d l e t sc sA sB fa ea fb eb hs.1 (fun n h => hN n (.here h)) hEA hEB hrel
    rcases hpa : evalDoStmt ops f d e sA with ⟨ra, s1⟩
    rcases hpb : evalDoStmt ops (f + K) d (substExpr pb sc e) sB with ⟨rb, t1⟩
    simp only [hpa, hpb] at hA h1 ⊢
    rcases h1 with rfl | ⟨rfl, ⟨fb', hB⟩, hR⟩
    · exact ⟨⟨fa', hA⟩, Or.inl rfl⟩
    · cases rb with
      | ok val =>
        refine ih.doo _ d rest ret (scopeAfterStmt sc (.mk l e t)) s1 t1 fa' ea fb' eb hs.2 hr ?_ hA hB (hR rfl)
        intro n hn
        by_cases hx : ∃ v, e = .assign n v
        · exact Or.inr hx
        · exact Or.inl (hN n (.later hn (fun v hv => hx ⟨v, hv⟩)))
      | fuel => exact ⟨⟨fa', hA⟩, Or.inl rfl⟩
      | _ => exact ⟨⟨fa', hA⟩, Or.inr ⟨rfl, ⟨fb', hB⟩, fun h => by cases h⟩⟩
end step

theorem simStep_succ {ops : NumOps} {pb : String → Option Expr} {K f : Nat} (ih : SimStep ops pb K f) :
    SimStep ops pb K (f + 1) :=
  ⟨fun _ d e sc sA sB h hN hr => eval_step ih d e sc sA sB h hN hr,
    fun _ d is sc sA sB h hN hr => items_step ih d is sc sA sB h hN hr,
    fun _ d es acc sc sA sB h hN hr => entries_step ih d es acc sc sA sB h hN hr,
    fun _ d l e t sc sA sB fa ea fb eb h hN h1 h2 hr => stmt_step ih d l e t sc sA sB fa ea fb eb h hN h1 h2 hr,
    fun _ d stmts ret sc sA sB fa ea fb eb h h0 hN h1 h2 hr =>
      do_step ih d stmts ret sc sA sB fa ea fb eb h h0 hN h1 h2 hr⟩

theorem simStep (ops : NumOps) (pb : String → Option Expr) (K : Nat) : ∀ f, SimStep ops pb K f
  | 0 => simStep_zero ops pb K
  | f + 1 => simStep_succ (simStep ops pb K f)

/-- The substitution lemma on the fragment: if the original expression, evaluated with the
    captured values bound to their names, gives an answer with fuel `f`, the substituted
    expression evaluated WITHOUT those bindings gives the same answer with fuel `f + K`.
    `N` is any set of names containing the names free in `e`: only those (and `inputs`) have
    to be resolved alike by the two environments. -/
theorem subst_eval (ops : NumOps) (pb : String → Option Expr) (K f d : Nat) (e : Expr) (sc : Scope)
    (N : String → Prop) (sA sB : ES) (he : frag e = true) (hN : ∀ n, FreeIn n e → N n)
    (hrel : Rel (ops.div F64.zero F64.zero) K N sc sA.env sB.env)
    (hf : (eval ops f d e sA).1 ≠ .fuel) :
    (eval ops (f + K) d (substExpr pb sc e) sB).1 = (eval ops f d e sA).1 := by
  rcases ((simStep ops pb K f).eval N d e sc sA sB he hN hrel).2 with h | h
  · exact absurd h hf
  · exact h.1

/-- on the fragment the original function (captured scope `scope`, SV image `sc`) and the
    reloaded one (empty scope, substituted body) return the same outcome on the same
    arguments, whenever the two body environments are related as in `Rel` -/
theorem reload_call (ops : NumOps) (pb : String → Option Expr) (K f idA idB : Nat) (ps : List LArg)
    (body : Expr) (scope : Frame) (sc : Scope) (thisA thisB : Value) (args : List Value) (depth : Nat)
    (sA sB : ES) (hfrag : frag body = true)
    (hrel : ∀ pf, bindParams ps args = .ok pf →
      Rel (ops.div F64.zero F64.zero) K (fun n => FreeIn n body) sc
        (bodyEnv sA idA scope thisA pf) (bodyEnv sB idB [] thisB pf))
    (hf : (callFn ops (f + 1) (.lambda idA ps body scope) thisA args depth sA).1 ≠ .fuel) :
    (callFn ops (f + K + 1) (.lambda idB ps (substExpr pb sc body) []) thisB args depth sB).1 =
      (callFn ops (f + 1) (.lambda idA ps body scope) thisA args depth sA).1 := by
  rw [callFn_lambda] at hf ⊢
  rw [callFn_lambda]
  cases ha : checkArity (lambdaArity ps) args.length with
  | ok u =>
    simp only [ha, R.bind_ok] at hf ⊢
    split
    · rfl
    · rename_i hd
      simp only [hd, if_false] at hf
      cases hb : bindParams ps args with
      | ok pf =>
        simp only [hb, R.bind_ok] at hf ⊢
        exact subst_eval ops pb K f (depth + 1) body sc (fun n => FreeIn n body) _ _ hfrag
          (fun _ h => h) (hrel pf hb) hf
      | _ => rfl
  | _ => rfl

theorem bindParams_go_keys (args : List Value) (n : String) : ∀ (ps : List LArg) (i : Nat) (frame pf : Frame),
    bindParams.go args ps i frame = .ok pf → lookupAL n pf ≠ none →
    n ∈ ps.map LArg.name ∨ lookupAL n frame ≠ none
  | [], i, frame, pf, h, hn => by
    simp only [bindParams.go, Outcome.ok.injEq] at h
    subst h; exact Or.inr hn
  | p :: rest, i, frame, pf, h, hn => by
    have key : ∀ (m : String) (v : Value), p.name = m →
        bindParams.go args rest (i + 1) (insertAL m v frame) = .ok pf →
        n ∈ (p :: rest).map LArg.name ∨ lookupAL n frame ≠ none := by
      intro m v hm h'
      rcases bindParams_go_keys args n rest (i + 1) _ pf h' hn with h1 | h1
      · exact Or.inl (List.mem_cons_of_mem _ h1)
      · rw [lookupAL_insertAL] at h1
        by_cases hnm : n = m
        · exact Or.inl (by simp [hnm, hm])
        · simp only [hnm, if_false] at h1; exact Or.inr h1
    cases p with
    | req m =>
      simp only [bindParams.go] at h
      cases ha : args[i]? with
      | none => simp [ha] at h
      | some v => simp only [ha] at h; exact key m v rfl h
    | opt m => simp only [bindParams.go] at h; exact key m _ rfl h
    | rest m => simp only [bindParams.go] at h; exact key m _ rfl h

theorem bindParams_keys (ps : List LArg) (args : List Value) (pf : Frame) (n : String)
    (h : bindParams ps args = .ok pf) (hn : n ∈ pf.map Prod.fst) : n ∈ ps.map LArg.name := by
  rcases bindParams_go_keys args n ps 0 [] pf h ((lookupAL_ne_none_iff n pf).mpr hn) with h1 | h1
  · exact h1
  · simp [lookupAL] at h1

/-- the captured scope `scope` (values) and its serialised image `sc`: same names; every
    captured value is data (or a built-in) whose literal needs at most `K` fuel and denotes
    it; captured names are not special identifiers, parameters or `inputs` -/
structure ScopeImage (q : F64) (K : Nat) (ps : List LArg) (sc : Scope) (scope : Frame) : Prop where
  img : ∀ n sv, lookupAL n sc = some sv →
    noLambda sv = true ∧ litFuel sv ≤ K ∧ lookupAL n scope = some (svToValueN q sv) ∧
    n ∉ Gen.specialIdents ∧ n ∉ ps.map LArg.name ∧ n ≠ "inputs"
  dom : ∀ n, lookupAL n sc = none → lookupAL n scope = none

theorem bindParams_go_binds (args : List Value) (n : String) : ∀ (ps : List LArg) (i : Nat) (frame pf : Frame),
    bindParams.go args ps i frame = .ok pf → (n ∈ ps.map LArg.name ∨ lookupAL n frame ≠ none) →
    lookupAL n pf ≠ none
  | [], i, frame, pf, h, hn => by
    simp only [bindParams.go, Outcome.ok.injEq] at h
    subst h
    rcases hn with hn | hn
    · simp at hn
    · exact hn
  | p :: rest, i, frame, pf, h, hn => by
    have key : ∀ (m : String) (v : Value), p.name = m →
        bindParams.go args rest (i + 1) (insertAL m v frame) = .ok pf → lookupAL n pf ≠ none := by
      intro m v hm h'
      apply bindParams_go_binds args n rest (i + 1) _ pf h'
      rw [lookupAL_insertAL]
      by_cases hnm : n = m
      · right; simp [hnm]
      · simp only [hnm, if_false]
        rcases hn with hn | hn
        · simp only [List.map_cons, List.mem_cons] at hn
          rcases hn with hn | hn
          · exact absurd (hn.trans hm) hnm
          · exact Or.inl hn
        · exact Or.inr hn
    cases p with
    | req m =>
      simp only [bindParams.go] at h
      cases ha : args[i]? with
      | none => simp [ha] at h
      | some v => simp only [ha] at h; exact key m v rfl h
    | opt m => simp only [bindParams.go] at h; exact key m _ rfl h
    | rest m => simp only [bindParams.go] at h; exact key m _ rfl h

theorem bindParams_binds (ps : List LArg) (args : List Value) (pf : Frame) (n : String)
    (h : bindParams ps args = .ok pf) (hn : n ∈ ps.map LArg.name) : n ∈ pf.map Prod.fst :=
  (lookupAL_ne_none_iff n pf).mp (bindParams_go_binds args n ps 0 [] pf h (Or.inl hn))

theorem envGet_bodyEnv_param (sA sB : ES) (idA idB : Nat) (scope scope' : Frame) (thisA thisB : Value)
    (pf : Frame) (n : String) (hp : n ∈ pf.map Prod.fst) :
    envGet (bodyEnv sA idA scope thisA pf) n = envGet (bodyEnv sB idB scope' thisB pf) n := by
  simp only [bodyEnv, bodyFrame]
  obtain ⟨v, hv⟩ := lookupAL_foldl_insertAL_of_mem n pf hp
  rw [envGet_cons, envGet_cons, hv, hv]

/-- the innermost frame of a call, at a name that is not a parameter and not the function's own
    display name (or is captured, so that the self-reference is left out): only `inputs` is there -/
theorem lookupAL_bodyFrame (s : ES) (id : Nat) (scp : Frame) (this : Value) (pf : Frame) (n : String)
    (hp : n ∉ pf.map Prod.fst)
    (hne : nameOf s.names id = some n → (lookupAL n scp).isSome = true) :
    lookupAL n (bodyFrame s id scp this pf) = if n = "inputs" then envGet s.env "inputs" else none := by
  have hself : ∀ m, nameOf s.names id = some m →
      lookupAL n (if (lookupAL m scp).isSome then [] else [(m, this)]) = none := by
    intro m hm
    split
    · rfl
    · rename_i hms
      have : m ≠ n := by rintro rfl; exact hms (hne hm)
      simp [lookupAL, this]
  unfold bodyFrame
  rw [lookupAL_foldl_insertAL_of_not_mem n pf _ hp]
  cases envGet s.env "inputs" with
  | none =>
    cases hm : nameOf s.names id with
    | none => dsimp only; split <;> rfl
    | some m => dsimp only; rw [hself m hm]; split <;> rfl
  | some v =>
    cases hm : nameOf s.names id with
    | none => dsimp only; rw [lookupAL_insertAL]; rfl
    | some m => dsimp only; rw [lookupAL_insertAL, hself m hm]

/-- a name that is neither a parameter, nor captured, nor a display name is resolved by the
    callers (and `inputs` by the copy in the call frame) -/
theorem envGet_bodyEnv_other (sA sB : ES) (idA idB : Nat) (scope : Frame) (thisA thisB : Value)
    (pf : Frame) (n : String) (hp : n ∉ pf.map Prod.fst)
    (hnA : nameOf sA.names idA ≠ some n) (hnB : nameOf sB.names idB ≠ some n)
    (hin : envGet sA.env "inputs" = envGet sB.env "inputs")
    (hsc : lookupAL n scope = none) (henv : envGet sA.env n = envGet sB.env n) :
    envGet (bodyEnv sA idA scope thisA pf) n = envGet (bodyEnv sB idB [] thisB pf) n := by
  have hpar : envGet (if scope.isEmpty then sA.env else scope :: sA.env) n =
      envGet (if ([] : Frame).isEmpty then sB.env else [] :: sB.env) n := by
    cases scope with
    | nil => simpa using henv
    | cons kv r =>
      simp only [List.isEmpty_cons, Bool.false_eq_true, if_false, List.isEmpty_nil, if_true]
      rw [envGet_cons, hsc]; exact henv
  rw [bodyEnv, bodyEnv, envGet_cons, envGet_cons,
    lookupAL_bodyFrame sA idA scope thisA pf n hp (fun h => absurd h hnA),
    lookupAL_bodyFrame sB idB [] thisB pf n hp (fun h => absurd h hnB), ← hin]
  by_cases h : n = "inputs"
  · simp only [h, if_true]
    cases envGet sA.env "inputs" with
    | none => rw [← h]; exact hpar
    | some v => rfl
  · simp only [h, if_false]; exact hpar

/-- closed after capture ⇒ `Rel`: every name free in the body is a parameter, a captured
    name, or resolved alike by the two callers (built-ins, typically) and not the display
    name of either function; `inputs` is the same for both callers -/
theorem rel_of_closed (q : F64) (K : Nat) (ps : List LArg) (body : Expr) (sc : Scope) (scope : Frame)
    (idA idB : Nat) (thisA thisB : Value) (args : List Value) (pf : Frame) (sA sB : ES)
    (himg : ScopeImage q K ps sc scope)
    (hfree : ∀ n, FreeIn n body → n ∉ ps.map LArg.name → lookupAL n sc = none →
      envGet sA.env n = envGet sB.env n ∧ nameOf sA.names idA ≠ some n ∧ nameOf sB.names idB ≠ some n)
    (hin : envGet sA.env "inputs" = envGet sB.env "inputs" ∧
      nameOf sA.names idA ≠ some "inputs" ∧ nameOf sB.names idB ≠ some "inputs")
    (hb : bindParams ps args = .ok pf) :
    Rel q K (fun n => FreeIn n body) sc (bodyEnv sA idA scope thisA pf) (bodyEnv sB idB [] thisB pf) := by
  have hinsc : lookupAL "inputs" sc = none := by
    cases h : lookupAL "inputs" sc with
    | none => rfl
    | some sv => exact absurd rfl (himg.img _ sv h).2.2.2.2.2
  refine ⟨fun n sv hn => ?_, fun n hN hn => ?_, hinsc, ?_⟩
  · obtain ⟨h1, h2, h3, h4, h5, h6⟩ := himg.img n sv hn
    refine ⟨h1, h2, ?_, h4⟩
    have hnpf : n ∉ pf.map Prod.fst := fun hm => h5 (bindParams_keys ps args pf n hb hm)
    have hne : scope.isEmpty = false := by
      cases scope with
      | nil => simp [lookupAL] at h3
      | cons _ _ => rfl
    rw [bodyEnv, envGet_cons,
      lookupAL_bodyFrame sA idA scope thisA pf n hnpf (fun _ => by rw [h3]; rfl)]
    simp only [h6, if_false, hne, Bool.false_eq_true, envGet_cons, h3]
  · by_cases hp : n ∈ pf.map Prod.fst
    · exact envGet_bodyEnv_param sA sB idA idB scope [] thisA thisB pf n hp
    · have hnp : n ∉ ps.map LArg.name := fun h => hp (bindParams_binds ps args pf n hb h)
      obtain ⟨h1, h2, h3⟩ := hfree n hN hnp hn
      exact envGet_bodyEnv_other sA sB idA idB scope thisA thisB pf n hp h2 h3 hin.1 (himg.dom n hn) h1
  · by_cases hp : "inputs" ∈ pf.map Prod.fst
    · exact envGet_bodyEnv_param sA sB idA idB scope [] thisA thisB pf _ hp
    · exact envGet_bodyEnv_other sA sB idA idB scope thisA thisB pf _ hp hin.2.1 hin.2.2 hin.1
        (himg.dom _ hinsc) hin.1

mutual
theorem isLit_noLambda : ∀ (v : SV), isLit v = true → noLambda v = true
  | .num _, _ | .bool _, _ | .null, _ | .str _, _ | .builtin _, _ => rfl
  | .lambda _ _, h => by simp [isLit] at h
  | .list xs, h => by simp only [isLit] at h; simp only [noLambda]; exact isLitList_noLambda xs h
  | .record kvs, h => by
    simp only [isLit, Bool.and_eq_true] at h; simp only [noLambda]; exact isLitRec_noLambda kvs h.2
theorem isLitList_noLambda : ∀ (xs : List SV), isLitList xs = true → noLambdaList xs = true
  | [], _ => rfl
  | x :: xs, h => by
    simp only [isLitList, Bool.and_eq_true] at h
    simp only [noLambdaList, Bool.and_eq_true]
    exact ⟨isLit_noLambda x h.1, isLitList_noLambda xs h.2⟩
theorem isLitRec_noLambda : ∀ (kvs : List (String × SV)), isLitRec kvs = true → noLambdaRec kvs = true
  | [], _ => rfl
  | (k, v) :: r, h => by
    simp only [isLitRec, Bool.and_eq_true] at h
    simp only [noLambdaRec, Bool.and_eq_true]
    exact ⟨isLit_noLambda v h.1, isLitRec_noLambda r h.2⟩
end

mutual
/-- `from_captured_value` is injective on data: a function-free image determines the value -/
theorem capturedToSV_inv : ∀ (v : Value) (sv : SV), capturedToSV v = some sv → noLambda sv = true →
    v = svToValue sv
  | .num _, sv, h, _ | .bool _, sv, h, _ | .null, sv, h, _ | .str _, sv, h, _
  | .builtin _, sv, h, _ => by simp only [capturedToSV, Option.some.injEq] at h; subst h; rfl
  | .spread x, sv, h, _ => by simp [capturedToSV] at h
  | .lambda _ _ _ sc, sv, h, hn => by
    simp only [capturedToSV] at h
    split at h
    · simp only [Option.some.injEq] at h; subst h; simp [noLambda] at hn
    · cases h
  | .list xs, sv, h, hn => by
    simp only [capturedToSV] at h
    cases hr : capturedsToSV xs with
    | none => simp [hr] at h
    | some l =>
      simp only [hr, Option.map_some, Option.some.injEq] at h; subst h
      simp only [noLambda] at hn
      simp only [svToValue, capturedsToSV_inv xs l hr hn]
  | .record r, sv, h, hn => by
    simp only [capturedToSV] at h
    cases hr : capturedRecToSV r with
    | none => simp [hr] at h
    | some l =>
      simp only [hr, Option.map_some, Option.some.injEq] at h; subst h
      simp only [noLambda] at hn
      simp only [svToValue, capturedRecToSV_inv r l hr hn]
theorem capturedsToSV_inv : ∀ (xs : List Value) (l : List SV), capturedsToSV xs = some l →
    noLambdaList l = true → xs = svListToValue l
  | [], l, h, _ => by simp only [capturedsToSV, Option.some.injEq] at h; subst h; rfl
  | x :: xs, l, h, hn => by
    simp only [capturedsToSV] at h
    cases h1 : capturedToSV x with
    | none => simp [h1] at h
    | some y =>
      cases h2 : capturedsToSV xs with
      | none => simp [h1, h2] at h
      | some ys =>
        simp only [h1, h2, Option.some.injEq] at h; subst h
        simp only [noLambdaList, Bool.and_eq_true] at hn
        simp only [svListToValue, capturedToSV_inv x y h1 hn.1, capturedsToSV_inv xs ys h2 hn.2]
theorem capturedRecToSV_inv : ∀ (r : List (String × Value)) (l : List (String × SV)), capturedRecToSV r = some l →
    noLambdaRec l = true → r = svRecToValue l
  | [], l, h, _ => by simp only [capturedRecToSV, Option.some.injEq] at h; subst h; rfl
  | (k, x) :: r, l, h, hn => by
    simp only [capturedRecToSV] at h
    cases h1 : capturedToSV x with
    | none => simp [h1] at h
    | some y =>
      cases h2 : capturedRecToSV r with
      | none => simp [h1, h2] at h
      | some ys =>
        simp only [h1, h2, Option.some.injEq] at h; subst h
        simp only [noLambdaRec, Bool.and_eq_true] at hn
        simp only [svRecToValue, capturedToSV_inv x y h1 hn.1, capturedRecToSV_inv r ys h2 hn.2]
end

theorem capturedRecToSV_lookup (n : String) : ∀ (r : List (String × Value)) (l : List (String × SV)),
    capturedRecToSV r = some l →
    (lookupAL n r = none ∧ lookupAL n l = none) ∨
    (∃ v sv, lookupAL n r = some v ∧ lookupAL n l = some sv ∧ capturedToSV v = some sv)
  | [], l, h => by simp only [capturedRecToSV, Option.some.injEq] at h; subst h; exact Or.inl ⟨rfl, rfl⟩
  | (k, x) :: r, l, h => by
    simp only [capturedRecToSV] at h
    cases h1 : capturedToSV x with
    | none => simp [h1] at h
    | some y =>
      cases h2 : capturedRecToSV r with
      | none => simp [h1, h2] at h
      | some ys =>
        simp only [h1, h2, Option.some.injEq] at h; subst h
        by_cases hk : k = n
        · exact Or.inr ⟨x, y, by simp [lookupAL, hk], by simp [lookupAL, hk], h1⟩
        · simp only [lookupAL, hk, if_false]
          exact capturedRecToSV_lookup n r ys h2

theorem scopeImage_of_captured (q : F64) (K : Nat) (ps : List LArg) (sc : Scope) (scope : Frame)
    (h : capturedRecToSV scope = some sc)
    (hv : ∀ n sv, lookupAL n sc = some sv →
      isLit sv = true ∧ litFuel sv ≤ K ∧ n ∉ Gen.specialIdents ∧ n ∉ ps.map LArg.name ∧ n ≠ "inputs") :
    ScopeImage q K ps sc scope := by
  refine ⟨fun n sv hn => ?_, fun n hn => ?_⟩
  · obtain ⟨h1, h2, h3, h4, h5⟩ := hv n sv hn
    refine ⟨isLit_noLambda sv h1, h2, ?_, h3, h4, h5⟩
    rcases capturedRecToSV_lookup n scope sc h with ⟨_, hl⟩ | ⟨v, sv', hr, hl, hvs⟩
    · rw [hn] at hl; cases hl
    · rw [hn] at hl
      cases hl
      rw [hr, capturedToSV_inv v sv hvs (isLit_noLambda sv h1), svToValueN_lit q sv h1]
  · rcases capturedRecToSV_lookup n scope sc h with ⟨hr, _⟩ | ⟨v, sv', _, hl, _⟩
    · exact hr
    · rw [hn] at hl; cases hl

/-- the tree the parser builds for the text `(args) => <flat text of b>`: a lambda body is
    parsed without `via` / `into` / `where` (and what follows them at that level), so the
    lambda ends up as the leftmost operand of the left spine as far as
    `lambdaBodyNeedsParens` says the body is exposed -/
def graftChain (args : List LArg) : Expr → Expr
  | .bin op l r =>
    if lambdaBodyNeedsParens (.bin op l r) then .bin op (graftChain args l) r
    else .lambda args (.bin op l r)
  | e => .lambda args e

/-- the lambda pushed all the way down the left spine of binary operators -/
def graft (args : List LArg) : Expr → Expr
  | .bin op l r => .bin op (graft args l) r
  | e => .lambda args e

theorem extendLambdaBody_graft (args : List LArg) : ∀ (b : Expr),
    extendLambdaBody (graft args b) = .lambda args b
  | .bin op l r => by
    simp only [graft, extendLambdaBody, extendLambdaBody_graft args l]
  | .num _ | .str _ | .bool _ | .null | .ident _ | .inref _ | .builtin _ | .list _ | .record _
  | .lambda _ _ | .cond _ _ _ | .doBlock _ _ | .assign _ _ | .output _ | .call _ _
  | .access _ _ | .dot _ _ | .un _ _ | .fact _ | .spread _ => by
    simp [graft, extendLambdaBody]

theorem extendLambdaBody_graftChain (args : List LArg) : ∀ (b : Expr),
    extendLambdaBody (graftChain args b) = .lambda args b
  | .bin op l r => by
    simp only [graftChain]
    split
    · simp only [extendLambdaBody, extendLambdaBody_graftChain args l]
    · simp [extendLambdaBody]
  | .num _ | .str _ | .bool _ | .null | .ident _ | .inref _ | .builtin _ | .list _ | .record _
  | .lambda _ _ | .cond _ _ _ | .doBlock _ _ | .assign _ _ | .output _ | .call _ _
  | .access _ _ | .dot _ _ | .un _ _ | .fact _ | .spread _ => by
    simp [graftChain, extendLambdaBody]

theorem parseFunctionSource_graft (args : List LArg) (b : Expr) (rest : List Expr) :
    parseFunctionSource (graft args b :: rest) = some (args, exprToSource b) := by
  simp only [parseFunctionSource, extendLambdaBody_graft]

theorem parseFunctionSource_graftChain (args : List LArg) (b : Expr) (rest : List Expr) :
    parseFunctionSource (graftChain args b :: rest) = some (args, exprToSource b) := by
  simp only [parseFunctionSource, extendLambdaBody_graftChain]

theorem fromIdent_no_paren : ∀ k ∈ Gen.fromIdent.map Prod.fst, k.toList.head? ≠ some '(' := by
  decide +kernel

/-- the source text of a function is never mistaken for a built-in name by `from_json` -/
theorem lambdaSource_not_builtin (args : List LArg) (t : String) :
    isBuiltinName (lambdaSource args t) = false := by
  unfold isBuiltinName
  cases h : lookupAL (lambdaSource args t) Gen.fromIdent with
  | none => rfl
  | some v =>
    have hm := (lookupAL_ne_none_iff _ Gen.fromIdent).mp (by rw [h]; simp)
    have := fromIdent_no_paren _ hm
    simp [lambdaSource] at this

/-! ### the class of the full statements

  `subst_lemma_statement` / `reload_equiv_statement` in `Props/C05.lean` (stated, not proved) are
  about bodies in `noNestedAssign`. -/

mutual
/-- no assignment except as a direct statement of a do-block (hereditarily, also inside
    nested function bodies).  An assignment elsewhere in a function body binds its name in
    the call frame at run time, which the emitter does not see: `nested_assignment_breaks_reload`
    in Props/C05.lean. -/
def noNestedAssign : Expr → Bool
  | .assign _ _ => false
  | .lambda _ body => noNestedAssign body
  | .bin _ l r => noNestedAssign l && noNestedAssign r
  | .un _ e => noNestedAssign e
  | .fact e => noNestedAssign e
  | .spread e => noNestedAssign e
  | .output e => noNestedAssign e
  | .call f args => noNestedAssign f && nnaList args
  | .access e i => noNestedAssign e && noNestedAssign i
  | .dot e _ => noNestedAssign e
  | .cond c a b => noNestedAssign c && noNestedAssign a && noNestedAssign b
  | .list items => nnaItems items
  | .record es => nnaEntries es
  | .doBlock stmts ret => nnaStmts stmts && nnaStmt ret
  | _ => true
def nnaList : List Expr → Bool
  | [] => true
  | e :: es => noNestedAssign e && nnaList es
def nnaItems : List Item → Bool
  | [] => true
  | .mk _ e _ :: is => noNestedAssign e && nnaItems is
def nnaStmt : Item → Bool
  | .mk _ (.assign _ v) _ => noNestedAssign v
  | .mk _ e _ => noNestedAssign e
def nnaStmts : List Item → Bool
  | [] => true
  | i :: is => nnaStmt i && nnaStmts is
def nnaEntries : List Entry → Bool
  | [] => true
  | .mk _ k v _ :: es => nnaKey k && noNestedAssign v && nnaEntries es
def nnaKey : Key → Bool
  | .dyn e => noNestedAssign e
  | .spread e => noNestedAssign e
  | _ => true
end

end Emit
end Blots
