import Blots.Lemmas.Shortest
import Blots.Lemmas.NumText
/-
  Emitted-source number text (`srcNumber`), `to_string` text: character sets and read-back.
-/
open Blots Blots.F64 Blots.NumText

namespace Blots.NumText

theorem radixSplit_none_of_not_mem (m : Char) (cs : List Char) (h : m ∉ cs) : radixSplit m cs = none := by
  have key : ∀ (c : Char) (x : Bool × List Char), c ∈ cs → (if c = m then some x else none) = none :=
    fun c x hc => if_neg fun e : c = m => h (e ▸ hc)
  unfold radixSplit
  split
  · exact key _ _ (by simp)
  · exact key _ _ (by simp)
  · exact key _ _ (by simp)
  · rfl

theorem literalValue_plain (cs : List Char) (h : ∀ c ∈ cs, isDigit c = true ∨ c = '.' ∨ c = '-') :
    literalValue (String.ofList cs) = F64.parseDec (String.ofList cs) := by
  have key : ∀ d : Char, isDigit d = false → d ≠ '.' → d ≠ '-' → d ∉ cs := fun d h1 h2 h3 hm => by
    rcases h d hm with h | h | h
    · rw [h1] at h; cases h
    · exact h2 h
    · exact h3 h
  have hu : removeUnderscores cs = cs :=
    List.filter_eq_self.2 fun c hc => by
      have : c ≠ '_' := fun e => key '_' rfl (by decide) (by decide) (e ▸ hc)
      simp [this]
  rw [literalValue_decimal cs (radixSplit_none_of_not_mem _ _ (key 'b' rfl (by decide) (by decide)))
    (radixSplit_none_of_not_mem _ _ (key 'x' rfl (by decide) (by decide))), hu]

theorem positional_chars (ds : String) (e : Int) (h : ∀ c ∈ ds.toList, isDigit c = true) :
    ∀ c ∈ (positional ds e).toList, isDigit c = true ∨ c = '.' := by
  intro c hc
  unfold positional at hc
  split at hc
  · simp only [String.toList_append, zeros_toList, List.mem_append, List.mem_replicate] at hc
    rcases hc with hc | hc
    · exact Or.inl (h c hc)
    · left; rw [hc.2]; decide
  · simp only [] at hc
    split at hc
    · simp only [String.toList_append, String.toList_ofList, List.mem_append] at hc
      rcases hc with (hc | hc) | hc
      · exact Or.inl (h c (List.mem_of_mem_take hc))
      · right; simpa using hc
      · exact Or.inl (h c (List.mem_of_mem_drop hc))
    · simp only [String.toList_append, zeros_toList, List.mem_append, List.mem_replicate] at hc
      rcases hc with (hc | hc) | hc
      · have : c = '0' ∨ c = '.' := by simpa using hc
        rcases this with h0 | h0
        · left; rw [h0]; decide
        · right; exact h0
      · left; rw [hc.2]; decide
      · exact Or.inl (h c hc)


theorem sign_chars (neg : Bool) : ∀ c ∈ (if neg then "-" else "").toList, c = '-' := by
  intro c hc
  cases neg <;> simp at hc
  exact hc

theorem toDisplay_chars (x : F64) (hf : x.isFinite = true) :
    ∀ c ∈ (toDisplay x).toList, isDigit c = true ∨ c = '.' ∨ c = '-' := by
  intro c hc
  rw [toDisplay_finite x hf, String.toList_append, List.mem_append] at hc
  rcases hc with hc | hc
  · exact Or.inr (Or.inr (sign_chars _ c hc))
  · split at hc
    · have : c = '0' := by simpa using hc
      left; rw [this]; decide
    · rcases positional_chars _ _ (natDigits_all_isDigit _) c hc with h | h
      · exact Or.inl h
      · exact Or.inr (Or.inl h)

theorem toFixed_zero_chars (x : F64) (hf : x.isFinite = true) (hi : x.isIntegral = true) :
    ∀ c ∈ (toFixed x 0).toList, isDigit c = true ∨ c = '.' ∨ c = '-' := by
  intro c hc
  rw [toFixed_zero_of_integral x hf (ratio_integral_of_isIntegral x hi), String.toList_append,
    List.mem_append] at hc
  rcases hc with hc | hc
  · exact Or.inr (Or.inr (sign_chars _ c hc))
  · exact Or.inl (natDigits_all_isDigit _ c hc)

theorem srcNumber_chars (x : F64) (hf : x.isFinite = true) :
    ∀ c ∈ (srcNumber x).toList, isDigit c = true ∨ c = '.' ∨ c = '-' := by
  unfold srcNumber
  split
  · rename_i h
    simp only [Bool.and_eq_true] at h
    exact toFixed_zero_chars x hf h.1
  · exact toDisplay_chars x hf

theorem parseDec_srcNumber (x : F64) (hf : x.isFinite = true)
    (h : x.isZero = true ∨ ShortestFound true x) : parseDec (srcNumber x) = some x := by
  unfold srcNumber
  split
  · rename_i hc
    simp only [Bool.and_eq_true] at hc
    exact parseDec_toFixed_zero x hf hc.1
  · exact parseDec_toDisplay x hf h

theorem literalValue_srcNumber (x : F64) (hf : x.isFinite = true)
    (h : x.isZero = true ∨ ShortestFound true x) : literalValue (srcNumber x) = some x := by
  have hs : srcNumber x = String.ofList (srcNumber x).toList := (String.ofList_toList).symm
  rw [hs, literalValue_plain _ (srcNumber_chars x hf), ← hs]
  exact parseDec_srcNumber x hf h

/-- how an emitted `-5` is re-read: the literal `5` under the negation operator -/
theorem negate_abs (x : F64) (h : x.neg = true) : x.abs.negate = x := by
  have hm := mag_lt x
  have hn := nbits_abs x
  have hneg : x.abs.neg = false := by
    simp only [F64.neg, hn]
    have : x.mag / 2 ^ 63 % 2 = 0 := by omega
    simp [this]
  have hmag : x.abs.mag = x.mag := by
    simp only [F64.mag, hn]
    exact Nat.mod_eq_of_lt hm
  have hx := eq_ofNatBits_sign_mag x
  rw [h] at hx
  simp only [↓reduceIte] at hx
  unfold F64.negate
  rw [hneg, hmag]
  simp only [Bool.false_eq_true, ↓reduceIte]
  rw [Nat.add_comm]
  exact hx.symm

end Blots.NumText
