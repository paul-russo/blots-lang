import Blots.Lemmas.EvalEnv
import Blots.Lemmas.EvalEnvFree
/-
  Helpers for C04 / C02: association lists (order independence of lookups), `bindParams`,
  `lambdaArity` / `checkArity`, `captureScope`, the frames of a call.
-/
namespace Blots

/-- `frame.extend(pairs)`: insert the pairs in order -/
def insertAll (f : Frame) (kvs : List (String × Value)) : Frame :=
  kvs.foldl (fun f kv => insertAL kv.1 kv.2 f) f

theorem insertAll_nodup : ∀ (kvs : List (String × Value)) (f : Frame),
    (f.map Prod.fst).Nodup → ((insertAll f kvs).map Prod.fst).Nodup
  | [], _, h => h
  | kv :: kvs, f, h => insertAll_nodup kvs _ (insertAL_nodup kv.1 kv.2 f h)

theorem lookupAL_insertAll (k : String) (kvs : List (String × Value)) (f : Frame) :
    lookupAL k (insertAll f kvs) =
      match lookupAL k kvs.reverse with | some v => some v | none => lookupAL k f := by
  rw [insertAll, lookupAL_foldl_insertAL]; cases lookupAL k kvs.reverse <;> rfl

/-- the value the parameter at position `i` receives -/
def paramValue (args : List Value) (i : Nat) : LArg → Value
  | .req _ => (args[i]?).getD .null
  | .opt _ => (args[i]?).getD .null
  | .rest _ => .list (args.drop i)

/-- (name, value) for the parameters from position `i` on -/
def paramPairs (args : List Value) : List LArg → Nat → List (String × Value)
  | [], _ => []
  | p :: rest, i => (p.name, paramValue args i p) :: paramPairs args rest (i + 1)

/-- every required parameter has an argument at its position -/
def reqsInRange (nargs : Nat) : List LArg → Nat → Bool
  | [], _ => true
  | .req _ :: rest, i => decide (i < nargs) && reqsInRange nargs rest (i + 1)
  | _ :: rest, i => reqsInRange nargs rest (i + 1)

theorem bindParams_go_eq (args : List Value) : ∀ (ps : List LArg) (i : Nat) (frame : Frame),
    bindParams.go args ps i frame =
      if reqsInRange args.length ps i then .ok (insertAll frame (paramPairs args ps i)) else .err .arity
  | [], i, frame => by simp [bindParams.go, reqsInRange, paramPairs, insertAll]
  | .req n :: rest, i, frame => by
    rw [bindParams.go]
    by_cases h : i < args.length
    · have : args[i]? = some args[i] := List.getElem?_eq_getElem h
      simp only [this, bindParams_go_eq args rest, reqsInRange, h, decide_true, Bool.true_and,
        paramPairs, paramValue, LArg.name, Option.getD_some, insertAll, List.foldl_cons]
    · have : args[i]? = none := List.getElem?_eq_none (by omega)
      simp [reqsInRange, h]
  | .opt n :: rest, i, frame => by
    rw [bindParams.go]
    simp only [bindParams_go_eq args rest, reqsInRange, paramPairs, paramValue, LArg.name, insertAll,
      List.foldl_cons]
    rfl
  | .rest n :: rest, i, frame => by
    rw [bindParams.go]
    simp only [bindParams_go_eq args rest, reqsInRange, paramPairs, paramValue, LArg.name, insertAll,
      List.foldl_cons]
    rfl

theorem bindParams_eq (ps : List LArg) (args : List Value) :
    bindParams ps args =
      if reqsInRange args.length ps 0 then .ok (insertAll [] (paramPairs args ps 0)) else .err .arity := by
  unfold bindParams; exact bindParams_go_eq args ps 0 []

theorem reqsInRange_false_iff (nargs : Nat) : ∀ (ps : List LArg) (i : Nat),
    reqsInRange nargs ps i = false ↔ ∃ j n, ps[j]? = some (.req n) ∧ nargs ≤ i + j
  | [], i => by simp [reqsInRange]
  | p :: rest, i => by
    have ih := reqsInRange_false_iff nargs rest (i + 1)
    constructor
    · intro h
      -- a witness in the tail, one position further
      have up : reqsInRange nargs rest (i + 1) = false →
          ∃ j n, (p :: rest)[j]? = some (.req n) ∧ nargs ≤ i + j := fun h =>
        have ⟨j, m, h1, h2⟩ := ih.mp h
        ⟨j + 1, m, h1, by omega⟩
      cases p with
      | req n =>
        simp only [reqsInRange, Bool.and_eq_false_iff, decide_eq_false_iff_not] at h
        exact h.elim (fun h => ⟨0, n, rfl, by omega⟩) up
      | opt n => exact up h
      | rest n => exact up h
    · rintro ⟨j, n, h1, h2⟩
      cases j with
      | zero =>
        cases Option.some.inj h1
        simp only [reqsInRange, Bool.and_eq_false_iff, decide_eq_false_iff_not]
        exact .inl (by omega)
      | succ j =>
        have := ih.mpr ⟨j, n, h1, by omega⟩
        cases p <;> simp only [reqsInRange, this, Bool.and_false]

def reqCount (ps : List LArg) : Nat := (ps.filter fun | .req _ => true | _ => false).length
def hasRest (ps : List LArg) : Bool := ps.any fun | .rest _ => true | _ => false

theorem reqCount_le_length (ps : List LArg) : reqCount ps ≤ ps.length := List.length_filter_le _ _

theorem lambdaArity_eq (ps : List LArg) :
    lambdaArity ps = if hasRest ps then .atLeast (reqCount ps)
      else if reqCount ps == ps.length then .exact (reqCount ps) else .between (reqCount ps) ps.length := rfl

theorem checkArity_lambda_iff (ps : List LArg) (n : Nat) :
    checkArity (lambdaArity ps) n = .ok () ↔ reqCount ps ≤ n ∧ (hasRest ps = true ∨ n ≤ ps.length) := by
  have hle := reqCount_le_length ps
  rw [lambdaArity_eq]
  unfold checkArity
  by_cases hr : hasRest ps = true
  · simp only [hr, if_true, Gen.Arity.canAccept, decide_eq_true_eq, true_or, and_true]
    split <;> simp_all
  · simp only [hr, Bool.false_eq_true, if_false, false_or]
    by_cases he : reqCount ps = ps.length
    · simp only [he, beq_self_eq_true, if_true, Gen.Arity.canAccept]
      constructor
      · intro h; split at h <;> simp_all
      · intro h
        have : n = ps.length := by omega
        simp [this]
    · have : (reqCount ps == ps.length) = false := by simpa using he
      simp only [this, Bool.false_eq_true, if_false, Gen.Arity.canAccept]
      constructor
      · intro h; split at h <;> simp_all
      · intro h; simp [h.1, h.2]

theorem paramPairs_keys (args : List Value) : ∀ (ps : List LArg) (j : Nat),
    (paramPairs args ps j).map Prod.fst = ps.map LArg.name
  | [], _ => rfl
  | p :: ps, j => by simp [paramPairs, paramPairs_keys args ps (j + 1)]

theorem paramPairs_getElem? (args : List Value) : ∀ (ps : List LArg) (j i : Nat),
    (paramPairs args ps j)[i]? = (ps[i]?).map fun p => (p.name, paramValue args (j + i) p)
  | [], _, _ => by simp [paramPairs]
  | p :: ps, j, 0 => by simp [paramPairs]
  | p :: ps, j, i + 1 => by
    simp only [paramPairs, List.getElem?_cons_succ, paramPairs_getElem? args ps (j + 1) i]
    rw [show j + 1 + i = j + (i + 1) by omega]

theorem lookup_bound_param (args : List Value) (ps : List LArg) (hnd : (ps.map LArg.name).Nodup)
    (i : Nat) (p : LArg) (hp : ps[i]? = some p) :
    lookupAL p.name (insertAll [] (paramPairs args ps 0)) = some (paramValue args i p) := by
  rw [lookupAL_insertAll]
  have hk : ((paramPairs args ps 0).map Prod.fst).Nodup := by rw [paramPairs_keys]; exact hnd
  have hk' : ((paramPairs args ps 0).reverse.map Prod.fst).Nodup := by
    rw [List.map_reverse]; exact (List.reverse_perm _).nodup_iff.mpr hk
  have hm : (p.name, paramValue args i p) ∈ paramPairs args ps 0 := by
    have := paramPairs_getElem? args ps 0 i
    rw [hp] at this
    simp only [Option.map_some, Nat.zero_add] at this
    exact List.mem_of_getElem? this
  have := (lookupAL_eq_some_iff hk').mpr (List.mem_reverse.mpr hm)
  rw [this]

theorem lookup_not_param (args : List Value) (ps : List LArg) (k : String) (hk : k ∉ ps.map LArg.name) :
    lookupAL k (insertAll [] (paramPairs args ps 0)) = none := by
  rw [lookupAL_insertAll]
  have : lookupAL k (paramPairs args ps 0).reverse = none := by
    rw [lookupAL_eq_none_iff, List.map_reverse, List.mem_reverse, paramPairs_keys]; exact hk
  rw [this]; rfl

/-- the documented parameter shape: required*, optional*, at most one trailing rest -/
def docShape (reqs opts : List String) (rest : Option String) : List LArg :=
  reqs.map .req ++ (opts.map .opt ++ (match rest with | some r => [.rest r] | none => []))

theorem docShape_names (reqs opts : List String) (rest : Option String) :
    (docShape reqs opts rest).map LArg.name = reqs ++ (opts ++ rest.toList) := by
  cases rest <;> simp [docShape, LArg.name, Function.comp_def]

theorem docShape_length (reqs opts : List String) (rest : Option String) :
    (docShape reqs opts rest).length = reqs.length + opts.length + rest.toList.length := by
  cases rest <;> simp [docShape] <;> omega

theorem docShape_reqCount (reqs opts : List String) (rest : Option String) :
    reqCount (docShape reqs opts rest) = reqs.length := by
  unfold reqCount docShape
  rw [List.filter_append, List.filter_append]
  have h1 : (reqs.map LArg.req).filter (fun | .req _ => true | _ => false) = reqs.map LArg.req := by
    rw [List.filter_eq_self]; intro a ha; simp at ha; obtain ⟨x, _, rfl⟩ := ha; rfl
  have h2 : (opts.map LArg.opt).filter (fun | .req _ => true | _ => false) = [] := by
    rw [List.filter_eq_nil_iff]; intro a ha; simp at ha; obtain ⟨x, _, rfl⟩ := ha; simp
  rw [h1, h2]
  cases rest <;> simp

theorem docShape_hasRest (reqs opts : List String) (rest : Option String) :
    hasRest (docShape reqs opts rest) = rest.isSome := by
  unfold hasRest docShape
  cases rest with
  | none =>
    simp only [Option.isSome_none, List.append_nil, List.any_append, Bool.or_eq_false_iff, List.any_eq_false]
    constructor
    · intro a ha; simp at ha; obtain ⟨x, _, rfl⟩ := ha; simp
    · intro a ha; simp at ha; obtain ⟨x, _, rfl⟩ := ha; simp
  | some r => simp

theorem docShape_reqsInRange (n : Nat) (reqs opts : List String) (rest : Option String)
    (h : reqs.length ≤ n) : reqsInRange n (docShape reqs opts rest) 0 = true := by
  cases hr : reqsInRange n (docShape reqs opts rest) 0 with
  | true => rfl
  | false =>
    obtain ⟨j, m, h1, h2⟩ := (reqsInRange_false_iff n _ 0).mp hr
    exfalso
    unfold docShape at h1
    by_cases hj : j < reqs.length
    · omega
    · rw [List.getElem?_append_right (by simpa using Nat.le_of_not_lt hj)] at h1
      have := List.mem_of_getElem? h1
      cases rest <;> simp at this

def captureStep (env : List Frame) (sc : Frame) (y : String) : Frame :=
  match envGet env y with
  | some v => insertAL y v sc
  | none => sc

theorem captureScope_eq (env : List Frame) (vars : List String) :
    captureScope env vars = vars.foldl (captureStep env) [] := rfl

theorem captureScope_agree {E E' : List Frame} {vars : List String}
    (h : ∀ y ∈ vars, envGet E' y = envGet E y) : captureScope E' vars = captureScope E vars := by
  rw [captureScope_eq, captureScope_eq]
  generalize ([] : Frame) = sc
  induction vars generalizing sc with
  | nil => rfl
  | cons y vars ih =>
    rw [List.foldl_cons, List.foldl_cons, show captureStep E' sc y = captureStep E sc y by
      unfold captureStep; rw [h y List.mem_cons_self]]
    exact ih (fun z hz => h z (List.mem_cons_of_mem _ hz)) _

theorem captureScope_go_lookup (env : List Frame) (x : String) : ∀ (vars : List String) (sc : Frame),
    lookupAL x (vars.foldl (captureStep env) sc) =
      if x ∈ vars ∧ (envGet env x).isSome then envGet env x else lookupAL x sc
  | [], sc => by simp
  | y :: vars, sc => by
    rw [List.foldl_cons, captureScope_go_lookup env x vars]
    by_cases hin : x ∈ vars ∧ (envGet env x).isSome
    · have : x ∈ y :: vars ∧ (envGet env x).isSome :=
        ⟨List.mem_cons_of_mem _ hin.1, hin.2⟩
      rw [if_pos hin, if_pos this]
    · rw [if_neg hin]
      by_cases hxy : x = y
      · subst hxy
        unfold captureStep
        cases hg : envGet env x with
        | none => simp
        | some v => simp [lookupAL_insertAL_self]
      · have h2 : (x ∈ y :: vars ∧ (envGet env x).isSome) ↔ (x ∈ vars ∧ (envGet env x).isSome) := by
          simp [hxy]
        rw [if_neg (fun h => hin (h2.mp h))]
        unfold captureStep
        cases hg : envGet env y with
        | none => rfl
        | some v => exact lookupAL_insertAL_ne y x v hxy sc

theorem captureScope_lookup (env : List Frame) (vars : List String) (x : String) :
    lookupAL x (captureScope env vars) = if x ∈ vars then envGet env x else none := by
  rw [captureScope_eq, captureScope_go_lookup]
  by_cases h : x ∈ vars
  · rw [if_pos h]
    cases hg : envGet env x with
    | none => simp [lookupAL]
    | some v => simp [h]
  · rw [if_neg h, if_neg (fun h' => h h'.1)]; rfl

theorem captureScope_nodup (env : List Frame) (vars : List String) :
    ((captureScope env vars).map Prod.fst).Nodup := by
  rw [captureScope_eq]
  suffices ∀ (vars : List String) (sc : Frame), (sc.map Prod.fst).Nodup →
      ((vars.foldl (captureStep env) sc).map Prod.fst).Nodup from this vars [] (by simp)
  intro vars
  induction vars with
  | nil => intro sc h; exact h
  | cons y vars ih =>
    intro sc h
    rw [List.foldl_cons]
    apply ih
    unfold captureStep
    split
    · exact insertAL_nodup _ _ _ h
    · exact h

/-- the self-reference frame: the function's display name ↦ the function, unless the captured
    scope already has that name -/
def selfFrame (names : List (Nat × String)) (id : Nat) (scope : Frame) (this : Value) : Frame :=
  match nameOf names id with
  | some n => if (lookupAL n scope).isSome then [] else [(n, this)]
  | none => []

/-- plus `inputs`, copied from the caller -/
def baseFrame (names : List (Nat × String)) (id : Nat) (scope : Frame) (this : Value)
    (inputs : Option Value) : Frame :=
  match inputs with
  | some v => insertAL "inputs" v (selfFrame names id scope this)
  | none => selfFrame names id scope this

/-- the innermost frame of a call: parameters on top of `baseFrame` -/
def callFrame (names : List (Nat × String)) (id : Nat) (scope : Frame) (this : Value)
    (inputs : Option Value) (pf : Frame) : Frame :=
  insertAll (baseFrame names id scope this inputs) pf

/-- the whole environment of the body -/
def callEnv (names : List (Nat × String)) (id : Nat) (scope : Frame) (this : Value)
    (pf : Frame) (caller : List Frame) : List Frame :=
  callFrame names id scope this (envGet caller "inputs") pf ::
    (if scope.isEmpty then caller else scope :: caller)

theorem bodyEnv_eq_callEnv (s : ES) (id : Nat) (scope : Frame) (this : Value) (pf : Frame) :
    bodyEnv s id scope this pf = callEnv s.names id scope this pf s.env := by
  unfold bodyEnv bodyFrame callEnv callFrame baseFrame selfFrame insertAll
  cases envGet s.env "inputs" <;> rfl

theorem callFn_lambda_eq (ops : NumOps) (fuel id : Nat) (ps : List LArg) (body : Expr) (scope : Frame)
    (this : Value) (args : List Value) (depth : Nat) (s : ES) (pf : Frame)
    (ha : checkArity (lambdaArity ps) args.length = .ok ()) (hd : ¬ depth > MAX_DEPTH)
    (hb : bindParams ps args = .ok pf) :
    callFn ops (fuel + 1) (.lambda id ps body scope) this args depth s =
      ((eval ops fuel (depth + 1) body { s with env := callEnv s.names id scope this pf s.env }).1,
       { (eval ops fuel (depth + 1) body { s with env := callEnv s.names id scope this pf s.env }).2
          with env := s.env }) := by
  rw [callFn_lambda, ha, R.bind_ok, if_neg hd, hb, R.bind_ok, bodyEnv_eq_callEnv]

/-- two calls of one function value with the same arguments: arity check, depth check and
    parameter binding do not look at the call site, so the outcomes agree as soon as the
    outcomes of the body do -/
theorem callFn_lambda_fst_congr (ops : NumOps) (fuel id : Nat) (ps : List LArg) (body : Expr)
    (scope : Frame) (this : Value) (args : List Value) (depth : Nat) (s s' : ES)
    (h : ∀ pf, bindParams ps args = .ok pf →
      (eval ops fuel (depth + 1) body { s with env := callEnv s.names id scope this pf s.env }).1 =
        (eval ops fuel (depth + 1) body { s' with env := callEnv s'.names id scope this pf s'.env }).1) :
    (callFn ops (fuel + 1) (.lambda id ps body scope) this args depth s).1 =
      (callFn ops (fuel + 1) (.lambda id ps body scope) this args depth s').1 := by
  -- failures are rewritten, not closed by `rfl`: to compare the two binds the kernel would compare
  -- their continuations, and unfold the evaluator on the way
  have fst_pair : ∀ (o : Outcome Value) (s : ES), (o, s).1 = o := fun _ _ => rfl
  rw [callFn_lambda, callFn_lambda]
  cases checkArity (lambdaArity ps) args.length with
  | ok u =>
    rw [R.bind_ok, R.bind_ok]
    split
    · rfl
    · cases hb : bindParams ps args with
      | ok pf => rw [R.bind_ok, R.bind_ok, fst_pair, fst_pair, bodyEnv_eq_callEnv, bodyEnv_eq_callEnv]; exact h pf hb
      | err e => rw [R.bind_err, R.bind_err]
      | panic p => rw [R.bind_panic, R.bind_panic]
      | fuel => rw [R.bind_fuel, R.bind_fuel]
  | err e => rw [R.bind_err, R.bind_err]
  | panic p => rw [R.bind_panic, R.bind_panic]
  | fuel => rw [R.bind_fuel, R.bind_fuel]

theorem lookup_selfFrame (names : List (Nat × String)) (id : Nat) (scope : Frame) (this : Value) (x : String) :
    lookupAL x (selfFrame names id scope this) =
      if nameOf names id = some x ∧ lookupAL x scope = none then some this else none := by
  unfold selfFrame
  cases hn : nameOf names id with
  | none => simp [lookupAL]
  | some n =>
    by_cases hnx : n = x
    · subst hnx
      cases hs : lookupAL n scope <;> simp [lookupAL, hs]
    · have : ¬ (some n = some x ∧ lookupAL x scope = none) := by
        intro h; exact hnx (Option.some.inj h.1)
      rw [if_neg this]
      simp only
      split <;> simp [lookupAL, hnx]

/-- name resolution inside a call: parameters, then `inputs` of the caller, then the
    function's own name (if it has one and did not capture something under it), then the
    captured scope, then the caller's environment -/
theorem envGet_callEnv (names : List (Nat × String)) (id : Nat) (scope : Frame) (this : Value)
    (pf : Frame) (caller : List Frame) (x : String) :
    envGet (callEnv names id scope this pf caller) x =
      match lookupAL x pf.reverse with
      | some v => some v
      | none =>
        if x = "inputs" ∧ (envGet caller "inputs").isSome then envGet caller "inputs"
        else if nameOf names id = some x ∧ lookupAL x scope = none then some this
        else match lookupAL x scope with
          | some v => some v
          | none => envGet caller x := by
  unfold callEnv callFrame
  rw [envGet_cons, lookupAL_insertAll]
  cases hp : lookupAL x pf.reverse with
  | some v => rfl
  | none =>
    simp only
    have hparent : envGet (if scope.isEmpty then caller else scope :: caller) x =
        match lookupAL x scope with | some v => some v | none => envGet caller x := by
      cases scope with
      | nil => simp [lookupAL]
      | cons a b => rfl
    rw [hparent]
    unfold baseFrame
    cases hi : envGet caller "inputs" with
    | none =>
      simp only [Option.isSome_none, Bool.false_eq_true, and_false, if_false, lookup_selfFrame]
      by_cases hc : nameOf names id = some x ∧ lookupAL x scope = none
      · rw [if_pos hc, if_pos hc]
      · rw [if_neg hc, if_neg hc]
    | some iv =>
      simp only [Option.isSome_some, and_true]
      by_cases hx : x = "inputs"
      · subst hx; simp [lookupAL_insertAL_self]
      · rw [lookupAL_insertAL_ne "inputs" x iv hx, lookup_selfFrame, if_neg hx]
        by_cases hc : nameOf names id = some x ∧ lookupAL x scope = none
        · rw [if_pos hc, if_pos hc]
        · rw [if_neg hc, if_neg hc]

/-- two environments whose frames are pairwise permutations of each other (distinct keys) -/
inductive FramesPerm : List Frame → List Frame → Prop
  | nil : FramesPerm [] []
  | cons {f f' : Frame} {env env' : List Frame} : (f.map Prod.fst).Nodup → f.Perm f' →
      FramesPerm env env' → FramesPerm (f :: env) (f' :: env')

theorem envGet_framesPerm (k : String) {env env' : List Frame} (h : FramesPerm env env') :
    envGet env k = envGet env' k := by
  induction h with
  | nil => rfl
  | cons h1 h2 _ ih => simp only [envGet]; rw [lookupAL_perm k h1 h2, ih]

theorem bindParams_lookup_isSome (ps : List LArg) (args : List Value) (pf : Frame)
    (hb : bindParams ps args = .ok pf) (x : String) (hx : x ∈ ps.map LArg.name) :
    (lookupAL x pf.reverse).isSome := by
  rw [bindParams_eq] at hb
  split at hb
  · cases hb
    have hnd := insertAll_nodup (paramPairs args ps 0) [] (by simp)
    rw [← lookupAL_perm x hnd (List.reverse_perm _).symm, lookupAL_insertAll]
    have : lookupAL x (paramPairs args ps 0).reverse ≠ none := by
      rw [Ne, lookupAL_eq_none_iff, List.map_reverse, List.mem_reverse, paramPairs_keys]
      exact fun h => h hx
    cases h : lookupAL x (paramPairs args ps 0).reverse with
    | none => exact absurd h this
    | some v => rfl
  · cases hb

theorem callEnv_agree (names : List (Nat × String)) (id : Nat) (scope : Frame) (this : Value)
    (pf : Frame) (caller caller' : List Frame)
    (hin : envGet caller "inputs" = envGet caller' "inputs") (x : String)
    (hx : (lookupAL x pf.reverse).isSome ∨ (lookupAL x scope).isSome ∨ nameOf names id = some x ∨
          x = "inputs") :
    envGet (callEnv names id scope this pf caller) x = envGet (callEnv names id scope this pf caller') x := by
  rw [envGet_callEnv, envGet_callEnv, ← hin]
  cases hp : lookupAL x pf.reverse with
  | some v => rfl
  | none =>
    simp only
    by_cases h1 : x = "inputs" ∧ (envGet caller "inputs").isSome
    · rw [if_pos h1, if_pos h1]
    · rw [if_neg h1, if_neg h1]
      by_cases h2 : nameOf names id = some x ∧ lookupAL x scope = none
      · rw [if_pos h2, if_pos h2]
      · rw [if_neg h2, if_neg h2]
        cases hs : lookupAL x scope with
        | some v => rfl
        | none =>
          simp only
          rcases hx with h | h | h | h
          · rw [hp] at h; cases h
          · rw [hs] at h; cases h
          · exact absurd ⟨h, hs⟩ h2
          · subst h
            -- nothing the call pushed binds `inputs`: what is left is the callers' own lookup
            exact hin

/-- the coincidence property of ONE body at one fuel and depth: its outcome depends on the
    state only through the id counter, the display names, `inputs` and the values of the names
    free in it.  (False for some bodies: at depth 0 an assignment looks at every frame of the
    chain; at any depth a call of a function value with unbound free names reads them from the
    caller, see `call_site_independent_statement_false` in Props/C04.lean.) -/
def Coincidence (ops : NumOps) (fuel depth : Nat) (body : Expr) : Prop :=
  ∀ (s s' : ES), s.nextId = s'.nextId → s.names = s'.names →
    envGet s.env "inputs" = envGet s'.env "inputs" →
    (∀ x, FreeIn x body → envGet s.env x = envGet s'.env x) →
    (eval ops fuel depth body s).1 = (eval ops fuel depth body s').1

/-- every name free in the body is a parameter, captured, the function's own name, or `inputs` -/
def ClosedFn (names : List (Nat × String)) (id : Nat) (ps : List LArg) (body : Expr) (scope : Frame) : Prop :=
  ∀ x, FreeIn x body → x ∈ ps.map LArg.name ∨ (lookupAL x scope).isSome ∨ nameOf names id = some x ∨
    x = "inputs"

theorem ClosedFn.agree {names : List (Nat × String)} {id : Nat} {ps : List LArg} {body : Expr} {scope : Frame}
    (hclosed : ClosedFn names id ps body scope) (this : Value) {args : List Value} {pf : Frame}
    (hb : bindParams ps args = .ok pf) {caller caller' : List Frame}
    (hin : envGet caller "inputs" = envGet caller' "inputs") (x : String) (hx : FreeIn x body ∨ x = "inputs") :
    envGet (callEnv names id scope this pf caller) x = envGet (callEnv names id scope this pf caller') x :=
  callEnv_agree names id scope this pf caller caller' hin x <|
    hx.elim (fun hx => (hclosed x hx).imp_left (bindParams_lookup_isSome ps args pf hb x))
      fun hx => .inr (.inr (.inr hx))

end Blots
