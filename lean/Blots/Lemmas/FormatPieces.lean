import Blots.Lemmas.FormatLemmas
/-
  Comment preservation of the width-driven layouts (`fmtImplP` and the per-kind layouts of
  `Model/Format.lean`), for every tree, width and indent: the comment pieces of a layout are
  exactly the comments of the tree, one for one and in order (`Good`, `good_both`), by mutual
  structural induction through every layout branch.
-/
namespace Blots
namespace FormatP
open FormatL

mutual
/-- every leading and trailing comment of every `Commented` wrapper of the printed tree, in
    source order; `rt`: count the trailing comment of the `return` item of do-blocks, which
    `format_do_block_multiline` never prints.  The `value` of a shorthand or spread record
    entry is not part of the tree (the parser puts a dummy `Null` there, expressions.rs
    `RecordKey::Shorthand` / `RecordKey::Spread` arms), as in `contains_comments`. -/
def commentsG (rt : Bool) : Expr → List String
  | .list items => itemsCommentsG rt items
  | .record es => entriesCommentsG rt es
  | .lambda _ b => commentsG rt b
  | .cond c t e => commentsG rt c ++ (commentsG rt t ++ commentsG rt e)
  | .doBlock ss r => itemsCommentsG rt ss ++ retCommentsG rt r
  | .assign _ v => commentsG rt v
  | .output e => commentsG rt e
  | .call f as => commentsG rt f ++ exprsCommentsG rt as
  | .access e i => commentsG rt e ++ commentsG rt i
  | .dot e _ => commentsG rt e
  | .bin _ l r => commentsG rt l ++ commentsG rt r
  | .un _ e => commentsG rt e
  | .fact e => commentsG rt e
  | .spread e => commentsG rt e
  | _ => []
def exprsCommentsG (rt : Bool) : List Expr → List String
  | [] => []
  | e :: es => commentsG rt e ++ exprsCommentsG rt es
def itemCommentsG (rt : Bool) : Item → List String
  | .mk l e t => l ++ (commentsG rt e ++ t.toList)
def itemsCommentsG (rt : Bool) : List Item → List String
  | [] => []
  | i :: is => itemCommentsG rt i ++ itemsCommentsG rt is
def retCommentsG (rt : Bool) : Item → List String
  | .mk l e t => l ++ (commentsG rt e ++ (if rt then t.toList else []))
def entryCommentsG (rt : Bool) : Entry → List String
  | .mk l k v t => l ++ (keyCommentsG rt k (commentsG rt v) ++ t.toList)
def entriesCommentsG (rt : Bool) : List Entry → List String
  | [] => []
  | e :: es => entryCommentsG rt e ++ entriesCommentsG rt es
/-- key, then value (`vc` = the comments of the value) -/
def keyCommentsG (rt : Bool) : Key → List String → List String
  | .static _, vc => vc
  | .dyn k, vc => commentsG rt k ++ vc
  | .short _, _ => []
  | .spread e, _ => commentsG rt e
end

abbrev commentsOf (e : Expr) : List String := commentsG true e

/-- the comments `format_expr` prints: all but the trailing comments of `return` items -/
abbrev printedComments (e : Expr) : List String := commentsG false e

mutual
/-- no `return` item of a do-block carries a trailing comment (true of every tree the parser
    builds: `Commented::with_comments(…, expr, None)` in the `Rule::return_statement` arm) -/
def retClean : Expr → Bool
  | .list items => itemsRetClean items
  | .record es => entriesRetClean es
  | .lambda _ b => retClean b
  | .cond c t e => retClean c && (retClean t && retClean e)
  | .doBlock ss r => itemsRetClean ss && retItemClean r
  | .assign _ v => retClean v
  | .output e => retClean e
  | .call f as => retClean f && exprsRetClean as
  | .access e i => retClean e && retClean i
  | .dot e _ => retClean e
  | .bin _ l r => retClean l && retClean r
  | .un _ e => retClean e
  | .fact e => retClean e
  | .spread e => retClean e
  | _ => true
def exprsRetClean : List Expr → Bool
  | [] => true
  | e :: es => retClean e && exprsRetClean es
def itemRetClean : Item → Bool
  | .mk _ e _ => retClean e
def itemsRetClean : List Item → Bool
  | [] => true
  | i :: is => itemRetClean i && itemsRetClean is
def retItemClean : Item → Bool
  | .mk _ e t => retClean e && t.isNone
def entryRetClean : Entry → Bool
  | .mk _ k v _ => keyRetClean k (retClean v)
def entriesRetClean : List Entry → Bool
  | [] => true
  | e :: es => entryRetClean e && entriesRetClean es
def keyRetClean : Key → Bool → Bool
  | .static _, vc => vc
  | .dyn k, vc => retClean k && vc
  | .short _, _ => true
  | .spread e, _ => retClean e
end

mutual
theorem commentsG_retClean : ∀ e : Expr, retClean e = true → commentsG true e = commentsG false e
  | .list items, h => by
    simp only [retClean] at h; simp only [commentsG, itemsG_retClean items h]
  | .record es, h => by
    simp only [retClean] at h; simp only [commentsG, entriesG_retClean es h]
  | .lambda _ e, h | .assign _ e, h | .output e, h | .dot e _, h | .un _ e, h | .fact e, h
  | .spread e, h => by
    simp only [retClean] at h; simp only [commentsG, commentsG_retClean e h]
  | .cond c t e, h => by
    simp only [retClean, Bool.and_eq_true] at h
    simp only [commentsG, commentsG_retClean c h.1, commentsG_retClean t h.2.1,
      commentsG_retClean e h.2.2]
  | .doBlock ss r, h => by
    simp only [retClean, Bool.and_eq_true] at h
    simp only [commentsG, itemsG_retClean ss h.1, retG_retClean r h.2]
  | .call f as, h => by
    simp only [retClean, Bool.and_eq_true] at h
    simp only [commentsG, commentsG_retClean f h.1, exprsG_retClean as h.2]
  | .access l r, h | .bin _ l r, h => by
    simp only [retClean, Bool.and_eq_true] at h
    simp only [commentsG, commentsG_retClean l h.1, commentsG_retClean r h.2]
  | .num _, _ | .str _, _ | .bool _, _ | .null, _ | .ident _, _ | .inref _, _
  | .builtin _, _ => by simp only [commentsG]
theorem exprsG_retClean : ∀ es : List Expr, exprsRetClean es = true →
    exprsCommentsG true es = exprsCommentsG false es
  | [], _ => rfl
  | e :: es, h => by
    simp only [exprsRetClean, Bool.and_eq_true] at h
    simp only [exprsCommentsG, commentsG_retClean e h.1, exprsG_retClean es h.2]
theorem itemG_retClean : ∀ i : Item, itemRetClean i = true →
    itemCommentsG true i = itemCommentsG false i
  | .mk _ e _, h => by
    simp only [itemRetClean] at h; simp only [itemCommentsG, commentsG_retClean e h]
theorem itemsG_retClean : ∀ is : List Item, itemsRetClean is = true →
    itemsCommentsG true is = itemsCommentsG false is
  | [], _ => rfl
  | i :: is, h => by
    simp only [itemsRetClean, Bool.and_eq_true] at h
    simp only [itemsCommentsG, itemG_retClean i h.1, itemsG_retClean is h.2]
theorem retG_retClean : ∀ i : Item, retItemClean i = true →
    retCommentsG true i = retCommentsG false i
  | .mk _ e t, h => by
    simp only [retItemClean, Bool.and_eq_true, Option.isNone_iff_eq_none] at h
    simp [retCommentsG, commentsG_retClean e h.1, h.2]
theorem entryG_retClean : ∀ en : Entry, entryRetClean en = true →
    entryCommentsG true en = entryCommentsG false en
  | .mk _ k v _, h => by
    simp only [entryRetClean] at h
    simp only [entryCommentsG]
    rw [keyG_retClean k (retClean v) _ _ (commentsG_retClean v) h]
theorem entriesG_retClean : ∀ es : List Entry, entriesRetClean es = true →
    entriesCommentsG true es = entriesCommentsG false es
  | [], _ => rfl
  | e :: es, h => by
    simp only [entriesRetClean, Bool.and_eq_true] at h
    simp only [entriesCommentsG, entryG_retClean e h.1, entriesG_retClean es h.2]
theorem keyG_retClean : ∀ (k : Key) (vb : Bool) (vt vf : List String), (vb = true → vt = vf) →
    keyRetClean k vb = true → keyCommentsG true k vt = keyCommentsG false k vf
  | .static _, _, _, _, hv, h => by
    simp only [keyRetClean] at h; simp only [keyCommentsG, hv h]
  | .dyn k, _, _, _, hv, h => by
    simp only [keyRetClean, Bool.and_eq_true] at h
    simp only [keyCommentsG, commentsG_retClean k h.1, hv h.2]
  | .short _, _, _, _, _, _ => rfl
  | .spread e, _, _, _, _, h => by
    simp only [keyRetClean] at h; simp only [keyCommentsG, commentsG_retClean e h]
end

theorem append_nil_of {α} {a b : List α} (ha : a = []) (hb : b = []) : a ++ b = [] := by
  subst ha; subst hb; rfl

mutual
theorem commentsG_nil : ∀ (e : Expr) (rt : Bool), anyComment e = false → commentsG rt e = []
  | .list items, rt, h => by
    simp only [anyComment] at h; simp only [commentsG, itemsG_nil items rt h]
  | .record es, rt, h => by
    simp only [anyComment] at h; simp only [commentsG, entriesG_nil es rt h]
  | .lambda _ e, rt, h | .assign _ e, rt, h | .output e, rt, h | .dot e _, rt, h | .un _ e, rt, h
  | .fact e, rt, h | .spread e, rt, h => by
    simp only [anyComment] at h; simp only [commentsG, commentsG_nil e rt h]
  | .cond c t e, rt, h => by
    simp only [anyComment, Bool.or_eq_false_iff] at h
    simp only [commentsG, commentsG_nil c rt h.1.1, commentsG_nil t rt h.1.2,
      commentsG_nil e rt h.2, List.append_nil]
  | .doBlock ss r, rt, h => by
    simp only [anyComment, Bool.or_eq_false_iff] at h
    simp only [commentsG, itemsG_nil ss rt h.1, retG_nil r rt h.2, List.append_nil]
  | .call f as, rt, h => by
    simp only [anyComment, Bool.or_eq_false_iff] at h
    simp only [commentsG, commentsG_nil f rt h.1, exprsG_nil as rt h.2, List.append_nil]
  | .access l r, rt, h | .bin _ l r, rt, h => by
    simp only [anyComment, Bool.or_eq_false_iff] at h
    simp only [commentsG, commentsG_nil l rt h.1, commentsG_nil r rt h.2, List.append_nil]
  | .num _, _, _ | .str _, _, _ | .bool _, _, _ | .null, _, _ | .ident _, _, _ | .inref _, _, _
  | .builtin _, _, _ => by simp only [commentsG]
theorem exprsG_nil : ∀ (es : List Expr) (rt : Bool), exprsAnyComment es = false →
    exprsCommentsG rt es = []
  | [], _, _ => rfl
  | e :: es, rt, h => by
    simp only [exprsAnyComment, Bool.or_eq_false_iff] at h
    simp only [exprsCommentsG, commentsG_nil e rt h.1, exprsG_nil es rt h.2, List.append_nil]
theorem itemG_nil : ∀ (i : Item) (rt : Bool), itemAnyComment i = false → itemCommentsG rt i = []
  | .mk l e t, rt, h => by
    obtain ⟨rfl, rfl, hc⟩ := itemAnyComment_false h
    rw [itemCommentsG, commentsG_nil e rt hc]; rfl
theorem itemsG_nil : ∀ (is : List Item) (rt : Bool), itemsAnyComment is = false →
    itemsCommentsG rt is = []
  | [], _, _ => rfl
  | i :: is, rt, h => by
    simp only [itemsAnyComment, Bool.or_eq_false_iff] at h
    simp only [itemsCommentsG, itemG_nil i rt h.1, itemsG_nil is rt h.2, List.append_nil]
theorem retG_nil : ∀ (i : Item) (rt : Bool), itemAnyComment i = false → retCommentsG rt i = []
  | .mk l e t, rt, h => by
    obtain ⟨rfl, rfl, hc⟩ := itemAnyComment_false h
    rw [retCommentsG, commentsG_nil e rt hc]
    cases rt <;> rfl
theorem entryG_nil : ∀ (en : Entry) (rt : Bool), entryAnyComment en = false →
    entryCommentsG rt en = []
  | .mk l k v t, rt, h => by
    obtain ⟨rfl, rfl, hc⟩ := entryAnyComment_false h
    rw [entryCommentsG, keyG_nil k rt (anyComment v) (commentsG rt v) (commentsG_nil v rt) hc]; rfl
theorem entriesG_nil : ∀ (es : List Entry) (rt : Bool), entriesAnyComment es = false →
    entriesCommentsG rt es = []
  | [], _, _ => rfl
  | e :: es, rt, h => by
    simp only [entriesAnyComment, Bool.or_eq_false_iff] at h
    simp only [entriesCommentsG, entryG_nil e rt h.1, entriesG_nil es rt h.2, List.append_nil]
theorem keyG_nil : ∀ (k : Key) (rt : Bool) (va : Bool) (vc : List String),
    (va = false → vc = []) → keyAnyComment k va = false → keyCommentsG rt k vc = []
  | .static _, _, _, _, hv, h => by
    simp only [keyAnyComment] at h; simp only [keyCommentsG, hv h]
  | .dyn k, rt, _, _, hv, h => by
    simp only [keyAnyComment, Bool.or_eq_false_iff] at h
    simp only [keyCommentsG, commentsG_nil k rt h.1, hv h.2, List.append_nil]
  | .short _, _, _, _, _, _ => rfl
  | .spread e, rt, _, _, _, h => by
    simp only [keyAnyComment] at h; simp only [keyCommentsG, commentsG_nil e rt h]
end

theorem commentsG_nil_of_single (e : Expr) (rt : Bool) (h : hasNewline (fmtSingle e) = false) :
    commentsG rt e = [] := by
  exact commentsG_nil e rt (anyComment_false_of_single h)

theorem render_nil : render [] = "" := rfl

theorem render_append (a b : List Piece) : render (a ++ b) = render a ++ render b := by
  apply String.toList_inj.mp
  simp [render, String.toList_join]

theorem render_cons (p : Piece) (l : List Piece) : render (p :: l) = p.shown ++ render l := by
  apply String.toList_inj.mp
  simp [render, String.toList_join]

theorem render_text (s : String) (l : List Piece) : render (.text s :: l) = s ++ render l :=
  render_cons _ _

theorem render_single (s : String) : render [.text s] = s := by
  rw [render_cons, render_nil, String.append_empty]
  rfl

theorem shown_nil : commentPieces [] = [] := rfl
theorem commentPieces_append (a b : List Piece) :
    commentPieces (a ++ b) = commentPieces a ++ commentPieces b := by
  simp [commentPieces, List.filterMap_append]
theorem commentPieces_text (s : String) (l : List Piece) : commentPieces (.text s :: l) = commentPieces l :=
  List.filterMap_cons_none rfl
theorem commentPieces_comment (s : String) (l : List Piece) :
    commentPieces (.comment s :: l) = s :: commentPieces l :=
  List.filterMap_cons_some rfl

/-- `Good ps cs`: the comment pieces of `ps` are exactly the comments `cs`, one for one, in
    order, character for character -/
def Good (ps : List Piece) (cs : List String) : Prop := commentPieces ps = cs

theorem Good.nil : Good [] [] := rfl

theorem Good.text {l : List Piece} {c : List String} (s : String) (h : Good l c) :
    Good (.text s :: l) c := by
  unfold Good; rw [commentPieces_text]; exact h

theorem Good.single (s : String) : Good [.text s] [] := Good.text s Good.nil

theorem Good.comment {l : List Piece} {c : List String} (o : String) (h : Good l c) :
    Good (.comment o :: l) (o :: c) := by
  unfold Good at h ⊢; rw [commentPieces_comment, h]

theorem Good.append {a b : List Piece} {ca cb : List String} (ha : Good a ca) (hb : Good b cb) :
    Good (a ++ b) (ca ++ cb) := by
  unfold Good at ha hb ⊢; rw [commentPieces_append, ha, hb]

theorem Good.snoc {a : List Piece} {c : List String} (s : String) (h : Good a c) :
    Good (a ++ [.text s]) c := by
  have := Good.append h (Good.single s)
  rwa [List.append_nil] at this

theorem Good.cast {a : List Piece} {c c' : List String} (h : Good a c) (e : c = c') : Good a c' :=
  e ▸ h

theorem Good.lead (ind : String) : ∀ cs : List String, Good (leadP ind cs) cs
  | [] => Good.nil
  | c :: cs => Good.text _ (Good.comment c (Good.lead ind cs))

theorem Good.trail : ∀ t : Option String, Good (trailP t) t.toList
  | none => Good.nil
  | some t => Good.text _ (Good.comment t Good.nil)

theorem Good.paren (b : Bool) {ps : List Piece} {c : List String} (h : Good ps c) :
    Good (parenP b ps) c := by
  unfold parenP
  split
  · exact Good.text _ (Good.snoc _ h)
  · exact h

theorem Good.protect {ps : List Piece} {c : List String} (h : Good ps c) : Good (protectP ps) c := by
  unfold protectP
  split
  · exact Good.text _ (Good.snoc _ h)
  · exact h

theorem render_parenP (b : Bool) (ps : List Piece) : render (parenP b ps) = parenIf b (render ps) := by
  cases b
  · rfl
  · simp only [parenP, parenIf, if_true, render_text, render_append, render_nil,
      String.append_empty, String.append_assoc]

/-- literals and names are printed by `expr_to_source` on both branches of `orSingle` -/
theorem render_leafP (w indent : Nat) (e : Expr) (h : fmtSingle e = exprToSource e) :
    render (leafP w indent e) = exprToSource e := by
  unfold leafP orSingle
  simp only [h]
  split <;> exact render_single _

theorem render_protectP (ps : List Piece) : render (protectP ps) = protectStatementStart (render ps) := by
  unfold protectP protectStatementStart
  split
  · simp only [render_text, render_append, render_nil, String.append_empty, String.append_assoc]
  · rfl

theorem good_orSingle (w indent : Nat) (e : Expr) (multi : Unit → List Piece)
    (h : Good (multi ()) (commentsG false e)) : Good (orSingle w indent e multi) (commentsG false e) := by
  unfold orSingle
  simp only
  split
  · rename_i hc
    simp only [Bool.and_eq_true, Bool.not_eq_true', decide_eq_true_eq] at hc
    rw [commentsG_nil_of_single e false hc.1]
    exact Good.single _
  · exact h

theorem good_lambdaLayout (w indent : Nat) (args : List LArg) (body : Expr) (b : List Piece)
    (bIn : Unit → List Piece) (c : List String) (hb : Good b c) (hbIn : Good (bIn ()) c) :
    Good (lambdaLayout w indent args body b bIn) c := by
  unfold lambdaLayout
  simp only
  split
  · exact Good.text _ (Good.snoc _ hb)
  · split
    · exact Good.text _ hb
    · split
      · exact Good.text _ hb
      · exact Good.text _ hbIn

theorem good_elseLayout (indent : Nat) (chain : Option (List Piece)) (plain : Unit → List Piece)
    (c : List String) (hchain : ∀ ps, chain = some ps → Good ps c) (hplain : Good (plain ()) c) :
    Good (elseLayout indent chain plain) c := by
  unfold elseLayout
  split
  · exact Good.text _ (hchain _ rfl)
  · exact Good.text _ hplain

theorem good_condLayout (w indent : Nat) (cP : List Piece) (cIn : Unit → List Piece)
    (tIn elseP : List Piece) (cc ct ce : List String) (hc : Good cP cc) (hcIn : Good (cIn ()) cc)
    (ht : Good tIn ct) (he : Good elseP ce) :
    Good (condLayout w indent cP cIn tIn elseP) (cc ++ (ct ++ ce)) := by
  unfold condLayout
  simp only
  split
  · exact Good.text _ (Good.append hc (Good.text _ (Good.append ht (Good.text _ he))))
  · exact Good.text _ (Good.append hcIn (Good.text _ (Good.append ht (Good.text _ he))))

theorem good_binLayout (w indent : Nat) (op : BinOp) (l r : Expr) (lP : List Piece)
    (rSame rIn : Unit → List Piece) (cl cr : List String) (hl : Good lP cl)
    (hrS : Good (rSame ()) cr) (hrI : Good (rIn ()) cr) :
    Good (binLayout w indent op l r lP rSame rIn) (cl ++ cr) := by
  unfold binLayout
  simp only
  split
  · split
    · exact Good.append (Good.paren _ hl) (Good.text _ (Good.paren _ hrS))
    · exact Good.append (Good.paren _ hl) (Good.text _ (Good.paren _ hrS))
  · exact Good.append (Good.paren _ hl) (Good.text _ (Good.paren _ hrI))

theorem fmtImplP_eq (w indent : Nat) (e : Expr) :
    fmtImplP w indent e =
      match e with
      | .lambda args body => fmtLambdaP w indent args body
      | .doBlock ss r => fmtMultiP w indent (.doBlock ss r)
      | e => orSingle w indent e fun _ => fmtMultiP w indent e := by
  cases e <;> simp only [fmtImplP, fmtLambdaP, fmtMultiP, fmtCondP, fmtBinP, leafP]

theorem fmtChainP_cond (w indent : Nat) (c t e : Expr) :
    fmtChainP w indent (.cond c t e) = some (fmtCondP w indent c t e) := by
  simp only [fmtChainP, fmtCondP]

/-- `format_expr_impl` from `format_multiline`.  The conclusion repeats `h` under the premise
    "not a lambda" so that it is literally the conjunction `good_both` states: each case there is
    `refine good_of_multi nofun ?_`, leaving `h`. -/
theorem good_of_multi {e : Expr} {w indent : Nat} (hnl : ∀ args body, e ≠ .lambda args body)
    (h : Good (fmtMultiP w indent e) (commentsG false e)) :
    ((∀ args body, e ≠ .lambda args body) → Good (fmtMultiP w indent e) (commentsG false e)) ∧
      Good (fmtImplP w indent e) (commentsG false e) := by
  refine ⟨fun _ => h, ?_⟩
  rw [fmtImplP_eq]
  cases e with
  | lambda a b => exact absurd rfl (hnl a b)
  | doBlock ss r => exact h
  | _ => exact good_orSingle _ _ _ _ h

theorem good_fmtCondP (w indent : Nat) (c t e : Expr)
    (hc : ∀ i, Good (fmtImplP w i c) (commentsG false c))
    (ht : ∀ i, Good (fmtImplP w i t) (commentsG false t))
    (he : ∀ i, Good (fmtImplP w i e) (commentsG false e))
    (hch : ∀ ps, fmtChainP w indent e = some ps → Good ps (commentsG false e)) :
    Good (fmtCondP w indent c t e) (commentsG false (.cond c t e)) := by
  simp only [fmtCondP, commentsG]
  exact good_condLayout _ _ _ _ _ _ _ _ _ (hc _) (hc _) (ht _) (good_elseLayout _ _ _ _ hch (he _))

mutual
/-- for every node: `format_multiline` (on everything `format_expr_impl` passes to it: not a
    lambda) and `format_expr_impl` -/
theorem good_both : ∀ (e : Expr) (w indent : Nat),
    ((∀ args body, e ≠ .lambda args body) → Good (fmtMultiP w indent e) (commentsG false e)) ∧
      Good (fmtImplP w indent e) (commentsG false e)
  | .lambda args body, w, indent => by
    refine ⟨fun h => absurd rfl (h args body), ?_⟩
    simp only [fmtImplP, commentsG]
    exact good_lambdaLayout _ _ _ _ _ _ _ (good_both body w indent).2 (good_both body w _).2
  | .doBlock ss r, w, indent => by
    refine good_of_multi nofun ?_
    simp only [fmtMultiP, commentsG]
    exact Good.text _ (Good.append (good_stmts ss w _) (Good.snoc _ (good_ret r w _)))
  | .output e, w, indent | .assign _ e, w, indent | .spread e, w, indent => by
    refine good_of_multi nofun ?_
    simp only [fmtMultiP, commentsG]
    exact Good.text _ (good_both e w indent).2
  | .list items, w, indent => by
    refine good_of_multi nofun ?_
    simp only [fmtMultiP, commentsG]
    split
    · rename_i h
      rw [List.isEmpty_iff] at h
      subst h
      exact Good.single _
    · exact Good.text _ (Good.snoc _ (good_items items w _))
  | .record es, w, indent => by
    refine good_of_multi nofun ?_
    simp only [fmtMultiP, commentsG]
    split
    · rename_i h
      rw [List.isEmpty_iff] at h
      subst h
      exact Good.single _
    · exact Good.text _ (Good.snoc _ (good_entries es w _))
  | .cond c t e, w, indent => by
    refine good_of_multi nofun ?_
    simp only [fmtMultiP]
    exact good_fmtCondP w indent c t e (fun i => (good_both c w i).2) (fun i => (good_both t w i).2)
      (fun i => (good_both e w i).2) (fun ps h => good_chain e w indent ps h)
  | .call f args, w, indent => by
    refine good_of_multi nofun ?_
    simp only [fmtMultiP, commentsG]
    split
    · rename_i h
      rw [List.isEmpty_iff] at h
      subst h
      exact Good.append (Good.paren _ (good_both f w indent).2) (Good.single _)
    · exact Good.append (Good.paren _ (good_both f w indent).2)
        (Good.text _ (Good.snoc _ (good_args args w _)))
  | .bin op l r, w, indent => by
    refine good_of_multi nofun ?_
    simp only [fmtMultiP, fmtBinP, commentsG]
    exact good_binLayout _ _ _ _ _ _ _ _ _ _ (good_both l w _).2 (good_both r w _).2
      (good_both r w _).2
  | .un op e, w, indent => by
    refine good_of_multi nofun ?_
    simp only [fmtMultiP, commentsG]
    exact Good.text _ (Good.paren _ (good_both e w indent).2)
  | .fact e, w, indent | .dot e _, w, indent => by
    refine good_of_multi nofun ?_
    simp only [fmtMultiP, commentsG]
    exact Good.snoc _ (Good.paren _ (good_both e w indent).2)
  | .access e i, w, indent => by
    refine good_of_multi nofun ?_
    simp only [fmtMultiP, commentsG]
    exact Good.append (Good.paren _ (good_both e w indent).2)
      (Good.text _ (Good.snoc _ (good_both i w indent).2))
  | .num _, w, indent | .str _, w, indent | .bool _, w, indent | .null, w, indent
  | .ident _, w, indent | .inref _, w, indent | .builtin _, w, indent => by
    refine good_of_multi nofun ?_
    simp only [fmtMultiP, commentsG]
    exact Good.single _
theorem good_chain : ∀ (e : Expr) (w indent : Nat) (ps : List Piece),
    fmtChainP w indent e = some ps → Good ps (commentsG false e)
  | .cond c t e => fun w indent ps h => by
    rw [fmtChainP_cond, Option.some.injEq] at h
    subst h
    exact good_fmtCondP w indent c t e (fun i => (good_both c w i).2) (fun i => (good_both t w i).2)
      (fun i => (good_both e w i).2) (fun ps h => good_chain e w indent ps h)
  | .num _ | .str _ | .bool _ | .null | .ident _ | .inref _ | .builtin _ | .list _ | .record _
  | .lambda _ _ | .doBlock _ _ | .assign _ _ | .output _ | .call _ _ | .access _ _ | .dot _ _
  | .bin _ _ _ | .un _ _ | .fact _ | .spread _ => fun _ _ _ h => by simp [fmtChainP] at h
theorem good_item : ∀ (i : Item) (w inner : Nat), Good (fmtItemP w inner i) (itemCommentsG false i)
  | .mk lead e tr, w, inner => by
    simp only [fmtItemP, itemCommentsG]
    exact Good.append (Good.lead _ lead)
      (Good.text _ (Good.append ((good_both e w inner).2) (Good.text _ (Good.trail tr))))
theorem good_items : ∀ (is : List Item) (w inner : Nat),
    Good (fmtItemsP w inner is) (itemsCommentsG false is)
  | [], _, _ => by simp only [fmtItemsP, itemsCommentsG]; exact Good.nil
  | i :: rest, w, inner => by
    simp only [fmtItemsP, itemsCommentsG]
    exact Good.append (good_item i w inner) (good_items rest w inner)
theorem good_entry : ∀ (en : Entry) (w inner : Nat),
    Good (fmtEntryP w inner en) (entryCommentsG false en)
  | .mk lead k v tr, w, inner => by
    simp only [fmtEntryP, entryCommentsG]
    exact Good.append (Good.lead _ lead)
      (Good.text _ (Good.append (good_keyed k w inner _ _ ((good_both v w inner).2))
        (Good.text _ (Good.trail tr))))
theorem good_entries : ∀ (es : List Entry) (w inner : Nat),
    Good (fmtEntriesP w inner es) (entriesCommentsG false es)
  | [], _, _ => by simp only [fmtEntriesP, entriesCommentsG]; exact Good.nil
  | e :: rest, w, inner => by
    simp only [fmtEntriesP, entriesCommentsG]
    exact Good.append (good_entry e w inner) (good_entries rest w inner)
theorem good_keyed : ∀ (k : Key) (w inner : Nat) (vs : List Piece) (vc : List String),
    Good vs vc → Good (fmtKeyedP w inner k vs) (keyCommentsG false k vc)
  | .static _, _, _, _, _, hv => by
    simp only [fmtKeyedP, keyCommentsG]; exact Good.text _ hv
  | .dyn ke, w, inner, _, _, hv => by
    simp only [fmtKeyedP, keyCommentsG]
    exact Good.text _ (Good.append ((good_both ke w inner).2) (Good.text _ hv))
  | .short _, _, _, _, _, _ => by
    simp only [fmtKeyedP, keyCommentsG]; exact Good.single _
  | .spread e, w, inner, _, _, _ => by
    simp only [fmtKeyedP, keyCommentsG]; exact (good_both e w inner).2
theorem good_args : ∀ (as : List Expr) (w inner : Nat),
    Good (fmtArgsP w inner as) (exprsCommentsG false as)
  | [], _, _ => by simp only [fmtArgsP, exprsCommentsG]; exact Good.nil
  | a :: rest, w, inner => by
    simp only [fmtArgsP, exprsCommentsG]
    exact Good.text _ (Good.append ((good_both a w inner).2) (Good.text _ (good_args rest w inner)))
theorem good_stmt : ∀ (i : Item) (w inner : Nat), Good (fmtStmtP w inner i) (itemCommentsG false i)
  | .mk lead e tr, w, inner => by
    simp only [fmtStmtP, itemCommentsG]
    exact Good.append (Good.lead _ lead)
      (Good.text _ (Good.append (Good.protect ((good_both e w inner).2)) (Good.trail tr)))
theorem good_stmts : ∀ (is : List Item) (w inner : Nat),
    Good (fmtStmtsP w inner is) (itemsCommentsG false is)
  | [], _, _ => by simp only [fmtStmtsP, itemsCommentsG]; exact Good.nil
  | i :: rest, w, inner => by
    simp only [fmtStmtsP, itemsCommentsG]
    exact Good.append (good_stmt i w inner) (good_stmts rest w inner)
theorem good_ret : ∀ (i : Item) (w inner : Nat), Good (fmtRetP w inner i) (retCommentsG false i)
  | .mk lead e tr, w, inner => by
    simp only [fmtRetP, retCommentsG]
    have := Good.append (Good.lead (makeIndent inner) lead) (Good.text ("\n" ++ makeIndent inner ++ "return ") ((good_both e w inner).2))
    simpa using this
end

theorem good_impl (e : Expr) (w indent : Nat) : Good (fmtImplP w indent e) (commentsG false e) :=
  (good_both e w indent).2

theorem good_multi (w indent : Nat) (e : Expr) (h : ∀ args body, e ≠ .lambda args body) :
    Good (fmtMultiP w indent e) (commentsG false e) := (good_both e w indent).1 h

theorem good_lambda (w indent : Nat) (args : List LArg) (body : Expr) :
    Good (fmtLambdaP w indent args body) (commentsG false (.lambda args body)) := by
  have := good_impl (.lambda args body) w indent
  rwa [fmtImplP_eq] at this

theorem good_cond (w indent : Nat) (c t e : Expr) :
    Good (fmtCondP w indent c t e) (commentsG false (.cond c t e)) :=
  good_multi w indent (.cond c t e) nofun

theorem good_bin (w indent : Nat) (op : BinOp) (l r : Expr) :
    Good (fmtBinP w indent op l r) (commentsG false (.bin op l r)) :=
  good_multi w indent (.bin op l r) nofun

/-- the via / into / where branch of `format_binary_op_multiline` whose first line fits: the
    rendered pieces are `format!("{} {} {}", left_str, op_str, right_str)` — the right operand
    as it was formatted -/
theorem render_binLayout_chain (w indent : Nat) (op : BinOp) (l r : Expr) (lP : List Piece)
    (rSame rIn : Unit → List Piece)
    (hchain : (op == .via || op == .into || op == .where_) = true) (hlam : isLambda r = true)
    (hfit : indent + blen (render (parenP (needsParens l (.binLeft op)) lP) ++ " " ++ fmtSpelling op ++
      " " ++ firstLine (render (parenP (needsParens r (.binRight op)) (rSame ())))) ≤ w) :
    render (binLayout w indent op l r lP rSame rIn) =
      render (parenP (needsParens l (.binLeft op)) lP) ++ " " ++ fmtSpelling op ++ " " ++
        render (parenP (needsParens r (.binRight op)) (rSame ())) := by
  unfold binLayout
  simp only [hchain, hlam, Bool.and_self, if_true]
  rw [if_pos hfit]
  simp only [render_append, render_text, String.append_assoc]

end FormatP
end Blots
