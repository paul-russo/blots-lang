import Blots.Model.Display
import Blots.Model.NumText
/-
  Specification vocabulary for C16 / C20 (no proofs here): what it means for a text to be
  a grouped numeral, which rational a plain decimal text denotes, when a text denotes a
  double.  Nothing here mentions the code model in `Model/Display`; `isDigit` and `digitsVal`
  are those of `Model/Num`.  The predicates are Boolean functions or (`ratEq`) decidable,
  except `denotesExactly`, which asserts the existence of the text after the sign.
-/
namespace Blots.NumSpec

open Blots

def isDigit (c : Char) : Bool := F64.isDigit c

/-- remove the thousands separators -/
def stripCommas (s : List Char) : List Char := s.filter (· ≠ ',')

/-- Read from the RIGHT end: groups of exactly three digits, each preceded by a comma,
    until a leftmost group of one to three digits.  (`"1,234,567"`, `"12"`, not `"1234"`,
    `",123"`, `"1,23"`.)  The argument is the reversed text. -/
def groupedRev : List Char → Bool
  | [a] => isDigit a
  | [a, b] => isDigit a && isDigit b
  | [a, b, c] => isDigit a && isDigit b && isDigit c
  | a :: b :: c :: ',' :: d :: rest =>
    isDigit a && isDigit b && isDigit c && groupedRev (d :: rest)
  | _ => false

/-- integer digits grouped in threes by commas -/
def isGrouped (s : List Char) : Bool := groupedRev s.reverse

/-- no leading zero unless the numeral is the single digit 0 -/
def noLeadingZero (s : List Char) : Bool :=
  match s with
  | '0' :: _ :: _ => false
  | _ => true

/-- value of a digit string -/
def digitsVal (cs : List Char) : Nat := F64.digitsVal cs

/-- the rational `(numerator, denominator)` denoted by `digits` or `digits.digits`
    (split at the first '.') -/
def decValue (s : List Char) : Nat × Nat :=
  let ip := s.takeWhile (· ≠ '.')
  let fp := (s.dropWhile (· ≠ '.')).drop 1
  (digitsVal (ip ++ fp), 10 ^ fp.length)

/-- equality of two fractions with positive denominators -/
def ratEq (a b : Nat × Nat) : Prop := a.1 * b.2 = b.1 * a.2

instance (a b : Nat × Nat) : Decidable (ratEq a b) := by unfold ratEq; infer_instance

/-- the unsigned grouped text `body` (commas allowed, optional fraction) denotes exactly
    the magnitude of the finite double `x` -/
def denotesMagnitude (body : List Char) (x : F64) : Prop :=
  ratEq (decValue (stripCommas body)) x.ratio

/-- the display text `text` denotes the finite double `x` exactly: a minus sign in front
    iff the sign bit is set, no other minus sign, and the rest denotes the magnitude -/
def denotesExactly (text : List Char) (x : F64) : Prop :=
  ∃ body, text = (if x.neg then ['-'] else []) ++ body ∧ '-' ∉ body ∧ denotesMagnitude body x

/-- the exact integer value of a digit string in the given radix (independent of the
    model's `digitsRadix`): most significant digit first -/
def radixValue (radix : Nat) (ds : List Nat) : Nat := ds.foldl (fun a d => a * radix + d) 0

end Blots.NumSpec
