import Blots.Model.Eval
/-
  The evaluator's fifteen functions, one equation per arm, in a form proofs can follow.

  Every arm of `Model/Eval.lean` has the shape "run a sub-evaluation; on `ok` go on with the
  value and the new state, otherwise return the same failure with the state reached".  The
  model spells the four-way match out each time (it mirrors `?` in the Rust source).  Here the
  shape gets a name, `R.bind`, the value-level computations at the leaves get names
  (`accessOp`, `unOp`, …: pure functions to `Outcome Value`), and each function of the mutual
  block gets its equations at `fuel + 1` over these.  An invariant of the evaluator then needs
  one rule for `R.bind`, one fact per leaf operation, and the induction hypothesis; the families
  that state their invariant as a predicate on runs follow the equations and do not open the
  definitions.

  Such a family has a predicate `X` on a run (or on two runs side by side) and gives it these
  rules, under these names: `X.pure` for a leaf `(o, s)`, with `X.ok` and `X.err` for the leaves
  `(.ok a, s)` and `(.err k, s)` (a relation that holds between any run and itself has `X.rfl`
  for all three); `X.bind` for `R.bind`; `X.bindPure` for a bind whose first part is a leaf, a
  check that leaves the state alone; `X.ite`; `X.restore` for the two places where part of the
  state is put back afterwards (`eval_doBlock`, `callFn_lambda`).  In a rule the fact about the
  state comes before the fact about the value, and the state itself is implicit.
-/
namespace Blots

def R.bind {α β} (r : R α) (k : α → ES → R β) : R β :=
  match r with
  | (.ok a, s) => k a s
  | (.err e, s) => (.err e, s)
  | (.panic p, s) => (.panic p, s)
  | (.fuel, s) => (.fuel, s)

@[simp] theorem R.bind_ok {α β} (a : α) (s : ES) (k : α → ES → R β) : R.bind (.ok a, s) k = k a s := rfl
@[simp] theorem R.bind_err {α β} (e : ErrKind) (s : ES) (k : α → ES → R β) :
    R.bind (.err e, s) k = (.err e, s) := rfl
@[simp] theorem R.bind_panic {α β} (p : String) (s : ES) (k : α → ES → R β) :
    R.bind (.panic p, s) k = (.panic p, s) := rfl
@[simp] theorem R.bind_fuel {α β} (s : ES) (k : α → ES → R β) : R.bind (.fuel, s) k = (.fuel, s) := rfl

theorem R.bind_eq_ok {α β} {r : R α} {k : α → ES → R β} {b : β} {s' : ES}
    (h : R.bind r k = (.ok b, s')) : ∃ a s1, r = (.ok a, s1) ∧ k a s1 = (.ok b, s') := by
  obtain ⟨o, s1⟩ := r
  cases o with
  | ok a => exact ⟨a, s1, rfl, h⟩
  | err e => cases h
  | panic p => cases h
  | fuel => cases h

theorem R.bind_post {α β} {r : R α} {k : α → ES → R β} {Q : R β → Prop}
    (hok : ∀ a s1, r = (.ok a, s1) → Q (k a s1))
    (herr : ∀ e s1, r = (.err e, s1) → Q (.err e, s1))
    (hpanic : ∀ p s1, r = (.panic p, s1) → Q (.panic p, s1))
    (hfuel : ∀ s1, r = (.fuel, s1) → Q (.fuel, s1)) : Q (R.bind r k) := by
  obtain ⟨o, s1⟩ := r
  cases o with
  | ok a => exact hok a s1 rfl
  | err e => exact herr e s1 rfl
  | panic p => exact hpanic p s1 rfl
  | fuel => exact hfuel s1 rfl

/-- `Expr::Identifier`: the two spellings of infinity, `constants`, else the environment -/
def identOp (env : List Frame) (n : String) : Outcome Value :=
  if n == "infinity" || n == "inf" then .ok (.num F64.inf)
  else if n == "constants" then .ok (.record constantsRecord)
  else
    match envGet env n with
    | some v => .ok v
    | none => .err .unknownIdent

/-- `#field`: a member of the `inputs` record -/
def inrefOp (env : List Frame) (field : String) : Outcome Value :=
  match envGet env "inputs" with
  | none => .err .other
  | some (.record r) => .ok ((lookupAL field r).getD .null)
  | some _ => .err .type_

/-- `v[iv]` on records (string key), lists and strings (number, negative from the end) -/
def accessOp (v iv : Value) : Outcome Value :=
  match v with
  | .record r =>
    (match iv with
     | .str k => .ok ((lookupAL k r).getD .null)
     | _ => .err .type_)
  | .list l =>
    (match iv with
     | .num x => .ok (match indexOf l.length x with
                      | some k => listGetD l k
                      | none => .null)
     | _ => .err .type_)
  | .str str =>
    (match iv with
     | .num x =>
       .ok (match indexOf (chars str).length x with
            | some k => (match (chars str)[k]? with
                         | some c => .str (String.singleton c)
                         | none => .null)
            | none => .null)
     | _ => .err .type_)
  | _ => .err .type_

def dotOp (v : Value) (field : String) : Outcome Value :=
  match v with
  | .record r => .ok ((lookupAL field r).getD .null)
  | _ => .err .type_

def unOp (op : UnOp) (v : Value) : Outcome Value :=
  match op, v with
  | .negate, .num x => .ok (.num x.negate)
  | .not, .bool b => .ok (.bool (!b))
  | .invert, .bool b => .ok (.bool (!b))
  | _, _ => .err .type_

def factOp (ops : NumOps) (v : Value) : Outcome Value :=
  match v with
  | .num x =>
    if F64.fle F64.zero x && F64.feq x (F64.ofNat x.toU64) then .ok (.num (factorial ops x.toU64))
    else .err .domain
  | _ => .err .type_

def spreadOp (v : Value) : Outcome Value :=
  match v with
  | .list l => .ok (.spread (.list l))
  | .str x => .ok (.spread (.str x))
  | .record r => .ok (.spread (.record r))
  | _ => .err .type_

/-- the state after `n = val`: the cell is named if the right-hand side created it
    (`first` = the next cell index before the right-hand side ran), then the binding is added -/
def assignIn (first : Nat) (n : String) (val : Value) (s1 : ES) : ES :=
  { setNameIfLambda s1 n (createdSince first val) with
    env := envInsert (setNameIfLambda s1 n (createdSince first val)).env n val }

theorem setNameIfLambda_env (s : ES) (n : String) (v : Value) : (setNameIfLambda s n v).env = s.env := by
  unfold setNameIfLambda; split
  · split <;> rfl
  · rfl

theorem setNameIfLambda_nextId (s : ES) (n : String) (v : Value) :
    (setNameIfLambda s n v).nextId = s.nextId := by
  unfold setNameIfLambda; split
  · split <;> rfl
  · rfl

theorem assignIn_env (k : Nat) (x : String) (v : Value) (s : ES) :
    (assignIn k x v s).env = envInsert s.env x v :=
  congrArg (envInsert · x v) (setNameIfLambda_env s x _)

theorem assignIn_nextId (k : Nat) (x : String) (v : Value) (s : ES) : (assignIn k x v s).nextId = s.nextId :=
  setNameIfLambda_nextId s x _

/-- the innermost frame of a call: self name unless captured, `inputs`, then the parameters -/
def bodyFrame (s : ES) (id : Nat) (scope : Frame) (this : Value) (pf : Frame) : Frame :=
  pf.foldl (fun f kv => insertAL kv.1 kv.2 f)
    (match envGet s.env "inputs" with
     | some v => insertAL "inputs" v
        (match nameOf s.names id with
         | some n => if (lookupAL n scope).isSome then [] else [(n, this)]
         | none => [])
     | none =>
        (match nameOf s.names id with
         | some n => if (lookupAL n scope).isSome then [] else [(n, this)]
         | none => []))

def bodyEnv (s : ES) (id : Nat) (scope : Frame) (this : Value) (pf : Frame) : List Frame :=
  bodyFrame s id scope this pf :: (if scope.isEmpty then s.env else scope :: s.env)

/-- the arguments of a map / filter / every / some / via / where callback -/
def idxArgs (withIdx : Bool) (x : Value) (i : Nat) : List Value :=
  if withIdx then [x, .num (F64.ofNat i)] else [x]

theorem idxArgs_length (w : Bool) (x : Value) (i : Nat) : (idxArgs w x i).length = if w then 2 else 1 := by
  cases w <;> rfl

/-- the arguments of a reduce callback -/
def foldArgs (withIdx : Bool) (acc x : Value) (i : Nat) : List Value :=
  if withIdx then [acc, x, .num (F64.ofNat i)] else [acc, x]

theorem checkArity_ok_iff {ar : Gen.Arity} {n : Nat} : checkArity ar n = .ok () ↔ ar.canAccept n = true := by
  unfold checkArity; split <;> simp_all

theorem checkArity_ok {ar : Gen.Arity} {n : Nat} (h : ar.canAccept n = true) : checkArity ar n = .ok () :=
  if_pos h

theorem checkArity_err {ar : Gen.Arity} {n : Nat} (h : ar.canAccept n = false) :
    checkArity ar n = .err .arity :=
  if_neg (by rw [h]; exact Bool.false_ne_true)

/-- inside calls only the innermost frame counts, at any depth -/
theorem alreadyDefined_pos {d d' : Nat} (hd : 0 < d) (hd' : 0 < d') :
    alreadyDefined d' = alreadyDefined d := by
  funext env k; simp only [alreadyDefined, hd, hd', if_true]

variable (ops : NumOps) (n d : Nat) (s : ES)

@[simp] theorem eval_zero (e : Expr) : eval ops 0 d e s = (.fuel, s) := by rw [eval]
@[simp] theorem evalList_zero (es : List Expr) : evalList ops 0 d es s = (.fuel, s) := by rw [evalList]
@[simp] theorem evalItems_zero (es : List Item) : evalItems ops 0 d es s = (.fuel, s) := by
  rw [evalItems]
@[simp] theorem evalEntries_zero (es : List Entry) (acc : Frame) :
    evalEntries ops 0 d es acc s = (.fuel, s) := by rw [evalEntries]
@[simp] theorem evalDoStmt_zero (e : Expr) : evalDoStmt ops 0 d e s = (.fuel, s) := by rw [evalDoStmt]
@[simp] theorem evalDo_zero (st : List Item) (ret : Item) : evalDo ops 0 d st ret s = (.fuel, s) := by
  rw [evalDo]
@[simp] theorem callFn_zero (fv this : Value) (args : List Value) :
    callFn ops 0 fv this args d s = (.fuel, s) := by rw [callFn]
@[simp] theorem mapCalls_zero (f : Value) (w : Bool) (xs : List Value) (i : Nat) :
    mapCalls ops 0 f w xs i d s = (.fuel, s) := by rw [mapCalls]
@[simp] theorem quantCalls_zero (f : Value) (w q : Bool) (xs : List Value) (i : Nat) :
    quantCalls ops 0 f w q xs i d s = (.fuel, s) := by rw [quantCalls]
@[simp] theorem foldCalls_zero (f : Value) (w : Bool) (acc : Value) (xs : List Value) (i : Nat) :
    foldCalls ops 0 f w acc xs i d s = (.fuel, s) := by rw [foldCalls]
@[simp] theorem keyCalls_zero (f : Value) (xs : List Value) :
    keyCalls ops 0 f xs d s = (xs.map fun x => (x, Outcome.fuel), s) := by rw [keyCalls]
@[simp] theorem callHof_zero (name : String) (args : List Value) :
    callHof ops 0 name args d s = (.fuel, s) := by rw [callHof]
@[simp] theorem evalBin_zero (op : BinOp) (a b : Value) : evalBin ops 0 d op a b s = (.fuel, s) := by
  rw [evalBin]
@[simp] theorem viaPairs_zero (la lb : List Value) : viaPairs ops 0 la lb d s = (.fuel, s) := by
  rw [viaPairs]
@[simp] theorem whereCalls_zero (f : Value) (w : Bool) (xs : List Value) (i : Nat) :
    whereCalls ops 0 f w xs i d s = (.fuel, s) := by rw [whereCalls]

theorem eval_num (x : F64) : eval ops (n+1) d (.num x) s = (.ok (.num x), s) := by rw [eval]
theorem eval_str (x : String) : eval ops (n+1) d (.str x) s = (.ok (.str x), s) := by rw [eval]
theorem eval_bool (b : Bool) : eval ops (n+1) d (.bool b) s = (.ok (.bool b), s) := by rw [eval]
theorem eval_null : eval ops (n+1) d .null s = (.ok .null, s) := by rw [eval]
theorem eval_builtin (x : String) : eval ops (n+1) d (.builtin x) s = (.ok (.builtin x), s) := by
  rw [eval]

theorem eval_ident (x : String) : eval ops (n+1) d (.ident x) s = (identOp s.env x, s) := by
  rw [eval]; unfold identOp
  split
  · rfl
  · split
    · rfl
    · cases envGet s.env x <;> rfl

theorem eval_inref (f : String) : eval ops (n+1) d (.inref f) s = (inrefOp s.env f, s) := by
  rw [eval]; unfold inrefOp
  rcases envGet s.env "inputs" with _ | v
  · rfl
  · cases v <;> rfl

theorem eval_list (items : List Item) :
    eval ops (n+1) d (.list items) s =
      R.bind (evalItems ops n d items s) fun vs s1 => (.ok (.list (flattenSpreads vs)), s1) := by
  rw [eval]; rcases evalItems ops n d items s with ⟨_ | _ | _ | _, s1⟩ <;> rfl

theorem eval_record (es : List Entry) :
    eval ops (n+1) d (.record es) s =
      R.bind (evalEntries ops n d es [] s) fun r s1 => (.ok (.record r), s1) := by
  rw [eval]; rcases evalEntries ops n d es [] s with ⟨_ | _ | _ | _, s1⟩ <;> rfl

theorem eval_lambda (args : List LArg) (body : Expr) :
    eval ops (n+1) d (.lambda args body) s =
      if args.any (fun a => a.name == "inputs") then (.err .keyword, s)
      else (.ok (.lambda s.nextId args body (captureScope s.env (freeVars (args.map LArg.name) body))),
            { s with nextId := s.nextId + 1 }) := by
  rw [eval]

theorem eval_assign (x : String) (v : Expr) :
    eval ops (n+1) d (.assign x v) s =
      if isBuiltinIdent x then (.err .builtinName, s)
      else if Gen.assignKeywords.contains x then (.err .keyword, s)
      else if alreadyDefined d s.env x then (.err .alreadyDefined, s)
      else R.bind (eval ops n d v s) fun val s1 =>
        if alreadyDefined d s1.env x then (.err .alreadyDefined, s1)
        else (.ok val, assignIn s.nextId x val s1) := by
  rw [eval]
  split
  · rfl
  · split
    · rfl
    · split
      · rfl
      · rcases eval ops n d v s with ⟨_ | _ | _ | _, s1⟩ <;> rfl

theorem eval_output (e : Expr) : eval ops (n+1) d (.output e) s = eval ops n d e s := by rw [eval]

theorem eval_cond (c t el : Expr) :
    eval ops (n+1) d (.cond c t el) s =
      R.bind (eval ops n d c s) fun v s1 =>
        match v with
        | .bool true => eval ops n d t s1
        | .bool false => eval ops n d el s1
        | _ => (.err .type_, s1) := by
  rw [eval]
  rcases eval ops n d c s with ⟨v | _ | _ | _, s1⟩
  · cases v with
    | bool b => cases b <;> rfl
    | _ => rfl
  all_goals rfl

theorem eval_doBlock (stmts : List Item) (ret : Item) :
    eval ops (n+1) d (.doBlock stmts ret) s =
      ((evalDo ops n d stmts ret { s with env := [] :: s.env }).1,
       { (evalDo ops n d stmts ret { s with env := [] :: s.env }).2 with
         env := (evalDo ops n d stmts ret { s with env := [] :: s.env }).2.env.drop 1 }) := by
  rw [eval]

theorem eval_call (f : Expr) (args : List Expr) :
    eval ops (n+1) d (.call f args) s =
      R.bind (eval ops n d f s) fun fv s1 =>
        R.bind (evalList ops n d args s1) fun raw s2 =>
          if !fv.isCallable then (.err .notCallable, s2)
          else callFn ops n fv fv (flattenSpreads raw) d s2 := by
  rw [eval]
  rcases eval ops n d f s with ⟨fv | _ | _ | _, s1⟩
  · simp only [R.bind_ok]
    rcases evalList ops n d args s1 with ⟨_ | _ | _ | _, s2⟩ <;> rfl
  all_goals rfl

theorem eval_access (e i : Expr) :
    eval ops (n+1) d (.access e i) s =
      R.bind (eval ops n d e s) fun v s1 =>
        R.bind (eval ops n d i s1) fun iv s2 => (accessOp v iv, s2) := by
  rw [eval]
  rcases eval ops n d e s with ⟨v | _ | _ | _, s1⟩
  · simp only [R.bind_ok]
    rcases eval ops n d i s1 with ⟨iv | _ | _ | _, s2⟩
    · cases v <;> cases iv <;> rfl
    all_goals rfl
  all_goals rfl

theorem eval_dot (e : Expr) (field : String) :
    eval ops (n+1) d (.dot e field) s =
      R.bind (eval ops n d e s) fun v s1 => (dotOp v field, s1) := by
  rw [eval]
  rcases eval ops n d e s with ⟨v | _ | _ | _, s1⟩
  · cases v <;> rfl
  all_goals rfl

theorem eval_bin (op : BinOp) (l r : Expr) :
    eval ops (n+1) d (.bin op l r) s =
      R.bind (eval ops n d l s) fun a s1 =>
        R.bind (eval ops n d r s1) fun b s2 => evalBin ops n d op a b s2 := by
  rw [eval]
  rcases eval ops n d l s with ⟨a | _ | _ | _, s1⟩
  · simp only [R.bind_ok]
    rcases eval ops n d r s1 with ⟨_ | _ | _ | _, s2⟩ <;> rfl
  all_goals rfl

theorem eval_un (op : UnOp) (e : Expr) :
    eval ops (n+1) d (.un op e) s = R.bind (eval ops n d e s) fun v s1 => (unOp op v, s1) := by
  rw [eval]
  rcases eval ops n d e s with ⟨v | _ | _ | _, s1⟩
  · cases op <;> cases v <;> rfl
  all_goals rfl

theorem eval_fact (e : Expr) :
    eval ops (n+1) d (.fact e) s = R.bind (eval ops n d e s) fun v s1 => (factOp ops v, s1) := by
  rw [eval]
  rcases eval ops n d e s with ⟨v | _ | _ | _, s1⟩
  · cases v with
    | num x => simp only [R.bind_ok, factOp]; split <;> rfl
    | _ => rfl
  all_goals rfl

theorem eval_spread (e : Expr) :
    eval ops (n+1) d (.spread e) s = R.bind (eval ops n d e s) fun v s1 => (spreadOp v, s1) := by
  rw [eval]
  rcases eval ops n d e s with ⟨v | _ | _ | _, s1⟩
  · cases v <;> rfl
  all_goals rfl

theorem evalList_nil : evalList ops (n+1) d [] s = (.ok [], s) := by rw [evalList]

theorem evalList_cons (e : Expr) (es : List Expr) :
    evalList ops (n+1) d (e :: es) s =
      R.bind (eval ops n d e s) fun v s1 =>
        R.bind (evalList ops n d es s1) fun vs s2 => (.ok (v :: vs), s2) := by
  rw [evalList]
  rcases eval ops n d e s with ⟨v | _ | _ | _, s1⟩
  · simp only [R.bind_ok]
    rcases evalList ops n d es s1 with ⟨_ | _ | _ | _, s2⟩ <;> rfl
  all_goals rfl

theorem evalItems_nil : evalItems ops (n+1) d [] s = (.ok [], s) := by rw [evalItems]

theorem evalItems_cons (l : List String) (e : Expr) (t : Option String) (es : List Item) :
    evalItems ops (n+1) d (.mk l e t :: es) s =
      R.bind (eval ops n d e s) fun v s1 =>
        R.bind (evalItems ops n d es s1) fun vs s2 => (.ok (v :: vs), s2) := by
  rw [evalItems]
  rcases eval ops n d e s with ⟨v | _ | _ | _, s1⟩
  · simp only [R.bind_ok]
    rcases evalItems ops n d es s1 with ⟨_ | _ | _ | _, s2⟩ <;> rfl
  all_goals rfl

theorem evalEntries_nil (acc : Frame) : evalEntries ops (n+1) d [] acc s = (.ok acc, s) := by
  rw [evalEntries]

theorem evalEntries_static (l : List String) (k : String) (v : Expr) (t : Option String)
    (es : List Entry) (acc : Frame) :
    evalEntries ops (n+1) d (.mk l (.static k) v t :: es) acc s =
      R.bind (eval ops n d v s) fun x s1 => evalEntries ops n d es (insertAL k x acc) s1 := by
  rw [evalEntries]
  rcases eval ops n d v s with ⟨_ | _ | _ | _, s1⟩ <;> rfl

theorem evalEntries_dyn (l : List String) (ke v : Expr) (t : Option String)
    (es : List Entry) (acc : Frame) :
    evalEntries ops (n+1) d (.mk l (.dyn ke) v t :: es) acc s =
      R.bind (eval ops n d ke s) fun kv s1 =>
        match kv with
        | .str k => R.bind (eval ops n d v s1) fun x s2 => evalEntries ops n d es (insertAL k x acc) s2
        | _ => (.err .type_, s1) := by
  rw [evalEntries]
  rcases eval ops n d ke s with ⟨kv | _ | _ | _, s1⟩
  · cases kv with
    | str k => simp only [R.bind_ok]; rcases eval ops n d v s1 with ⟨_ | _ | _ | _, s2⟩ <;> rfl
    | _ => rfl
  all_goals rfl

theorem evalEntries_short (l : List String) (x : String) (v : Expr) (t : Option String)
    (es : List Entry) (acc : Frame) :
    evalEntries ops (n+1) d (.mk l (.short x) v t :: es) acc s =
      match envGet s.env x with
      | some val => evalEntries ops n d es (insertAL x val acc) s
      | none => (.err .unknownIdent, s) := by
  rw [evalEntries]; cases envGet s.env x <;> rfl

theorem evalEntries_spread (l : List String) (se v : Expr) (t : Option String)
    (es : List Entry) (acc : Frame) :
    evalEntries ops (n+1) d (.mk l (.spread se) v t :: es) acc s =
      R.bind (eval ops n d se s) fun x s1 =>
        match x with
        | .spread inner => evalEntries ops n d es (spreadIntoRecord acc inner) s1
        | _ => evalEntries ops n d es acc s1 := by
  rw [evalEntries]
  rcases eval ops n d se s with ⟨x | _ | _ | _, s1⟩
  · cases x <;> rfl
  all_goals rfl

theorem evalDoStmt_assign (x : String) (v : Expr) :
    evalDoStmt ops (n+1) d (.assign x v) s =
      if Gen.doAssignKeywords.contains x then (.err .keyword, s)
      else R.bind (eval ops n d v s) fun val s1 => (.ok val, assignIn s.nextId x val s1) := by
  rw [evalDoStmt]
  split
  · rfl
  · rcases eval ops n d v s with ⟨_ | _ | _ | _, s1⟩ <;> rfl

theorem evalDoStmt_other (e : Expr) (h : ∀ x v, e ≠ .assign x v) :
    evalDoStmt ops (n+1) d e s = eval ops n d e s := by
  rw [evalDoStmt]; exact fun x v hx => h x v hx

theorem evalDo_nil (l : List String) (e : Expr) (t : Option String) :
    evalDo ops (n+1) d [] (.mk l e t) s = evalDoStmt ops n d e s := by rw [evalDo]

theorem evalDo_cons (l : List String) (e : Expr) (t : Option String) (rest : List Item) (ret : Item) :
    evalDo ops (n+1) d (.mk l e t :: rest) ret s =
      R.bind (evalDoStmt ops n d e s) fun _ s1 => evalDo ops n d rest ret s1 := by
  rw [evalDo]
  rcases evalDoStmt ops n d e s with ⟨_ | _ | _ | _, s1⟩ <;> rfl

theorem callFn_lambda (id : Nat) (ps : List LArg) (body : Expr) (scope : Frame) (this : Value)
    (args : List Value) :
    callFn ops (n+1) (.lambda id ps body scope) this args d s =
      R.bind (checkArity (lambdaArity ps) args.length, s) fun _ _ =>
        if d > MAX_DEPTH then (.err .depth, s)
        else R.bind (bindParams ps args, s) fun pf _ =>
          ((eval ops n (d+1) body { s with env := bodyEnv s id scope this pf }).1,
           { (eval ops n (d+1) body { s with env := bodyEnv s id scope this pf }).2 with
             env := s.env }) := by
  rw [callFn]
  cases checkArity (lambdaArity ps) args.length with
  | ok u =>
    simp only [R.bind_ok]
    split
    · rfl
    · cases hb : bindParams ps args with
      | ok pf =>
        simp only [R.bind_ok, bodyEnv, bodyFrame]
        cases envGet s.env "inputs" <;> rfl
      | _ => rfl
  | _ => rfl

theorem callFn_builtin (name : String) (this : Value) (args : List Value) :
    callFn ops (n+1) (.builtin name) this args d s =
      match builtinArity name with
      | none => (.err .other, s)
      | some ar =>
        R.bind (checkArity ar args.length, s) fun _ _ =>
          if d > MAX_DEPTH then (.err .depth, s)
          else if isHof name then callHof ops n name args (d+1) s
          else match callPure ops name args with
            | some r => (r, s)
            | none => (.err .other, s) := by
  rw [callFn]
  cases builtinArity name with
  | none => rfl
  | some ar => simp only []; cases checkArity ar args.length <;> rfl

theorem callFn_other (fv this : Value) (args : List Value)
    (hl : ∀ id ps b sc, fv ≠ .lambda id ps b sc) (hb : ∀ x, fv ≠ .builtin x) :
    callFn ops (n+1) fv this args d s = (.err .notCallable, s) := by
  rw [callFn]
  · exact fun id ps b sc h => hl id ps b sc h
  · exact fun x h => hb x h

theorem callFn_not_callable {fv : Value} (h : fv.isCallable = false) (this : Value) (args : List Value) :
    callFn ops (n+1) fv this args d s = (.err .notCallable, s) := by
  cases fv with
  | lambda _ _ _ _ | builtin _ => cases h
  | _ => exact callFn_other _ _ _ _ _ _ _ (fun _ _ _ _ h => Value.noConfusion h) (fun _ h => Value.noConfusion h)

theorem mapCalls_nil (f : Value) (w : Bool) (i : Nat) :
    mapCalls ops (n+1) f w [] i d s = (.ok [], s) := by rw [mapCalls]

theorem mapCalls_cons (f : Value) (w : Bool) (x : Value) (xs : List Value) (i : Nat) :
    mapCalls ops (n+1) f w (x :: xs) i d s =
      R.bind (callFn ops n f f (idxArgs w x i) d s) fun v s1 =>
        R.bind (mapCalls ops n f w xs (i+1) d s1) fun vs s2 => (.ok (v :: vs), s2) := by
  rw [mapCalls]; unfold idxArgs
  rcases callFn ops n f f (if w then [x, .num (F64.ofNat i)] else [x]) d s with ⟨v | _ | _ | _, s1⟩
  · simp only [R.bind_ok]
    rcases mapCalls ops n f w xs (i+1) d s1 with ⟨_ | _ | _ | _, s2⟩ <;> rfl
  all_goals rfl

theorem quantCalls_nil (f : Value) (w q : Bool) (i : Nat) :
    quantCalls ops (n+1) f w q [] i d s = (.ok (.bool q), s) := by rw [quantCalls]

theorem quantCalls_cons (f : Value) (w q : Bool) (x : Value) (xs : List Value) (i : Nat) :
    quantCalls ops (n+1) f w q (x :: xs) i d s =
      R.bind (callFn ops n f f (idxArgs w x i) d s) fun v s1 =>
        match v with
        | .bool b =>
          if q && !b then (.ok (.bool false), s1)
          else if !q && b then (.ok (.bool true), s1)
          else quantCalls ops n f w q xs (i+1) d s1
        | _ => (.err .type_, s1) := by
  rw [quantCalls]; unfold idxArgs
  rcases callFn ops n f f (if w then [x, .num (F64.ofNat i)] else [x]) d s with ⟨v | _ | _ | _, s1⟩
  · cases v <;> rfl
  all_goals rfl

theorem foldCalls_nil (f : Value) (w : Bool) (acc : Value) (i : Nat) :
    foldCalls ops (n+1) f w acc [] i d s = (.ok acc, s) := by rw [foldCalls]

theorem foldCalls_cons (f : Value) (w : Bool) (acc x : Value) (xs : List Value) (i : Nat) :
    foldCalls ops (n+1) f w acc (x :: xs) i d s =
      R.bind (callFn ops n f f (foldArgs w acc x i) d s)
        fun v s1 => foldCalls ops n f w v xs (i+1) d s1 := by
  rw [foldCalls]; unfold foldArgs
  rcases callFn ops n f f (if w then [acc, x, .num (F64.ofNat i)] else [acc, x]) d s with
    ⟨_ | _ | _ | _, s1⟩ <;> rfl

theorem keyCalls_nil (f : Value) : keyCalls ops (n+1) f [] d s = ([], s) := by rw [keyCalls]

theorem keyCalls_cons (f x : Value) (xs : List Value) :
    keyCalls ops (n+1) f (x :: xs) d s =
      ((x, (callFn ops n f f [x] d s).1) :: (keyCalls ops n f xs d (callFn ops n f f [x] d s).2).1,
       (keyCalls ops n f xs d (callFn ops n f f [x] d s).2).2) := by
  rw [keyCalls]

theorem whereCalls_nil (f : Value) (w : Bool) (i : Nat) :
    whereCalls ops (n+1) f w [] i d s = (.ok (.list []), s) := by rw [whereCalls]

theorem whereCalls_cons (f : Value) (w : Bool) (x : Value) (xs : List Value) (i : Nat) :
    whereCalls ops (n+1) f w (x :: xs) i d s =
      R.bind (callFn ops n f f (idxArgs w x i) d s) fun v s1 =>
        match v with
        | .bool b =>
          R.bind (whereCalls ops n f w xs (i+1) d s1) fun r s2 =>
            match r with
            | .list vs => (.ok (.list (if b then x :: vs else vs)), s2)
            | other => (.ok other, s2)
        | _ => (.err .type_, s1) := by
  rw [whereCalls]; unfold idxArgs
  rcases callFn ops n f f (if w then [x, .num (F64.ofNat i)] else [x]) d s with ⟨v | _ | _ | _, s1⟩
  · cases v with
    | bool b =>
      simp only [R.bind_ok]
      rcases whereCalls ops n f w xs (i+1) d s1 with ⟨r | _ | _ | _, s2⟩
      · cases r <;> rfl
      all_goals rfl
    | _ => rfl
  all_goals rfl

theorem viaPairs_cons (x : Value) (xs : List Value) (f : Value) (fs : List Value) :
    viaPairs ops (n+1) (x :: xs) (f :: fs) d s =
      if !f.isCallable then (.err .notCallable, s)
      else R.bind (callFn ops n f f [x] d s) fun v s1 =>
        R.bind (viaPairs ops n xs fs d s1) fun r s2 =>
          match r with
          | .list vs => (.ok (.list (v :: vs)), s2)
          | other => (.ok other, s2) := by
  rw [viaPairs]
  split
  · rfl
  · rcases callFn ops n f f [x] d s with ⟨v | _ | _ | _, s1⟩
    · simp only [R.bind_ok]
      rcases viaPairs ops n xs fs d s1 with ⟨r | _ | _ | _, s2⟩
      · cases r <;> rfl
      all_goals rfl
    all_goals rfl

theorem viaPairs_nil_left (lb : List Value) : viaPairs ops (n+1) [] lb d s = (.ok (.list []), s) := by
  rw [viaPairs]; exact fun _ _ _ _ h => nomatch h

theorem viaPairs_nil_right (la : List Value) : viaPairs ops (n+1) la [] d s = (.ok (.list []), s) := by
  rw [viaPairs]; exact fun _ _ _ _ _ h => nomatch h

/-- the three operators that call a function -/
def isCallOp : BinOp → Bool
  | .via | .into | .where_ => true
  | _ => false

/-- what every other operator computes: no call, no state.  Dot comparisons never broadcast;
    the rest go element by element over list operands. -/
def binValue (ops : NumOps) (op : BinOp) (a b : Value) : Outcome Value :=
  if isDot op then compareOp op a b
  else
    match a, b with
    | .list la, .list lb => if la.length != lb.length then .err .length else zipScalar ops op la lb
    | .list la, sc => mapScalar ops op true la sc
    | sc, .list lb => mapScalar ops op false lb sc
    | x, y => scalarOp ops false op x y

theorem ite_pair {α} (c : Prop) [Decidable c] (x y : α) (s : ES) :
    (if c then (x, s) else (y, s)) = ((if c then x else y), s) := by split <;> rfl

theorem evalBin_value (op : BinOp) (a b : Value) (h : isCallOp op = false) :
    evalBin ops (n+1) d op a b s = (binValue ops op a b, s) := by
  rw [evalBin.eq_def]; unfold binValue
  -- a dot comparison never looks at the shape of its operands; the other operators go by shape
  cases op <;> first
    | rfl
    | (cases a <;> cases b <;> first | rfl | exact ite_pair _ _ _ _)
    | cases h

theorem evalBin_via (a b : Value) :
    evalBin ops (n+1) d .via a b s =
      match a, b with
      | .list la, .list lb =>
        if la.length != lb.length then (.err .length, s) else viaPairs ops n la lb d s
      | .list la, sc =>
        if !sc.isCallable then (.err .notCallable, s)
        else match arityOf sc with
          | none => (.err .other, s)
          | some ar =>
            R.bind (mapCalls ops n sc (ar.canAccept 2) la 0 d s) fun vs s1 => (.ok (.list vs), s1)
      | _, .list _ => (.err .type_, s)
      | x, y => if !y.isCallable then (.err .notCallable, s) else callFn ops n y y [x] d s := by
  rw [evalBin.eq_def]
  cases a <;> cases b <;> first
    | rfl
    | (simp only [isDot, Bool.false_eq_true, if_false, reduceCtorEq, beq_iff_eq, Bool.and_eq_true,
         false_and, Value.isCallable, Bool.not_true]
       generalize arityOf _ = oa
       cases oa with
       | none => rfl
       | some ar =>
         simp only []
         generalize mapCalls ops n _ _ _ 0 d s = r
         rcases r with ⟨_ | _ | _ | _, s1⟩ <;> rfl)

theorem evalBin_into (a b : Value) :
    evalBin ops (n+1) d .into a b s =
      if isListV b then (.err .type_, s)
      else if !b.isCallable then (.err .notCallable, s)
      else callFn ops n b b [a] d s := by
  rw [evalBin.eq_def]
  cases a <;> cases b <;> rfl

theorem evalBin_where (a b : Value) :
    evalBin ops (n+1) d .where_ a b s =
      match a, b with
      | .list la, .list lb => if la.length != lb.length then (.err .length, s) else (.err .type_, s)
      | .list la, sc =>
        if !sc.isCallable then (.err .notCallable, s)
        else match arityOf sc with
          | none => (.err .other, s)
          | some ar => whereCalls ops n sc (ar.canAccept 2) la 0 d s
      | _, _ => (.err .type_, s) := by
  rw [evalBin.eq_def]
  cases a <;> cases b <;> rfl

/-- Rust indexes `args[0]`, `args[1]` unchecked -/
theorem callHof_short (name : String) (args : List Value) (h : args.length < 2) :
    callHof ops (n+1) name args d s = (.panic "args[i] in higher-order built-in", s) := by
  rw [callHof]
  match args, h with
  | [], _ => rfl
  | [_], _ => rfl

/-- an element whose key call failed compares equal to everything (the source swallows the
    error); only the model's own `fuel` is passed on -/
theorem callHof_sort_by (lv f : Value) (rest : List Value) :
    callHof ops (n+1) "sort_by" (lv :: f :: rest) d s =
      match lv with
      | .list l =>
        if !f.isCallable then (.ok (.list l), s)
        else
          if (keyCalls ops n f l (d+1) s).1.any (fun kr => match kr.2 with | .fuel => true | _ => false)
          then (.fuel, (keyCalls ops n f l (d+1) s).2)
          else (.ok (.list ((mergeSortBy sortByLt (keyCalls ops n f l (d+1) s).1.length
                  (keyCalls ops n f l (d+1) s).1).map (·.1))), (keyCalls ops n f l (d+1) s).2)
      | _ => (.err .type_, s) := by
  rw [callHof]
  simp only [List.getElem?_cons_zero, List.getElem?_cons_succ]
  cases lv <;> rfl

theorem callHof_map (l : List Value) (f : Value) (rest : List Value) :
    callHof ops (n+1) "map" (.list l :: f :: rest) d s =
      match arityOf f with
      | none => (.err .type_, s)
      | some ar =>
        R.bind (mapCalls ops n f (ar.canAccept 2) l 0 (d+1) s) fun vs s1 => (.ok (.list vs), s1) := by
  rw [callHof]
  simp only [List.getElem?_cons_zero, List.getElem?_cons_succ]
  split
  · rename_i h; exact absurd h (by decide)
  · cases arityOf f with
    | none => rfl
    | some ar =>
      simp only []
      generalize mapCalls ops n f _ l 0 (d+1) s = r
      rcases r with ⟨_ | _ | _ | _, s1⟩ <;> rfl

theorem callHof_filter (l : List Value) (f : Value) (rest : List Value) :
    callHof ops (n+1) "filter" (.list l :: f :: rest) d s =
      match arityOf f with
      | none => (.err .type_, s)
      | some ar =>
        whereCalls ops n f (ar.canAccept 2) l 0 (d+1) s := by
  rw [callHof]
  simp only [List.getElem?_cons_zero, List.getElem?_cons_succ]
  split
  · rename_i h; exact absurd h (by decide)
  · rfl

theorem callHof_every (l : List Value) (f : Value) (rest : List Value) :
    callHof ops (n+1) "every" (.list l :: f :: rest) d s =
      match arityOf f with
      | none => (.err .type_, s)
      | some ar =>
        quantCalls ops n f (ar.canAccept 2) true l 0 (d+1) s := by
  rw [callHof]
  simp only [List.getElem?_cons_zero, List.getElem?_cons_succ]
  split
  · rename_i h; exact absurd h (by decide)
  · rfl

theorem callHof_some (l : List Value) (f : Value) (rest : List Value) :
    callHof ops (n+1) "some" (.list l :: f :: rest) d s =
      match arityOf f with
      | none => (.err .type_, s)
      | some ar =>
        quantCalls ops n f (ar.canAccept 2) false l 0 (d+1) s := by
  rw [callHof]
  simp only [List.getElem?_cons_zero, List.getElem?_cons_succ]
  split
  · rename_i h; exact absurd h (by decide)
  · rfl

theorem callHof_reduce (l : List Value) (f : Value) (rest : List Value) :
    callHof ops (n+1) "reduce" (.list l :: f :: rest) d s =
      match arityOf f with
      | none => (.err .type_, s)
      | some ar =>
        match rest[0]? with
        | some init => foldCalls ops n f (ar.canAccept 3) init l 0 (d+1) s
        | none => (.panic "args[2] in reduce", s) := by
  rw [callHof]
  simp only [List.getElem?_cons_zero, List.getElem?_cons_succ]
  split
  · rename_i h; exact absurd h (by decide)
  · rfl

theorem callHof_group_by (l : List Value) (f : Value) (rest : List Value) :
    callHof ops (n+1) "group_by" (.list l :: f :: rest) d s =
      match arityOf f with
      | none => (.err .type_, s)
      | some _ =>
        R.bind (mapCalls ops n f false l 0 (d+1) s) fun ks s1 =>
          match groupByKeys l ks with
          | some r => (.ok (.record r), s1)
          | none => (.err .type_, s1) := by
  rw [callHof]
  simp only [List.getElem?_cons_zero, List.getElem?_cons_succ]
  split
  · rename_i h; exact absurd h (by decide)
  · cases arityOf f with
    | none => rfl
    | some ar =>
      simp only []
      generalize mapCalls ops n f _ l 0 (d+1) s = r
      rcases r with ⟨_ | _ | _ | _, s1⟩ <;> rfl

theorem callHof_count_by (l : List Value) (f : Value) (rest : List Value) :
    callHof ops (n+1) "count_by" (.list l :: f :: rest) d s =
      match arityOf f with
      | none => (.err .type_, s)
      | some _ =>
        R.bind (mapCalls ops n f false l 0 (d+1) s) fun ks s1 =>
          match countByKeys ops ks with
          | some r => (.ok (.record r), s1)
          | none => (.err .type_, s1) := by
  rw [callHof]
  simp only [List.getElem?_cons_zero, List.getElem?_cons_succ]
  split
  · rename_i h; exact absurd h (by decide)
  · cases arityOf f with
    | none => rfl
    | some ar =>
      simp only []
      generalize mapCalls ops n f _ l 0 (d+1) s = r
      rcases r with ⟨_ | _ | _ | _, s1⟩ <;> rfl

theorem callHof_unknown (name : String) (h : isHof name = false) (l : List Value) (f : Value)
    (rest : List Value) :
    callHof ops (n+1) name (.list l :: f :: rest) d s =
      match arityOf f with
      | none => (.err .type_, s)
      | some _ => (.err .other, s) := by
  rw [callHof]
  simp only [List.getElem?_cons_zero, List.getElem?_cons_succ]
  split
  · cases h
  · cases arityOf f with
    | none => rfl
    | some ar =>
      simp only []
      split <;> first | rfl | cases h

theorem callHof_not_list (name : String) (hne : name ≠ "sort_by") (lv f : Value) (rest : List Value)
    (hl : ∀ l, lv ≠ .list l) :
    callHof ops (n+1) name (lv :: f :: rest) d s = (.err .type_, s) := by
  -- the equation of this arm has `hne` and `hl` as its side conditions; `rw` finds them in context
  rw [callHof]
  simp only [List.getElem?_cons_zero, List.getElem?_cons_succ]

theorem isHof_cases (name : String) :
    name = "sort_by" ∨ name = "map" ∨ name = "filter" ∨ name = "every" ∨ name = "some" ∨
      name = "reduce" ∨ name = "group_by" ∨ name = "count_by" ∨ isHof name = false := by
  by_cases h : isHof name = true
  · simp only [isHof, Bool.or_eq_true, beq_iff_eq] at h
    rcases h with ((((((h | h) | h) | h) | h) | h) | h) | h <;> simp only [h, true_or, or_true]
  · exact .inr (.inr (.inr (.inr (.inr (.inr (.inr (.inr (Bool.eq_false_iff.mpr h))))))))

end Blots
