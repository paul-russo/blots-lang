import Blots.Model.JsonText
import Blots.Lemmas.Json
import Blots.Lemmas.Shortest17
/-
  Lemmas for the JSON text layer (C06): what `jsonWrite` writes, `jsonRead` reads back.

  * the reader's rules are stated once per token the writer emits (`readValue_str`,
    `readValue_arr_chars`, `readElems_more`, …) and used from there on;
  * strings: every character the writer emits (escaped or verbatim, `escChar_cases`) is read
    back as itself (`readStrBody_escChars`);
  * numbers: every JSON number literal is read as the correct rounding of its exact value
    (`readNumber_lit`, on top of `parseDec_decimal_literal`); ryu's text of every finite
    double is such a literal and its exact value rounds back to the double
    (`ryuChars_shape`, from `shortestDigitsWith_value_all` with the ties-to-even rule, and
    the bound `shortest_exp_bounds` on the decimal exponent);
  * trees: `readsBack_all` by induction over the tree, `read_write_with` for whole texts.
-/

namespace Blots.JsonText
open Blots Blots.F64

theorem skipWs_cons (c : Char) (r : List Char) (h : jsonIsWs c = false) :
    jsonSkipWs (c :: r) = c :: r := by
  simp [jsonSkipWs, h]

theorem hex4_low : ∀ n : Fin 32,
    jsonHex4 '0' '0' (hexDigit (n.val / 16)) (hexDigit (n.val % 16)) = some n.val := by
  decide

theorem consChar_some (c : Char) (s r : List Char) : consChar c (some (s, r)) = some (c :: s, r) := rfl

theorem readUnicode_low (c : Char) (h : c.toNat < 0x20) (r : List Char) :
    jsonReadUnicode ('0' :: '0' :: hexDigit (c.toNat / 16) :: hexDigit (c.toNat % 16) :: r) = some (c, r) := by
  have h4 := hex4_low ⟨c.toNat, h⟩
  simp only at h4
  have h1 : ¬ (0xDC00 ≤ c.toNat ∧ c.toNat ≤ 0xDFFF) := by omega
  have h2 : ¬ (0xD800 ≤ c.toNat ∧ c.toNat ≤ 0xDBFF) := by omega
  simp only [jsonReadUnicode, h4, h1, h2, if_false, Char.ofNat_toNat]

theorem escChar_cases (c : Char) :
    (jsonEscChar c = [c] ∧ c ≠ '"' ∧ c ≠ '\\' ∧ ¬ c.toNat < 0x20) ∨
      ∃ e, jsonEscChar c = '\\' :: e ∧ ∀ r, jsonReadEscape (e ++ r) = some (c, r) := by
  by_cases h1 : c = '"'
  · subst h1; exact Or.inr ⟨_, rfl, fun _ => rfl⟩
  by_cases h2 : c = '\\'
  · subst h2; exact Or.inr ⟨_, rfl, fun _ => rfl⟩
  by_cases h3 : c = '\n'
  · subst h3; exact Or.inr ⟨_, rfl, fun _ => rfl⟩
  by_cases h4 : c = '\r'
  · subst h4; exact Or.inr ⟨_, rfl, fun _ => rfl⟩
  by_cases h5 : c = '\t'
  · subst h5; exact Or.inr ⟨_, rfl, fun _ => rfl⟩
  by_cases h6 : c = '\x08'
  · subst h6; exact Or.inr ⟨_, rfl, fun _ => rfl⟩
  by_cases h7 : c = '\x0c'
  · subst h7; exact Or.inr ⟨_, rfl, fun _ => rfl⟩
  rw [jsonEscChar, if_neg h1, if_neg h2, if_neg h3, if_neg h4, if_neg h5, if_neg h6, if_neg h7]
  by_cases h : c.toNat < 0x20
  · rw [if_pos h]
    exact Or.inr ⟨_, rfl, fun r => readUnicode_low c h r⟩
  · rw [if_neg h]
    exact Or.inl ⟨rfl, h1, h2, h⟩

theorem readStrBody_escChar (c : Char) (fuel : Nat) (r : List Char) :
    jsonReadStrBody (fuel + 1) (jsonEscChar c ++ r) = consChar c (jsonReadStrBody fuel r) := by
  rcases escChar_cases c with ⟨h, h1, h2, h3⟩ | ⟨e, h, he⟩
  · rw [h, List.singleton_append, jsonReadStrBody, if_neg h1, if_neg h2, if_neg h3]
  · rw [h, List.cons_append, jsonReadStrBody, if_neg (by decide), if_pos rfl, he]

theorem length_escChars (cs : List Char) : cs.length ≤ (jsonEscChars cs).length := by
  induction cs with
  | nil => exact Nat.le_refl _
  | cons c t ih =>
    have h1 : 1 ≤ (jsonEscChar c).length := by
      rcases escChar_cases c with ⟨h, _⟩ | ⟨e, h, _⟩ <;> rw [h] <;> exact Nat.succ_le_succ (Nat.zero_le _)
    rw [jsonEscChars, List.length_append, List.length_cons]
    omega

theorem readStrBody_escChars (cs rest : List Char) : ∀ fuel, cs.length < fuel →
    jsonReadStrBody fuel (jsonEscChars cs ++ '"' :: rest) = some (cs, rest) := by
  induction cs with
  | nil =>
    intro fuel hf
    obtain ⟨f, rfl⟩ : ∃ f, fuel = f + 1 := ⟨fuel - 1, by omega⟩
    simp [jsonEscChars, jsonReadStrBody]
  | cons c t ih =>
    intro fuel hf
    obtain ⟨f, rfl⟩ : ∃ f, fuel = f + 1 := ⟨fuel - 1, by omega⟩
    have hf' : t.length < f := by simp only [List.length_cons] at hf; omega
    rw [jsonEscChars, List.append_assoc, readStrBody_escChar, ih f hf']
    rfl

theorem strChars_append (s : String) (r : List Char) :
    jsonStrChars s ++ r = '"' :: (jsonEscChars s.toList ++ '"' :: r) := by
  rw [jsonStrChars, List.cons_append, List.append_assoc]
  rfl

theorem readStr_strChars (s : String) (rest : List Char) (fuel : Nat)
    (hf : (jsonStrChars s).length ≤ fuel + 1) :
    jsonReadStr fuel (jsonEscChars s.toList ++ '"' :: rest) = some (s, rest) := by
  have hl := length_escChars s.toList
  have hf' : s.toList.length < fuel := by
    simp only [jsonStrChars, List.length_cons, List.length_append, List.length_nil] at hf
    omega
  unfold jsonReadStr
  rw [readStrBody_escChars s.toList rest fuel hf']
  simp only [String.ofList_toList]

/-- what may follow a number token: not a digit, point or exponent mark -/
def NumEnd (c : Char) : Prop := isDigit c = false ∧ c ≠ '.' ∧ c ≠ 'e' ∧ c ≠ 'E'

theorem headSat_append {p : Char → Prop} (a b : List Char) (ha : a ≠ [] → HeadSat p a)
    (hb : a = [] → HeadSat p b) : HeadSat p (a ++ b) := by
  cases a with
  | nil => exact hb rfl
  | cons c t => exact ha (by simp)

theorem numLeadOk_ne_nil {ip : List Char} (h : numLeadOk ip = true) : ip ≠ [] := by
  rintro rfl; simp [numLeadOk] at h

theorem numSign_of_head (cs : List Char) (h : HeadSat (fun c => c ≠ '-') cs) :
    numSign cs = ([], cs) := by
  unfold numSign
  split
  · exact absurd rfl h
  · rfl

theorem numExpSign_of_head (cs : List Char) (h : HeadSat (fun c => c ≠ '-' ∧ c ≠ '+') cs) :
    numExpSign cs = ([], cs) := by
  unfold numExpSign
  split
  · exact absurd rfl h.1
  · exact absurd rfl h.2
  · rfl

theorem numExpSign_sign (sg : List Char) (eneg : Bool) (cs : List Char) (hs : IsSign sg eneg)
    (h : HeadSat (fun c => c ≠ '-' ∧ c ≠ '+') cs) : numExpSign (sg ++ cs) = (sg, cs) := by
  rcases hs with ⟨rfl, _⟩ | ⟨rfl, _⟩ | ⟨rfl, _⟩
  · exact numExpSign_of_head cs h
  · rfl
  · rfl

theorem NumEnd.notDigit {r : List Char} (h : HeadSat NumEnd r) :
    HeadSat (fun c => isDigit c = false) r :=
  h.imp fun _ hc => hc.1

theorem numExp_of_isExpText (bound : Nat) (ex : List Char) (ev : Int) (rest : List Char)
    (hex : IsExpText bound ex ev) (hrest : HeadSat NumEnd rest) :
    numExp (ex ++ rest) = some (ex, rest) := by
  cases hex with
  | absent =>
    cases rest with
    | nil => rfl
    | cons c t =>
      have hc : NumEnd c := hrest
      have : (decide (c = 'e') || decide (c = 'E')) = false := by
        simp [hc.2.2.1, hc.2.2.2]
      simp only [List.nil_append, numExp, this, Bool.false_eq_true, if_false]
  | present c sg eneg es hc hsg hne hes hb =>
    have hce : (decide (c = 'e') || decide (c = 'E')) = true := by
      rcases hc with rfl | rfl <;> decide
    have hhead : HeadSat (fun c => c ≠ '-' ∧ c ≠ '+') (es ++ rest) := by
      cases es with
      | nil => exact absurd rfl hne
      | cons a t => exact MantHead.notSign (Or.inl (hes a List.mem_cons_self))
    have hss : numExpSign (sg ++ es ++ rest) = (sg, es ++ rest) := by
      rw [List.append_assoc]; exact numExpSign_sign sg eneg _ hsg hhead
    have hsp := span_digits es rest hes (NumEnd.notDigit hrest)
    have hemp : es.isEmpty = false := by
      cases es with
      | nil => exact absurd rfl hne
      | cons a t => rfl
    show numExp (c :: (sg ++ es ++ rest)) = _
    simp only [numExp, hce, if_true, hss, hsp.1, hsp.2, hemp, Bool.false_eq_true, if_false]

theorem numFrac_fracText (dot : Bool) (fp r : List Char) (hfp : ∀ c ∈ fp, isDigit c = true)
    (hdot1 : dot = false → fp = []) (hdot2 : dot = true → fp ≠ [])
    (hr : HeadSat TailHead r) : numFrac (fracText dot fp ++ r) = some (fracText dot fp, r) := by
  have hr1 : HeadSat (fun c => isDigit c = false) r := hr.imp fun _ h => h.1
  cases dot with
  | false =>
    have : fp = [] := hdot1 rfl
    subst this
    simp only [fracText, Bool.false_eq_true, if_false, List.nil_append]
    unfold numFrac
    split
    · exact absurd rfl hr.2
    · rfl
  | true =>
    have hsp := span_digits fp r hfp hr1
    have hemp : fp.isEmpty = false := by
      cases fp with
      | nil => exact absurd rfl (hdot2 rfl)
      | cons a t => rfl
    show numFrac ('.' :: (fp ++ r)) = _
    simp only [numFrac, hsp.1, hsp.2, hemp, Bool.false_eq_true, if_false, fracText, if_true]

theorem readNumber_lit (neg : Bool) (ip fp : List Char) (dot : Bool) (ex : List Char) (ev : Int)
    (rest : List Char)
    (hip : ∀ c ∈ ip, isDigit c = true) (hlead : numLeadOk ip = true)
    (hfp : ∀ c ∈ fp, isDigit c = true) (hdot1 : dot = false → fp = []) (hdot2 : dot = true → fp ≠ [])
    (hex : IsExpText (400 + ip.length + fp.length) ex ev) (hrest : HeadSat NumEnd rest) :
    jsonReadNumber ((if neg then ['-'] else []) ++ (ip ++ fracText dot fp ++ ex) ++ rest) =
      (if (decVal neg (digitsVal (ip ++ fp)) (ev - Int.ofNat fp.length)).isFinite
       then some (.num (decVal neg (digitsVal (ip ++ fp)) (ev - Int.ofNat fp.length)), rest)
       else none) := by
  have hipne := numLeadOk_ne_nil hlead
  have hrestTail : HeadSat TailHead rest := hrest.imp fun _ h => ⟨h.1, h.2.1⟩
  have hexTail : HeadSat TailHead (ex ++ rest) :=
    headSat_append ex rest (fun h => by
      have := hex.headSat
      cases ex with
      | nil => exact absurd rfl h
      | cons c t => exact this) (fun _ => hrestTail)
  have hafter : HeadSat (fun c => isDigit c = false) (fracText dot fp ++ (ex ++ rest)) := by
    cases dot with
    | true => show isDigit '.' = false; decide
    | false =>
      simp only [fracText, Bool.false_eq_true, if_false, List.nil_append]
      cases h : ex ++ rest with
      | nil => trivial
      | cons c t => rw [h] at hexTail; exact hexTail.1
  have hsign : numSign ((if neg then ['-'] else []) ++ (ip ++ fracText dot fp ++ ex) ++ rest) =
      ((if neg then ['-'] else []), ip ++ (fracText dot fp ++ (ex ++ rest))) := by
    cases neg with
    | true => simp [numSign]
    | false =>
      simp only [Bool.false_eq_true, if_false, List.nil_append, List.append_assoc]
      apply numSign_of_head
      cases ip with
      | nil => exact absurd rfl hipne
      | cons a t =>
        exact (MantHead.notSign (Or.inl (hip a List.mem_cons_self))).1
  have hsp := span_digits ip (fracText dot fp ++ (ex ++ rest)) hip hafter
  have hfr := numFrac_fracText dot fp (ex ++ rest) hfp hdot1 hdot2 hexTail
  have hxp := numExp_of_isExpText _ ex ev rest hex hrest
  have hpd := parseDec_decimal_literal (if neg then ['-'] else []) neg ip fp dot ex ev (isSign_ite neg)
    hip hfp (by intro h; exact hipne (List.append_eq_nil_iff.1 h).1) hdot1 hex
  unfold jsonReadNumber
  simp only [hsign, hsp.1, hsp.2, hlead, if_true, hfr, hxp, hpd]

def HeadNZ (l : List Char) : Prop := ∃ c t, l = c :: t ∧ c ≠ '0'

theorem HeadNZ.append {a : List Char} (h : HeadNZ a) (b : List Char) : HeadNZ (a ++ b) := by
  obtain ⟨c, t, rfl, hc⟩ := h
  exact ⟨c, t ++ b, rfl, hc⟩

theorem HeadNZ.take {a : List Char} (h : HeadNZ a) (k : Nat) (hk : 0 < k) : HeadNZ (a.take k) := by
  obtain ⟨c, t, rfl, hc⟩ := h
  obtain ⟨j, rfl⟩ : ∃ j, k = j + 1 := ⟨k - 1, by omega⟩
  exact ⟨c, t.take j, rfl, hc⟩

theorem HeadNZ.leadOk {a : List Char} (h : HeadNZ a) : numLeadOk a = true := by
  obtain ⟨c, t, rfl, hc⟩ := h
  unfold numLeadOk
  split
  · simp_all
  · rfl
  · next c' _ h2 =>
    simp only [List.cons.injEq] at h2
    simp [← h2.1, hc]

theorem toDigits_headNZ (n : Nat) (hn : n ≠ 0) : HeadNZ (Nat.toDigits 10 n) := by
  have h := toDigits_head_ne_zero n (Nat.pos_of_ne_zero hn)
  cases hl : Nat.toDigits 10 n with
  | nil => exact absurd hl Nat.toDigits_ne_nil
  | cons c t => exact ⟨c, t, rfl, fun e => h (by rw [hl, e]; rfl)⟩

theorem natDigits_headNZ (n : Nat) (hn : n ≠ 0) : HeadNZ (natDigits n).toList := by
  rw [natDigits_toList]; exact toDigits_headNZ n hn

theorem strip_exp : ∀ (fuel d : Nat) (e : Int),
    e ≤ (shortestDigitsWith.strip d e fuel).2 ∧ (shortestDigitsWith.strip d e fuel).2 ≤ e + fuel
  | 0, d, e => ⟨Int.le_refl _, by simp [shortestDigitsWith.strip]⟩
  | fuel + 1, d, e => by
    rw [shortestDigitsWith.strip.eq_2]
    split
    · have := strip_exp fuel (d / 10) (e + 1)
      constructor
      · omega
      · have h2 := this.2; push_cast; omega
    · exact ⟨Int.le_refl _, by push_cast; omega⟩

theorem go_exp (tieUp : Bool) (num den : Nat) (ax : F64) (k : Int) : ∀ (fuel n : Nat),
    (shortestDigitsWith.go tieUp num den ax k n fuel).2 = 0 ∨
      (k - (n + fuel : Nat) + 1 < (shortestDigitsWith.go tieUp num den ax k n fuel).2 ∧
        (shortestDigitsWith.go tieUp num den ax k n fuel).2 ≤ k - (n : Nat) + 1)
  | 0, n => Or.inl rfl
  | fuel + 1, n => by
    rw [go_succ]
    split
    · right
      simp only [Int.ofNat_eq_natCast]
      constructor
      · push_cast; omega
      · omega
    · rcases go_exp tieUp num den ax k fuel (n + 1) with h | h
      · exact Or.inl h
      · right
        constructor
        · have := h.1; push_cast at this ⊢; omega
        · have := h.2; push_cast at this ⊢; omega

theorem shortestK_range (x : F64) (hf : x.isFinite = true) (hz : x.isZero = false) :
    -330 ≤ shortestK x.ratio.1 x.ratio.2 ∧ shortestK x.ratio.1 x.ratio.2 ≤ 320 := by
  obtain ⟨L, hest, hL1, hL2, _⟩ := S17.log2_ratio x hf hz
  have hnear := S17.shortestK_near x.ratio.1 x.ratio.2
  rw [hest] at hnear
  omega

theorem shortest_exp_bounds (tieUp : Bool) (x : F64) (hf : x.isFinite = true) (hz : x.isZero = false) :
    -400 ≤ (x.shortestDigitsWith tieUp).2 ∧ (x.shortestDigitsWith tieUp).2 ≤ 400 := by
  have hk := shortestK_range x hf hz
  rw [shortestDigitsWith_eq]
  have hs := strip_exp 20 (shortestRaw tieUp x).1 (shortestRaw tieUp x).2
  have hg := go_exp tieUp x.ratio.1 x.ratio.2 x.abs (shortestK x.ratio.1 x.ratio.2) 18 1
  change (shortestRaw tieUp x).2 = 0 ∨ _ at hg
  rcases hg with h | h
  · rw [h] at hs ⊢; omega
  · have h1 := h.1; have h2 := h.2
    change _ < (shortestRaw tieUp x).2 at h1
    change (shortestRaw tieUp x).2 ≤ _ at h2
    push_cast at h1 h2 hs
    omega

/-- `ryuChars` after the sign, on the digit string and exponent -/
def ryuBody (ds : List Char) (e : Int) : List Char :=
  if 0 ≤ e ∧ Int.ofNat ds.length + e ≤ 16 then ds ++ List.replicate e.toNat '0' ++ ['.', '0']
  else if 0 < Int.ofNat ds.length + e ∧ Int.ofNat ds.length + e ≤ 16 then
    ds.take (Int.ofNat ds.length + e).toNat ++ '.' :: ds.drop (Int.ofNat ds.length + e).toNat
  else if -5 < Int.ofNat ds.length + e ∧ Int.ofNat ds.length + e ≤ 0 then
    '0' :: '.' :: (List.replicate (-(Int.ofNat ds.length + e)).toNat '0' ++ ds)
  else if ds.length = 1 then ds ++ 'e' :: ryuExpChars (Int.ofNat ds.length + e - 1)
  else ds.take 1 ++ '.' :: (ds.drop 1 ++ 'e' :: ryuExpChars (Int.ofNat ds.length + e - 1))

theorem ryuChars_eq (x : F64) :
    ryuChars x = (if x.neg then ['-'] else []) ++
      (if x.isZero then ['0', '.', '0']
       else ryuBody (natDigits (x.shortestDigitsWith false).1).toList (x.shortestDigitsWith false).2) := by
  by_cases hz : x.isZero = true
  · rw [ryuChars, if_pos hz, if_pos hz]
  · rw [ryuChars, if_neg hz, if_neg hz, ryuBody]
    simp only [apply_ite (HAppend.hAppend (if x.neg = true then ['-'] else []))]

theorem isExpText_ryu (bound : Nat) (v : Int) (hb : v.natAbs ≤ bound) :
    IsExpText bound ('e' :: ryuExpChars v) v := by
  have h := IsExpText.present (bound := bound) 'e' _ _ (natDigits v.natAbs).toList (Or.inl rfl)
    (isSign_ite (decide (v < 0))) (natDigits_toList_ne_nil _) (natDigits_all_isDigit _)
    (by rw [digitsVal_natDigits]; exact hb)
  have e1 : (if decide (v < 0) = true then - Int.ofNat v.natAbs else Int.ofNat v.natAbs) = v := by
    simp only [decide_eq_true_eq, Int.ofNat_eq_natCast]; split <;> omega
  rw [digitsVal_natDigits, e1] at h
  simpa [ryuExpChars] using h

theorem ryuBody_shape (ds : List Char) (e : Int) (hds : ∀ c ∈ ds, isDigit c = true) (hnz : HeadNZ ds)
    (he1 : -400 ≤ e) (he2 : e ≤ 400) :
    ∃ (ip fp : List Char) (dot : Bool) (ex : List Char) (ev : Int),
      ryuBody ds e = ip ++ fracText dot fp ++ ex ∧
      (∀ c ∈ ip, isDigit c = true) ∧ numLeadOk ip = true ∧ (∀ c ∈ fp, isDigit c = true) ∧
      (dot = false → fp = []) ∧ (dot = true → fp ≠ []) ∧
      IsExpText (400 + ip.length + fp.length) ex ev ∧
      ∀ neg, decVal neg (digitsVal (ip ++ fp)) (ev - Int.ofNat fp.length) = decVal neg (digitsVal ds) e := by
  have hlen : 0 < ds.length := by
    obtain ⟨c, t, rfl, _⟩ := hnz; simp
  by_cases h : 0 ≤ e ∧ Int.ofNat ds.length + e ≤ 16
  · -- digits, zeros, ".0"
    rw [ryuBody, if_pos h]
    refine ⟨ds ++ List.replicate e.toNat '0', ['0'], true, [], 0, by simp [fracText], ?_, (hnz.append _).leadOk,
      by decide, by simp, by simp, IsExpText.absent, ?_⟩
    · intro c hc
      rcases List.mem_append.1 hc with h | h
      · exact hds c h
      · exact all_isDigit_replicate_zero _ c h
    · intro neg
      have hv : digitsVal (ds ++ List.replicate e.toNat '0' ++ ['0']) = digitsVal ds * 10 ^ e.toNat * 10 := by
        rw [digitsVal_append, digitsVal_append_zeros]; rfl
      have he : e = Int.ofNat e.toNat := by simp only [Int.ofNat_eq_natCast]; omega
      rw [hv, show ((0 : Int) - Int.ofNat ['0'].length) = -1 from rfl, decVal_mul_ten,
        show (-1 : Int) + 1 = 0 from rfl, decVal_zero]
      conv => rhs; rw [he, decVal_nonneg]
  by_cases h0 : 0 < Int.ofNat ds.length + e ∧ Int.ofNat ds.length + e ≤ 16
  · -- digits with a point inside
    rw [ryuBody, if_neg h, if_pos h0]
    have hk1 : 0 < (Int.ofNat ds.length + e).toNat := by omega
    have hk2 : (Int.ofNat ds.length + e).toNat < ds.length := by
      simp only [Int.ofNat_eq_natCast] at h0 h ⊢; omega
    refine ⟨ds.take (Int.ofNat ds.length + e).toNat, ds.drop (Int.ofNat ds.length + e).toNat, true, [], 0,
      by simp [fracText], fun c hc => hds c (List.mem_of_mem_take hc), (hnz.take _ hk1).leadOk,
      fun c hc => hds c (List.mem_of_mem_drop hc), by simp, ?_, IsExpText.absent, ?_⟩
    · intro _ hnil
      have := congrArg List.length hnil
      rw [List.length_drop] at this
      simp only [List.length_nil] at this
      omega
    · intro neg
      rw [List.take_append_drop, List.length_drop]
      refine congrArg (decVal neg (digitsVal ds)) ?_
      simp only [Int.ofNat_eq_natCast] at h0 h ⊢
      omega
  by_cases h1 : -5 < Int.ofNat ds.length + e ∧ Int.ofNat ds.length + e ≤ 0
  · -- "0." zeros digits
    rw [ryuBody, if_neg h, if_neg h0, if_pos h1]
    refine ⟨['0'], List.replicate (-(Int.ofNat ds.length + e)).toNat '0' ++ ds, true, [], 0,
      by simp [fracText], by decide, rfl, ?_, by simp, ?_, IsExpText.absent, ?_⟩
    · intro c hc
      rcases List.mem_append.1 hc with h | h
      · exact all_isDigit_replicate_zero _ c h
      · exact hds c h
    · intro _ hnil
      have := (List.append_eq_nil_iff.1 hnil).2
      subst this
      simp at hlen
    · intro neg
      have hv : digitsVal (['0'] ++ (List.replicate (-(Int.ofNat ds.length + e)).toNat '0' ++ ds)) =
          digitsVal ds := by
        rw [digitsVal_append, digitsVal_zeros_append, show digitsVal ['0'] = 0 from rfl,
          Nat.zero_mul, Nat.zero_add]
      rw [hv, List.length_append, List.length_replicate]
      refine congrArg (decVal neg (digitsVal ds)) ?_
      simp only [Int.ofNat_eq_natCast] at h1 ⊢
      omega
  by_cases h2 : ds.length = 1
  · -- one digit and an exponent
    rw [ryuBody, if_neg h, if_neg h0, if_neg h1, if_pos h2]
    refine ⟨ds, [], false, 'e' :: ryuExpChars (Int.ofNat ds.length + e - 1), Int.ofNat ds.length + e - 1,
      by simp [fracText], hds, hnz.leadOk, by simp, by simp, by simp, ?_, ?_⟩
    · apply isExpText_ryu
      simp only [Int.ofNat_eq_natCast, List.length_nil]
      omega
    · intro neg
      rw [List.append_nil]
      refine congrArg (decVal neg (digitsVal ds)) ?_
      simp only [Int.ofNat_eq_natCast, List.length_nil, h2]
      omega
  · -- d.ddd and an exponent
    rw [ryuBody, if_neg h, if_neg h0, if_neg h1, if_neg h2]
    have hl2 : 2 ≤ ds.length := by omega
    refine ⟨ds.take 1, ds.drop 1, true, 'e' :: ryuExpChars (Int.ofNat ds.length + e - 1),
      Int.ofNat ds.length + e - 1, by simp [fracText], fun c hc => hds c (List.mem_of_mem_take hc),
      (hnz.take 1 (by decide)).leadOk, fun c hc => hds c (List.mem_of_mem_drop hc), by simp, ?_, ?_, ?_⟩
    · intro _ hnil
      have := congrArg List.length hnil
      rw [List.length_drop] at this
      simp only [List.length_nil] at this
      omega
    · apply isExpText_ryu
      simp only [Int.ofNat_eq_natCast, List.length_take, List.length_drop]
      omega
    · intro neg
      rw [List.take_append_drop, List.length_drop]
      refine congrArg (decVal neg (digitsVal ds)) ?_
      simp only [Int.ofNat_eq_natCast]
      omega

theorem ryuChars_shape (x : F64) (hf : x.isFinite = true) :
    ∃ (ip fp : List Char) (dot : Bool) (ex : List Char) (ev : Int),
      ryuChars x = (if x.neg then ['-'] else []) ++ (ip ++ fracText dot fp ++ ex) ∧
      (∀ c ∈ ip, isDigit c = true) ∧ numLeadOk ip = true ∧ (∀ c ∈ fp, isDigit c = true) ∧
      (dot = false → fp = []) ∧ (dot = true → fp ≠ []) ∧
      IsExpText (400 + ip.length + fp.length) ex ev ∧
      decVal x.neg (digitsVal (ip ++ fp)) (ev - Int.ofNat fp.length) = x := by
  rw [ryuChars_eq]
  cases hz : x.isZero with
  | true =>
    refine ⟨['0'], ['0'], true, [], 0, by simp [fracText], by decide, rfl, by decide, by simp, by simp,
      IsExpText.absent, ?_⟩
    have h := decVal_neg x.neg 0 1 (by decide)
    have e1 : ((0 : Int) - Int.ofNat ['0'].length) = - Int.ofNat 1 := rfl
    have e2 : digitsVal (['0'] ++ ['0']) = 0 := by decide
    rw [e1, e2, h, ofRatio_zero]
    exact (eq_signed_zero_of_isZero x hz).symm
  | false =>
    have hd : (x.shortestDigitsWith false).1 ≠ 0 := shortest_always_found false x hf hz
    have hval := decVal_sign _ _ x (shortestDigitsWith_value_all false x hf hz)
    obtain ⟨he1, he2⟩ := shortest_exp_bounds false x hf hz
    obtain ⟨ip, fp, dot, ex, ev, h1, h2, h3, h4, h5, h6, h7, h8⟩ :=
      ryuBody_shape (natDigits (x.shortestDigitsWith false).1).toList (x.shortestDigitsWith false).2
        (natDigits_all_isDigit _) (natDigits_headNZ _ hd) he1 he2
    refine ⟨ip, fp, dot, ex, ev, ?_, h2, h3, h4, h5, h6, h7, ?_⟩
    · simp only [Bool.false_eq_true, if_false, h1]
    · rw [h8 x.neg, digitsVal_natDigits]; exact hval

theorem parseDec_ryu (x : F64) (hf : x.isFinite = true) :
    parseDec (String.ofList (ryuChars x)) = some x := by
  obtain ⟨ip, fp, dot, ex, ev, h1, h2, h3, h4, h5, h6, h7, h8⟩ := ryuChars_shape x hf
  rw [h1, parseDec_decimal_literal _ x.neg ip fp dot ex ev (isSign_ite _) h2 h4
    (by intro h; exact numLeadOk_ne_nil h3 (List.append_eq_nil_iff.1 h).1) h5 h7, h8]

theorem readNumber_ryu (x : F64) (hf : x.isFinite = true) (rest : List Char)
    (hrest : HeadSat NumEnd rest) : jsonReadNumber (ryuChars x ++ rest) = some (.num x, rest) := by
  obtain ⟨ip, fp, dot, ex, ev, h1, h2, h3, h4, h5, h6, h7, h8⟩ := ryuChars_shape x hf
  rw [h1, readNumber_lit x.neg ip fp dot ex ev rest h2 h3 h4 h5 h6 h7 hrest, h8, if_pos hf]

theorem ryuChars_head (x : F64) (hf : x.isFinite = true) :
    ∃ c t, ryuChars x = c :: t ∧ (c = '-' ∨ isDigit c = true) := by
  obtain ⟨ip, fp, dot, ex, ev, h1, h2, h3, h4, h5, h6, h7, h8⟩ := ryuChars_shape x hf
  rw [h1]
  cases x.neg with
  | true => exact ⟨'-', _, rfl, Or.inl rfl⟩
  | false =>
    cases ip with
    | nil => exact absurd rfl (numLeadOk_ne_nil h3)
    | cons a t => exact ⟨a, _, rfl, Or.inr (h2 a List.mem_cons_self)⟩

/-- what follows a value inside the writer's output -/
def Sep (c : Char) : Prop := c = ',' ∨ c = ']' ∨ c = '}'

theorem Sep.numEnd {r : List Char} (h : HeadSat Sep r) : HeadSat NumEnd r :=
  h.imp fun _ hc => by
    rcases hc with rfl | rfl | rfl <;> exact ⟨by decide, by decide, by decide, by decide⟩

theorem numStart_notWs {c : Char} (h : c = '-' ∨ isDigit c = true) : jsonIsWs c = false ∧ c ≠ ']' := by
  rcases h with rfl | h
  · exact ⟨rfl, by decide⟩
  · have := (isDigit_iff c).1 h
    have h1 : c ≠ ' ' := by rintro rfl; revert this; decide
    have h2 : c ≠ '\n' := by rintro rfl; revert this; decide
    have h3 : c ≠ '\t' := by rintro rfl; revert this; decide
    have h4 : c ≠ '\r' := by rintro rfl; revert this; decide
    exact ⟨by simp [jsonIsWs, h1, h2, h3, h4], by rintro rfl; revert this; decide⟩

theorem chars_head (j : Json) (hf : j.finite = true) :
    ∃ c t, j.chars = c :: t ∧ jsonIsWs c = false ∧ c ≠ ']' := by
  cases j with
  | null => exact ⟨'n', _, rfl, rfl, by decide⟩
  | bool b => cases b
              · exact ⟨'f', _, rfl, rfl, by decide⟩
              · exact ⟨'t', _, rfl, rfl, by decide⟩
  | num x =>
    obtain ⟨c, t, h1, h2⟩ := ryuChars_head x (by simpa [Json.finite] using hf)
    exact ⟨c, t, by rw [Json.chars, h1], numStart_notWs h2⟩
  | str s => exact ⟨'"', _, rfl, rfl, by decide⟩
  | arr xs =>
    cases xs with
    | nil => exact ⟨'[', _, rfl, rfl, by decide⟩
    | cons x xs => exact ⟨'[', _, by rw [Json.chars], rfl, by decide⟩
  | obj ms =>
    cases ms with
    | nil => exact ⟨'{', _, rfl, rfl, by decide⟩
    | cons kv ms => obtain ⟨k, v⟩ := kv; exact ⟨'{', _, by rw [Json.chars], rfl, by decide⟩

/-- the written text of `j`, followed by anything that starts with a separator, is read
    back as `j` by the value rule, with any fuel ≥ twice its length and any depth allowance
    above its nesting depth -/
def ReadsBack (j : Json) : Prop :=
  ∀ fuel depth rest, j.depth < depth → 2 * j.chars.length ≤ fuel → HeadSat Sep rest →
    jsonReadValue fuel depth (j.chars ++ rest) = some (j, rest)

theorem skipWs_sep (r : List Char) (h : HeadSat Sep r) : jsonSkipWs r = r := by
  cases r with
  | nil => rfl
  | cons c t =>
    have hc : Sep c := h
    apply skipWs_cons
    rcases hc with rfl | rfl | rfl <;> decide

/-- for `Json.depthList`, the list companion of the mutual `Json.depth` -/
theorem max_of_eqns {α} (f : List α → Nat) (g : α → Nat) (h0 : f [] = 0)
    (hc : ∀ x xs, f (x :: xs) = max (g x) (f xs)) :
    ∀ xs, (∀ x ∈ xs, g x ≤ f xs) ∧ ∀ b, (∀ x ∈ xs, g x ≤ b) → f xs ≤ b
  | [] => ⟨fun _ h => (nomatch h), fun _ _ => h0 ▸ Nat.zero_le _⟩
  | y :: ys => by
    obtain ⟨h1, h2⟩ := max_of_eqns f g h0 hc ys
    rw [hc]
    refine ⟨fun x hx => ?_, fun b hb => ?_⟩
    · rcases List.mem_cons.1 hx with rfl | hx
      · exact Nat.le_max_left _ _
      · exact Nat.le_trans (h1 x hx) (Nat.le_max_right _ _)
    · exact Nat.max_le.2 ⟨hb y List.mem_cons_self, h2 b fun x hx => hb x (List.mem_cons_of_mem _ hx)⟩

theorem depthList_le (xs : List Json) : ∀ x ∈ xs, x.depth ≤ Json.depthList xs :=
  (max_of_eqns _ _ rfl (fun _ _ => rfl) xs).1

theorem depthMembers_le (ms : List (String × Json)) : ∀ kv ∈ ms, kv.2.depth ≤ Json.depthMembers ms :=
  (max_of_eqns Json.depthMembers (fun kv => kv.2.depth) rfl (fun _ _ => rfl) ms).1

theorem readValue_str {f : Nat} {r r' : List Char} {s : String} (d : Nat)
    (h : jsonReadStr f r = some (s, r')) : jsonReadValue (f + 1) d ('"' :: r) = some (.str s, r') := by
  rw [jsonReadValue, skipWs_cons '"' r rfl]
  dsimp only
  rw [if_neg (by decide), if_neg (by decide), if_neg (by decide), if_pos rfl, h]

/-- serde_json's recursion limit: no array is opened with one level left -/
theorem readValue_arr_deep (f d : Nat) (r : List Char) (hd : d ≤ 1) :
    jsonReadValue (f + 1) d ('[' :: r) = none := by
  rw [jsonReadValue, skipWs_cons '[' r rfl]
  exact if_pos hd

theorem readValue_arr_nil (f d : Nat) (r : List Char) (hd : ¬ d ≤ 1) :
    jsonReadValue (f + 1) d ('[' :: ']' :: r) = some (.arr [], r) := by
  rw [jsonReadValue, skipWs_cons '[' _ rfl]
  exact if_neg hd

theorem readValue_arr_chars (f d : Nat) (x : Json) (hx : x.finite = true) (r : List Char) (hd : ¬ d ≤ 1) :
    jsonReadValue (f + 1) d ('[' :: (x.chars ++ r)) =
      (jsonReadElems f (d - 1) (x.chars ++ r)).map fun p => (.arr p.1, p.2) := by
  obtain ⟨c, t, hct, hw, hc⟩ := chars_head x hx
  rw [jsonReadValue, skipWs_cons '[' _ rfl]
  refine (if_neg hd).trans ?_
  rw [hct, List.cons_append, skipWs_cons c _ hw]
  split
  · next h => exact absurd (List.cons.inj h).1 hc
  · cases jsonReadElems f (d - 1) (c :: (t ++ r)) <;> rfl

theorem readValue_obj_nil (f d : Nat) (r : List Char) (hd : ¬ d ≤ 1) :
    jsonReadValue (f + 1) d ('{' :: '}' :: r) = some (.obj [], r) := by
  rw [jsonReadValue, skipWs_cons '{' _ rfl]
  exact if_neg hd

theorem readValue_obj_cons (f d : Nat) (t : List Char) (hd : ¬ d ≤ 1) :
    jsonReadValue (f + 1) d ('{' :: '"' :: t) =
      (jsonReadMembers f (d - 1) ('"' :: t)).map fun p => (.obj p.1, p.2) := by
  rw [jsonReadValue, skipWs_cons '{' _ rfl]
  refine (if_neg hd).trans ?_
  rw [skipWs_cons '"' t rfl]
  split
  · next h => exact absurd (List.cons.inj h).1 (by decide)
  · cases jsonReadMembers f (d - 1) ('"' :: t) <;> rfl

theorem readElems_more {f d : Nat} {cs r r' : List Char} {v : Json} {vs : List Json}
    (hv : jsonReadValue f d cs = some (v, ',' :: r)) (hr : jsonReadElems f d r = some (vs, r')) :
    jsonReadElems (f + 1) d cs = some (v :: vs, r') := by
  rw [jsonReadElems, hv]
  simp only [skipWs_cons ',' r rfl, hr]

theorem readElems_last {f d : Nat} {cs r : List Char} {v : Json}
    (hv : jsonReadValue f d cs = some (v, ']' :: r)) : jsonReadElems (f + 1) d cs = some ([v], r) := by
  rw [jsonReadElems, hv]
  simp only [skipWs_cons ']' r rfl]

theorem readMembers_more {f d : Nat} {cs r1 r3 r5 : List Char} {k : String} {v : Json}
    {ms : List (String × Json)} (hk : jsonReadStr f cs = some (k, ':' :: r1))
    (hv : jsonReadValue f d r1 = some (v, ',' :: r3)) (hr : jsonReadMembers f d r3 = some (ms, r5)) :
    jsonReadMembers (f + 1) d ('"' :: cs) = some ((k, v) :: ms, r5) := by
  rw [jsonReadMembers]
  simp only [skipWs_cons '"' cs rfl, hk, skipWs_cons ':' r1 rfl, hv, skipWs_cons ',' r3 rfl, hr]

theorem readMembers_last {f d : Nat} {cs r1 r3 : List Char} {k : String} {v : Json}
    (hk : jsonReadStr f cs = some (k, ':' :: r1)) (hv : jsonReadValue f d r1 = some (v, '}' :: r3)) :
    jsonReadMembers (f + 1) d ('"' :: cs) = some ([(k, v)], r3) := by
  rw [jsonReadMembers]
  simp only [skipWs_cons '"' cs rfl, hk, skipWs_cons ':' r1 rfl, hv, skipWs_cons '}' r3 rfl]

theorem readsBack_null : ReadsBack .null := by
  intro fuel depth rest _ hfuel _
  cases fuel with
  | zero => cases hfuel
  | succ f => rfl

theorem readsBack_bool (b : Bool) : ReadsBack (.bool b) := by
  intro fuel depth rest _ hfuel _
  cases fuel with
  | zero => cases b <;> cases hfuel
  | succ f => cases b <;> rfl

theorem readsBack_str (s : String) : ReadsBack (.str s) := by
  intro fuel depth rest _ hfuel _
  cases fuel with
  | zero => cases hfuel
  | succ f =>
    rw [Json.chars] at hfuel ⊢
    rw [strChars_append]
    exact readValue_str depth (readStr_strChars s rest f (by omega))

theorem readsBack_num (x : F64) (hx : x.isFinite = true) : ReadsBack (.num x) := by
  intro fuel depth rest _ hfuel hrest
  obtain ⟨c, t, hct, hc⟩ := ryuChars_head x hx
  have hnum := readNumber_ryu x hx rest (Sep.numEnd hrest)
  rw [Json.chars, hct] at hfuel ⊢
  rw [hct] at hnum
  cases fuel with
  | zero => cases hfuel
  | succ f =>
    -- `c` is `-` or a digit, hence none of the other token starts
    have hd : ∀ d : Char, isDigit d = false → d ≠ '-' → c ≠ d := by
      rintro d hd hm rfl
      rcases hc with h | h
      · exact hm h
      · rw [h] at hd; cases hd
    rw [List.cons_append, jsonReadValue, skipWs_cons c _ (numStart_notWs hc).1]
    simp only [hd 'n' rfl (by decide), hd 't' rfl (by decide), hd 'f' rfl (by decide),
      hd '"' rfl (by decide), hd '[' rfl (by decide), hd '{' rfl (by decide), if_false]
    exact hnum

theorem restChars_sep (xs : List Json) (rest : List Char) : HeadSat Sep (Json.restChars xs ++ rest) := by
  cases xs with
  | nil => exact Or.inr (Or.inl rfl)
  | cons y ys => rw [Json.restChars]; exact Or.inl rfl

theorem restMembers_sep (ms : List (String × Json)) (rest : List Char) :
    HeadSat Sep (Json.restMembers ms ++ rest) := by
  cases ms with
  | nil => exact Or.inr (Or.inr rfl)
  | cons kv ms => obtain ⟨k, v⟩ := kv; rw [Json.restMembers]; exact Or.inl rfl

theorem readElems_chars (xs : List Json) : ∀ (x : Json), ReadsBack x → (∀ y ∈ xs, ReadsBack y) →
    ∀ fuel depth rest, x.depth < depth → (∀ y ∈ xs, y.depth < depth) →
      2 * (x.chars ++ Json.restChars xs).length + 1 ≤ fuel →
      jsonReadElems fuel depth (x.chars ++ Json.restChars xs ++ rest) = some (x :: xs, rest) := by
  induction xs with
  | nil =>
    intro x hx _ fuel depth rest hd _ hfuel
    rw [List.length_append] at hfuel
    rw [Json.restChars, List.append_assoc]
    cases fuel with
    | zero => omega
    | succ f => exact readElems_last (hx f depth _ hd (by omega) (Or.inr (Or.inl rfl)))
  | cons y ys ih =>
    intro x hx hys fuel depth rest hd hds hfuel
    rw [Json.restChars, List.length_append, List.length_cons] at hfuel
    rw [Json.restChars, List.append_assoc, List.cons_append]
    cases fuel with
    | zero => omega
    | succ f =>
      exact readElems_more (hx _ depth _ hd (by omega) (Or.inl rfl))
        (ih y (hys y List.mem_cons_self) (fun z hz => hys z (List.mem_cons_of_mem _ hz)) f depth rest
          (hds y List.mem_cons_self) (fun z hz => hds z (List.mem_cons_of_mem _ hz)) (by omega))

theorem readMembers_chars (ms : List (String × Json)) : ∀ (k : String) (v : Json), ReadsBack v →
    (∀ kv ∈ ms, ReadsBack kv.2) →
    ∀ fuel depth rest, v.depth < depth → (∀ kv ∈ ms, kv.2.depth < depth) →
      2 * (jsonStrChars k ++ ':' :: (v.chars ++ Json.restMembers ms)).length + 1 ≤ fuel →
      jsonReadMembers fuel depth (jsonStrChars k ++ ':' :: (v.chars ++ Json.restMembers ms) ++ rest) =
        some ((k, v) :: ms, rest) := by
  induction ms with
  | nil =>
    intro k v hv _ fuel depth rest hd _ hfuel
    rw [List.length_append, List.length_cons, List.length_append] at hfuel
    rw [List.append_assoc, strChars_append, List.cons_append, List.append_assoc, Json.restMembers,
      List.singleton_append]
    cases fuel with
    | zero => omega
    | succ f =>
      exact readMembers_last (readStr_strChars k _ f (by omega))
        (hv f depth _ hd (by omega) (Or.inr (Or.inr rfl)))
  | cons kv' ms ih =>
    obtain ⟨k', v'⟩ := kv'
    intro k v hv hms fuel depth rest hd hds hfuel
    rw [Json.restMembers, List.length_append, List.length_cons, List.length_append,
      List.length_cons] at hfuel
    rw [List.append_assoc, strChars_append, List.cons_append, List.append_assoc, Json.restMembers,
      List.cons_append]
    cases fuel with
    | zero => omega
    | succ f =>
      exact readMembers_more (readStr_strChars k _ f (by omega)) (hv f depth _ hd (by omega) (Or.inl rfl))
        (ih k' v' (hms _ List.mem_cons_self) (fun z hz => hms z (List.mem_cons_of_mem _ hz))
          f depth rest (hds _ List.mem_cons_self) (fun z hz => hds z (List.mem_cons_of_mem _ hz)) (by omega))

theorem readsBack_arr (xs : List Json) (hfin : ∀ x ∈ xs, x.finite = true) (h : ∀ x ∈ xs, ReadsBack x) :
    ReadsBack (.arr xs) := by
  intro fuel depth rest hd hfuel _
  rw [Json.depth] at hd
  have hd1 : ¬ depth ≤ 1 := by omega
  cases xs with
  | nil =>
    cases fuel with
    | zero => cases hfuel
    | succ f => exact readValue_arr_nil f depth rest hd1
  | cons x xs =>
    rw [Json.chars, List.length_cons] at hfuel
    cases fuel with
    | zero => omega
    | succ f =>
      have hel := readElems_chars xs x (h x List.mem_cons_self) (fun y hy => h y (List.mem_cons_of_mem _ hy))
        f (depth - 1) rest
        (by have := depthList_le (x :: xs) x List.mem_cons_self; omega)
        (fun y hy => by have := depthList_le (x :: xs) y (List.mem_cons_of_mem _ hy); omega)
        (by omega)
      rw [Json.chars, List.cons_append, List.append_assoc,
        readValue_arr_chars f depth x (hfin x List.mem_cons_self) _ hd1, ← List.append_assoc, hel]
      rfl

theorem readsBack_obj (ms : List (String × Json)) (h : ∀ kv ∈ ms, ReadsBack kv.2) :
    ReadsBack (.obj ms) := by
  intro fuel depth rest hd hfuel _
  rw [Json.depth] at hd
  have hd1 : ¬ depth ≤ 1 := by omega
  cases ms with
  | nil =>
    cases fuel with
    | zero => cases hfuel
    | succ f => exact readValue_obj_nil f depth rest hd1
  | cons kv ms =>
    obtain ⟨k, v⟩ := kv
    rw [Json.chars, List.length_cons] at hfuel
    cases fuel with
    | zero => omega
    | succ f =>
      have hel := readMembers_chars ms k v (h (k, v) List.mem_cons_self)
        (fun y hy => h y (List.mem_cons_of_mem _ hy)) f (depth - 1) rest
        (by have : v.depth ≤ _ := depthMembers_le ((k, v) :: ms) (k, v) List.mem_cons_self; omega)
        (fun y hy => by have := depthMembers_le ((k, v) :: ms) y (List.mem_cons_of_mem _ hy); omega)
        (by omega)
      rw [List.append_assoc, strChars_append] at hel
      rw [Json.chars, List.cons_append, List.append_assoc, strChars_append,
        readValue_obj_cons f depth _ hd1, hel]
      rfl

theorem readsBack_all (j : Json) : j.finite = true → ReadsBack j := by
  induction j using Json.ind with
  | hnull => exact fun _ => readsBack_null
  | hbool b => exact fun _ => readsBack_bool b
  | hnum x => exact fun h => readsBack_num x (by simpa [Json.finite] using h)
  | hstr s => exact fun _ => readsBack_str s
  | harr xs ih =>
    intro h
    simp only [Json.finite, jfiniteList_iff] at h
    exact readsBack_arr xs h (fun x hx => ih x hx (h x hx))
  | hobj ms ih =>
    intro h
    simp only [Json.finite, jfiniteMembers_iff] at h
    exact readsBack_obj ms (fun kv hkv => ih kv hkv (h kv hkv))

theorem read_write_with (limit : Nat) (j : Json) (hf : j.finite = true) (hd : j.depth < limit) :
    jsonReadWith limit (jsonWrite j) = some j := by
  unfold jsonReadWith jsonWrite
  rw [String.toList_ofList]
  have h := readsBack_all j hf (2 * j.chars.length + 2) limit [] hd (by omega) trivial
  rw [List.append_nil] at h
  rw [h]
  rfl

theorem read_write_none (limit : Nat) (j : Json) (h : ∀ fuel, jsonReadValue fuel limit j.chars = none) :
    jsonReadWith limit (jsonWrite j) = none := by
  unfold jsonReadWith jsonWrite
  rw [String.toList_ofList, h]

theorem finite_of_canonical (j : Json) : j.canonical = true → j.finite = true := by
  induction j using Json.ind with
  | hnull => exact fun _ => rfl
  | hbool b => exact fun _ => rfl
  | hnum x => exact fun h => by simpa [Json.canonical, Json.finite] using h
  | hstr s => exact fun _ => rfl
  | harr xs ih =>
    intro h
    simp only [Json.canonical, canonicalList_iff] at h
    simp only [Json.finite, jfiniteList_iff]
    exact fun x hx => ih x hx (h x hx)
  | hobj ms ih =>
    intro h
    simp only [Json.canonical, Bool.and_eq_true, canonicalMembers_iff] at h
    simp only [Json.finite, jfiniteMembers_iff]
    exact fun kv hkv => ih kv hkv (h.2 kv hkv)

theorem depthList_le_of (b : Nat) (xs : List Json) : (∀ x ∈ xs, x.depth ≤ b) → Json.depthList xs ≤ b :=
  (max_of_eqns _ _ rfl (fun _ _ => rfl) xs).2 b

theorem depthMembers_le_of (b : Nat) (ms : List (String × Json)) :
    (∀ kv ∈ ms, kv.2.depth ≤ b) → Json.depthMembers ms ≤ b :=
  (max_of_eqns Json.depthMembers (fun kv => kv.2.depth) rfl (fun _ _ => rfl) ms).2 b

theorem svDepthList_le (xs : List SV) : ∀ x ∈ xs, x.depth ≤ SV.depthList xs :=
  (max_of_eqns _ _ rfl (fun _ _ => rfl) xs).1

theorem svDepthRec_le (r : List (String × SV)) : ∀ kv ∈ r, kv.2.depth ≤ SV.depthRec r :=
  (max_of_eqns SV.depthRec (fun kv => kv.2.depth) rfl (fun _ _ => rfl) r).1

theorem toJson_depth_le (sv : SV) : (toJson sv).depth ≤ sv.depth := by
  induction sv using SV.ind with
  | hnum x => simp only [toJson]; split <;> simp [Json.depth]
  | hbool b => simp [toJson, Json.depth]
  | hnull => simp [toJson, Json.depth]
  | hstr s => simp [toJson, Json.depth]
  | hlist xs ih =>
    simp only [toJson, Json.depth, SV.depth, toJsonList_eq]
    have : Json.depthList (xs.map toJson) ≤ SV.depthList xs := by
      apply depthList_le_of
      intro j hj
      obtain ⟨x, hx, rfl⟩ := List.mem_map.1 hj
      exact Nat.le_trans (ih x hx) (svDepthList_le xs x hx)
    omega
  | hrecord r ih =>
    simp only [toJson, Json.depth, SV.depth, toJsonMembers_eq]
    have : Json.depthMembers (collectSorted (mapVals toJson r)) ≤ SV.depthRec r := by
      apply depthMembers_le_of
      intro kv hkv
      have hm := mem_collectSorted hkv
      obtain ⟨kv', hkv', rfl⟩ := List.mem_map.1 hm
      exact Nat.le_trans (ih kv' hkv') (svDepthRec_le r kv' hkv')
    omega
  | hlambda as b => simp [toJson, Json.depth, Json.depthMembers, SV.depth]
  | hbuiltin n => simp [toJson, Json.depth, Json.depthMembers, SV.depth]

end Blots.JsonText
