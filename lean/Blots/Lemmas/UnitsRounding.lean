import Blots.Lemmas.Units
import Blots.Lemmas.Rounding
/-
  Rounding analysis of `units::convert` (C17) under the standard model of floating-point
  arithmetic `RoundingModel ops u` of `Lemmas/Rounding.lean`.

  The float conversion is `fromBaseF ops b (toBaseF ops a x)`:

      linear a      → linear b       (x * ca) / cb            exact  x·qa / qb
      linear a      → reciprocal b   cb / (x * ca)                   qb / (x·qa)
      reciprocal a  → linear b       (ca / x) / cb                   (qa / x) / qb
      reciprocal a  → reciprocal b   cb / (ca / x)                   qb / (qa / x)
      temperature   → temperature    `fromK (toK x)`, see `TempFn.evalF`

  where `ca`, `cb` are the doubles of the table and `qa`, `qb` the exact rationals of the source
  literals.  Every kind of the first four performs TWO rounded operations and uses TWO rounded
  coefficients, and — this is the point — some of the rounded quantities are DIVIDED by.

  Why the bound is `(1-u)^-k − 1` and not `(1+u)^k − 1`.  A factor `1/(1+δ)`, `|δ| ≤ u`, can
  be as large as `1/(1-u) = 1 + u + u² + …  >  1 + u`, so "`(1+u)^k − 1` with `k` = number of
  roundings" is false as soon as one rounded quantity is in a denominator (already for `k = 1`).
  The classical remedy (Higham, Lemma 3.1) is a class of factors closed under inversion:

      Near u n θ   :=   (1-u)^n ≤ θ ≤ 1/(1-u)^n

  contains `(1+δ)` and `1/(1+δ)` for `n = 1`, is closed under products (`n` adds up) and under
  inverses (same `n`).  `G u n = (1-u)^-n − 1` is the resulting relative error, and
  `G u n ≤ γₙ = n·u/(1 − n·u)` (`G_le_gamma`), `G u n ≤ (1+u)^(2n) − 1` for `u ≤ 1/2`
  (`G_le_E_double`).
-/
namespace Blots.Units
open Blots Blots.Gen

/-- relative error of `n` factors `(1+δ)^{±1}`, `|δ| ≤ u`: `(1-u)^-n − 1` -/
def G (u : ℚ) (n : ℕ) : ℚ := ((1 - u) ^ n)⁻¹ - 1

/-- `θ` is a product of (at most) `n` factors `(1+δ)^{±1}` with `|δ| ≤ u` -/
def Near (u : ℚ) (n : ℕ) (θ : ℚ) : Prop := (1 - u) ^ n ≤ θ ∧ θ ≤ ((1 - u) ^ n)⁻¹

theorem pow_one_sub_pos {u : ℚ} (hu1 : u < 1) (n : ℕ) : 0 < (1 - u) ^ n :=
  pow_pos (by linarith) n

theorem pow_one_sub_le_one {u : ℚ} (hu : 0 ≤ u) (hu1 : u < 1) (n : ℕ) : (1 - u) ^ n ≤ 1 :=
  pow_le_one₀ (by linarith) (by linarith)

theorem G_zero (u : ℚ) : G u 0 = 0 := by simp [G]

theorem G_nonneg {u : ℚ} (hu : 0 ≤ u) (hu1 : u < 1) (n : ℕ) : 0 ≤ G u n := by
  unfold G
  have h1 := pow_one_sub_pos hu1 n
  have h2 := pow_one_sub_le_one hu hu1 n
  have : 1 ≤ ((1 - u) ^ n)⁻¹ := (one_le_inv₀ h1).mpr h2
  linarith

theorem G_mono {u : ℚ} (hu : 0 ≤ u) (hu1 : u < 1) {n m : ℕ} (h : n ≤ m) : G u n ≤ G u m := by
  unfold G
  have h1 := pow_one_sub_pos hu1 m
  have h2 : (1 - u) ^ m ≤ (1 - u) ^ n := pow_le_pow_of_le_one (by linarith) (by linarith) h
  have := inv_anti₀ h1 h2
  linarith

theorem G_le_gamma {u : ℚ} (hu : 0 ≤ u) (hu1 : u < 1) (n : ℕ) (hn : (n : ℚ) * u < 1) :
    G u n ≤ (n : ℚ) * u / (1 - (n : ℚ) * u) := by
  have hd : 0 < 1 - (n : ℚ) * u := by linarith
  have h1 := inv_anti₀ hd (Rounding.one_sub_mul_le_pow hu hu1.le n)
  have : (n : ℚ) * u / (1 - (n : ℚ) * u) = (1 - (n : ℚ) * u)⁻¹ - 1 := by
    field_simp; ring
  rw [this]
  exact sub_le_sub_right h1 1

/-- in terms of the `(1+u)^k − 1` of `Lemmas/Rounding.lean`: twice the count suffices, because
    `1 ≤ (1−u)(1+u)²` for `u ≤ ½` (`hb`), i.e. `(1−u)⁻¹ ≤ (1+u)²` -/
theorem G_le_E_double {u : ℚ} (hu : 0 ≤ u) (hu2 : u ≤ 1 / 2) (n : ℕ) :
    G u n ≤ Rounding.E u (2 * n) := by
  have hu1 : u < 1 := by linarith
  have hp := pow_one_sub_pos hu1 n
  have hb : 1 ≤ (1 - u) * (1 + u) ^ 2 := by nlinarith [mul_nonneg hu hu, mul_nonneg hu (mul_nonneg hu hu)]
  have h1 : 1 ≤ (1 - u) ^ n * ((1 + u) ^ 2) ^ n := by
    rw [← mul_pow]; exact one_le_pow₀ hb
  unfold G Rounding.E
  rw [pow_mul]
  have : ((1 - u) ^ n)⁻¹ ≤ ((1 + u) ^ 2) ^ n := by
    rw [inv_le_iff_one_le_mul₀ hp]; linarith
  linarith

theorem near_one (u : ℚ) : Near u 0 1 := by simp [Near]

theorem Near.pos {u θ : ℚ} {n : ℕ} (hu1 : u < 1) (h : Near u n θ) : 0 < θ :=
  lt_of_lt_of_le (pow_one_sub_pos hu1 n) h.1

theorem Near.ne_zero {u θ : ℚ} {n : ℕ} (hu1 : u < 1) (h : Near u n θ) : θ ≠ 0 :=
  ne_of_gt (h.pos hu1)

theorem Near.mono {u θ : ℚ} {n m : ℕ} (hu : 0 ≤ u) (hu1 : u < 1) (h : Near u n θ) (hnm : n ≤ m) :
    Near u m θ := by
  have h2 : (1 - u) ^ m ≤ (1 - u) ^ n := pow_le_pow_of_le_one (by linarith) (by linarith) hnm
  exact ⟨h2.trans h.1, h.2.trans (inv_anti₀ (pow_one_sub_pos hu1 m) h2)⟩

theorem Near.mul {u θ₁ θ₂ : ℚ} {n m : ℕ} (hu1 : u < 1) (h₁ : Near u n θ₁) (h₂ : Near u m θ₂) :
    Near u (n + m) (θ₁ * θ₂) := by
  have p1 := pow_one_sub_pos hu1 n
  have p2 := pow_one_sub_pos hu1 m
  refine ⟨?_, ?_⟩
  · rw [pow_add]
    exact mul_le_mul h₁.1 h₂.1 p2.le ((h₁.pos hu1).le)
  · rw [pow_add, mul_inv]
    exact mul_le_mul h₁.2 h₂.2 ((h₂.pos hu1).le) (inv_pos.mpr p1).le

theorem Near.inv {u θ : ℚ} {n : ℕ} (hu1 : u < 1) (h : Near u n θ) : Near u n θ⁻¹ := by
  have p := pow_one_sub_pos hu1 n
  refine ⟨?_, inv_anti₀ p h.1⟩
  have := inv_anti₀ (h.pos hu1) h.2
  rwa [inv_inv] at this

theorem Near.div {u θ₁ θ₂ : ℚ} {n m : ℕ} (hu1 : u < 1) (h₁ : Near u n θ₁) (h₂ : Near u m θ₂) :
    Near u (n + m) (θ₁ / θ₂) := by
  rw [div_eq_mul_inv]; exact h₁.mul hu1 (h₂.inv hu1)

theorem one_add_le_inv_one_sub {u : ℚ} (hu1 : u < 1) : 1 + u ≤ (1 - u)⁻¹ := by
  rw [← one_div, le_div_iff₀ (by linarith)]
  nlinarith [mul_self_nonneg u]

theorem near_round {u δ : ℚ} (hu1 : u < 1) (hδ : |δ| ≤ u) : Near u 1 (1 + δ) := by
  obtain ⟨h1, h2⟩ := abs_le.mp hδ
  rw [Near, pow_one]
  exact ⟨by linarith, (by linarith : 1 + δ ≤ 1 + u).trans (one_add_le_inv_one_sub hu1)⟩

theorem Near.abs_sub_one {u θ : ℚ} {n : ℕ} (hu : 0 ≤ u) (hu1 : u < 1) (h : Near u n θ) :
    |θ - 1| ≤ G u n := by
  have p := pow_one_sub_pos hu1 n
  have p1 := pow_one_sub_le_one hu hu1 n
  unfold G
  rw [abs_le]
  refine ⟨?_, by linarith [h.2]⟩
  -- 1 − p ≤ 1/p − 1
  have : 2 - (1 - u) ^ n ≤ ((1 - u) ^ n)⁻¹ := by
    rw [← one_div, le_div_iff₀ p]
    nlinarith [sq_nonneg (1 - (1 - u) ^ n)]
  linarith [h.1]

theorem Near.error {u θ a b : ℚ} {n : ℕ} (hu : 0 ≤ u) (hu1 : u < 1) (h : Near u n θ)
    (hab : a = b * θ) : |a - b| ≤ G u n * |b| := by
  have : a - b = (θ - 1) * b := by rw [hab]; ring
  rw [this, abs_mul]
  exact mul_le_mul_of_nonneg_right (h.abs_sub_one hu hu1) (abs_nonneg _)

theorem toRat_eq_zero_of_feq_zero (x : F64) (h : F64.feq x F64.zero = true) : x.toRat = 0 := by
  have hz : F64.zero.key = 0 := by decide
  unfold F64.feq at h
  simp only [Bool.and_eq_true, beq_iff_eq, hz] at h
  have hk := h.2
  rw [F64.key_eq] at hk
  have hm : x.nbits % 2 ^ 63 = 0 := by
    split at hk <;> omega
  have hE : x.expField = 0 := by unfold F64.expField; omega
  have hF : x.frac = 0 := by unfold F64.frac; omega
  unfold F64.toRat
  rw [F64.ratio_subnormal x hE, hF]
  simp only [Nat.cast_zero, zero_div, mul_zero]

theorem feq_zero_false_of_toRat_ne (x : F64) (h : x.toRat ≠ 0) : F64.feq x F64.zero = false := by
  cases hf : F64.feq x F64.zero with
  | false => rfl
  | true => exact absurd (toRat_eq_zero_of_feq_zero x hf) h

/-- the double `bits` is finite and within relative distance `u` of the positive rational `q` -/
def CoefOk (u q : ℚ) (bits : Nat) : Prop :=
  0 < q ∧ (coefF bits).isFinite = true ∧ |(coefF bits).toRat - q| ≤ u * q

def ConvAccurate (u : ℚ) : Conv → Prop
  | .linear n d bits _ => CoefOk u (coefQ n d) bits
  | .reciprocal n d bits _ => CoefOk u (coefQ n d) bits
  | .temperature _ _ => True

/-- every coefficient double of the generated table is within relative distance `u` of the exact
    value of its source expression (for `u = 2^-53`: `table_coef_accurate`, checked row by row
    in the kernel) -/
def CoefAccurate (u : ℚ) : Prop := ∀ r ∈ units, ConvAccurate u r.conv

theorem ConvAccurate.mono {u v : ℚ} (huv : u ≤ v) {c : Conv} (h : ConvAccurate u c) :
    ConvAccurate v c := by
  cases c with
  | temperature _ _ => trivial
  | linear n d bits p =>
    obtain ⟨h1, h2, h3⟩ := h
    exact ⟨h1, h2, h3.trans (mul_le_mul_of_nonneg_right huv h1.le)⟩
  | reciprocal n d bits p =>
    obtain ⟨h1, h2, h3⟩ := h
    exact ⟨h1, h2, h3.trans (mul_le_mul_of_nonneg_right huv h1.le)⟩

theorem CoefAccurate.mono {u v : ℚ} (huv : u ≤ v) (h : CoefAccurate u) : CoefAccurate v :=
  fun r hr => (h r hr).mono huv

/-- the integer form of `CoefOk 2^-53`, evaluated by the kernel on every row:
    with `|c| = m/e` and `q = n/d`:  `|m·d − n·e| · 2^53 ≤ n·e` -/
def coefAccBits (n : Int) (d : Nat) (bits : Nat) : Bool :=
  let c := coefF bits
  decide (0 < n) && decide (0 < d) && c.isFinite && !c.neg && decide (0 < c.ratio.2) &&
    decide (((c.ratio.1 : Int) * d - n * c.ratio.2).natAbs * 2 ^ 53 ≤ n.natAbs * c.ratio.2)

def coefAccOk : Conv → Bool
  | .linear n d bits _ => coefAccBits n d bits
  | .reciprocal n d bits _ => coefAccBits n d bits
  | .temperature _ _ => true

theorem coefAccBits_spec (n : Int) (d : Nat) (bits : Nat) (h : coefAccBits n d bits = true) :
    CoefOk u64 (coefQ n d) bits := by
  unfold coefAccBits at h
  simp only [Bool.and_eq_true, decide_eq_true_eq, Bool.not_eq_true'] at h
  obtain ⟨⟨⟨⟨⟨hn, hd⟩, hfin⟩, hneg⟩, he⟩, hle⟩ := h
  set c := coefF bits
  have hnq : (0 : ℚ) < (n : ℚ) := by exact_mod_cast hn
  have hdq : (0 : ℚ) < (d : ℚ) := by exact_mod_cast hd
  have heq : (0 : ℚ) < (c.ratio.2 : ℚ) := by exact_mod_cast he
  have hq : 0 < coefQ n d := by unfold coefQ; positivity
  refine ⟨hq, hfin, ?_⟩
  have hc : c.toRat = (c.ratio.1 : ℚ) / (c.ratio.2 : ℚ) := by
    unfold F64.toRat; rw [hneg]; simp
  have hle' : ((((c.ratio.1 : Int) * d - n * c.ratio.2).natAbs * 2 ^ 53 : ℕ) : ℚ) ≤
      ((n.natAbs * c.ratio.2 : ℕ) : ℚ) := by exact_mod_cast hle
  have hnat : ((n.natAbs : ℕ) : ℚ) = (n : ℚ) := by
    rw [Nat.cast_natAbs, abs_of_pos hn]
  have habs : ((((c.ratio.1 : Int) * d - n * c.ratio.2).natAbs : ℕ) : ℚ) =
      |(c.ratio.1 : ℚ) * d - n * c.ratio.2| := by
    rw [Nat.cast_natAbs]; push_cast; rfl
  push_cast at hle'
  rw [hnat, habs] at hle'
  have e1 : c.toRat - coefQ n d =
      ((c.ratio.1 : ℚ) * d - n * c.ratio.2) / ((c.ratio.2 : ℚ) * d) := by
    rw [hc]; unfold coefQ; field_simp
  rw [e1, abs_div, abs_of_pos (by positivity : (0 : ℚ) < (c.ratio.2 : ℚ) * d),
    div_le_iff₀ (by positivity)]
  unfold u64 coefQ
  have e2 : (1 : ℚ) / 2 ^ 53 * ((n : ℚ) / d) * ((c.ratio.2 : ℚ) * d) =
      (n : ℚ) * c.ratio.2 / 2 ^ 53 := by field_simp
  rw [e2, le_div_iff₀ (by positivity)]
  exact hle'

theorem coefAccOk_spec (c : Conv) (h : coefAccOk c = true) : ConvAccurate u64 c := by
  cases c with
  | temperature _ _ => trivial
  | linear n d bits p => exact coefAccBits_spec n d bits h
  | reciprocal n d bits p => exact coefAccBits_spec n d bits h

/-- the whole generated table, including the four computed coefficients (`1.0 / 60.0`, …) -/
theorem table_coef_accurate : CoefAccurate u64 := by
  have h : units.all (fun r => coefAccOk r.conv) = true := by decide +kernel
  exact fun r hr => coefAccOk_spec r.conv (List.all_eq_true.mp h r hr)

theorem u64_nonneg : (0 : ℚ) ≤ u64 := by unfold u64; positivity

theorem CoefOk.near {u q : ℚ} {bits : Nat} (hu1 : u < 1) (h : CoefOk u q bits) :
    ∃ ε, Near u 1 ε ∧ (coefF bits).toRat = q * ε := by
  obtain ⟨hq, _, hb⟩ := h
  refine ⟨1 + ((coefF bits).toRat - q) / q, near_round hu1 ?_, by field_simp; ring⟩
  rw [abs_div, abs_of_pos hq, div_le_iff₀ hq]
  exact hb

theorem CoefOk.toRat_ne_zero {u q : ℚ} {bits : Nat} (hu1 : u < 1)
    (h : CoefOk u q bits) : (coefF bits).toRat ≠ 0 := by
  obtain ⟨ε, hε, e⟩ := h.near hu1
  rw [e]
  exact mul_ne_zero (ne_of_gt h.1) (hε.ne_zero hu1)

/-! ### one rounded operation on approximate operands

  `v = V·θ` and `c = C·ε` with `θ`, `ε` in the class: the computed result is the exact result on
  `V`, `C` times a factor with one more rounding. -/

theorem mul_factor {ops : NumOps} {u : ℚ} (M : RoundingModel ops u) {v c : F64} {V C θ ε : ℚ}
    {n k : ℕ} (hv : v.isFinite = true) (hc : c.isFinite = true)
    (ev : v.toRat = V * θ) (hθ : Near u n θ) (ec : c.toRat = C * ε) (hε : Near u k ε)
    (hf : (ops.mul v c).isFinite = true) (hn : NoUnderflow (v.toRat * c.toRat)) :
    ∃ θ', Near u (n + k + 1) θ' ∧ (ops.mul v c).toRat = V * C * θ' := by
  obtain ⟨δ, hδ, e⟩ := M.mul v c hv hc hf hn
  exact ⟨θ * ε * (1 + δ),
    (hθ.mul M.u_lt_one hε).mul M.u_lt_one (near_round M.u_lt_one hδ),
    by rw [e, ev, ec]; ring⟩

theorem div_factor {ops : NumOps} {u : ℚ} (M : RoundingModel ops u) {v c : F64} {V C θ ε : ℚ}
    {n k : ℕ} (hv : v.isFinite = true) (hc : c.isFinite = true)
    (ev : v.toRat = V * θ) (hθ : Near u n θ) (ec : c.toRat = C * ε) (hε : Near u k ε)
    (hc0 : c.toRat ≠ 0) (hf : (ops.div v c).isFinite = true)
    (hn : NoUnderflow (v.toRat / c.toRat)) :
    ∃ θ', Near u (n + k + 1) θ' ∧ (ops.div v c).toRat = V / C * θ' := by
  obtain ⟨δ, hδ, e⟩ := M.div v c hv hc hc0 hf hn
  exact ⟨θ / ε * (1 + δ),
    (hθ.div M.u_lt_one hε).mul M.u_lt_one (near_round M.u_lt_one hδ),
    by rw [e, ev, ec]; ring⟩

/-! ### temperature: additions and subtractions, so the error is ABSOLUTE

  The standard model of `Lemmas/Rounding.lean` has no field for `-` (the aggregates do not
  subtract); `RoundingModelSub` adds it.  Errors are tracked as
  `Approx u n v w m`:  `|v − w| ≤ G u n · m`  with `m` a bound of the magnitudes involved
  (`|w| ≤ m`; `m` only grows by the absolute values of what is added), which is the shape of
  Higham's bound for recursive summation: `n` roundings on a sum of terms of total size `m`. -/

structure RoundingModelSub (ops : NumOps) (u : ℚ) : Prop extends RoundingModel ops u where
  sub : ∀ a b : F64, a.isFinite = true → b.isFinite = true → (ops.sub a b).isFinite = true →
    ∃ δ : ℚ, |δ| ≤ u ∧ (ops.sub a b).toRat = (a.toRat - b.toRat) * (1 + δ)

/-- the double `v` approximates the rational `w` with `n` roundings at magnitude `m` -/
def Approx (u : ℚ) (n : ℕ) (v : F64) (w m : ℚ) : Prop :=
  v.isFinite = true ∧ |v.toRat - w| ≤ G u n * m ∧ |w| ≤ m

theorem Approx.m_nonneg {u : ℚ} {n : ℕ} {v : F64} {w m : ℚ} (h : Approx u n v w m) : 0 ≤ m :=
  (abs_nonneg w).trans h.2.2

theorem Approx.mono {u : ℚ} {n k : ℕ} {v : F64} {w m : ℚ} (hu : 0 ≤ u) (hu1 : u < 1)
    (h : Approx u n v w m) (hnk : n ≤ k) : Approx u k v w m :=
  ⟨h.1, h.2.1.trans (mul_le_mul_of_nonneg_right (G_mono hu hu1 hnk) h.m_nonneg), h.2.2⟩

theorem approx_exact {u : ℚ} {v : F64} {w : ℚ} (hf : v.isFinite = true) (hw : v.toRat = w) :
    Approx u 0 v w |w| := by
  refine ⟨hf, ?_, le_refl _⟩
  rw [hw, sub_self, abs_zero, G_zero, zero_mul]

theorem G_step {u : ℚ} (hu1 : u < 1) (n : ℕ) : G u n * (1 + u) + u ≤ G u (n + 1) := by
  have := mul_le_mul_of_nonneg_left (one_add_le_inv_one_sub hu1)
    (inv_pos.mpr (pow_one_sub_pos hu1 n)).le
  unfold G
  rw [pow_succ, mul_inv]
  linarith

theorem G_round_step {u δ r R m fl : ℚ} {n : ℕ} (hu : 0 ≤ u) (hu1 : u < 1) (hδ : |δ| ≤ u)
    (hfl : fl = r * (1 + δ)) (hr : |r - R| ≤ G u n * m) (hR : |R| ≤ m) :
    |fl - R| ≤ G u (n + 1) * m :=
  (Rounding.round_step (G_nonneg hu hu1 n) hδ hfl hr hR).trans
    (mul_le_mul_of_nonneg_right (G_step hu1 n) ((abs_nonneg R).trans hR))

theorem Approx.of_round {u δ r R m : ℚ} {n : ℕ} {v : F64} (hu : 0 ≤ u) (hu1 : u < 1)
    (hf : v.isFinite = true) (hδ : |δ| ≤ u) (e : v.toRat = r * (1 + δ))
    (hr : |r - R| ≤ G u n * m) (hR : |R| ≤ m) : Approx u (n + 1) v R m :=
  ⟨hf, G_round_step hu hu1 hδ e hr hR, hR⟩

theorem Approx.add {ops : NumOps} {u : ℚ} (M : RoundingModel ops u) {n : ℕ} {a b : F64}
    {A B ma mb : ℚ} (ha : Approx u n a A ma) (hb : Approx u n b B mb)
    (hf : (ops.add a b).isFinite = true) :
    Approx u (n + 1) (ops.add a b) (A + B) (ma + mb) := by
  obtain ⟨δ, hδ, e⟩ := M.add a b ha.1 hb.1 hf
  refine .of_round M.u_nonneg M.u_lt_one hf hδ e ?_
    ((abs_add_le _ _).trans (add_le_add ha.2.2 hb.2.2))
  rw [add_sub_add_comm, mul_add]
  exact (abs_add_le _ _).trans (add_le_add ha.2.1 hb.2.1)

theorem Approx.sub {ops : NumOps} {u : ℚ} (S : RoundingModelSub ops u) {n : ℕ} {a b : F64}
    {A B ma mb : ℚ} (ha : Approx u n a A ma) (hb : Approx u n b B mb)
    (hf : (ops.sub a b).isFinite = true) :
    Approx u (n + 1) (ops.sub a b) (A - B) (ma + mb) := by
  obtain ⟨δ, hδ, e⟩ := S.sub a b ha.1 hb.1 hf
  refine .of_round S.u_nonneg S.u_lt_one hf hδ e ?_
    ((abs_sub _ _).trans (add_le_add ha.2.2 hb.2.2))
  rw [sub_sub_sub_comm, mul_add]
  exact (abs_sub _ _).trans (add_le_add ha.2.1 hb.2.1)

theorem Approx.mulC {ops : NumOps} {u : ℚ} (M : RoundingModel ops u) {n : ℕ} {a k : F64}
    {A ma K : ℚ} (ha : Approx u n a A ma) (hk : k.isFinite = true) (hK : k.toRat = K)
    (hK0 : 0 < K) (hf : (ops.mul a k).isFinite = true) (hn : NoUnderflow (a.toRat * K)) :
    Approx u (n + 1) (ops.mul a k) (A * K) (ma * K) := by
  subst hK
  obtain ⟨δ, hδ, e⟩ := M.mul a k ha.1 hk hf hn
  refine .of_round M.u_nonneg M.u_lt_one hf hδ e ?_ ?_
  · rw [← sub_mul, abs_mul, abs_of_pos hK0, ← mul_assoc]
    exact mul_le_mul_of_nonneg_right ha.2.1 hK0.le
  · rw [abs_mul, abs_of_pos hK0]
    exact mul_le_mul_of_nonneg_right ha.2.2 hK0.le

theorem Approx.divC {ops : NumOps} {u : ℚ} (M : RoundingModel ops u) {n : ℕ} {a k : F64}
    {A ma K : ℚ} (ha : Approx u n a A ma) (hk : k.isFinite = true) (hK : k.toRat = K)
    (hK0 : 0 < K) (hf : (ops.div a k).isFinite = true) (hn : NoUnderflow (a.toRat / K)) :
    Approx u (n + 1) (ops.div a k) (A / K) (ma / K) := by
  subst hK
  obtain ⟨δ, hδ, e⟩ := M.div a k ha.1 hk hK0.ne' hf hn
  refine .of_round M.u_nonneg M.u_lt_one hf hδ e ?_ ?_
  · rw [← sub_div, abs_div, abs_of_pos hK0, mul_div_assoc']
    exact div_le_div_of_nonneg_right ha.2.1 hK0.le
  · rw [abs_div, abs_of_pos hK0]
    exact div_le_div_of_nonneg_right ha.2.2 hK0.le

/-- the literals of the temperature functions as `rustc` holds them -/
def kC : F64 := F64.ofNatBits 0x4071126666666666     -- 273.15
def k32 : F64 := F64.ofNatBits 0x4040000000000000    -- 32.0
def k5 : F64 := F64.ofNatBits 0x4014000000000000     -- 5.0
def k9 : F64 := F64.ofNatBits 0x4022000000000000     -- 9.0

theorem toRat_of_ratio (x : F64) (m e : Nat) (hneg : x.neg = false) (hr : x.ratio = (m, e)) :
    x.toRat = (m : ℚ) / (e : ℚ) := by
  unfold F64.toRat; rw [hneg, hr]; simp

theorem k32_spec : k32.isFinite = true ∧ k32.toRat = 32 := by
  refine ⟨by decide +kernel, ?_⟩
  rw [toRat_of_ratio k32 (2 ^ 52) (2 ^ 47) (by decide +kernel) (by decide +kernel)]; norm_num

theorem k5_spec : k5.isFinite = true ∧ k5.toRat = 5 := by
  refine ⟨by decide +kernel, ?_⟩
  rw [toRat_of_ratio k5 (5 * 2 ^ 50) (2 ^ 50) (by decide +kernel) (by decide +kernel)]; norm_num

theorem k9_spec : k9.isFinite = true ∧ k9.toRat = 9 := by
  refine ⟨by decide +kernel, ?_⟩
  rw [toRat_of_ratio k9 (9 * 2 ^ 49) (2 ^ 49) (by decide +kernel) (by decide +kernel)]; norm_num

/-- `273.15` is not a double: the literal is within `2^-53` (relative) of it -/
theorem kC_spec : kC.isFinite = true ∧ |kC.toRat - 5463 / 20| ≤ u64 * (5463 / 20) := by
  have h : coefAccBits 5463 20 0x4071126666666666 = true := by decide +kernel
  obtain ⟨_, h2, h3⟩ := coefAccBits_spec _ _ _ h
  have e : coefQ 5463 20 = 5463 / 20 := by unfold coefQ; norm_num
  rw [e] at h3
  exact ⟨h2, h3⟩

theorem kC_approx {u : ℚ} (hu1 : u < 1) (hu64 : u64 ≤ u) :
    Approx u 1 kC (5463 / 20) (5463 / 20) := by
  have hu : 0 ≤ u := u64_nonneg.trans hu64
  obtain ⟨h1, h2⟩ := kC_spec
  refine ⟨h1, h2.trans ?_, by rw [abs_of_pos]; norm_num⟩
  have hG : u ≤ G u 1 := by
    have := G_step hu1 0
    rw [G_zero] at this
    linarith
  exact mul_le_mul_of_nonneg_right (hu64.trans hG) (by norm_num)

/-- side conditions of one temperature function at `x`: every intermediate result finite, the
    multiplication and the division not underflowed -/
def TempStepsOk (ops : NumOps) : TempFn → F64 → Prop
  | .kelvin_to_kelvin, _ => True
  | .celsius_to_kelvin, x => (ops.add x kC).isFinite = true
  | .kelvin_to_celsius, x => (ops.sub x kC).isFinite = true
  | .fahrenheit_to_kelvin, x =>
      (ops.sub x k32).isFinite = true ∧
      (ops.mul (ops.sub x k32) k5).isFinite = true ∧ NoUnderflow ((ops.sub x k32).toRat * 5) ∧
      (ops.div (ops.mul (ops.sub x k32) k5) k9).isFinite = true ∧
        NoUnderflow ((ops.mul (ops.sub x k32) k5).toRat / 9) ∧
      (ops.add (ops.div (ops.mul (ops.sub x k32) k5) k9) kC).isFinite = true
  | .kelvin_to_fahrenheit, x =>
      (ops.sub x kC).isFinite = true ∧
      (ops.mul (ops.sub x kC) k9).isFinite = true ∧ NoUnderflow ((ops.sub x kC).toRat * 9) ∧
      (ops.div (ops.mul (ops.sub x kC) k9) k5).isFinite = true ∧
        NoUnderflow ((ops.mul (ops.sub x kC) k9).toRat / 5) ∧
      (ops.add (ops.div (ops.mul (ops.sub x kC) k9) k5) k32).isFinite = true

/-- roundings charged to one temperature function: one per operation, plus one for the literal
    `273.15` (`kC`, itself one rounding off) where it is the first operand met.  `Approx.add` /
    `Approx.sub` want both operands at the same count `n` and give `n + 1`, so a constant with
    fewer roundings than the running value is free: in kelvin→fahrenheit `273.15` meets the
    bare input, which must first be lifted to its count (1 + sub, mul, div, add = 5); in
    fahrenheit→kelvin it is added last, when three operations are already counted (4). -/
def tempCnt : TempFn → ℕ
  | .kelvin_to_kelvin => 0
  | .celsius_to_kelvin => 2
  | .kelvin_to_celsius => 2
  | .fahrenheit_to_kelvin => 4
  | .kelvin_to_fahrenheit => 5

/-- magnitude after one temperature function: the function with every term taken in absolute
    value -/
def tempMag : TempFn → ℚ → ℚ
  | .kelvin_to_kelvin, m => m
  | .celsius_to_kelvin, m => m + 5463 / 20
  | .kelvin_to_celsius, m => m + 5463 / 20
  | .fahrenheit_to_kelvin, m => (m + 32) * 5 / 9 + 5463 / 20
  | .kelvin_to_fahrenheit, m => (m + 5463 / 20) * 9 / 5 + 32

theorem temp_step {ops : NumOps} {u : ℚ} (S : RoundingModelSub ops u) (hu64 : u64 ≤ u)
    (f : TempFn) {n : ℕ} {v : F64} {w m : ℚ} (h : Approx u n v w m) (hs : TempStepsOk ops f v) :
    Approx u (n + tempCnt f) (f.evalF ops v) (f.evalQ w) (tempMag f m) := by
  have M := S.toRoundingModel
  have hu := M.u_nonneg
  have hu1 := M.u_lt_one
  have hC := kC_approx hu1 hu64
  have h32 : Approx u 0 k32 32 32 := by
    have := approx_exact (u := u) k32_spec.1 k32_spec.2
    rwa [abs_of_pos (by norm_num : (0 : ℚ) < 32)] at this
  cases f with
  | kelvin_to_kelvin => exact h
  | celsius_to_kelvin =>
    exact (h.mono hu hu1 (Nat.le_succ n)).add M (hC.mono hu hu1 (by omega)) hs
  | kelvin_to_celsius =>
    exact (h.mono hu hu1 (Nat.le_succ n)).sub S (hC.mono hu hu1 (by omega)) hs
  | fahrenheit_to_kelvin =>
    obtain ⟨f1, f2, n2, f3, n3, f4⟩ := hs
    have a1 := h.sub S (h32.mono hu hu1 (Nat.zero_le n)) f1
    have a2 := a1.mulC M k5_spec.1 k5_spec.2 (by norm_num) f2 n2
    have a3 := a2.divC M k9_spec.1 k9_spec.2 (by norm_num) f3 n3
    exact a3.add M (hC.mono hu hu1 (by omega)) f4
  | kelvin_to_fahrenheit =>
    obtain ⟨f1, f2, n2, f3, n3, f4⟩ := hs
    have a1 := (h.mono hu hu1 (Nat.le_succ n)).sub S (hC.mono hu hu1 (by omega)) f1
    have a2 := a1.mulC M k9_spec.1 k9_spec.2 (by norm_num) f2 n2
    have a3 := a2.divC M k5_spec.1 k5_spec.2 (by norm_num) f3 n3
    exact a3.add M (h32.mono hu hu1 (Nat.zero_le _)) f4

/-! ### range side conditions of one conversion (linear and reciprocal rows)

  "All intermediate results finite, no operation underflowed, nothing divided by zero":
  exactly the hypotheses the standard model needs for the two operations performed. -/

def isScaling : Conv → Bool
  | .temperature _ _ => false
  | _ => true

/-- side conditions of `toBaseF` on a linear / reciprocal row (temperature rows
    carry `TempStepsOk`) -/
def ToBaseOk (ops : NumOps) : Conv → F64 → Prop
  | .linear _ _ bits _, v =>
      (ops.mul v (coefF bits)).isFinite = true ∧ NoUnderflow (v.toRat * (coefF bits).toRat)
  | .reciprocal _ _ bits _, v =>
      v.toRat ≠ 0 ∧ (ops.div (coefF bits) v).isFinite = true ∧
        NoUnderflow ((coefF bits).toRat / v.toRat)
  | .temperature toK _, v => TempStepsOk ops toK v

def FromBaseOk (ops : NumOps) : Conv → F64 → Prop
  | .linear _ _ bits _, t =>
      (ops.div t (coefF bits)).isFinite = true ∧ NoUnderflow (t.toRat / (coefF bits).toRat)
  | .reciprocal _ _ bits _, t =>
      t.toRat ≠ 0 ∧ (ops.div (coefF bits) t).isFinite = true ∧
        NoUnderflow ((coefF bits).toRat / t.toRat)
  | .temperature _ fromK, t => TempStepsOk ops fromK t

/-- the side conditions of `convert` from a row with conversion `a` to one with `b` at `x` -/
def RangeOk (ops : NumOps) (a b : Conv) (x : F64) : Prop :=
  ToBaseOk ops a x ∧ FromBaseOk ops b (toBaseF ops a x)

abbrev convRowF (ops : NumOps) (a b : Conv) (x : F64) : F64 := fromBaseF ops b (toBaseF ops a x)

theorem recip_of_ne_zero (ops : NumOps) (c : F64) {v : F64} (h : v.toRat ≠ 0) :
    (if F64.feq v F64.zero then F64.inf else ops.div c v) = ops.div c v := by
  rw [feq_zero_false_of_toRat_ne v h]; rfl

theorem ConvAccurate.wf {u : ℚ} {c : Conv} (h : ConvAccurate u c) (hs : isScaling c = true) :
    (toQ c).WellFormed := by
  cases c with
  | temperature _ _ => exact (Bool.false_ne_true hs).elim
  | linear n d b p => exact ne_of_gt h.1
  | reciprocal n d b p => exact ne_of_gt h.1

theorem recip_factor {ops : NumOps} {u : ℚ} (M : RoundingModel ops u) {q : ℚ} {bits : Nat}
    (hc : CoefOk u q bits) {v : F64} (hv : v.isFinite = true) {V θ₀ : ℚ} {n : ℕ}
    (ev : v.toRat = V * θ₀) (hθ₀ : Near u n θ₀) (hv0 : v.toRat ≠ 0)
    (hf : (ops.div (coefF bits) v).isFinite = true)
    (hn : NoUnderflow ((coefF bits).toRat / v.toRat)) :
    V ≠ 0 ∧ ∃ θ, Near u (n + 2) θ ∧ (ops.div (coefF bits) v).toRat = q / V * θ := by
  obtain ⟨ε, hε, ec⟩ := hc.near M.u_lt_one
  obtain ⟨θ, hθ, e⟩ := div_factor M hc.2.1 hv ec hε ev hθ₀ hv0 hf hn
  exact ⟨fun h => hv0 (by rw [ev, h, zero_mul]), θ, by rwa [Nat.add_comm 1 n] at hθ, e⟩

/-- `convert_to_base` on a linear / reciprocal row at `x = X·θ₀`: two more roundings (the
    operation and the coefficient) -/
theorem toBase_factor {ops : NumOps} {u : ℚ} (M : RoundingModel ops u) {a : Conv}
    (ha : ConvAccurate u a) (hsa : isScaling a = true) {x : F64} (hx : x.isFinite = true)
    {X θ₀ : ℚ} {n : ℕ} (ex : x.toRat = X * θ₀) (hθ₀ : Near u n θ₀) (hT : ToBaseOk ops a x) :
    ∃ w θ, (toQ a).toBase X = some w ∧ Near u (n + 2) θ ∧ (toBaseF ops a x).toRat = w * θ ∧
      (toBaseF ops a x).isFinite = true := by
  cases a with
  | temperature _ _ => exact (Bool.false_ne_true hsa).elim
  | linear na da ba pa =>
    obtain ⟨ε, hε, ec⟩ := CoefOk.near M.u_lt_one ha
    obtain ⟨θ, hθ, e⟩ := mul_factor M hx ha.2.1 ex hθ₀ ec hε hT.1 hT.2
    exact ⟨X * coefQ na da, θ, rfl, hθ, e, hT.1⟩
  | reciprocal na da ba pa =>
    obtain ⟨hx0, hf, hn⟩ := hT
    obtain ⟨hX, θ, hθ, e⟩ := recip_factor M ha hx ex hθ₀ hx0 hf hn
    rw [show toBaseF ops (.reciprocal na da ba pa) x = ops.div (coefF ba) x from
      recip_of_ne_zero ops _ hx0]
    exact ⟨coefQ na da / X, θ, if_neg hX, hθ, e, hf⟩

theorem fromBase_factor {ops : NumOps} {u : ℚ} (M : RoundingModel ops u) {b : Conv}
    (hb : ConvAccurate u b) (hsb : isScaling b = true) {t : F64} (ht : t.isFinite = true)
    {W θ₀ : ℚ} {n : ℕ} (et : t.toRat = W * θ₀) (hθ₀ : Near u n θ₀) (hF : FromBaseOk ops b t) :
    ∃ q θ, (toQ b).fromBase W = some q ∧ Near u (n + 2) θ ∧ (fromBaseF ops b t).toRat = q * θ ∧
      (fromBaseF ops b t).isFinite = true := by
  cases b with
  | temperature _ _ => exact (Bool.false_ne_true hsb).elim
  | linear nb db bb pb =>
    obtain ⟨ε, hε, ec⟩ := CoefOk.near M.u_lt_one hb
    obtain ⟨θ, hθ, e⟩ := div_factor M ht hb.2.1 et hθ₀ ec hε
      (CoefOk.toRat_ne_zero M.u_lt_one hb) hF.1 hF.2
    exact ⟨W / coefQ nb db, θ, rfl, hθ, e, hF.1⟩
  | reciprocal nb db bb pb =>
    obtain ⟨ht0, hf, hn⟩ := hF
    obtain ⟨hW, θ, hθ, e⟩ := recip_factor M hb ht et hθ₀ ht0 hf hn
    rw [show fromBaseF ops (.reciprocal nb db bb pb) t = ops.div (coefF bb) t from
      recip_of_ne_zero ops _ ht0]
    exact ⟨coefQ nb db / W, θ, if_neg hW, hθ, e, hf⟩

theorem scaling_factor_of {ops : NumOps} {u : ℚ} (M : RoundingModel ops u) (a b : Conv)
    (ha : ConvAccurate u a) (hb : ConvAccurate u b)
    (hsa : isScaling a = true) (hsb : isScaling b = true)
    (x : F64) (hx : x.isFinite = true) {X θ₀ : ℚ} {n : ℕ} (ex : x.toRat = X * θ₀)
    (hθ₀ : Near u n θ₀) (hR : RangeOk ops a b x) :
    ∃ q θ, convQ (toQ a) (toQ b) X = some q ∧ Near u (n + 4) θ ∧
      (convRowF ops a b x).toRat = q * θ ∧ (convRowF ops a b x).isFinite = true := by
  obtain ⟨w, θ₁, hw, hθ₁, e₁, hf₁⟩ := toBase_factor M ha hsa hx ex hθ₀ hR.1
  obtain ⟨q, θ, hq, hθ, e, hf⟩ := fromBase_factor M hb hsb hf₁ e₁ hθ₁ hR.2
  exact ⟨q, θ, by rw [convQ, hw]; exact hq, hθ, e, hf⟩

theorem scaling_factor {ops : NumOps} {u : ℚ} (M : RoundingModel ops u) (a b : Conv)
    (ha : ConvAccurate u a) (hb : ConvAccurate u b)
    (hsa : isScaling a = true) (hsb : isScaling b = true)
    (x : F64) (hx : x.isFinite = true) (hR : RangeOk ops a b x) :
    ∃ q θ, convQ (toQ a) (toQ b) x.toRat = some q ∧ Near u 4 θ ∧
      (convRowF ops a b x).toRat = q * θ ∧ (convRowF ops a b x).isFinite = true :=
  scaling_factor_of M a b ha hb hsa hsb x hx (mul_one _).symm (near_one u) hR

theorem scaling_error_bound {ops : NumOps} {u : ℚ} (M : RoundingModel ops u) (a b : Conv)
    (ha : ConvAccurate u a) (hb : ConvAccurate u b)
    (hsa : isScaling a = true) (hsb : isScaling b = true)
    (x : F64) (hx : x.isFinite = true) (hR : RangeOk ops a b x) :
    ∃ q, convQ (toQ a) (toQ b) x.toRat = some q ∧
      |(convRowF ops a b x).toRat - q| ≤ G u 4 * |q| := by
  obtain ⟨q, θ, hq, hθ, e, _⟩ := scaling_factor M a b ha hb hsa hsb x hx hR
  exact ⟨q, hq, hθ.error M.u_nonneg M.u_lt_one e⟩

/-- a unit to itself: the coefficient is the same double in both steps and cancels, only the
    two operations round -/
theorem scaling_self_factor {ops : NumOps} {u : ℚ} (M : RoundingModel ops u) (a : Conv)
    (ha : ConvAccurate u a) (hsa : isScaling a = true)
    (x : F64) (hx : x.isFinite = true) (hR : RangeOk ops a a x) :
    ∃ θ, Near u 2 θ ∧ (convRowF ops a a x).toRat = x.toRat * θ := by
  obtain ⟨hT, hF⟩ := hR
  have h1 := near_one u
  cases a with
  | temperature _ _ => exact (Bool.false_ne_true hsa).elim
  | linear na da ba pa =>
    have hc0 := CoefOk.toRat_ne_zero M.u_lt_one ha
    obtain ⟨θ₁, hθ₁, e₁⟩ :=
      mul_factor M hx ha.2.1 (mul_one _).symm h1 (mul_one _).symm h1 hT.1 hT.2
    obtain ⟨θ, hθ, e⟩ :=
      div_factor M hT.1 ha.2.1 e₁ hθ₁ (mul_one _).symm h1 hc0 hF.1 hF.2
    exact ⟨θ, hθ, by rw [← mul_div_cancel_right₀ x.toRat hc0]; exact e⟩
  | reciprocal na da ba pa =>
    have hc0 := CoefOk.toRat_ne_zero M.u_lt_one ha
    obtain ⟨hx0, hf₁, hn₁⟩ := hT
    unfold convRowF
    rw [show toBaseF ops (.reciprocal na da ba pa) x = ops.div (coefF ba) x from
      recip_of_ne_zero ops _ hx0] at hF ⊢
    obtain ⟨hF0, hf₂, hn₂⟩ := hF
    rw [show fromBaseF ops (.reciprocal na da ba pa) (ops.div (coefF ba) x) =
      ops.div (coefF ba) (ops.div (coefF ba) x) from recip_of_ne_zero ops _ hF0]
    obtain ⟨θ₁, hθ₁, e₁⟩ :=
      div_factor M ha.2.1 hx (mul_one _).symm h1 (mul_one _).symm h1 hx0 hf₁ hn₁
    obtain ⟨θ, hθ, e⟩ :=
      div_factor M ha.2.1 hf₁ (mul_one _).symm h1 e₁ hθ₁ hF0 hf₂ hn₂
    exact ⟨θ, hθ, by rw [← div_div_cancel₀ (b := x.toRat) hc0]; exact e⟩

theorem scaling_self {ops : NumOps} {u : ℚ} (M : RoundingModel ops u) (a : Conv)
    (ha : ConvAccurate u a) (hsa : isScaling a = true)
    (x : F64) (hx : x.isFinite = true) (hR : RangeOk ops a a x) :
    |(convRowF ops a a x).toRat - x.toRat| ≤ G u 2 * |x.toRat| := by
  obtain ⟨θ, hθ, e⟩ := scaling_self_factor M a ha hsa x hx hR
  exact hθ.error M.u_nonneg M.u_lt_one e

/-- there and back: `x → y = fl(a→b)(x) → fl(b→a)(y)` is `x` times a factor of eight roundings:
    `y` is the exact `q₁` times four roundings, and the exact way back from `q₁` is `x` -/
theorem scaling_there_back {ops : NumOps} {u : ℚ} (M : RoundingModel ops u) (a b : Conv)
    (ha : ConvAccurate u a) (hb : ConvAccurate u b)
    (hsa : isScaling a = true) (hsb : isScaling b = true)
    (x : F64) (hx : x.isFinite = true) (hR₁ : RangeOk ops a b x)
    (hR₂ : RangeOk ops b a (convRowF ops a b x)) :
    |(convRowF ops b a (convRowF ops a b x)).toRat - x.toRat| ≤ G u 8 * |x.toRat| := by
  obtain ⟨q₁, θ₁, hq₁, hθ₁, e₁, hf₁⟩ := scaling_factor M a b ha hb hsa hsb x hx hR₁
  obtain ⟨q₂, θ₂, hq₂, hθ₂, e₂, _⟩ := scaling_factor_of M b a hb ha hsb hsa _ hf₁ e₁ hθ₁ hR₂
  rw [convQ_there_back _ _ (ha.wf hsa) (hb.wf hsb) _ _ hq₁] at hq₂
  cases hq₂
  exact hθ₂.error M.u_nonneg M.u_lt_one e₂

theorem scaling_triangle {ops : NumOps} {u : ℚ} (M : RoundingModel ops u) (a b c : Conv)
    (ha : ConvAccurate u a) (hb : ConvAccurate u b) (hc : ConvAccurate u c)
    (hsa : isScaling a = true) (hsb : isScaling b = true) (hsc : isScaling c = true)
    (x : F64) (hx : x.isFinite = true) (hR₁ : RangeOk ops a b x)
    (hR₂ : RangeOk ops b c (convRowF ops a b x)) (hR₃ : RangeOk ops a c x) :
    ∃ Q, convQ (toQ a) (toQ c) x.toRat = some Q ∧
      |(convRowF ops b c (convRowF ops a b x)).toRat - Q| ≤ G u 8 * |Q| ∧
      |(convRowF ops b c (convRowF ops a b x)).toRat - (convRowF ops a c x).toRat| ≤
        (G u 8 + G u 4) * |Q| := by
  have hu := M.u_nonneg
  have hu1 := M.u_lt_one
  obtain ⟨q₁, θ₁, hq₁, hθ₁, e₁, hf₁⟩ := scaling_factor M a b ha hb hsa hsb x hx hR₁
  obtain ⟨Q, θ₂, hQ, hθ₂, e₂, _⟩ := scaling_factor_of M b c hb hc hsb hsc _ hf₁ e₁ hθ₁ hR₂
  obtain ⟨q₃, θ₃, hq₃, hθ₃, e₃, _⟩ := scaling_factor M a c ha hc hsa hsc x hx hR₃
  rw [convQ_triangle _ _ _ (hb.wf hsb) _ _ hq₁] at hQ
  obtain rfl : q₃ = Q := Option.some.inj (hq₃.symm.trans hQ)
  have E1 := hθ₂.error hu hu1 e₂
  refine ⟨q₃, hq₃, E1, ?_⟩
  rw [add_mul]
  exact Rounding.abs_sub_le_add E1 (hθ₃.error hu hu1 e₃)

theorem temperature_error_bound {ops : NumOps} {u : ℚ} (S : RoundingModelSub ops u)
    (hu64 : u64 ≤ u) (ta fa tb fb : TempFn) (x : F64) (hx : x.isFinite = true)
    (hR : RangeOk ops (.temperature ta fa) (.temperature tb fb) x) :
    convQ (toQ (.temperature ta fa)) (toQ (.temperature tb fb)) x.toRat
        = some (fb.evalQ (ta.evalQ x.toRat)) ∧
      (convRowF ops (.temperature ta fa) (.temperature tb fb) x).isFinite = true ∧
      |(convRowF ops (.temperature ta fa) (.temperature tb fb) x).toRat
          - fb.evalQ (ta.evalQ x.toRat)| ≤
        G u (tempCnt ta + tempCnt fb) * tempMag fb (tempMag ta |x.toRat|) := by
  obtain ⟨h1, h2⟩ := hR
  have a0 : Approx u 0 x x.toRat |x.toRat| := approx_exact hx rfl
  have a1 := temp_step S hu64 ta a0 h1
  have a2 := temp_step S hu64 fb a1 h2
  rw [Nat.zero_add] at a2
  exact ⟨rfl, a2.1, a2.2.1⟩

/-! ### an inhabitant of `RoundingModelSub` (the guarded correct rounding of `Lemmas/Rounding.lean`) -/

def guardedOpsSub : NumOps :=
  { guardedOps with
    sub := fun a b =>
      if a.isFinite = true ∧ b.isFinite = true then guardedRound (a.toRat - b.toRat) else F64.nan }

theorem guardedOpsSub_model : RoundingModelSub guardedOpsSub u64 where
  u_nonneg := guardedOps_model.u_nonneg
  u_lt_one := guardedOps_model.u_lt_one
  add := guardedOps_model.add
  mul := guardedOps_model.mul
  div := guardedOps_model.div
  sub := fun a b ha hb h => by
    have e : guardedOpsSub.sub a b = guardedRound (a.toRat - b.toRat) := by
      show (if a.isFinite = true ∧ b.isFinite = true then _ else _) = _
      rw [if_pos ⟨ha, hb⟩]
    rw [e] at h ⊢
    exact guardedRound_spec _ h

/-- the identifiers `a`, `b` resolve to the rows `ra`, `rb` of the table, of one category: the
    prologue of `convert` succeeds -/
def ResolvesTo (a b : List Nat) (ra rb : UnitRow) : Prop :=
  ∃ i j, resolveCodes a = .ok i ∧ resolveCodes b = .ok j ∧
    ra = units.getD i default ∧ rb = units.getD j default ∧ ra.cat = rb.cat

theorem resolved_row_mem (q : List Nat) (i : Nat) (h : resolveIn units q = .ok i) :
    units.getD i default ∈ units := by
  obtain ⟨r, hr, _⟩ := resolve_ok_sound units q i h
  have : units.getD i default = r := by simp [List.getD, hr]
  rw [this]
  exact List.mem_of_getElem? hr

theorem ResolvesTo.spec {a b : List Nat} {ra rb : UnitRow} (h : ResolvesTo a b ra rb) :
    ra ∈ units ∧ rb ∈ units ∧
    (∀ (ops : NumOps) (x : F64), convertF ops x a b = .ok (convRowF ops ra.conv rb.conv x)) ∧
    (∀ q : ℚ, convertQ q a b = .ok (convQ (toQ ra.conv) (toQ rb.conv) q)) := by
  obtain ⟨i, j, hi, hj, rfl, rfl, hc⟩ := h
  refine ⟨resolved_row_mem a i hi, resolved_row_mem b j hj, ?_, ?_⟩
  · intro ops x
    unfold convertF convertFIn
    rw [withPair_resolved units a b _ i j hi hj, if_pos hc]
  · intro q
    unfold convertQ convertQIn
    rw [withPair_resolved units a b _ i j hi hj, if_pos hc]

theorem ResolvesTo.symm {a b : List Nat} {ra rb : UnitRow} (h : ResolvesTo a b ra rb) :
    ResolvesTo b a rb ra := by
  obtain ⟨i, j, hi, hj, e1, e2, hc⟩ := h
  exact ⟨j, i, hj, hi, e2, e1, hc.symm⟩

theorem ResolvesTo.refl_left {a b : List Nat} {ra rb : UnitRow} (h : ResolvesTo a b ra rb) :
    ResolvesTo a a ra ra := by
  obtain ⟨i, j, hi, hj, e1, e2, hc⟩ := h
  exact ⟨i, i, hi, hi, e1, e1, rfl⟩

theorem ResolvesTo.trans {a b c : List Nat} {ra rb rb' rc : UnitRow} (h₁ : ResolvesTo a b ra rb)
    (h₂ : ResolvesTo b c rb' rc) : rb = rb' ∧ ResolvesTo a c ra rc := by
  obtain ⟨i, j, hi, hj, e1, e2, hc⟩ := h₁
  obtain ⟨j', k, hj', hk, e3, e4, hc'⟩ := h₂
  have : j = j' := by
    have := hj.symm.trans hj'
    cases this; rfl
  subst this
  have hbb : rb = rb' := e2.trans e3.symm
  exact ⟨hbb, i, k, hi, hk, e1, e4, by rw [hc, hbb, hc']⟩

/-- whole table: the temperature rows are exactly those of category 17 (`Temperature` in
    `Gen.categories`), so the category determines the kind (temperature, or linear / reciprocal) -/
theorem kind_of_category : ∀ r ∈ units, ∀ s ∈ units, r.cat = s.cat →
    isScaling r.conv = isScaling s.conv := by
  have h : units.all (fun r => isScaling r.conv == !(Nat.beq r.cat 17)) = true := by
    decide +kernel
  intro r hr s hs hc
  rw [eq_of_beq (List.all_eq_true.mp h r hr), eq_of_beq (List.all_eq_true.mp h s hs), hc]

/-! ### the side conditions are decidable (used by the `example`s on concrete rows) -/

instance (q : ℚ) : Decidable (NoUnderflow q) := by unfold NoUnderflow; infer_instance

instance (ops : NumOps) (f : TempFn) (x : F64) : Decidable (TempStepsOk ops f x) := by
  cases f <;> unfold TempStepsOk <;> infer_instance

instance (ops : NumOps) (c : Conv) (x : F64) : Decidable (ToBaseOk ops c x) := by
  cases c <;> unfold ToBaseOk <;> infer_instance

instance (ops : NumOps) (c : Conv) (x : F64) : Decidable (FromBaseOk ops c x) := by
  cases c <;> unfold FromBaseOk <;> infer_instance

instance (ops : NumOps) (a b : Conv) (x : F64) : Decidable (RangeOk ops a b x) := by
  unfold RangeOk; infer_instance

end Blots.Units
