import Blots.Lemmas.FormatPieces
import Blots.Lemmas.ExprPegLemmas
/-
  The formatter on the FRAGMENT of C10 (`Frag`: names and literals, strings, operators, calls,
  index and field accesses, list and record literals, lambdas, conditionals, do-blocks,
  assignments), at text level (C07 / C08 end to end).

  `Lemmas/ExprPegLemmas.lean` (C10) has the character-level PEG model of the `expression` rule
  for the fragment, concrete syntax trees `CST`, the printer's tree `canon t`, and `Relayout t c`
  (`c` is `canon t` with other ADMISSIBLE layout strings; for a lambda also: the parentheses
  around a single parameter may go).  `Model/Format.lean` has the width-driven formatter
  `fmtImplP` / `formatExpr`.  Here the two are joined: `fmtCST w indent t` is the concrete syntax
  tree `format_expr_impl` writes; its text IS `fmtImpl w indent t`, character for character
  (`fmtCST_text`), and it is a `Relayout` of `t`: every layout string the formatter writes is
  admissible at its position (`fmtCST_relayout`).  `formatExpr` adds at most one redundant pair
  of parentheses (`protect_statement_start`); hence `parseText (formatExpr t mw) = some t`
  (`formatExpr_parse`).
-/
namespace Blots.FormatFrag
open Blots.ExprPeg Blots.FormatP Blots.FormatL

/-- the test of `orSingle`: the single-line text is one line and fits -/
def fits (w indent : Nat) (e : Expr) : Bool :=
  !hasNewline (fmtSingle e) && decide (indent + blen (firstLine (fmtSingle e)) ≤ w)

/-- the layout `format_binary_op_multiline` writes in front of the operator, and
    `format_call_multiline` in front of every argument: a line feed and `indent + 2` blanks -/
def breakLay (indent : Nat) : Lay := .lf :: List.replicate (indent + INDENT_SIZE) .sp

/-! ### the single-line form of the formatter (`format_single_line`) as a CST

  `format_single_line` differs from `expr_to_source` in one place that matters here: a lambda
  with ONE required parameter is written `x => e` (`lambdaArgsPart`), not `(x) => e` — but only
  where `format_single_line` itself descends (lambda bodies, call arguments, list items); below
  any other node it hands over to `expr_to_source`.  `canonF t` is that text as a CST; resetting
  its layout (`normalize` also restores the parentheses of the parameter list) gives `canon t`. -/

/-- the parameter list `format_single_line` / `format_lambda` write -/
def headF : List LArg → LamHead
  | [.req n] => .bare (.req n)
  | args => headOf args

theorem headF_args (args : List LArg) : (headF args).args = args := by
  unfold headF
  split
  · rfl
  · exact headOf_args _

theorem headF_text (args : List LArg) : (headF args).text = (lambdaArgsPart args).toList := by
  unfold headF lambdaArgsPart
  split
  · simp [LamHead.text, argText]
  · rename_i hne
    split
    · rename_i n; exact absurd rfl (hne n)
    · simp only [headOf_text, String.toList_append, String.toList_intercalate, commaSp,
        List.map_map, Function.comp_def, argText_src, List.append_assoc]
      rfl

theorem headF_ok (args : List LArg) : (headF args).ok = true := by
  unfold headF
  split
  · rfl
  · exact headOf_ok _

theorem headF_namesOk {args : List LArg} (h : (args.all fun a => nameOk a.name) = true) :
    (headF args).namesOk = true := by
  simp only [LamHead.namesOk, headF_args, h, Bool.true_and]
  cases args with
  | nil => rfl
  | cons a as =>
    cases as with
    | nil => cases a <;> rfl
    | cons b bs => cases a <;> rfl

mutual
def canonF : Expr → CST
  | .lambda args body =>
    .lambda (headF args) [.sp] [.sp] (wrap (lambdaBodyNeedsParens body) (canonF body))
  | .call f args => mkCall (wrap (needsParens f .postfix_) (canonF f)) (canonFArgs args)
  | .list items => mkList (canonFItems items)
  | .record es => mkRecord (canonFEntries es)
  | .assign n v => .asg n [.sp] [.sp] (canonF v)
  /- only reached from `canonFArgs`: below a spread `format_single_line` is `expr_to_source` -/
  | .spread e => canon e
  | e => canon e
def canonFArgs : List Expr → List (Bool × CST)
  | [] => []
  | a :: rest => (isSpread a, canonF a) :: canonFArgs rest
def canonFItems : List Item → List (Bool × CST)
  | [] => []
  | (.mk _ e _) :: rest => (isSpread e, canonF e) :: canonFItems rest
def canonFEntries : List Entry → List Ent
  | [] => []
  | e :: rest => canonFEnt e :: canonFEntries rest
/-- `format_single_line` descends into the values and the computed keys of a record; below
    a spread entry it is `expr_to_source` -/
def canonFEnt : Entry → Ent
  | .mk lead (.static k) v tr =>
    if entPlain lead tr && (isValidIdentifier k || !bothQuotes k) then keyEnt k (canonF v)
    else .raw (.mk lead (.static k) v tr)
  | .mk lead (.dyn ke) v tr =>
    if entPlain lead tr then .pairDyn [] (canonF ke) [] [] [.sp] (canonF v)
    else .raw (.mk lead (.dyn ke) v tr)
  | .mk lead (.short n) v tr =>
    if entPlain lead tr && isNullE v then .short n else .raw (.mk lead (.short n) v tr)
  | .mk lead (.spread (.spread e)) v tr =>
    if entPlain lead tr && isNullE v then .spread (canon e)
    else .raw (.mk lead (.spread (.spread e)) v tr)
  | .mk lead (.spread e) v tr => .raw (.mk lead (.spread e) v tr)
end

/-- element-wise re-layout of arguments, items or entries: `norm` resets the layout of an element
    to the printer's, `ok` says that it is admissible -/
def RelayoutAll {α : Type} (norm : α → α) (ok : α → Prop) (xs cs : List α) : Prop :=
  xs.map norm = cs ∧ ∀ q ∈ xs, ok q

theorem RelayoutAll.nil {α : Type} {norm : α → α} {ok : α → Prop} : RelayoutAll norm ok [] [] :=
  ⟨rfl, List.forall_mem_nil _⟩

theorem RelayoutAll.cons {α : Type} {norm : α → α} {ok : α → Prop} {x c : α} {xs cs : List α}
    (h : norm x = c) (hx : ok x) (hr : RelayoutAll norm ok xs cs) :
    RelayoutAll norm ok (x :: xs) (c :: cs) :=
  ⟨by rw [List.map_cons, h, hr.1], List.forall_mem_cons.mpr ⟨hx, hr.2⟩⟩

/-- arguments and list items: the tree re-laid-out, the spread flag kept -/
abbrev RelayoutArgs : (ps cs : List (Bool × CST)) → Prop :=
  RelayoutAll normPair fun q => q.2.LayoutOk

theorem RelayoutArgs.cons {b : Bool} {t : Expr} {c : CST} {ps cs : List (Bool × CST)}
    (h : Relayout t c) (hr : RelayoutArgs ps cs) : RelayoutArgs ((b, c) :: ps) ((b, canon t) :: cs) :=
  RelayoutAll.cons (congrArg (Prod.mk b) h.1) h.2 hr

abbrev RelayoutEnt (e c : Ent) : Prop := CST.normEnt e = c ∧ CST.EntLayoutOk e

abbrev RelayoutEnts : (es cs : List Ent) → Prop := RelayoutAll CST.normEnt CST.EntLayoutOk

theorem relayout_raw (en : Entry) : RelayoutEnt (.raw en) (.raw en) := ⟨rfl, trivial⟩

theorem relayout_lambda {args : List LArg} {body : Expr} {l : Lay} {B : CST} (h : Relayout body B) :
    Relayout (.lambda args body)
      (.lambda (headF args) [.sp] l (wrap (lambdaBodyNeedsParens body) B)) :=
  ⟨by simp only [CST.normalize, headF_args, wrap_normalize, h.1, canon],
    headF_ok args, rfl, wrap_layout h.2⟩

theorem relayout_assign {n : String} {v : Expr} {V : CST} (h : Relayout v V) :
    Relayout (.assign n v) (.asg n [.sp] [.sp] V) :=
  ⟨by simp only [CST.normalize, h.1, canon], rfl, rfl, h.2⟩

theorem relayout_static {lead tr k v} {V : CST} (h : Relayout v V) :
    RelayoutEnt (if entPlain lead tr && (isValidIdentifier k || !bothQuotes k) then keyEnt k V
      else .raw (.mk lead (.static k) v tr)) (canonEnt (.mk lead (.static k) v tr)) := by
  rw [canonEnt]
  split
  · next hc =>
    rw [Bool.and_eq_true] at hc
    exact ⟨by rw [normEnt_keyEnt, h.1], keyEnt_layout hc.2 h.2⟩
  · exact relayout_raw _

theorem relayout_dyn {lead tr ke v} {K V : CST} (hk : Relayout ke K) (hv : Relayout v V) :
    RelayoutEnt (if entPlain lead tr then .pairDyn [] K [] [] [.sp] V
      else .raw (.mk lead (.dyn ke) v tr)) (canonEnt (.mk lead (.dyn ke) v tr)) := by
  rw [canonEnt]
  split
  · exact ⟨by simp only [CST.normEnt, hk.1, hv.1], ⟨rfl, rfl, rfl⟩, hk.2, hv.2⟩
  · exact relayout_raw _

theorem relayout_short {lead tr n v} :
    RelayoutEnt (if entPlain lead tr && isNullE v then .short n
      else .raw (.mk lead (.short n) v tr)) (canonEnt (.mk lead (.short n) v tr)) := by
  rw [canonEnt]
  split
  · exact ⟨rfl, trivial⟩
  · exact relayout_raw _

theorem relayout_spreadKey {lead tr e v} {E : CST} (he : Relayout e E) :
    RelayoutEnt (if entPlain lead tr && isNullE v then .spread E
      else .raw (.mk lead (.spread (.spread e)) v tr))
      (canonEnt (.mk lead (.spread (.spread e)) v tr)) := by
  rw [canonEnt]
  split
  · exact ⟨by simp only [CST.normEnt, he.1], he.2⟩
  · exact relayout_raw _

mutual
theorem canonF_relayout (t : Expr) : Relayout t (canonF t) :=
  match t with
  | .lambda _ body => relayout_lambda (canonF_relayout body)
  | .call f args =>
    have hf := canonF_relayout f
    have ha := canonFArgs_relayout args
    ⟨by simp only [canonF, canon, mkCall_normalize, wrap_normalize, hf.1, ha.1],
      mkCall_layout (wrap_layout hf.2) ha.2⟩
  | .list items =>
    have ha := canonFItems_relayout items
    ⟨by simp only [canonF, canon, mkList_normalize, ha.1], mkList_layout ha.2⟩
  | .record es =>
    have ha := canonFEntries_relayout es
    ⟨by simp only [canonF, canon, mkRecord_normalize, ha.1], mkRecord_layout ha.2⟩
  | .spread e => relayout_self e
  | .assign _ v => relayout_assign (canonF_relayout v)
  | .bin .. | .un .. | .fact .. | .access .. | .dot .. | .cond .. | .ident _ | .builtin _ | .bool _
  | .null | .num _ | .str _ | .inref _ | .doBlock .. | .output _ => relayout_self _
theorem canonFArgs_relayout : ∀ args : List Expr, RelayoutArgs (canonFArgs args) (canonArgs args)
  | [] => .nil
  | a :: rest => .cons (canonF_relayout a) (canonFArgs_relayout rest)
theorem canonFItems_relayout : ∀ items : List Item,
    RelayoutArgs (canonFItems items) (canonItems items)
  | [] => .nil
  | (.mk _ e _) :: rest => .cons (canonF_relayout e) (canonFItems_relayout rest)
theorem canonFEntries_relayout : ∀ es : List Entry,
    RelayoutEnts (canonFEntries es) (canonEntries es)
  | [] => .nil
  | e :: rest =>
    .cons (canonFEnt_relayout e).1 (canonFEnt_relayout e).2 (canonFEntries_relayout rest)
theorem canonFEnt_relayout : ∀ en : Entry, RelayoutEnt (canonFEnt en) (canonEnt en)
  | .mk _ (.static _) v _ => relayout_static (canonF_relayout v)
  | .mk _ (.dyn ke) v _ => relayout_dyn (canonF_relayout ke) (canonF_relayout v)
  | .mk _ (.short _) _ _ => relayout_short
  | .mk _ (.spread e) _ _ => by
    cases e with
    | spread e => exact relayout_spreadKey (relayout_self e)
    | _ => exact relayout_raw _
end

theorem canonF_normalize (t : Expr) : (canonF t).normalize = canon t := (canonF_relayout t).1

theorem canonF_layout (t : Expr) : (canonF t).LayoutOk := (canonF_relayout t).2

theorem canonFArgs_normalize : ∀ args : List Expr, (canonFArgs args).map normPair = canonArgs args :=
  fun args => (canonFArgs_relayout args).1

theorem canonFItems_normalize : ∀ items : List Item,
    (canonFItems items).map normPair = canonItems items :=
  fun items => (canonFItems_relayout items).1

theorem canonFItems_layout : ∀ (items : List Item), ∀ q ∈ canonFItems items, q.2.LayoutOk :=
  fun items => (canonFItems_relayout items).2

theorem canonFEntries_normalize : ∀ es : List Entry,
    (canonFEntries es).map CST.normEnt = canonEntries es :=
  fun es => (canonFEntries_relayout es).1

theorem canonFEntries_layout : ∀ (es : List Entry), ∀ q ∈ canonFEntries es, CST.EntLayoutOk q :=
  fun es => (canonFEntries_relayout es).2

theorem canonFEnt_normalize : ∀ en : Entry, CST.normEnt (canonFEnt en) = canonEnt en :=
  fun en => (canonFEnt_relayout en).1

theorem canonFEnt_layout : ∀ (en : Entry), CST.EntLayoutOk (canonFEnt en) :=
  fun en => (canonFEnt_relayout en).2

/-- the arguments of `format_call_multiline`: each on its own line -/
def mkArgsML (indent : Nat) : Bool × CST → List (Bool × CST) → Args
  | p, [] => .last p.1 p.2
  | p, q :: rest => .cons p.1 p.2 [] (breakLay indent) (mkArgsML indent q rest)

/-- `format_call_multiline`: `f()` or `f(⏎ a,⏎ b,⏎)` -/
def mkCallML (indent : Nat) (f : CST) : List (Bool × CST) → CST
  | [] => .call0 f []
  | p :: rest =>
    .call f (breakLay indent) (mkArgsML indent p rest)
      (.comma [] (.lf :: List.replicate indent .sp))

/-- `format_list_multiline` (no comments): `[]` or `[⏎ a,⏎ b,⏎]` -/
def mkListML (indent : Nat) : List (Bool × CST) → CST
  | [] => .list0 []
  | p :: rest =>
    .list (breakLay indent) (mkArgsML indent p rest) (.comma [] (.lf :: List.replicate indent .sp))

/-- a line feed and `indent` blanks: in front of `then` / `else` of a multi-line conditional -/
def nlLay (indent : Nat) : Lay := .lf :: List.replicate indent .sp

/-- the entries of `format_record_multiline`: each on its own line -/
def mkEntsML (indent : Nat) : Ent → List Ent → Ents
  | e, [] => .last e
  | e, q :: rest => .cons e [] (breakLay indent) (mkEntsML indent q rest)

/-- `format_record_multiline` (no comments): `{}` or `{⏎ a: 1,⏎ b,⏎}` -/
def mkRecordML (indent : Nat) : List Ent → CST
  | [] => .rec0 []
  | e :: rest =>
    .record (breakLay indent) (mkEntsML indent e rest) (.comma [] (.lf :: List.replicate indent .sp))

/-- `format_conditional_multiline`: `if c then⏎ t⏎ else…` when `if c then` fits on the line,
    else `if c⏎ then⏎ t⏎ else…` with the condition one level deeper; `l4` / `eC` = what
    `else` is followed by (a blank and the chained conditional, or a line break and the
    else-expression one level deeper) -/
def condCST (indent : Nat) (head : Bool) (cC cIn tIn : CST) (l4 : Lay) (eC : CST) : CST :=
  if head then .cond [.sp] cC [.sp] (breakLay indent) tIn (nlLay indent) l4 eC
  else .cond [.sp] cIn (nlLay indent) (breakLay indent) tIn (nlLay indent) l4 eC

/-- the test of `binLayout` for `via` / `into` / `where` with a lambda on the right: the left
    operand, the operator and the FIRST LINE of the lambda fit on the line -/
def chainFits (w indent : Nat) (op : BinOp) (l r : Expr) : Bool :=
  decide (indent + blen (render (parenP (needsParens l (.binLeft op)) (fmtImplP w indent l)) ++ " " ++
    fmtSpelling op ++ " " ++
    firstLine (render (parenP (needsParens r (.binRight op)) (fmtImplP w indent r)))) ≤ w)

/-- the test of `format_lambda`: head, `=>` and the body formatted at the same indent are one
    line that fits -/
def lamFits (w indent : Nat) (args : List LArg) (body : Expr) : Bool :=
  !hasNewline (lambdaArgsPart args ++ " =>" ++ " " ++ render (fmtImplP w indent body)) &&
    decide (indent + blen (lambdaArgsPart args ++ " =>" ++ " " ++ render (fmtImplP w indent body)) ≤ w)

def chainOp (op : BinOp) : Bool := op == .via || op == .into || op == .where_

/-- a do-block: `format_lambda` always keeps `do {` on the line of `=>` -/
def isDoBlock : Expr → Bool
  | .doBlock _ _ => true
  | _ => false

/-- the test of `condLayout`: `if c then` fits on the line -/
def condHeadFits (w indent : Nat) (c : Expr) : Bool :=
  decide (indent + blen ("if " ++ fmtImpl w indent c ++ " then") ≤ w)

mutual
/-- the concrete syntax tree `format_expr_impl` writes for a tree of the fragment -/
def fmtCST (w indent : Nat) : Expr → CST
  | .bin op l r =>
    if fits w indent (.bin op l r) then canonF (.bin op l r)
    else if chainOp op && isLambda r then
      .bin op (wrap (needsParens l (.binLeft op)) (fmtCST w indent l))
        (if chainFits w indent op l r then [.sp] else nlLay indent) [.sp]
        (wrap (needsParens r (.binRight op)) (fmtCST w indent r))
    else
      .bin op (wrap (needsParens l (.binLeft op)) (fmtCST w indent l)) (breakLay indent) [.sp]
        (wrap (needsParens r (.binRight op)) (fmtCST w (indent + INDENT_SIZE) r))
  | .un op e =>
    if fits w indent (.un op e) then canonF (.un op e)
    else .un op (wrap (needsParens e .prefix_) (fmtCST w indent e))
  | .fact e =>
    if fits w indent (.fact e) then canonF (.fact e)
    else .fact (wrap (needsParens e .postfix_) (fmtCST w indent e))
  | .call f args =>
    if fits w indent (.call f args) then canonF (.call f args)
    else
      mkCallML indent (wrap (needsParens f .postfix_) (fmtCST w indent f))
        (fmtArgsCST w (indent + INDENT_SIZE) args)
  | .access e i =>
    if fits w indent (.access e i) then canonF (.access e i)
    else .access (wrap (needsParens e .postfix_) (fmtCST w indent e)) [] (fmtCST w indent i) []
  | .dot e n =>
    if fits w indent (.dot e n) then canonF (.dot e n)
    else .dot (wrap (needsParens e .postfix_) (fmtCST w indent e)) n
  | .list items =>
    if fits w indent (.list items) then canonF (.list items)
    else mkListML indent (fmtItemsCST w (indent + INDENT_SIZE) items)
  | .cond c t e =>
    if fits w indent (.cond c t e) then canonF (.cond c t e)
    else
      condCST indent (condHeadFits w indent c) (fmtCST w indent c)
        (fmtCST w (indent + INDENT_SIZE) c) (fmtCST w (indent + INDENT_SIZE) t)
        (match fmtChainCST w indent e with | some _ => [.sp] | none => breakLay indent)
        (match fmtChainCST w indent e with
         | some x => x
         | none => fmtCST w (indent + INDENT_SIZE) e)
  /- only reached from `fmtArgsCST`: the operand of a spread argument -/
  | .spread e => if fits w indent (.spread e) then canon e else fmtCST w indent e
  | .lambda args body =>
    if lambdaBodyNeedsParens body then
      .lambda (headF args) [.sp] [.sp] (.paren [] (fmtCST w indent body) [])
    else if isDoBlock body || lamFits w indent args body then
      .lambda (headF args) [.sp] [.sp] (fmtCST w indent body)
    else .lambda (headF args) [.sp] (breakLay indent) (fmtCST w (indent + INDENT_SIZE) body)
  | .ident n => canon (.ident n)
  | .builtin n => canon (.builtin n)
  | .bool b => canon (.bool b)
  | .null => canon .null
  | .num x => canon (.num x)
  | .str s => canon (.str s)
  | .record es =>
    if fits w indent (.record es) then canonF (.record es)
    else mkRecordML indent (fmtEntsCST w (indent + INDENT_SIZE) es)
  | .doBlock ss (.mk _ e _) =>
    .doB [.sp] (breakLay indent) (fmtStmtsCST w indent ss) [.sp] (fmtCST w (indent + INDENT_SIZE) e)
      (nlLay indent)
  | .assign n v =>
    if fits w indent (.assign n v) then canonF (.assign n v)
    else .asg n [.sp] [.sp] (fmtCST w indent v)
  | e => canon e
def fmtArgsCST (w inner : Nat) : List Expr → List (Bool × CST)
  | [] => []
  | a :: rest => (isSpread a, fmtCST w inner a) :: fmtArgsCST w inner rest
def fmtItemsCST (w inner : Nat) : List Item → List (Bool × CST)
  | [] => []
  | (.mk _ e _) :: rest => (isSpread e, fmtCST w inner e) :: fmtItemsCST w inner rest
/-- `format_do_block_multiline`: every statement on its own line one level deeper, protected as
    `protect_statement_start` does -/
def fmtStmtsCST (w indent : Nat) : List Item → Stmts
  | [] => .nil
  | (.mk _ e _) :: rest =>
    .cons (protC (fmtCST w (indent + INDENT_SIZE) e)) (.line (breakLay indent)) (fmtStmtsCST w indent rest)
def fmtEntsCST (w inner : Nat) : List Entry → List Ent
  | [] => []
  | e :: rest => fmtEntCST w inner e :: fmtEntsCST w inner rest
/-- `format_record_entry`: the key as the printer writes it, the value (and a computed key)
    formatted at the entry's indent -/
def fmtEntCST (w inner : Nat) : Entry → Ent
  | .mk lead (.static k) v tr =>
    if entPlain lead tr && (isValidIdentifier k || !bothQuotes k) then keyEnt k (fmtCST w inner v)
    else .raw (.mk lead (.static k) v tr)
  | .mk lead (.dyn ke) v tr =>
    if entPlain lead tr then .pairDyn [] (fmtCST w inner ke) [] [] [.sp] (fmtCST w inner v)
    else .raw (.mk lead (.dyn ke) v tr)
  | .mk lead (.short n) v tr =>
    if entPlain lead tr && isNullE v then .short n else .raw (.mk lead (.short n) v tr)
  | .mk lead (.spread (.spread e)) v tr =>
    if entPlain lead tr && isNullE v then .spread (fmtCST w inner (.spread e))
    else .raw (.mk lead (.spread (.spread e)) v tr)
  | .mk lead (.spread e) v tr => .raw (.mk lead (.spread e) v tr)
/-- the `else if …` chain: the multi-line layout of an else-expression that is itself a
    conditional, at the same indent and without the single-line test (`fmtChainP`) -/
def fmtChainCST (w indent : Nat) : Expr → Option CST
  | .cond c t e =>
    some (condCST indent (condHeadFits w indent c) (fmtCST w indent c)
      (fmtCST w (indent + INDENT_SIZE) c) (fmtCST w (indent + INDENT_SIZE) t)
      (match fmtChainCST w indent e with | some _ => [.sp] | none => breakLay indent)
      (match fmtChainCST w indent e with
       | some x => x
       | none => fmtCST w (indent + INDENT_SIZE) e))
  | _ => none
end

theorem frag_bin {op : BinOp} {l r : Expr} (h : Frag (.bin op l r)) : Frag l ∧ Frag r := by
  simpa [Frag, frag_bin_eq] using h

theorem frag_un {op : UnOp} {e : Expr} (h : Frag (.un op e)) : op ≠ .invert ∧ Frag e := by
  simpa [Frag, frag_un_eq] using h

theorem frag_fact {e : Expr} (h : Frag (.fact e)) : Frag e := by
  simpa [Frag, frag_fact_eq] using h

theorem frag_call {f : Expr} {args : List Expr} (h : Frag (.call f args)) :
    Frag f ∧ fragArgs args = true := by
  simpa [Frag, frag_call_eq] using h

theorem frag_access {e i : Expr} (h : Frag (.access e i)) : Frag e ∧ Frag i := by
  simpa [Frag, frag_access_eq] using h

theorem frag_list {items : List Item} (h : Frag (.list items)) : fragItems items = true := by
  simpa [Frag, frag_list_eq] using h

theorem frag_dot {e : Expr} {n : String} (h : Frag (.dot e n)) : Frag e ∧ CST.fieldOk n = true := by
  simpa [Frag, frag_dot_eq] using h

theorem frag_cond {c t e : Expr} (h : Frag (.cond c t e)) : Frag c ∧ Frag t ∧ Frag e := by
  simpa [Frag, frag_cond_eq, Bool.and_eq_true, and_assoc] using h

theorem frag_record {es : List Entry} (h : Frag (.record es)) : fragEntries es = true := by
  simpa [Frag, frag_record_eq] using h

theorem frag_lambda {args : List LArg} {body : Expr} (h : Frag (.lambda args body)) :
    (args.all fun a => nameOk a.name) = true ∧ Frag body := by
  simpa [Frag, frag_lambda_eq] using h

theorem frag_assign {n : String} {v : Expr} (h : Frag (.assign n v)) : nameOk n = true ∧ Frag v := by
  simpa [Frag, frag_assign_eq] using h

theorem isSpread_of_frag {t : Expr} (h : Frag t) : isSpread t = false := by
  cases t <;> first | rfl | cases h

/-- only for `...e` does the flag of `fragB` matter -/
theorem frag_of_fragB {sp : Bool} {t : Expr} (h : fragB sp t = true) (hs : isSpread t = false) :
    Frag t := by
  cases t <;> first | exact h | cases hs

theorem spread_fragB {sp : Bool} {e : Expr} (h : fragB sp (.spread e) = true) : Frag e := by
  simp only [fragB, Bool.and_eq_true] at h; exact h.2

/-- what the text lemmas below say about an argument (`...e` with its dots) is, for a tree of the
    fragment, a statement about the tree's own text -/
theorem text_of_frag {t : Expr} (h : Frag t) {x y : List Char}
    (hx : spreadChars (isSpread t) ++ x = y) : x = y := by
  rwa [isSpread_of_frag h] at hx

mutual
theorem fragB_noComments : ∀ (t : Expr) (sp : Bool), fragB sp t = true → containsComments t = false
  | .bin op l r => fun _ h => by
    simp only [fragB, Bool.and_eq_true] at h
    simp only [containsComments, fragB_noComments l false h.1, fragB_noComments r false h.2,
      Bool.or_false]
  | .un op e => fun _ h => by
    simp only [fragB, Bool.and_eq_true] at h
    simp only [containsComments, fragB_noComments e false h.2]
  | .fact e => fun _ h => by
    simp only [fragB] at h
    simp only [containsComments, fragB_noComments e false h]
  | .call f args => fun _ h => by
    simp only [fragB, Bool.and_eq_true] at h
    simp only [containsComments, fragB_noComments f false h.1, fragArgs_noComments args h.2,
      Bool.or_false]
  | .access e i => fun _ h => by
    simp only [fragB, Bool.and_eq_true] at h
    simp only [containsComments, fragB_noComments e false h.1, fragB_noComments i false h.2,
      Bool.or_false]
  | .dot e n => fun _ h => by
    simp only [fragB, Bool.and_eq_true] at h
    simp only [containsComments, fragB_noComments e false h.1]
  | .spread e => fun _ h => by
    simp only [containsComments, fragB_noComments e false (spread_fragB h)]
  | .list items => fun _ h => by
    simp only [fragB] at h
    simp only [containsComments, fragItems_noComments items h]
  | .cond c t e => fun _ h => by
    simp only [fragB, Bool.and_eq_true] at h
    simp only [containsComments, fragB_noComments c false h.1.1, fragB_noComments t false h.1.2,
      fragB_noComments e false h.2, Bool.or_false]
  | .ident _ | .builtin _ | .bool _ | .null | .num _ | .str _ => fun _ _ => rfl
  | .lambda args body => fun _ h => by
    simp only [fragB, Bool.and_eq_true] at h
    simp only [containsComments, fragB_noComments body false h.2]
  | .record es => fun _ h => by
    simp only [fragB] at h
    simp only [containsComments, fragEntries_noComments es h]
  | .doBlock ss (.mk lead e tr) => fun _ h => by
    simp only [fragB, fragRet, Bool.and_eq_true] at h
    simp only [containsComments, itemContainsComments, fragStmts_noComments ss h.1,
      fragB_noComments e false h.2.2, Bool.or_false]
  | .assign n v => fun _ h => by
    simp only [fragB, Bool.and_eq_true] at h
    simp only [containsComments, fragB_noComments v false h.2]
  | .inref _ | .output _ => fun _ h => by cases h
theorem fragArgs_noComments : ∀ args : List Expr, fragArgs args = true →
    exprsContainComments args = false
  | [], _ => rfl
  | a :: rest, h => by
    simp only [fragArgs, Bool.and_eq_true] at h
    simp only [exprsContainComments, fragB_noComments a true h.1, fragArgs_noComments rest h.2,
      Bool.or_false]
theorem fragItems_noComments : ∀ items : List Item, fragItems items = true →
    itemsHaveComments items = false
  | [], _ => rfl
  | (.mk lead e tr) :: rest, h => by
    simp only [fragItems, Bool.and_eq_true, List.isEmpty_iff, Option.isNone_iff_eq_none] at h
    obtain ⟨⟨⟨rfl, rfl⟩, he⟩, hr⟩ := h
    simp only [itemsHaveComments, itemHasOrContains, fragB_noComments e true he,
      fragItems_noComments rest hr]
    rfl
theorem fragStmts_noComments : ∀ ss : List Item, fragStmts ss = true →
    stmtsContainComments ss = false
  | [], _ => rfl
  | (.mk lead e tr) :: rest, h => by
    simp only [fragStmts, Bool.and_eq_true] at h
    simp only [stmtsContainComments, itemContainsComments, fragB_noComments e false h.1.2.1,
      fragStmts_noComments rest h.2, Bool.or_false]
theorem fragEntries_noComments : ∀ es : List Entry, fragEntries es = true →
    entriesHaveComments es = false
  | [], _ => rfl
  | e :: rest, h => by
    simp only [fragEntries, Bool.and_eq_true] at h
    simp only [entriesHaveComments, fragEntry_noComments e h.1, fragEntries_noComments rest h.2,
      Bool.or_false]
theorem fragEntry_noComments : ∀ en : Entry, fragEntry en = true → entryHasOrContains en = false
  | .mk lead (.static k) v tr, h => by
    simp only [fragEntry, Bool.and_eq_true] at h
    obtain ⟨rfl, rfl⟩ := entPlain_eq h.1.1
    simp only [entryHasOrContains, keyContains, fragB_noComments v false h.2]
    rfl
  | .mk lead (.dyn ke) v tr, h => by
    simp only [fragEntry, Bool.and_eq_true] at h
    obtain ⟨rfl, rfl⟩ := entPlain_eq h.1.1
    simp only [entryHasOrContains, keyContains, fragB_noComments v false h.2,
      fragB_noComments ke false h.1.2]
    rfl
  | .mk lead (.short n) v tr, h => by
    simp only [fragEntry, Bool.and_eq_true] at h
    obtain ⟨rfl, rfl⟩ := entPlain_eq h.1.1
    rfl
  | .mk lead (.spread e) v tr, h => by
    cases e with
    | spread e =>
      simp only [fragEntry, Bool.and_eq_true] at h
      obtain ⟨rfl, rfl⟩ := entPlain_eq h.1.1
      simp only [entryHasOrContains, keyContains, containsComments, fragB_noComments e false h.2]
      rfl
    | _ => cases h
end

theorem frag_noComments (t : Expr) (h : Frag t) : containsComments t = false :=
  fragB_noComments t false h

theorem items_any_hasComments : ∀ items : List Item, itemsHaveComments items = false →
    items.any Item.hasComments = false
  | [], _ => rfl
  | (.mk lead e tr) :: rest, h => by
    simp only [itemsHaveComments, itemHasOrContains, Bool.or_eq_false_iff] at h
    simp only [List.any_cons, Item.hasComments, Item.leading, Item.trailing, h.1.1.1, h.1.1.2,
      items_any_hasComments rest h.2, Bool.or_false]

theorem entries_any_hasComments : ∀ es : List Entry, entriesHaveComments es = false →
    es.any Entry.hasComments = false
  | [], _ => rfl
  | (.mk lead k v tr) :: rest, h => by
    simp only [entriesHaveComments, entryHasOrContains, Bool.or_eq_false_iff] at h
    simp only [List.any_cons, Entry.hasComments, Entry.leading, Entry.trailing, h.1.1.1, h.1.1.2,
      entries_any_hasComments rest h.2, Bool.or_false]

/-- where `format_single_line` has no arm of its own it prints by `expr_to_source`, and so
    does `canonF` -/
theorem canonF_text_handover {sp : Bool} {t : Expr} (h : fragB sp t = true)
    (hs : isSpread t = false) (hc : canonF t = canon t)
    (hf : fmtSingle t = if containsComments t then "\n" else exprToSource t) :
    spreadChars (isSpread t) ++ (canonF t).text = (fmtSingle t).toList := by
  rw [hf, hc, fragB_noComments t sp h, hs]
  exact canon_text_frag t (frag_of_fragB h hs)

theorem spread_text_single {sp : Bool} {e : Expr} (h : fragB sp (.spread e) = true) :
    spreadLit ++ (canon e).text = (fmtSingle (.spread e)).toList := by
  have hs : fmtSingle (.spread e) = exprToSource (.spread e) := by
    simp only [fmtSingle, fragB_noComments _ sp h, Bool.false_eq_true, if_false]
  rw [hs, canon_text_frag e (spread_fragB h)]
  simp only [exprToSource, exprSrc, spreadLit_eq, String.toList_append]
  rfl

mutual
/-- the text of `canonF` is `format_single_line` (an argument `...e` with its `...`) -/
theorem canonF_text : ∀ (t : Expr) (sp : Bool), fragB sp t = true →
    spreadChars (isSpread t) ++ (canonF t).text = (fmtSingle t).toList
  | .lambda args body => fun _ h => by
    simp only [fragB, Bool.and_eq_true] at h
    have hb := text_of_frag h.2 (canonF_text body false h.2)
    simp only [isSpread, spreadChars, Bool.false_eq_true, if_false, List.nil_append, canonF,
      CST.text, headF_text, wrap_text, hb, fmtSingle, layChars, LayAtom.chars]
    split <;> simp [String.toList_append]
  | .call f args => fun _ h => by
    simp only [fragB, Bool.and_eq_true] at h
    have hf := text_of_frag h.1 (canonF_text f false h.1)
    have ha := canonFArgs_text args h.2
    simp only [isSpread, spreadChars, Bool.false_eq_true, if_false, List.nil_append, canonF,
      mkCall_text, wrap_text, hf, ha, fmtSingle, String.toList_append, PrintL.parenIf_toList,
      String.toList_intercalate, commaSp, List.append_assoc]
    rfl
  | .list items => fun _ h => by
    simp only [fragB] at h
    have ha := canonFItems_text items h
    have hany := items_any_hasComments items (fragItems_noComments items h)
    simp only [isSpread, spreadChars, Bool.false_eq_true, if_false, List.nil_append, canonF,
      mkList_text, ha, fmtSingle, hany, String.toList_append, String.toList_intercalate, commaSp,
      List.append_assoc]
    rfl
  | .record es => fun _ h => by
    simp only [fragB] at h
    have ha := canonFEntries_text es h
    have hany := entries_any_hasComments es (fragEntries_noComments es h)
    simp only [isSpread, spreadChars, Bool.false_eq_true, if_false, List.nil_append, canonF,
      mkRecord_text, ha, fmtSingle, hany, String.toList_append, String.toList_intercalate, commaSp,
      List.append_assoc]
    rfl
  | .assign n v => fun _ h => by
    simp only [fragB, Bool.and_eq_true] at h
    have hv := text_of_frag h.2 (canonF_text v false h.2)
    simp only [isSpread, spreadChars, Bool.false_eq_true, if_false, List.nil_append, canonF,
      CST.text, hv, fmtSingle, layChars, LayAtom.chars, String.toList_append, List.append_assoc,
      List.cons_append, List.nil_append]
    rfl
  | .spread e => fun _ h => spread_text_single h
  | .bin .. | .un .. | .fact _ | .access .. | .dot .. | .cond .. | .doBlock .. | .ident _
  | .builtin _ | .bool _ | .null | .num _ | .str _ => fun _ h => canonF_text_handover h rfl rfl rfl
  | .inref _ | .output _ => fun _ h => by cases h
theorem canonFArgs_text : ∀ args : List Expr, fragArgs args = true →
    (canonFArgs args).map argS = (fmtSingleList args).map String.toList
  | [], _ => rfl
  | a :: rest, h => by
    simp only [fragArgs, Bool.and_eq_true] at h
    simp only [canonFArgs, fmtSingleList, List.map_cons, argS, canonF_text a true h.1,
      canonFArgs_text rest h.2]
theorem canonFItems_text : ∀ items : List Item, fragItems items = true →
    (canonFItems items).map argS = (fmtSingleItems items).map String.toList
  | [], _ => rfl
  | (.mk lead e tr) :: rest, h => by
    simp only [fragItems, Bool.and_eq_true] at h
    simp only [canonFItems, fmtSingleItems, fmtSingleItem, List.map_cons, argS,
      canonF_text e true h.1.2, canonFItems_text rest h.2]
theorem canonFEntries_text : ∀ es : List Entry, fragEntries es = true →
    (canonFEntries es).map CST.entText = (fmtSingleEntries es).map String.toList
  | [], _ => rfl
  | e :: rest, h => by
    simp only [fragEntries, Bool.and_eq_true] at h
    simp only [canonFEntries, fmtSingleEntries, List.map_cons, canonFEnt_text e h.1,
      canonFEntries_text rest h.2]
theorem canonFEnt_text : ∀ en : Entry, fragEntry en = true →
    CST.entText (canonFEnt en) = (fmtSingleEntry en).toList
  | .mk lead (.static k) v tr, h => by
    simp only [fragEntry, Bool.and_eq_true] at h
    obtain ⟨⟨hp, hk⟩, hv⟩ := h
    have hvt := text_of_frag hv (canonF_text v false hv)
    have hcs : ": ".toList = [':', ' '] := rfl
    simp only [canonFEnt, hp, hk, Bool.and_self, if_true, keyEnt_text hk, hvt, fmtSingleEntry,
      fmtSingleKeyed, String.toList_append, hcs, List.append_assoc, List.cons_append,
      List.nil_append]
  | .mk lead (.dyn ke) v tr, h => by
    simp only [fragEntry, Bool.and_eq_true] at h
    obtain ⟨⟨hp, hk⟩, hv⟩ := h
    have hvt := text_of_frag hv (canonF_text v false hv)
    have hkt := text_of_frag hk (canonF_text ke false hk)
    simp only [canonFEnt, hp, if_true, CST.entText, hvt, hkt, fmtSingleEntry, fmtSingleKeyed,
      String.toList_append, layChars, LayAtom.chars, List.nil_append, List.append_assoc,
      List.cons_append]
    rfl
  | .mk lead (.short n) v tr, h => by
    simp only [fragEntry, Bool.and_eq_true] at h
    obtain ⟨⟨hp, hn⟩, _⟩ := h
    simp only [canonFEnt, hp, hn, Bool.and_self, if_true, CST.entText, fmtSingleEntry,
      fmtSingleKeyed]
  | .mk lead (.spread e) v tr, h => by
    cases e with
    | spread e =>
      simp only [fragEntry, Bool.and_eq_true] at h
      obtain ⟨⟨hp, hn⟩, he⟩ := h
      have hs := spread_text_single (sp := true) (e := e) (by simp only [fragB, he, Bool.and_self])
      simp only [canonFEnt, hp, hn, Bool.and_self, if_true, CST.entText, fmtSingleEntry,
        fmtSingleKeyed, hs]
    | _ => cases h
end

theorem canonF_text_frag (t : Expr) (h : Frag t) : (canonF t).text = (fmtSingle t).toList :=
  text_of_frag h (canonF_text t false h)

theorem fmtSingle_eq_canonF (t : Expr) (h : Frag t) : fmtSingle t = String.ofList (canonF t).text := by
  rw [canonF_text_frag t h, String.ofList_toList]

theorem layChars_replicate_sp (n : Nat) :
    layChars (List.replicate n LayAtom.sp) = List.replicate n ' ' := by
  induction n with
  | zero => rfl
  | succ k ih => simp [List.replicate_succ, layChars, LayAtom.chars, ih]

theorem layChars_nlLay (indent : Nat) :
    layChars (nlLay indent) = '\n' :: List.replicate indent ' ' := by
  simp [nlLay, layChars, LayAtom.chars, layChars_replicate_sp]

theorem layChars_breakLay (indent : Nat) :
    layChars (breakLay indent) = '\n' :: List.replicate (indent + INDENT_SIZE) ' ' :=
  layChars_nlLay _

theorem orSingle_eq (w indent : Nat) (e : Expr) (multi : Unit → List Piece) :
    orSingle w indent e multi =
      if fits w indent e then [.text (fmtSingle e)] else multi () := rfl

theorem fmtChain_none {w indent : Nat} {t : Expr} (h : fmtChainCST w indent t = none) :
    fmtChainP w indent t = none := by
  cases t <;> first | (simp [fmtChainCST] at h; done) | (simp [fmtChainP])

/-- the multi-line conditional, as `fmtCST` writes it where the single-line form does not fit
    and `fmtChainCST` for an `else if` -/
def condML (w indent : Nat) (c t e : Expr) : CST :=
  condCST indent (condHeadFits w indent c) (fmtCST w indent c)
    (fmtCST w (indent + INDENT_SIZE) c) (fmtCST w (indent + INDENT_SIZE) t)
    (match fmtChainCST w indent e with | some _ => [.sp] | none => breakLay indent)
    (match fmtChainCST w indent e with
     | some x => x
     | none => fmtCST w (indent + INDENT_SIZE) e)

theorem fmtCST_cond (w indent : Nat) (c t e : Expr) :
    fmtCST w indent (.cond c t e) =
      if fits w indent (.cond c t e) then canonF (.cond c t e) else condML w indent c t e := by
  rw [fmtCST, condML]

theorem fmtChainCST_cond (w indent : Nat) (c t e : Expr) :
    fmtChainCST w indent (.cond c t e) = some (condML w indent c t e) := by
  rw [fmtChainCST, condML]

theorem layOk_break (op : BinOp) (indent : Nat) : CST.layOk op (breakLay indent) [.sp] = true := by
  cases h : isWordOp op <;> simp [CST.layOk, h, breakLay, wsOnly, LayAtom.isWs]

theorem layOk_chain (op : BinOp) (w indent : Nat) (l r : Expr) :
    CST.layOk op (if chainFits w indent op l r then [.sp] else nlLay indent) [.sp] = true := by
  cases h : isWordOp op <;> cases chainFits w indent op l r <;>
    simp [CST.layOk, h, nlLay, wsOnly, LayAtom.isWs]

theorem mkArgsML_normalize (indent : Nat) : ∀ (ps : List (Bool × CST)) (p : Bool × CST),
    CST.normArgs (mkArgsML indent p ps) = mkArgs (normPair p) (ps.map normPair)
  | [], _ => rfl
  | q :: ps, _ => by
    simp only [mkArgsML, mkArgs, CST.normArgs, mkArgsML_normalize indent ps q, List.map_cons, normPair]

theorem mkCallML_normalize (indent : Nat) (f : CST) (ps : List (Bool × CST)) :
    (mkCallML indent f ps).normalize = mkCall f.normalize (ps.map normPair) := by
  cases ps with
  | nil => rfl
  | cons p ps => simp only [mkCallML, mkCall, CST.normalize, mkArgsML_normalize, List.map_cons]

theorem mkListML_normalize (indent : Nat) (ps : List (Bool × CST)) :
    (mkListML indent ps).normalize = mkList (ps.map normPair) := by
  cases ps with
  | nil => rfl
  | cons p ps => simp only [mkListML, mkList, CST.normalize, mkArgsML_normalize, List.map_cons]

theorem mkEntsML_normalize (indent : Nat) : ∀ (es : List Ent) (e : Ent),
    CST.normEnts (mkEntsML indent e es) = mkEnts (CST.normEnt e) (es.map CST.normEnt)
  | [], _ => rfl
  | q :: es, _ => by
    simp only [mkEntsML, mkEnts, CST.normEnts, mkEntsML_normalize indent es q, List.map_cons]

theorem mkRecordML_normalize (indent : Nat) (es : List Ent) :
    (mkRecordML indent es).normalize = mkRecord (es.map CST.normEnt) := by
  cases es with
  | nil => rfl
  | cons e es => simp only [mkRecordML, mkRecord, CST.normalize, mkEntsML_normalize, List.map_cons]

theorem mkArgsML_layout (indent : Nat) : ∀ (ps : List (Bool × CST)) (p : Bool × CST),
    p.2.LayoutOk → (∀ q ∈ ps, q.2.LayoutOk) → CST.ArgsLayoutOk (mkArgsML indent p ps)
  | [], _, hp, _ => hp
  | q :: ps, _, hp, h =>
    ⟨hp, rfl, mkArgsML_layout indent ps q (h q List.mem_cons_self)
      (fun x hx => h x (List.mem_cons_of_mem _ hx))⟩

theorem mkCallML_layout {indent : Nat} {f : CST} {ps : List (Bool × CST)} (hf : f.LayoutOk)
    (h : ∀ q ∈ ps, q.2.LayoutOk) : (mkCallML indent f ps).LayoutOk := by
  cases ps with
  | nil => exact hf
  | cons p ps =>
    exact ⟨hf, mkArgsML_layout indent ps p (h p List.mem_cons_self)
      (fun x hx => h x (List.mem_cons_of_mem _ hx)), rfl⟩

theorem mkListML_layout {indent : Nat} {ps : List (Bool × CST)} (h : ∀ q ∈ ps, q.2.LayoutOk) :
    (mkListML indent ps).LayoutOk := by
  cases ps with
  | nil => trivial
  | cons p ps =>
    exact ⟨mkArgsML_layout indent ps p (h p List.mem_cons_self)
      (fun x hx => h x (List.mem_cons_of_mem _ hx)), rfl⟩

theorem mkEntsML_layout (indent : Nat) : ∀ (es : List Ent) (e : Ent),
    CST.EntLayoutOk e → (∀ q ∈ es, CST.EntLayoutOk q) → CST.EntsLayoutOk (mkEntsML indent e es)
  | [], _, he, _ => he
  | q :: es, _, he, h =>
    ⟨he, rfl, mkEntsML_layout indent es q (h q List.mem_cons_self)
      (fun x hx => h x (List.mem_cons_of_mem _ hx))⟩

theorem mkRecordML_layout {indent : Nat} {es : List Ent} (h : ∀ q ∈ es, CST.EntLayoutOk q) :
    (mkRecordML indent es).LayoutOk := by
  cases es with
  | nil => trivial
  | cons e es =>
    exact ⟨mkEntsML_layout indent es e (h e List.mem_cons_self)
      (fun x hx => h x (List.mem_cons_of_mem _ hx)), rfl⟩

theorem condCST_relayout {c t e : Expr} {indent : Nat} {head : Bool} {cC cIn tIn eC : CST} {l4 : Lay}
    (h1 : Relayout c cC) (h2 : Relayout c cIn) (h3 : Relayout t tIn) (h4 : Relayout e eC)
    (hl : l4 ≠ []) : Relayout (.cond c t e) (condCST indent head cC cIn tIn l4 eC) := by
  cases head
  · exact ⟨by simp only [condCST, Bool.false_eq_true, if_false, CST.normalize, h2.1, h3.1, h4.1, canon],
      ⟨by simp, rfl, by simp [nlLay], by simp [breakLay], by simp [nlLay], hl⟩, h2.2, h3.2, h4.2⟩
  · exact ⟨by simp only [condCST, if_true, CST.normalize, h1.1, h3.1, h4.1, canon],
      ⟨by simp, rfl, by simp, by simp [breakLay], by simp [nlLay], hl⟩, h1.2, h3.2, h4.2⟩

theorem condML_relayout {w indent : Nat} {c t e : Expr} (hc : ∀ i, Relayout c (fmtCST w i c))
    (ht : Relayout t (fmtCST w (indent + INDENT_SIZE) t))
    (he : Relayout e (fmtCST w (indent + INDENT_SIZE) e))
    (hx : ∀ x, fmtChainCST w indent e = some x → Relayout e x) :
    Relayout (.cond c t e) (condML w indent c t e) := by
  refine condCST_relayout (hc _) (hc _) ht ?_ ?_
  · cases hch : fmtChainCST w indent e with
    | some x => exact hx x hch
    | none => exact he
  · cases fmtChainCST w indent e <;> simp [breakLay]

theorem orCanonF_relayout {t : Expr} {b : Bool} {c : CST} (h : Relayout t c) :
    Relayout t (if b then canonF t else c) := by
  split
  · exact canonF_relayout t
  · exact h

theorem relayout_bin {op : BinOp} {l r : Expr} {L R : CST} {a b : Lay} (hl : Relayout l L)
    (hr : Relayout r R) (h : CST.layOk op a b = true) :
    Relayout (.bin op l r)
      (.bin op (wrap (needsParens l (.binLeft op)) L) a b (wrap (needsParens r (.binRight op)) R)) :=
  ⟨by simp only [CST.normalize, wrap_normalize, hl.1, hr.1, canon],
    wrap_layout hl.2, wrap_layout hr.2, h⟩

mutual
theorem fmtCST_relayout : ∀ (t : Expr) (w indent : Nat), Relayout t (fmtCST w indent t)
  | .bin op l r => fun w indent => by
    have hl := fmtCST_relayout l w indent
    rw [fmtCST]
    refine orCanonF_relayout ?_
    split
    · exact relayout_bin hl (fmtCST_relayout r w indent) (layOk_chain op w indent l r)
    · exact relayout_bin hl (fmtCST_relayout r w (indent + INDENT_SIZE)) (layOk_break op indent)
  | .un op e => fun w indent => by
    have he := fmtCST_relayout e w indent
    rw [fmtCST]
    exact orCanonF_relayout
      ⟨by simp only [CST.normalize, wrap_normalize, he.1, canon], wrap_layout he.2⟩
  | .fact e => fun w indent => by
    have he := fmtCST_relayout e w indent
    rw [fmtCST]
    exact orCanonF_relayout
      ⟨by simp only [CST.normalize, wrap_normalize, he.1, canon], wrap_layout he.2⟩
  | .call f args => fun w indent => by
    have hf := fmtCST_relayout f w indent
    have ha := fmtArgsCST_relayout args w (indent + INDENT_SIZE)
    rw [fmtCST]
    exact orCanonF_relayout
      ⟨by simp only [mkCallML_normalize, wrap_normalize, hf.1, ha.1, canon],
        mkCallML_layout (wrap_layout hf.2) ha.2⟩
  | .access e i => fun w indent => by
    have he := fmtCST_relayout e w indent
    have hi := fmtCST_relayout i w indent
    rw [fmtCST]
    exact orCanonF_relayout
      ⟨by simp only [CST.normalize, wrap_normalize, he.1, hi.1, canon],
        wrap_layout he.2, hi.2, rfl, rfl⟩
  | .dot e n => fun w indent => by
    have he := fmtCST_relayout e w indent
    rw [fmtCST]
    exact orCanonF_relayout
      ⟨by simp only [CST.normalize, wrap_normalize, he.1, canon], wrap_layout he.2⟩
  | .spread e => fun w indent => by
    rw [fmtCST]
    split
    · exact relayout_self e
    · exact fmtCST_relayout e w indent
  | .list items => fun w indent => by
    have ha := fmtItemsCST_relayout items w (indent + INDENT_SIZE)
    rw [fmtCST]
    exact orCanonF_relayout
      ⟨by simp only [mkListML_normalize, ha.1, canon], mkListML_layout ha.2⟩
  | .cond c t e => fun w indent => by
    rw [fmtCST_cond]
    exact orCanonF_relayout (condML_relayout (fmtCST_relayout c w) (fmtCST_relayout t w _)
      (fmtCST_relayout e w _) (fmtChainCST_relayout e w indent))
  | .lambda args body => fun w indent => by
    rw [fmtCST]
    split
    · next hb =>
      have := relayout_lambda (args := args) (l := [.sp]) (fmtCST_relayout body w indent)
      rwa [hb] at this
    · next hb =>
      rw [Bool.not_eq_true] at hb
      have h : ∀ l i, Relayout (.lambda args body)
          (.lambda (headF args) [.sp] l (fmtCST w i body)) := fun l i => by
        have := relayout_lambda (args := args) (l := l) (fmtCST_relayout body w i)
        rwa [hb] at this
      split
      · exact h _ _
      · exact h _ _
  | .record es => fun w indent => by
    have ha := fmtEntsCST_relayout es w (indent + INDENT_SIZE)
    rw [fmtCST]
    exact orCanonF_relayout
      ⟨by simp only [mkRecordML_normalize, ha.1, canon], mkRecordML_layout ha.2⟩
  | .doBlock ss (.mk _ e _) => fun w indent => by
    have hs := fmtStmtsCST_relayout ss w indent
    have he := fmtCST_relayout e w (indent + INDENT_SIZE)
    rw [fmtCST]
    exact ⟨by simp only [CST.normalize, hs.1, he.1, canon], ⟨by simp, by simp, rfl⟩, hs.2, he.2⟩
  | .assign n v => fun w indent => by
    rw [fmtCST]
    exact orCanonF_relayout (relayout_assign (fmtCST_relayout v w indent))
  | .str s => fun _ _ => by rw [fmtCST]; exact relayout_self _
  | .ident _ | .builtin _ | .bool _ | .null | .num _ | .inref _ | .output _ => fun _ _ =>
    relayout_self _
theorem fmtChainCST_relayout : ∀ (t : Expr) (w indent : Nat) (x : CST),
    fmtChainCST w indent t = some x → Relayout t x
  | .cond c t e => fun w indent x h => by
    rw [fmtChainCST_cond, Option.some.injEq] at h
    subst h
    exact condML_relayout (fmtCST_relayout c w) (fmtCST_relayout t w _) (fmtCST_relayout e w _)
      (fmtChainCST_relayout e w indent)
  | .bin .. | .un .. | .fact _ | .call .. | .access .. | .dot .. | .spread _ | .list _ | .lambda ..
  | .record _ | .doBlock .. | .assign .. | .str _ | .ident _ | .builtin _ | .bool _ | .null | .num _
  | .inref _ | .output _ => fun _ _ _ h => by cases h
theorem fmtArgsCST_relayout : ∀ (args : List Expr) (w inner : Nat),
    RelayoutArgs (fmtArgsCST w inner args) (canonArgs args)
  | [] => fun _ _ => .nil
  | a :: rest => fun w inner => .cons (fmtCST_relayout a w inner) (fmtArgsCST_relayout rest w inner)
theorem fmtItemsCST_relayout : ∀ (items : List Item) (w inner : Nat),
    RelayoutArgs (fmtItemsCST w inner items) (canonItems items)
  | [] => fun _ _ => .nil
  | (.mk _ e _) :: rest => fun w inner =>
    .cons (fmtCST_relayout e w inner) (fmtItemsCST_relayout rest w inner)
theorem fmtStmtsCST_relayout : ∀ (ss : List Item) (w indent : Nat),
    CST.normStmts (fmtStmtsCST w indent ss) = canonStmts ss ∧
      CST.StmtsLayoutOk (fmtStmtsCST w indent ss)
  | [] => fun _ _ => ⟨rfl, trivial⟩
  | (.mk _ e _) :: rest => fun w indent =>
    have he := fmtCST_relayout e w (indent + INDENT_SIZE)
    have hr := fmtStmtsCST_relayout rest w indent
    ⟨by simp only [fmtStmtsCST, canonStmts, CST.normStmts, protC_normalize, he.1, hr.1],
      protC_layout he.2, by simp [Sep.ok, breakLay, LayAtom.isWs], hr.2⟩
theorem fmtEntsCST_relayout : ∀ (es : List Entry) (w inner : Nat),
    RelayoutEnts (fmtEntsCST w inner es) (canonEntries es)
  | [] => fun _ _ => .nil
  | e :: rest => fun w inner =>
    .cons (fmtEntCST_relayout e w inner).1 (fmtEntCST_relayout e w inner).2
      (fmtEntsCST_relayout rest w inner)
theorem fmtEntCST_relayout : ∀ (en : Entry) (w inner : Nat),
    RelayoutEnt (fmtEntCST w inner en) (canonEnt en)
  | .mk _ (.static _) v _ => fun w inner => by
    rw [fmtEntCST]; exact relayout_static (fmtCST_relayout v w inner)
  | .mk _ (.dyn ke) v _ => fun w inner => by
    rw [fmtEntCST]; exact relayout_dyn (fmtCST_relayout ke w inner) (fmtCST_relayout v w inner)
  | .mk _ (.short _) _ _ => fun _ _ => relayout_short
  | .mk _ (.spread e) _ _ => fun w inner => by
    cases e with
    | spread e =>
      rw [fmtEntCST]; exact relayout_spreadKey (fmtCST_relayout (.spread e) w inner)
    | _ => exact relayout_raw _
end

theorem fmtChainCST_normalize : ∀ (t : Expr) (w indent : Nat) (x : CST),
    fmtChainCST w indent t = some x → x.normalize = canon t :=
  fun t w indent x h => (fmtChainCST_relayout t w indent x h).1

theorem fmtChainCST_layout : ∀ (t : Expr) (w indent : Nat) (x : CST),
    fmtChainCST w indent t = some x → x.LayoutOk :=
  fun t w indent x h => (fmtChainCST_relayout t w indent x h).2

theorem fmtArgsCST_normalize : ∀ (args : List Expr) (w inner : Nat),
    (fmtArgsCST w inner args).map normPair = canonArgs args :=
  fun args w inner => (fmtArgsCST_relayout args w inner).1

theorem fmtArgsCST_layout : ∀ (args : List Expr) (w inner : Nat),
    ∀ q ∈ fmtArgsCST w inner args, q.2.LayoutOk :=
  fun args w inner => (fmtArgsCST_relayout args w inner).2

theorem fmtItemsCST_normalize : ∀ (items : List Item) (w inner : Nat),
    (fmtItemsCST w inner items).map normPair = canonItems items :=
  fun items w inner => (fmtItemsCST_relayout items w inner).1

theorem fmtItemsCST_layout : ∀ (items : List Item) (w inner : Nat),
    ∀ q ∈ fmtItemsCST w inner items, q.2.LayoutOk :=
  fun items w inner => (fmtItemsCST_relayout items w inner).2

theorem fmtStmtsCST_normalize : ∀ (ss : List Item) (w indent : Nat),
    CST.normStmts (fmtStmtsCST w indent ss) = canonStmts ss :=
  fun ss w indent => (fmtStmtsCST_relayout ss w indent).1

theorem fmtStmtsCST_layout : ∀ (ss : List Item) (w indent : Nat),
    CST.StmtsLayoutOk (fmtStmtsCST w indent ss) :=
  fun ss w indent => (fmtStmtsCST_relayout ss w indent).2

theorem fmtEntsCST_normalize : ∀ (es : List Entry) (w inner : Nat),
    (fmtEntsCST w inner es).map CST.normEnt = canonEntries es :=
  fun es w inner => (fmtEntsCST_relayout es w inner).1

theorem fmtEntsCST_layout : ∀ (es : List Entry) (w inner : Nat),
    ∀ q ∈ fmtEntsCST w inner es, CST.EntLayoutOk q :=
  fun es w inner => (fmtEntsCST_relayout es w inner).2

theorem fmtEntCST_normalize : ∀ (en : Entry) (w inner : Nat),
    CST.normEnt (fmtEntCST w inner en) = canonEnt en :=
  fun en w inner => (fmtEntCST_relayout en w inner).1

theorem fmtEntCST_layout : ∀ (en : Entry) (w inner : Nat), CST.EntLayoutOk (fmtEntCST w inner en) :=
  fun en w inner => (fmtEntCST_relayout en w inner).2

/-- every argument on its own line behind the line-break layout `bl`, followed by a comma -/
def argsML (bl : List Char) : List (List Char) → List Char
  | [] => []
  | s :: rest => bl ++ (s ++ ',' :: argsML bl rest)

theorem mkArgsML_text (indent : Nat) : ∀ (ps : List (Bool × CST)) (p : Bool × CST) (X : List Char),
    layChars (breakLay indent) ++ (CST.argsText (mkArgsML indent p ps) ++ ',' :: X) =
      argsML (layChars (breakLay indent)) ((p :: ps).map argS) ++ X
  | [], p, X => by simp [mkArgsML, CST.argsText, argsML, argS]
  | q :: ps, p, X => by
    have ih := mkArgsML_text indent ps q X
    simp only [List.map_cons, argsML] at ih ⊢
    simp only [mkArgsML, CST.argsText, argS, layChars, List.nil_append, List.append_assoc,
      List.cons_append, ih]

theorem mkCallML_text (indent : Nat) (f : CST) (ps : List (Bool × CST)) :
    (mkCallML indent f ps).text =
      f.text ++ '(' :: (if ps.isEmpty then [')']
        else argsML (layChars (breakLay indent)) (ps.map argS) ++
          '\n' :: (List.replicate indent ' ' ++ [')'])) := by
  cases ps with
  | nil => simp [mkCallML, CST.text, layChars]
  | cons p ps =>
    have := mkArgsML_text indent ps p ('\n' :: (List.replicate indent ' ' ++ [')']))
    simp only [mkCallML, CST.text, Close.text, layChars, LayAtom.chars, List.nil_append,
      layChars_replicate_sp, List.isEmpty_cons, Bool.false_eq_true, if_false,
      List.cons_append] at this ⊢
    rw [this]

theorem mkListML_text (indent : Nat) (ps : List (Bool × CST)) :
    (mkListML indent ps).text =
      '[' :: (if ps.isEmpty then [']']
        else argsML (layChars (breakLay indent)) (ps.map argS) ++
          '\n' :: (List.replicate indent ' ' ++ [']'])) := by
  cases ps with
  | nil => simp [mkListML, CST.text, layChars]
  | cons p ps =>
    have := mkArgsML_text indent ps p ('\n' :: (List.replicate indent ' ' ++ [']']))
    simp only [mkListML, CST.text, Close.text, layChars, LayAtom.chars, List.nil_append,
      layChars_replicate_sp, List.isEmpty_cons, Bool.false_eq_true, if_false,
      List.cons_append] at this ⊢
    rw [this]

theorem mkEntsML_text (indent : Nat) : ∀ (es : List Ent) (e : Ent) (X : List Char),
    layChars (breakLay indent) ++ (CST.entsText (mkEntsML indent e es) ++ ',' :: X) =
      argsML (layChars (breakLay indent)) ((e :: es).map CST.entText) ++ X
  | [], e, X => by simp [mkEntsML, CST.entsText, argsML]
  | q :: es, e, X => by
    have ih := mkEntsML_text indent es q X
    simp only [List.map_cons, argsML] at ih ⊢
    simp only [mkEntsML, CST.entsText, layChars, List.nil_append, List.append_assoc,
      List.cons_append, ih]

theorem mkRecordML_text (indent : Nat) (es : List Ent) :
    (mkRecordML indent es).text =
      '{' :: (if es.isEmpty then ['}']
        else argsML (layChars (breakLay indent)) (es.map CST.entText) ++
          '\n' :: (List.replicate indent ' ' ++ ['}'])) := by
  cases es with
  | nil => simp [mkRecordML, CST.text, layChars]
  | cons e es =>
    have := mkEntsML_text indent es e ('\n' :: (List.replicate indent ' ' ++ ['}']))
    simp only [mkRecordML, CST.text, Close.text, layChars, LayAtom.chars, List.nil_append,
      layChars_replicate_sp, List.isEmpty_cons, Bool.false_eq_true, if_false,
      List.cons_append] at this ⊢
    rw [this]

theorem condCST_text (w indent : Nat) (cP : List Piece) (cIn : Unit → List Piece)
    (tP elseP : List Piece) (cC cI tI eC : CST) (l4 : Lay)
    (h1 : cC.text = (render cP).toList) (h2 : cI.text = (render (cIn ())).toList)
    (h3 : tI.text = (render tP).toList)
    (h4 : elseLit ++ (layChars l4 ++ eC.text) = (render elseP).toList) :
    (condCST indent (decide (indent + blen ("if " ++ render cP ++ " then") ≤ w)) cC cI tI l4 eC).text =
      (render (condLayout w indent cP cIn tP elseP)).toList := by
  unfold condCST condLayout
  by_cases hh : indent + blen ("if " ++ render cP ++ " then") ≤ w
  · simp only [hh, decide_true, if_true, CST.text, render_text, render_append, String.toList_append,
      h1, h3, ← h4, layChars_breakLay, layChars_nlLay, makeIndent_toList, layChars, LayAtom.chars,
      thenLit, List.append_assoc, List.cons_append, List.nil_append]
    rfl
  · simp only [hh, decide_false, Bool.false_eq_true, if_false, CST.text, render_text, render_append,
      String.toList_append, h2, h3, ← h4, layChars_breakLay, layChars_nlLay, makeIndent_toList,
      layChars, LayAtom.chars, thenLit, List.append_assoc, List.cons_append, List.nil_append]
    rfl

theorem condML_text {w indent : Nat} {c t e : Expr}
    (hc : ∀ i, (fmtCST w i c).text = (render (fmtImplP w i c)).toList)
    (ht : (fmtCST w (indent + INDENT_SIZE) t).text =
      (render (fmtImplP w (indent + INDENT_SIZE) t)).toList)
    (he : (fmtCST w (indent + INDENT_SIZE) e).text =
      (render (fmtImplP w (indent + INDENT_SIZE) e)).toList)
    (hx : ∀ x, fmtChainCST w indent e = some x →
      ∃ ps, fmtChainP w indent e = some ps ∧ x.text = (render ps).toList) :
    (condML w indent c t e).text = (render (fmtCondP w indent c t e)).toList := by
  refine condCST_text w indent _ _ _ _ _ _ _ _ _ (hc _) (hc _) ht ?_
  cases hch : fmtChainCST w indent e with
  | some x =>
    obtain ⟨ps, hps, hx⟩ := hx x hch
    simp only [hps, elseLayout, render_text, String.toList_append, hx, layChars, LayAtom.chars,
      elseLit, List.cons_append, List.nil_append]
    rfl
  | none =>
    simp only [fmtChain_none hch, elseLayout, render_text, String.toList_append, he,
      layChars_breakLay, makeIndent_toList, elseLit, List.append_assoc, List.cons_append,
      List.nil_append]
    rfl

theorem chainCST_text (indent : Nat) (op : BinOp) (lP rP : List Piece) (bl br fit : Bool) (L R : CST)
    (hL : L.text = (render lP).toList) (hR : R.text = (render rP).toList) :
    (CST.bin op (wrap bl L) (if fit then [.sp] else nlLay indent) [.sp] (wrap br R)).text =
      (render (if fit then parenP bl lP ++ .text (" " ++ fmtSpelling op ++ " ") :: parenP br rP
        else parenP bl lP ++ .text ("\n" ++ makeIndent indent ++ fmtSpelling op ++ " ") ::
          parenP br rP)).toList := by
  cases fit
  · simp only [Bool.false_eq_true, if_false, render_append, render_text, render_parenP,
      String.toList_append, PrintL.parenIf_toList, CST.text, wrap_text, hL, hR, PrintL.fmtSpelling_eq_opSpelling, spell,
      layChars_nlLay, makeIndent_toList, layChars, LayAtom.chars, List.append_assoc,
      List.cons_append, List.nil_append]
    rfl
  · simp only [if_true, render_append, render_text, render_parenP, String.toList_append,
      PrintL.parenIf_toList, CST.text, wrap_text, hL, hR, PrintL.fmtSpelling_eq_opSpelling, spell, layChars,
      LayAtom.chars, List.append_assoc, List.cons_append, List.nil_append]
    rfl

theorem isDoBlock_false {x : Expr} (h : ∀ a b, x = .doBlock a b → False) : isDoBlock x = false := by
  cases x <;> first | rfl | exact (h _ _ rfl).elim

/-- `format_lambda` as one chain of tests: a do-block body stays on the line of `=>` whatever
    its width -/
theorem lambdaLayout_eq (w indent : Nat) (args : List LArg) (body : Expr) (b : List Piece)
    (bIn : Unit → List Piece) :
    lambdaLayout w indent args body b bIn =
      if lambdaBodyNeedsParens body then
        .text (lambdaArgsPart args ++ " =>" ++ " (") :: (b ++ [.text ")"])
      else if isDoBlock body || (!hasNewline (lambdaArgsPart args ++ " =>" ++ " " ++ render b) &&
          decide (indent + blen (lambdaArgsPart args ++ " =>" ++ " " ++ render b) ≤ w)) then
        .text (lambdaArgsPart args ++ " =>" ++ " ") :: b
      else
        .text (lambdaArgsPart args ++ " =>" ++ "\n" ++ makeIndent (indent + INDENT_SIZE)) :: bIn () := by
  unfold lambdaLayout
  dsimp only
  split
  · rfl
  · split
    · rfl
    · next h => rw [isDoBlock_false h, Bool.false_or]

theorem lamCST_text (w indent : Nat) (args : List LArg) (body : Expr)
    (b : List Piece) (bIn : Unit → List Piece) (B BIn : CST)
    (h1 : B.text = (render b).toList) (h2 : BIn.text = (render (bIn ())).toList) :
    (if lambdaBodyNeedsParens body then
        CST.lambda (headF args) [.sp] [.sp] (.paren [] B [])
      else if (isDoBlock body || (!hasNewline (lambdaArgsPart args ++ " =>" ++ " " ++ render b) &&
          decide (indent + blen (lambdaArgsPart args ++ " =>" ++ " " ++ render b) ≤ w))) then
        CST.lambda (headF args) [.sp] [.sp] B
      else CST.lambda (headF args) [.sp] (breakLay indent) BIn).text =
      (render (lambdaLayout w indent args body b bIn)).toList := by
  rw [lambdaLayout_eq]
  split
  · simp only [CST.text, headF_text, h1, render_text, render_append, String.toList_append,
      layChars, LayAtom.chars, List.append_assoc, List.cons_append, List.nil_append]
    rfl
  · split
    · simp only [CST.text, headF_text, h1, render_text, String.toList_append, layChars,
        LayAtom.chars, List.append_assoc, List.cons_append, List.nil_append]
      rfl
    · simp only [CST.text, headF_text, h2, render_text, String.toList_append, layChars_breakLay,
        makeIndent_toList, layChars, LayAtom.chars, List.append_assoc, List.cons_append,
        List.nil_append]
      rfl

theorem orSingle_text {t : Expr} (h : Frag t) {w indent : Nat} {c : CST} {multi : Unit → List Piece}
    (hm : c.text = (render (multi ())).toList) :
    spreadChars (isSpread t) ++ (if fits w indent t then canonF t else c).text =
      (render (orSingle w indent t multi)).toList := by
  rw [orSingle_eq, isSpread_of_frag h]
  split
  · rw [render_single]; exact canonF_text_frag t h
  · exact hm

/-- a literal or a name -/
theorem leaf_text {sp : Bool} {t : Expr} {w indent : Nat} (h : fragB sp t = true)
    (hs : isSpread t = false) (hc : fmtCST w indent t = canon t)
    (hp : fmtImplP w indent t = leafP w indent t) (hf : fmtSingle t = exprToSource t) :
    spreadChars (isSpread t) ++ (fmtCST w indent t).text = (render (fmtImplP w indent t)).toList := by
  rw [hc, hp, render_leafP w indent t hf, hs]
  exact canon_text_frag t (frag_of_fragB h hs)

mutual
theorem fmtCST_textB : ∀ (t : Expr) (sp : Bool) (w indent : Nat), fragB sp t = true →
    spreadChars (isSpread t) ++ (fmtCST w indent t).text = (render (fmtImplP w indent t)).toList
  | .bin op l r => fun _ w indent h => by
    have hh : Frag (.bin op l r) := h
    have hl := text_of_frag (frag_bin hh).1 (fmtCST_textB l false w indent (frag_bin hh).1)
    have hr := text_of_frag (frag_bin hh).2
      (fmtCST_textB r false w (indent + INDENT_SIZE) (frag_bin hh).2)
    have hrs := text_of_frag (frag_bin hh).2 (fmtCST_textB r false w indent (frag_bin hh).2)
    rw [fmtCST, fmtImplP]
    refine orSingle_text hh ?_
    by_cases hch : (chainOp op && isLambda r) = true
    · have hch' : ((op == .via || op == .into || op == .where_) && isLambda r) = true := hch
      simp only [hch, if_true, binLayout, hch']
      rw [chainCST_text indent op (fmtImplP w indent l) (fmtImplP w indent r)
        (needsParens l (.binLeft op)) (needsParens r (.binRight op)) (chainFits w indent op l r)
        _ _ hl hrs]
      unfold chainFits
      by_cases hfit : indent + blen (render (parenP (needsParens l (.binLeft op)) (fmtImplP w indent l)) ++
          " " ++ fmtSpelling op ++ " " ++
          firstLine (render (parenP (needsParens r (.binRight op)) (fmtImplP w indent r)))) ≤ w
      · simp only [hfit, decide_true, if_true]
      · simp only [hfit, decide_false, Bool.false_eq_true, if_false]
    · have hch' : ((op == .via || op == .into || op == .where_) && isLambda r) = false := by
        simpa [chainOp] using hch
      simp only [hch, binLayout, hch', Bool.false_eq_true, if_false, render_append, render_text,
        render_parenP, String.toList_append, PrintL.parenIf_toList, CST.text, wrap_text, hl, hr,
        layChars_breakLay, makeIndent_toList, PrintL.fmtSpelling_eq_opSpelling, spell, layChars, LayAtom.chars,
        List.append_assoc, List.cons_append, List.nil_append]
      rfl
  | .un op e => fun _ w indent h => by
    have hh : Frag (.un op e) := h
    have he := text_of_frag (frag_un hh).2 (fmtCST_textB e false w indent (frag_un hh).2)
    rw [fmtCST, fmtImplP]
    refine orSingle_text hh ?_
    simp only [render_text, render_parenP, String.toList_append, PrintL.parenIf_toList, CST.text,
      wrap_text, he]
  | .fact e => fun _ w indent h => by
    have hh : Frag (.fact e) := h
    have he := text_of_frag (frag_fact hh) (fmtCST_textB e false w indent (frag_fact hh))
    rw [fmtCST, fmtImplP]
    refine orSingle_text hh ?_
    simp only [render_append, render_single, render_parenP, String.toList_append, PrintL.parenIf_toList,
      CST.text, wrap_text, he]
    rfl
  | .call f args => fun _ w indent h => by
    have hh : Frag (.call f args) := h
    have hf := text_of_frag (frag_call hh).1 (fmtCST_textB f false w indent (frag_call hh).1)
    have ha := fmtArgs_text args w (indent + INDENT_SIZE) (frag_call hh).2
    rw [fmtCST, fmtImplP]
    refine orSingle_text hh ?_
    rw [mkCallML_text]
    cases args with
    | nil =>
      simp only [fmtArgsCST, List.isEmpty_nil, if_true, render_append, render_single,
        render_parenP, String.toList_append, PrintL.parenIf_toList, wrap_text, hf]
      rfl
    | cons a rest =>
      have hne : (fmtArgsCST w (indent + INDENT_SIZE) (a :: rest)).isEmpty = false := rfl
      simp only [hne, List.isEmpty_cons, Bool.false_eq_true, if_false, render_append,
        render_text, render_parenP, String.toList_append, PrintL.parenIf_toList,
        wrap_text, hf, ha, layChars_breakLay, makeIndent_toList, List.append_assoc]
      rfl
  | .access e i => fun _ w indent h => by
    have hh : Frag (.access e i) := h
    have he := text_of_frag (frag_access hh).1 (fmtCST_textB e false w indent (frag_access hh).1)
    have hi := text_of_frag (frag_access hh).2 (fmtCST_textB i false w indent (frag_access hh).2)
    rw [fmtCST, fmtImplP]
    refine orSingle_text hh ?_
    simp only [render_append, render_text, render_parenP, String.toList_append,
      PrintL.parenIf_toList, CST.text, wrap_text, he, hi, layChars, List.nil_append]
    rfl
  | .dot e n => fun _ w indent h => by
    have hh : Frag (.dot e n) := h
    have he := text_of_frag (frag_dot hh).1 (fmtCST_textB e false w indent (frag_dot hh).1)
    rw [fmtCST, fmtImplP]
    refine orSingle_text hh ?_
    simp only [render_append, render_single, render_parenP, String.toList_append, PrintL.parenIf_toList,
      CST.text, wrap_text, he]
    rfl
  | .spread e => fun sp w indent h => by
    have hh : Frag e := spread_fragB h
    have he := text_of_frag hh (fmtCST_textB e false w indent hh)
    rw [fmtCST, fmtImplP, orSingle_eq]
    simp only [isSpread, spreadChars, if_true]
    split
    · rw [render_single]; exact spread_text_single h
    · simp only [render_text, String.toList_append, he, spreadLit_eq]
      rfl
  | .cond c t e => fun _ w indent h => by
    have hh : Frag (.cond c t e) := h
    obtain ⟨hc, ht, he⟩ := frag_cond hh
    rw [fmtCST_cond, fmtImplP]
    exact orSingle_text hh (condML_text (fun i => text_of_frag hc (fmtCST_textB c false w i hc))
      (text_of_frag ht (fmtCST_textB t false w _ ht)) (text_of_frag he (fmtCST_textB e false w _ he))
      (fun x => fmtChain_text e w indent x he))
  | .list items => fun _ w indent h => by
    have hh : Frag (.list items) := h
    have ha := fmtItems_text items w (indent + INDENT_SIZE) (frag_list hh)
    rw [fmtCST, fmtImplP]
    refine orSingle_text hh ?_
    rw [mkListML_text]
    cases items with
    | nil =>
      simp only [fmtItemsCST, List.isEmpty_nil, if_true, render_single]
      rfl
    | cons a rest =>
      obtain ⟨lead, e, tr⟩ := a
      have hne : (fmtItemsCST w (indent + INDENT_SIZE) (Item.mk lead e tr :: rest)).isEmpty = false := rfl
      simp only [hne, List.isEmpty_cons, Bool.false_eq_true, if_false, render_append,
        render_text, String.toList_append, ha, layChars_breakLay,
        makeIndent_toList, List.append_assoc]
      rfl
  | .lambda args body => fun _ w indent h => by
    have hb : Frag body := (frag_lambda (show Frag (.lambda args body) from h)).2
    rw [fmtCST, fmtImplP]
    unfold lamFits
    exact lamCST_text w indent args body _ _ _ _ (text_of_frag hb (fmtCST_textB body false w _ hb))
      (text_of_frag hb (fmtCST_textB body false w _ hb))
  | .record es => fun _ w indent h => by
    have hh : Frag (.record es) := h
    have ha := fmtEnts_text es w (indent + INDENT_SIZE) (frag_record hh)
    rw [fmtCST, fmtImplP]
    refine orSingle_text hh ?_
    rw [mkRecordML_text]
    cases es with
    | nil =>
      simp only [fmtEntsCST, List.isEmpty_nil, if_true, render_single]
      rfl
    | cons a rest =>
      have hne : (fmtEntsCST w (indent + INDENT_SIZE) (a :: rest)).isEmpty = false := rfl
      simp only [hne, List.isEmpty_cons, Bool.false_eq_true, if_false, render_append,
        render_text, String.toList_append, ha, layChars_breakLay,
        makeIndent_toList, List.append_assoc]
      rfl
  | .doBlock ss (.mk lead e tr) => fun _ w indent h => by
    simp only [fragB, fragRet, Bool.and_eq_true] at h
    obtain ⟨hss, hp, he⟩ := h
    obtain ⟨rfl, rfl⟩ := entPlain_eq hp
    have hre := text_of_frag he (fmtCST_textB e false w (indent + INDENT_SIZE) he)
    have hst := fmtStmts_text ss w indent hss
    rw [fmtImplP]
    simp only [isSpread, spreadChars, Bool.false_eq_true, if_false, List.nil_append, fmtCST,
      CST.text, fmtRetP, leadP, render_text, render_append, String.toList_append,
      hre, layChars_nlLay, makeIndent_toList, List.append_assoc]
    have e1 : layChars (breakLay indent) ++ (CST.stmtsText (fmtStmtsCST w indent ss) ++ (retLit ++
        (layChars [LayAtom.sp] ++ ((render (fmtImplP w (indent + INDENT_SIZE) e)).toList ++
          ('\n' :: List.replicate indent ' ' ++ ['}']))))) =
        (layChars (breakLay indent) ++ CST.stmtsText (fmtStmtsCST w indent ss)) ++ (retLit ++
        (layChars [LayAtom.sp] ++ ((render (fmtImplP w (indent + INDENT_SIZE) e)).toList ++
          ('\n' :: List.replicate indent ' ' ++ ['}'])))) := by
      simp only [List.append_assoc]
    rw [e1, hst]
    simp [layChars, LayAtom.chars, layChars_breakLay, retLit, render_nil]
  | .assign n v => fun _ w indent h => by
    have hh : Frag (.assign n v) := h
    have hv := text_of_frag (frag_assign hh).2 (fmtCST_textB v false w indent (frag_assign hh).2)
    rw [fmtCST, fmtImplP]
    refine orSingle_text hh ?_
    simp only [render_text, String.toList_append, CST.text, hv, layChars, LayAtom.chars,
      List.append_assoc, List.cons_append, List.nil_append]
    rfl
  | .ident _ | .builtin _ | .bool _ | .null | .num _ | .str _ => fun _ _ _ h =>
    leaf_text h rfl rfl rfl rfl
  | .inref _ | .output _ => fun _ _ _ h => by cases h
theorem fmtChain_text : ∀ (t : Expr) (w indent : Nat) (x : CST), Frag t →
    fmtChainCST w indent t = some x →
    ∃ ps, fmtChainP w indent t = some ps ∧ x.text = (render ps).toList
  | .cond c t e => fun w indent x hh hx => by
    obtain ⟨hc, ht, he⟩ := frag_cond hh
    rw [fmtChainCST_cond, Option.some.injEq] at hx
    subst hx
    refine ⟨_, by rw [fmtChainP], ?_⟩
    exact condML_text (fun i => text_of_frag hc (fmtCST_textB c false w i hc))
      (text_of_frag ht (fmtCST_textB t false w _ ht)) (text_of_frag he (fmtCST_textB e false w _ he))
      (fun x => fmtChain_text e w indent x he)
  | .bin .. | .un .. | .fact _ | .call .. | .access .. | .dot .. | .spread _ | .list _ | .lambda ..
  | .record _ | .doBlock .. | .assign .. | .str _ | .ident _ | .builtin _ | .bool _ | .null | .num _
  | .inref _ | .output _ => fun _ _ _ _ hx => by cases hx
theorem fmtArgs_text : ∀ (args : List Expr) (w inner : Nat), fragArgs args = true →
    (render (fmtArgsP w inner args)).toList =
      argsML ('\n' :: List.replicate inner ' ') ((fmtArgsCST w inner args).map argS)
  | [] => fun _ _ _ => rfl
  | a :: rest => fun w inner h => by
    simp only [fragArgs, Bool.and_eq_true] at h
    simp only [fmtArgsP, fmtArgsCST, List.map_cons, argsML, argS, render_text, render_append,
      String.toList_append, makeIndent_toList, fmtCST_textB a true w inner h.1,
      fmtArgs_text rest w inner h.2, List.append_assoc]
    rfl
theorem fmtItems_text : ∀ (items : List Item) (w inner : Nat), fragItems items = true →
    (render (fmtItemsP w inner items)).toList =
      argsML ('\n' :: List.replicate inner ' ') ((fmtItemsCST w inner items).map argS)
  | [] => fun _ _ _ => rfl
  | (.mk lead e tr) :: rest => fun w inner h => by
    simp only [fragItems, Bool.and_eq_true, List.isEmpty_iff, Option.isNone_iff_eq_none] at h
    obtain ⟨⟨⟨rfl, rfl⟩, he⟩, hr⟩ := h
    simp only [fmtItemsP, fmtItemP, leadP, trailP, List.nil_append, fmtItemsCST,
      List.map_cons, argsML, argS, render_text, render_append, String.toList_append,
      makeIndent_toList, fmtCST_textB e true w inner he, fmtItems_text rest w inner hr,
      List.append_assoc]
    rfl
theorem fmtStmts_text : ∀ (ss : List Item) (w indent : Nat), fragStmts ss = true →
    layChars (breakLay indent) ++ CST.stmtsText (fmtStmtsCST w indent ss) =
      (render (fmtStmtsP w (indent + INDENT_SIZE) ss)).toList ++ layChars (breakLay indent)
  | [] => fun _ _ _ => by simp [fmtStmtsCST, CST.stmtsText, fmtStmtsP, render_nil]
  | (.mk lead e tr) :: rest => fun w indent h => by
    simp only [fragStmts, Bool.and_eq_true] at h
    obtain ⟨⟨hp, he, hho⟩, hr⟩ := h
    obtain ⟨rfl, rfl⟩ := entPlain_eq hp
    have hte := text_of_frag he (fmtCST_textB e false w (indent + INDENT_SIZE) he)
    have hfr : Frag e := he
    obtain ⟨hwf, _, _⟩ := relayout_wf hfr (fmtCST_relayout e w (indent + INDENT_SIZE))
    /- `protC` on the tree decides as `protect_statement_start` does on the text, provided the
       head of the statement is not taken for a continuation (`headOk`); head and leading minus
       of a tree do not change under `normalize`, so `headOk_canon` settles it for `fmtCST` -/
    have hP := protC_text (fmtCST w (indent + INDENT_SIZE) e) hwf.1 hwf.2 (fun hm => by
      apply CST.headOk_of_normalize
      rw [(fmtCST_relayout _ _ _).1]
      refine headOk_canon e he hho ?_
      rw [← (fmtCST_relayout e w (indent + INDENT_SIZE)).1, CST.startsMinus_normalize]
      exact hm)
    rw [hte, String.ofList_toList] at hP
    have ih := fmtStmts_text rest w indent hr
    simp only [fmtStmtsCST, CST.stmtsText, Sep.text, fmtStmtsP, fmtStmtP, leadP, trailP,
      List.nil_append, List.append_nil, render_text, render_append, render_protectP,
      String.toList_append, makeIndent_toList, hP, List.append_assoc]
    rw [ih]
    simp [layChars_breakLay]
theorem fmtEnts_text : ∀ (es : List Entry) (w inner : Nat), fragEntries es = true →
    (render (fmtEntriesP w inner es)).toList =
      argsML ('\n' :: List.replicate inner ' ') ((fmtEntsCST w inner es).map CST.entText)
  | [] => fun _ _ _ => rfl
  | e :: rest => fun w inner h => by
    simp only [fragEntries, Bool.and_eq_true] at h
    simp only [fmtEntriesP, fmtEntsCST, List.map_cons, argsML, render_append, String.toList_append,
      fmtEnt_text e w inner h.1, fmtEnts_text rest w inner h.2, List.append_assoc,
      List.singleton_append]
theorem fmtEnt_text : ∀ (en : Entry) (w inner : Nat), fragEntry en = true →
    (render (fmtEntryP w inner en)).toList =
      '\n' :: List.replicate inner ' ' ++ (CST.entText (fmtEntCST w inner en) ++ [','])
  | .mk lead (.static k) v tr => fun w inner h => by
    simp only [fragEntry, Bool.and_eq_true] at h
    obtain ⟨⟨hp, hk⟩, hv⟩ := h
    obtain ⟨rfl, rfl⟩ := entPlain_eq hp
    have hvt := text_of_frag hv (fmtCST_textB v false w inner hv)
    have hcs : ": ".toList = [':', ' '] := rfl
    simp only [fmtEntryP, fmtKeyedP, fmtEntCST, hp, hk, Bool.and_self, if_true, keyEnt_text hk,
      leadP, trailP, List.nil_append, render_text, render_append,
      String.toList_append, makeIndent_toList, hvt, hcs, List.append_assoc, List.cons_append]
    rfl
  | .mk lead (.dyn ke) v tr => fun w inner h => by
    simp only [fragEntry, Bool.and_eq_true] at h
    obtain ⟨⟨hp, hk⟩, hv⟩ := h
    obtain ⟨rfl, rfl⟩ := entPlain_eq hp
    have hvt := text_of_frag hv (fmtCST_textB v false w inner hv)
    have hkt := text_of_frag hk (fmtCST_textB ke false w inner hk)
    simp only [fmtEntryP, fmtKeyedP, fmtEntCST, hp, if_true, CST.entText, leadP, trailP,
      List.nil_append, List.append_nil, render_text, render_append, String.toList_append,
      makeIndent_toList, hvt, hkt, layChars, LayAtom.chars, List.append_assoc, List.cons_append]
    rfl
  | .mk lead (.short n) v tr => fun w inner h => by
    simp only [fragEntry, Bool.and_eq_true] at h
    obtain ⟨⟨hp, hn⟩, _⟩ := h
    obtain ⟨rfl, rfl⟩ := entPlain_eq hp
    simp only [fmtEntryP, fmtKeyedP, fmtEntCST, hp, hn, Bool.and_self, if_true, CST.entText,
      leadP, trailP, List.nil_append, render_text, String.toList_append, makeIndent_toList,
      List.append_assoc, List.cons_append]
    rfl
  | .mk lead (.spread e) v tr => fun w inner h => by
    cases e with
    | spread e =>
      simp only [fragEntry, Bool.and_eq_true] at h
      obtain ⟨⟨hp, hn⟩, he⟩ := h
      obtain ⟨rfl, rfl⟩ := entPlain_eq hp
      have hst := fmtCST_textB (.spread e) true w inner (by simp only [fragB, he, Bool.and_self])
      simp only [isSpread, spreadChars, if_true] at hst
      simp only [fmtEntryP, fmtKeyedP, fmtEntCST, hp, hn, Bool.and_self, if_true, CST.entText,
        leadP, trailP, List.nil_append, render_text, render_append,
        String.toList_append, makeIndent_toList, ← hst, List.append_assoc, List.cons_append]
      rfl
    | _ => cases h
end

theorem fmtCST_text (t : Expr) (w indent : Nat) (h : Frag t) :
    (fmtCST w indent t).text = (fmtImpl w indent t).toList :=
  text_of_frag h (fmtCST_textB t false w indent h)

theorem fmtImpl_eq_text (t : Expr) (h : Frag t) (w indent : Nat) :
    fmtImpl w indent t = String.ofList (fmtCST w indent t).text := by
  rw [fmtCST_text t w indent h, String.ofList_toList]

theorem fits_doBlock (w indent : Nat) (ss : List Item) (r : Item) :
    fits w indent (.doBlock ss r) = false := by
  rw [fits, doFmt _ rfl]; rfl

/-- where the single-line form fits, `fmtCST` is `canonF` — for everything but a lambda at the
    top, which `format_expr_impl` lays out by `format_lambda` -/
theorem fmtCST_fits : ∀ (t : Expr) (w indent : Nat), fits w indent t = true → isLambda t = false →
    fmtCST w indent t = canonF t
  | .bin .. | .un .. | .fact _ | .call .. | .access .. | .dot .. | .list _ | .cond .. | .record _
  | .assign .. => fun _ _ hf _ => by rw [fmtCST, if_pos hf]
  | .spread _ => fun _ _ hf _ => by rw [fmtCST, if_pos hf]; rfl
  | .ident _ | .builtin _ | .bool _ | .null | .num _ | .str _ | .inref _ | .output _ =>
    fun _ _ _ _ => rfl
  | .lambda .. => fun _ _ _ hl => by cases hl
  | .doBlock .. => fun _ _ hf _ => by rw [fits_doBlock] at hf; cases hf

theorem fmtImpl_fits (t : Expr) (h : Frag t) (w indent : Nat) (hf : fits w indent t = true)
    (hl : isLambda t = false) : fmtImpl w indent t = fmtSingle t := by
  rw [fmtImpl_eq_text t h, fmtSingle_eq_canonF t h, fmtCST_fits t w indent hf hl]

/-- a binary operator that does not fit goes to a new line, two columns deeper, followed by
    one blank; the operands are formatted again (the right one at the deeper indent) -/
theorem fmtImpl_bin_break (w indent : Nat) (op : BinOp) (l r : Expr) (hr : isLambda r = false)
    (hf : fits w indent (.bin op l r) = false) :
    fmtImpl w indent (.bin op l r) =
      parenIf (needsParens l (.binLeft op)) (fmtImpl w indent l) ++ "\n" ++
        makeIndent (indent + INDENT_SIZE) ++ opSpelling op ++ " " ++
        parenIf (needsParens r (.binRight op)) (fmtImpl w (indent + INDENT_SIZE) r) := by
  unfold fmtImpl
  rw [fmtImplP, orSingle_eq, hf]
  simp only [Bool.false_eq_true, if_false, binLayout, hr, Bool.and_false, render_append,
    render_text, render_parenP, PrintL.fmtSpelling_eq_opSpelling, String.append_assoc]

theorem fmtImpl_un_break (w indent : Nat) (op : UnOp) (e : Expr)
    (hf : fits w indent (.un op e) = false) :
    fmtImpl w indent (.un op e) =
      unaryOpToSource op ++ parenIf (needsParens e .prefix_) (fmtImpl w indent e) := by
  unfold fmtImpl
  rw [fmtImplP, orSingle_eq, hf]
  simp only [Bool.false_eq_true, if_false, render_text, render_parenP]

theorem fmtImpl_fact_break (w indent : Nat) (e : Expr) (hf : fits w indent (.fact e) = false) :
    fmtImpl w indent (.fact e) = parenIf (needsParens e .postfix_) (fmtImpl w indent e) ++ "!" := by
  unfold fmtImpl
  rw [fmtImplP, orSingle_eq, hf]
  simp only [Bool.false_eq_true, if_false, render_append, render_single, render_parenP]

/-- a call that does not fit: every argument on its own line two columns deeper, each followed
    by a comma, the closing parenthesis on a line of its own (`fmtArgsP`) -/
theorem fmtImpl_call_break (w indent : Nat) (f a : Expr) (rest : List Expr)
    (hf : fits w indent (.call f (a :: rest)) = false) :
    fmtImpl w indent (.call f (a :: rest)) =
      parenIf (needsParens f .postfix_) (fmtImpl w indent f) ++ "(" ++
        render (fmtArgsP w (indent + INDENT_SIZE) (a :: rest)) ++ "\n" ++ makeIndent indent ++ ")" := by
  unfold fmtImpl
  rw [fmtImplP, orSingle_eq, hf]
  simp only [Bool.false_eq_true, if_false, List.isEmpty_cons, render_append, render_text,
    render_nil, render_parenP, String.append_assoc, String.append_empty]

theorem fmtImpl_access_break (w indent : Nat) (e i : Expr)
    (hf : fits w indent (.access e i) = false) :
    fmtImpl w indent (.access e i) =
      parenIf (needsParens e .postfix_) (fmtImpl w indent e) ++ "[" ++ fmtImpl w indent i ++ "]" := by
  unfold fmtImpl
  rw [fmtImplP, orSingle_eq, hf]
  simp only [Bool.false_eq_true, if_false, render_append, render_text, render_nil,
    render_parenP, String.append_assoc, String.append_empty]

theorem fmtImpl_dot_break (w indent : Nat) (e : Expr) (n : String)
    (hf : fits w indent (.dot e n) = false) :
    fmtImpl w indent (.dot e n) =
      parenIf (needsParens e .postfix_) (fmtImpl w indent e) ++ "." ++ n := by
  unfold fmtImpl
  rw [fmtImplP, orSingle_eq, hf]
  simp only [Bool.false_eq_true, if_false, render_append, render_single, render_parenP,
    String.append_assoc]

/-- the concrete syntax tree of `format_expr`'s result: a statement that starts with `-`, or with
    `via` / `into` / `where` followed by a blank, gets one extra pair of parentheses -/
def formatCST (t : Expr) (mw : Option Nat) : CST :=
  let c := fmtCST (mw.getD DEFAULT_MAX_COLUMNS) 0 t
  if protectDecide c.text then .paren [] c [] else c

theorem formatCST_wraps (t : Expr) (mw : Option Nat) :
    Wraps (fmtCST (mw.getD DEFAULT_MAX_COLUMNS) 0 t) (formatCST t mw) := by
  unfold formatCST
  simp only
  split
  · exact .step (.refl _) (.here [] _ [])
  · exact .refl _

theorem formatCST_text (t : Expr) (h : Frag t) (mw : Option Nat) :
    formatExpr t mw = String.ofList (formatCST t mw).text := by
  have ht := fmtCST_text t (mw.getD DEFAULT_MAX_COLUMNS) 0 h
  unfold formatExpr formatCST protectStatementStart
  generalize fmtImpl (mw.getD DEFAULT_MAX_COLUMNS) 0 t = s at ht ⊢
  generalize fmtCST (mw.getD DEFAULT_MAX_COLUMNS) 0 t = c at ht ⊢
  apply String.toList_inj.mp
  simp only [ht, String.toList_ofList]
  split
  · simp only [String.toList_append, CST.text, layChars, List.nil_append, ht]
    rfl
  · exact ht.symm

/-- what `format_expr` returns for a fragment tree is read back — PEG recogniser, then Pratt
    parser — to the tree, at every width (C07 end to end; C08 follows from it) -/
theorem formatExpr_parse (t : Expr) (h : Frag t) (mw : Option Nat) :
    parseText (formatExpr t mw) = some t := by
  obtain ⟨hwf, _, ht⟩ := relayout_wf h (fmtCST_relayout t (mw.getD DEFAULT_MAX_COLUMNS) 0)
  obtain ⟨ht', hwf'⟩ := wraps_facts (formatCST_wraps t mw) hwf
  have := cst_roundtrip _ hwf'
  rw [ht', ht] at this
  rw [formatCST_text t h mw]
  exact this

end Blots.FormatFrag
