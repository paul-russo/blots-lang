import Blots.Lemmas.NumSpec
import Blots.Lemmas.Num
/-
  Facts about the text helpers of `Model/Display.lean`, for all inputs.

  Comma grouping: `withCommas ds` is `interc`, a structural recursion without the position
  counter of `groupRev`, on the reversed digits (`withCommas_eq`).  From it: removing the commas
  gives the digits back, the result is grouped in threes from the right, the first character is
  unchanged, only commas are added.  `addThousandSeparators` and `formatIntegerWithSeparators`
  are `withCommas` on the integer part.  Trailing-zero trimming (`trimEnd`, `trimFraction`, the
  two trims of `formatMantissa`) keeps the denoted rational.
-/
namespace Blots.Display

open Blots Blots.NumSpec

/-- a comma after every complete group of three that is followed by something -/
def interc : List Char → List Char
  | a :: b :: c :: d :: rest => a :: b :: c :: ',' :: interc (d :: rest)
  | l => l

/-- the comma emitted in front of position `i` -/
def sepBefore (i : Nat) : List Char := if i > 0 then [','] else []

private theorem groupRev_cons_mod0 (c : Char) (cs : List Char) (i : Nat) (h : i % 3 = 0) :
    groupRev (c :: cs) i = sepBefore i ++ c :: groupRev cs (i + 1) := by
  rw [groupRev, sepBefore]
  by_cases hi : i > 0 <;> simp [hi, h]

private theorem groupRev_cons_mod_ne (c : Char) (cs : List Char) (i : Nat) (h : i % 3 ≠ 0) :
    groupRev (c :: cs) i = c :: groupRev cs (i + 1) := by
  rw [groupRev]
  simp [h]

theorem groupRev_eq_interc (r : List Char) :
    ∀ i, i % 3 = 0 → groupRev r i = (if r = [] then [] else sepBefore i) ++ interc r := by
  induction r using interc.induct with
  | case1 a b c d rest ih =>
    intro i hi
    rw [groupRev_cons_mod0 _ _ _ hi, groupRev_cons_mod_ne _ _ _ (by omega),
      groupRev_cons_mod_ne _ _ _ (by omega), ih (i + 1 + 1 + 1) (by omega)]
    simp [interc, sepBefore]
  | case2 l hl =>
    intro i hi
    match l, hl with
    | [], _ => simp [groupRev, interc]
    | [a], _ =>
      rw [groupRev_cons_mod0 _ _ _ hi]; simp [groupRev, interc]
    | [a, b], _ =>
      rw [groupRev_cons_mod0 _ _ _ hi, groupRev_cons_mod_ne _ _ _ (by omega)]
      simp [groupRev, interc]
    | [a, b, c], _ =>
      rw [groupRev_cons_mod0 _ _ _ hi, groupRev_cons_mod_ne _ _ _ (by omega),
        groupRev_cons_mod_ne _ _ _ (by omega)]
      simp [groupRev, interc]
    | a :: b :: c :: d :: rest, hl => exact absurd rfl (hl a b c d rest)

theorem groupRev_zero (r : List Char) : groupRev r 0 = interc r := by
  rw [groupRev_eq_interc r 0 rfl]; simp [sepBefore]

theorem withCommas_eq (ds : List Char) : withCommas ds = (interc ds.reverse).reverse := by
  unfold withCommas; rw [groupRev_zero]

theorem interc_nil : interc [] = [] := by simp [interc]

theorem interc_cons (d : Char) (rest : List Char) :
    ∃ t, interc (d :: rest) = d :: t := by
  match rest with
  | [] => exact ⟨[], by simp [interc]⟩
  | [b] => exact ⟨[b], by simp [interc]⟩
  | [b, c] => exact ⟨[b, c], by simp [interc]⟩
  | b :: c :: e :: r => exact ⟨b :: c :: ',' :: interc (e :: r), by simp [interc]⟩

theorem interc_filter (r : List Char) :
    (interc r).filter (· ≠ ',') = r.filter (· ≠ ',') := by
  induction r using interc.induct with
  | case1 a b c d rest ih =>
    rw [interc]
    simp only [List.filter_cons, ih]
    simp
  | case2 l hl => rw [interc]; exact hl

theorem mem_interc (r : List Char) : ∀ x ∈ interc r, x = ',' ∨ x ∈ r := by
  induction r using interc.induct with
  | case1 a b c d rest ih =>
    intro x hx
    rw [interc] at hx
    simp only [List.mem_cons] at hx ⊢
    rcases hx with h | h | h | h | h
    · exact Or.inr (Or.inl h)
    · exact Or.inr (Or.inr (Or.inl h))
    · exact Or.inr (Or.inr (Or.inr (Or.inl h)))
    · exact Or.inl h
    · rcases ih x h with h | h
      · exact Or.inl h
      · simp only [List.mem_cons] at h
        exact Or.inr (Or.inr (Or.inr (Or.inr h)))
  | case2 l hl =>
    intro x hx
    rw [interc] at hx
    · exact Or.inr hx
    · exact hl

theorem interc_getLast? (r : List Char) : (interc r).getLast? = r.getLast? := by
  induction r using interc.induct with
  | case1 a b c d rest ih =>
    rw [interc]
    obtain ⟨t, ht⟩ := interc_cons d rest
    rw [ht] at ih ⊢
    simp only [List.getLast?_cons_cons]
    exact ih
  | case2 l hl => rw [interc]; exact hl

theorem groupedRev_interc (r : List Char) (hne : r ≠ []) (hd : ∀ c ∈ r, isDigit c = true) :
    groupedRev (interc r) = true := by
  induction r using interc.induct with
  | case1 a b c d rest ih =>
    rw [interc]
    have ih' := ih (by simp) (fun x hx => hd x (by simp [hx]))
    obtain ⟨t, ht⟩ := interc_cons d rest
    rw [ht] at ih' ⊢
    rw [groupedRev]
    simp [ih', hd a (by simp), hd b (by simp), hd c (by simp)]
  | case2 l hl =>
    match l, hl with
    | [], _ => exact absurd rfl hne
    | [a], _ => simp [interc, groupedRev, hd a (by simp)]
    | [a, b], _ => simp [interc, groupedRev, hd a (by simp), hd b (by simp)]
    | [a, b, c], _ =>
      simp [interc, groupedRev, hd a (by simp), hd b (by simp), hd c (by simp)]
    | a :: b :: c :: d :: rest, hl => exact absurd rfl (hl a b c d rest)

theorem withCommas_nil : withCommas [] = [] := by
  simp [withCommas_eq, interc]

theorem withCommas_strip (ds : List Char) (h : ∀ c ∈ ds, c ≠ ',') :
    stripCommas (withCommas ds) = ds := by
  unfold stripCommas
  rw [withCommas_eq, List.filter_reverse, interc_filter, ← List.filter_reverse,
    List.reverse_reverse]
  exact List.filter_eq_self.mpr (fun c hc => by simpa using h c hc)

theorem withCommas_grouped (ds : List Char) (hne : ds ≠ [])
    (hd : ∀ c ∈ ds, isDigit c = true) : isGrouped (withCommas ds) = true := by
  unfold isGrouped
  rw [withCommas_eq, List.reverse_reverse]
  exact groupedRev_interc _ (by simpa using hne) (fun c hc => hd c (by simpa using hc))

theorem withCommas_head (ds : List Char) : (withCommas ds).head? = ds.head? := by
  rw [withCommas_eq, List.head?_reverse, interc_getLast?, List.getLast?_reverse]

theorem mem_withCommas (ds : List Char) : ∀ c ∈ withCommas ds, c = ',' ∨ c ∈ ds := by
  intro c hc
  rw [withCommas_eq, List.mem_reverse] at hc
  rcases mem_interc _ c hc with h | h
  · exact Or.inl h
  · exact Or.inr (by simpa using h)

theorem withCommas_no_minus (ds : List Char) (h : '-' ∉ ds) : '-' ∉ withCommas ds := by
  intro hc
  rcases mem_withCommas ds _ hc with h' | h'
  · exact absurd h' (by decide)
  · exact h h'

theorem withCommas_ne_nil (ds : List Char) (hne : ds ≠ []) : withCommas ds ≠ [] := by
  intro h
  have := withCommas_head ds
  rw [h] at this
  cases ds with
  | nil => exact hne rfl
  | cons a t => simp at this

theorem noLeadingZero_of_head_ne (l : List Char) (h : l.head? ≠ some '0') :
    noLeadingZero l = true := by
  match l, h with
  | [], _ => rfl
  | [a], _ => simp [noLeadingZero]
  | a :: b :: t, h =>
    have ha : a ≠ '0' := by simpa using h
    unfold noLeadingZero
    split
    · next heq => simp only [List.cons.injEq] at heq; exact absurd heq.1 ha
    · rfl

theorem withCommas_noLeadingZero (ds : List Char) (h : noLeadingZero ds = true) :
    noLeadingZero (withCommas ds) = true := by
  match ds, h with
  | [], _ => rw [withCommas_nil]; rfl
  | [a], _ => simp [withCommas, groupRev, noLeadingZero]
  | a :: b :: t, h =>
    apply noLeadingZero_of_head_ne
    rw [withCommas_head]
    intro e
    simp only [List.head?_cons, Option.some.injEq] at e
    subst e
    simp [noLeadingZero] at h

theorem span_ne_append (c : Char) (ip rest : List Char) (h1 : ∀ x ∈ ip, x ≠ c)
    (h3 : rest = [] ∨ rest.head? = some c) :
    (ip ++ rest).takeWhile (· ≠ c) = ip ∧ (ip ++ rest).dropWhile (· ≠ c) = rest := by
  induction ip with
  | nil =>
    rcases h3 with rfl | h
    · exact ⟨rfl, rfl⟩
    · match rest, h with
      | d :: r, h =>
        simp only [List.head?_cons, Option.some.injEq] at h
        subst h; simp
  | cons a t ih =>
    have ha : a ≠ c := h1 a (by simp)
    obtain ⟨ih1, ih2⟩ := ih (fun x hx => h1 x (by simp [hx]))
    simp only [List.cons_append, List.takeWhile_cons, List.dropWhile_cons, ha, ne_eq,
      not_false_eq_true, decide_true, if_true, ih1, ih2, and_self]

theorem addThousandSeparators_of_not_minus (s : List Char) (h : s.head? ≠ some '-') :
    addThousandSeparators s =
      withCommas (s.takeWhile (· ≠ '.')) ++ s.dropWhile (· ≠ '.') := by
  unfold addThousandSeparators
  split
  next neg ds heq =>
    split at heq
    · simp at h
    · cases heq; simp

theorem addThousandSeparators_minus (s : List Char) :
    addThousandSeparators ('-' :: s) =
      '-' :: (withCommas (s.takeWhile (· ≠ '.')) ++ s.dropWhile (· ≠ '.')) := by
  unfold addThousandSeparators
  simp

theorem addThousandSeparators_unsigned (ip rest : List Char) (h1 : ∀ c ∈ ip, c ≠ '.')
    (h2 : ip.head? ≠ some '-') (h3 : rest = [] ∨ rest.head? = some '.') :
    addThousandSeparators (ip ++ rest) = withCommas ip ++ rest := by
  have hh : (ip ++ rest).head? ≠ some '-' := by
    cases ip with
    | cons a t => simpa using h2
    | nil =>
      rcases h3 with h | h
      · subst h; simp
      · simp [h]
  obtain ⟨ht, hd⟩ := span_ne_append '.' ip rest h1 h3
  rw [addThousandSeparators_of_not_minus _ hh, ht, hd]

theorem addThousandSeparators_signed (ip rest : List Char) (h1 : ∀ c ∈ ip, c ≠ '.')
    (h3 : rest = [] ∨ rest.head? = some '.') :
    addThousandSeparators ('-' :: ip ++ rest) = '-' :: (withCommas ip ++ rest) := by
  obtain ⟨ht, hd⟩ := span_ne_append '.' ip rest h1 h3
  rw [List.cons_append, addThousandSeparators_minus, ht, hd]

theorem formatIntegerWithSeparators_eq (i : Int) :
    formatIntegerWithSeparators i =
      (if i < 0 then ['-'] else []) ++ withCommas (F64.natDigits i.natAbs).toList := by
  unfold formatIntegerWithSeparators
  by_cases h : i < 0 <;> simp [h]

theorem dropLeading_spec (c : Char) (l : List Char) :
    ∃ n, l = List.replicate n c ++ dropLeading c l ∧ (dropLeading c l).head? ≠ some c := by
  induction l with
  | nil => exact ⟨0, by simp [dropLeading]⟩
  | cons d ds ih =>
    by_cases hd : d = c
    · obtain ⟨n, h1, h2⟩ := ih
      refine ⟨n + 1, ?_, ?_⟩
      · rw [dropLeading, if_pos hd, List.replicate_succ, List.cons_append, ← h1, hd]
      · rw [dropLeading, if_pos hd]; exact h2
    · refine ⟨0, ?_, ?_⟩
      · rw [dropLeading, if_neg hd]; rfl
      · rw [dropLeading, if_neg hd]; simpa using hd

theorem dropLeading_of_head_ne (c : Char) (l : List Char) (h : l.head? ≠ some c) :
    dropLeading c l = l := by
  cases l with
  | nil => rfl
  | cons d ds =>
    have hd : d ≠ c := by simpa using h
    rw [dropLeading, if_neg hd]

theorem dropLeading_replicate_append (c : Char) (n : Nat) (l : List Char) :
    dropLeading c (List.replicate n c ++ l) = dropLeading c l := by
  induction n with
  | zero => rfl
  | succ n ih => rw [List.replicate_succ, List.cons_append, dropLeading, if_pos rfl, ih]

theorem dropLeading_append_cons (c d : Char) (x y : List Char) (h : d ≠ c) :
    dropLeading c (x ++ d :: y) = dropLeading c x ++ d :: y := by
  induction x with
  | nil => simp [dropLeading, h]
  | cons a t ih =>
    by_cases ha : a = c
    · rw [List.cons_append, dropLeading, if_pos ha, ih, dropLeading, if_pos ha]
    · rw [List.cons_append, dropLeading, if_neg ha, dropLeading, if_neg ha]; rfl

theorem trimEnd_nil (c : Char) : trimEnd c [] = [] := rfl

theorem trimEnd_spec (c : Char) (s : List Char) :
    ∃ n, s = trimEnd c s ++ List.replicate n c ∧ (trimEnd c s).getLast? ≠ some c := by
  obtain ⟨n, h1, h2⟩ := dropLeading_spec c s.reverse
  refine ⟨n, ?_, ?_⟩
  · have := congrArg List.reverse h1
    rw [List.reverse_reverse, List.reverse_append, List.reverse_replicate] at this
    exact this
  · unfold trimEnd; rw [List.getLast?_reverse]; exact h2

theorem trimEnd_replicate (c : Char) (s : List Char) :
    ∃ n, s = trimEnd c s ++ List.replicate n c :=
  let ⟨n, h, _⟩ := trimEnd_spec c s; ⟨n, h⟩

theorem trimEnd_append_same (c : Char) (s : List Char) :
    trimEnd c (s ++ [c]) = trimEnd c s := by
  unfold trimEnd
  rw [List.reverse_append, List.reverse_singleton, List.singleton_append, dropLeading,
    if_pos rfl]

theorem trimEnd_append_replicate (c : Char) (n : Nat) (s : List Char) :
    trimEnd c (s ++ List.replicate n c) = trimEnd c s := by
  unfold trimEnd
  rw [List.reverse_append, List.reverse_replicate, dropLeading_replicate_append]

theorem trimEnd_of_getLast?_ne (c : Char) (s : List Char) (h : s.getLast? ≠ some c) :
    trimEnd c s = s := by
  unfold trimEnd
  rw [dropLeading_of_head_ne c s.reverse (by rw [List.head?_reverse]; exact h),
    List.reverse_reverse]

theorem trimEnd_of_getLast_ne (c d : Char) (t : List Char) (h : d ≠ c) :
    trimEnd c (t ++ [d]) = t ++ [d] :=
  trimEnd_of_getLast?_ne c _ (by simpa using h)

theorem trimEnd_of_not_mem (c : Char) (s : List Char) (h : c ∉ s) : trimEnd c s = s :=
  trimEnd_of_getLast?_ne c s (fun hl => h (List.mem_of_getLast? hl))

theorem trimEnd_append_cons (c d : Char) (a b : List Char) (h : d ≠ c) :
    trimEnd c (a ++ d :: b) = a ++ d :: trimEnd c b := by
  unfold trimEnd
  rw [List.reverse_append, List.reverse_cons, List.append_assoc, List.singleton_append,
    dropLeading_append_cons c d _ _ h, List.reverse_append, List.reverse_cons,
    List.reverse_reverse, List.append_assoc, List.singleton_append]

private theorem getLast?_append_ne_nil (a l : List Char) (h : l ≠ []) :
    (a ++ l).getLast? = l.getLast? := by
  rw [List.getLast?_append]
  cases l with
  | nil => exact absurd rfl h
  | cons x t => rw [List.getLast?_cons]; rfl

theorem mem_of_mem_trimEnd (c : Char) (s : List Char) : ∀ x ∈ trimEnd c s, x ∈ s := by
  intro x hx
  obtain ⟨n, h⟩ := trimEnd_replicate c s
  rw [h]; exact List.mem_append_left _ hx

theorem trimEnd_idem (c : Char) (s : List Char) : trimEnd c (trimEnd c s) = trimEnd c s :=
  let ⟨_, _, h⟩ := trimEnd_spec c s; trimEnd_of_getLast?_ne c _ h

theorem digitsVal_append (a b : List Char) :
    digitsVal (a ++ b) = digitsVal a * 10 ^ b.length + digitsVal b :=
  F64.digitsVal_append a b

theorem digitsVal_replicate_zero (n : Nat) : digitsVal (List.replicate n '0') = 0 :=
  F64.digitsVal_replicate_zero n

theorem digitsVal_append_zero (a : List Char) : digitsVal (a ++ ['0']) = digitsVal a * 10 := by
  rw [digitsVal_append]; rfl

theorem digitsVal_append_zeros (a : List Char) (n : Nat) :
    digitsVal (a ++ List.replicate n '0') = digitsVal a * 10 ^ n :=
  F64.digitsVal_append_zeros a n

theorem decValue_no_dot (ip : List Char) (h : '.' ∉ ip) : decValue ip = (digitsVal ip, 1) := by
  have h1 : ∀ x ∈ ip, x ≠ '.' := fun x hx hxe => h (hxe ▸ hx)
  obtain ⟨ht, hd⟩ := span_ne_append '.' ip [] h1 (Or.inl rfl)
  rw [List.append_nil] at ht hd
  unfold decValue
  simp only [ht, hd, List.drop_nil, List.append_nil, List.length_nil, Nat.pow_zero]

theorem decValue_dot (ip fp : List Char) (h : '.' ∉ ip) :
    decValue (ip ++ '.' :: fp) = (digitsVal (ip ++ fp), 10 ^ fp.length) := by
  have h1 : ∀ x ∈ ip, x ≠ '.' := fun x hx hxe => h (hxe ▸ hx)
  obtain ⟨ht, hd⟩ := span_ne_append '.' ip ('.' :: fp) h1 (Or.inr rfl)
  unfold decValue
  simp only [ht, hd, List.drop_succ_cons, List.drop_zero]

theorem trimFraction_no_dot (s : List Char) (h : '.' ∉ s) : trimFraction s = s := by
  unfold trimFraction
  rw [if_neg (by simpa using h)]

theorem trimFraction_of_dot (s : List Char) (h : '.' ∈ s) :
    trimFraction s = trimEnd '.' (trimEnd '0' s) := by
  unfold trimFraction
  rw [if_pos (by simpa using h)]
  by_cases hl : (trimEnd '0' s).getLast? = some '.'
  · simp only [hl, if_true]
  · simp only [hl, if_false]
    exact (trimEnd_of_getLast?_ne '.' _ hl).symm

theorem trim2_dot (ip fp : List Char) (h1 : '.' ∉ ip) (h2 : '.' ∉ fp) :
    trimEnd '.' (trimEnd '0' (ip ++ '.' :: fp)) =
      if trimEnd '0' fp = [] then ip else ip ++ '.' :: trimEnd '0' fp := by
  rw [trimEnd_append_cons '0' '.' ip fp (by decide)]
  by_cases hfp : trimEnd '0' fp = []
  · rw [hfp, if_pos rfl, trimEnd_append_same, trimEnd_of_not_mem _ _ h1]
  · rw [if_neg hfp]
    apply trimEnd_of_getLast?_ne
    intro hl
    rw [show ip ++ '.' :: trimEnd '0' fp = (ip ++ ['.']) ++ trimEnd '0' fp by simp,
      getLast?_append_ne_nil _ _ hfp] at hl
    exact h2 (mem_of_mem_trimEnd '0' fp _ (List.mem_of_getLast? hl))

theorem trim2_value (ip fp : List Char) (h1 : '.' ∉ ip) (h2 : '.' ∉ fp) :
    ratEq (decValue (trimEnd '.' (trimEnd '0' (ip ++ '.' :: fp)))) (decValue (ip ++ '.' :: fp)) := by
  have key : decValue (trimEnd '.' (trimEnd '0' (ip ++ '.' :: fp))) =
      (digitsVal (ip ++ trimEnd '0' fp), 10 ^ (trimEnd '0' fp).length) := by
    rw [trim2_dot ip fp h1 h2]
    by_cases hfp : trimEnd '0' fp = []
    · rw [if_pos hfp, hfp, decValue_no_dot ip h1]; simp
    · rw [if_neg hfp, decValue_dot _ _ h1]
  rw [key, decValue_dot ip fp h1]
  obtain ⟨n, hn⟩ := trimEnd_replicate '0' fp
  generalize trimEnd '0' fp = fp' at hn
  subst hn
  unfold ratEq
  simp only
  rw [← List.append_assoc, digitsVal_append_zeros, List.length_append, List.length_replicate,
    Nat.pow_add]
  grind

theorem trimFraction_value (ip fp : List Char) (h1 : '.' ∉ ip) (h2 : '.' ∉ fp) :
    ratEq (decValue (trimFraction (ip ++ '.' :: fp))) (decValue (ip ++ '.' :: fp)) := by
  rw [trimFraction_of_dot _ (by simp)]
  exact trim2_value ip fp h1 h2

theorem not_dot_of_isDigit (l : List Char) (h : ∀ c ∈ l, isDigit c = true) : '.' ∉ l :=
  fun hm => absurd (h _ hm) (by decide)

theorem trimFraction_value_digits (ip fp : List Char) (hi : ∀ c ∈ ip, isDigit c = true)
    (hf : ∀ c ∈ fp, isDigit c = true) :
    ratEq (decValue (trimFraction (ip ++ '.' :: fp))) (decValue (ip ++ '.' :: fp)) :=
  trimFraction_value ip fp (not_dot_of_isDigit ip hi) (not_dot_of_isDigit fp hf)

theorem formatMantissa_trims_value_digits (ip fp : List Char) (hi : ∀ c ∈ ip, isDigit c = true)
    (hf : ∀ c ∈ fp, isDigit c = true) :
    ratEq (decValue (trimEnd '.' (trimEnd '0' (ip ++ '.' :: fp)))) (decValue (ip ++ '.' :: fp)) :=
  trim2_value ip fp (not_dot_of_isDigit ip hi) (not_dot_of_isDigit fp hf)

theorem not_comma_of_isDigit (l : List Char) (h : ∀ c ∈ l, isDigit c = true) :
    ∀ c ∈ l, c ≠ ',' :=
  fun c hc he => absurd (h c hc) (by rw [he]; decide)

theorem stripCommas_append (a b : List Char) :
    stripCommas (a ++ b) = stripCommas a ++ stripCommas b := by
  unfold stripCommas; exact List.filter_append ..

theorem stripCommas_of_no_comma (l : List Char) (h : ∀ c ∈ l, c ≠ ',') : stripCommas l = l :=
  List.filter_eq_self.mpr (fun c hc => by simpa using h c hc)

theorem formatIntegerWithSeparators_spec (i : Int) :
    ∃ body, formatIntegerWithSeparators i = (if i < 0 then ['-'] else []) ++ body ∧
      isGrouped body = true ∧
      stripCommas body = (F64.natDigits i.natAbs).toList ∧
      body.head? = (F64.natDigits i.natAbs).toList.head? :=
  ⟨withCommas (F64.natDigits i.natAbs).toList, formatIntegerWithSeparators_eq i,
    withCommas_grouped _ (F64.natDigits_toList_ne_nil _) (F64.natDigits_all_isDigit _),
    withCommas_strip _ (not_comma_of_isDigit _ (F64.natDigits_all_isDigit _)),
    withCommas_head _⟩

theorem formatIntegerWithSeparators_strip (i : Int) :
    stripCommas (formatIntegerWithSeparators i) = intToString i := by
  rw [formatIntegerWithSeparators_eq, stripCommas_append,
    withCommas_strip _ (not_comma_of_isDigit _ (F64.natDigits_all_isDigit _))]
  unfold intToString
  by_cases h : i < 0 <;> simp [h, stripCommas]

theorem addThousandSeparators_strip_unsigned (ip rest : List Char) (h1 : ∀ c ∈ ip, c ≠ '.')
    (h2 : ip.head? ≠ some '-') (h3 : rest = [] ∨ rest.head? = some '.')
    (hi : ∀ c ∈ ip, c ≠ ',') (hr : ∀ c ∈ rest, c ≠ ',') :
    stripCommas (addThousandSeparators (ip ++ rest)) = ip ++ rest := by
  rw [addThousandSeparators_unsigned ip rest h1 h2 h3, stripCommas_append,
    withCommas_strip ip hi, stripCommas_of_no_comma rest hr]

theorem addThousandSeparators_strip_signed (ip rest : List Char) (h1 : ∀ c ∈ ip, c ≠ '.')
    (h3 : rest = [] ∨ rest.head? = some '.')
    (hi : ∀ c ∈ ip, c ≠ ',') (hr : ∀ c ∈ rest, c ≠ ',') :
    stripCommas (addThousandSeparators ('-' :: ip ++ rest)) = '-' :: ip ++ rest := by
  rw [addThousandSeparators_signed ip rest h1 h3]
  rw [show '-' :: (withCommas ip ++ rest) = ['-'] ++ (withCommas ip ++ rest) from rfl,
    stripCommas_append, stripCommas_append, withCommas_strip ip hi,
    stripCommas_of_no_comma rest hr]
  rfl

theorem formatMantissa_value (m : F64) (ip fp : List Char)
    (hs : (F64.toFixed m 14).toList = ip ++ '.' :: fp)
    (hi : ∀ c ∈ ip, isDigit c = true) (hf : ∀ c ∈ fp, isDigit c = true) :
    ratEq (decValue (formatMantissa m)) (decValue (ip ++ '.' :: fp)) := by
  unfold formatMantissa; rw [hs]
  exact formatMantissa_trims_value_digits ip fp hi hf

theorem formatFloatSignificant_value (ops : NumOps) (v : F64) (k : Nat) (ip fp : List Char)
    (hs : (F64.toFixed v (decimalPlaces ops v k)).toList = ip ++ '.' :: fp)
    (hi : ∀ c ∈ ip, isDigit c = true) (hf : ∀ c ∈ fp, isDigit c = true) :
    ratEq (decValue (formatFloatSignificant ops v k)) (decValue (ip ++ '.' :: fp)) := by
  unfold formatFloatSignificant; rw [hs]
  exact trimFraction_value_digits ip fp hi hf

example : withCommas "1234567".toList = "1,234,567".toList := by decide
example : withCommas "123".toList = "123".toList := by decide
example : withCommas "1000".toList = "1,000".toList := by decide
example : groupRev "7654321".toList 0 = interc "7654321".toList := by decide
example : isGrouped "1,234".toList = true := by decide
example : isGrouped "1234".toList = false := by decide
example : isGrouped ",123".toList = false := by decide
example : isGrouped "1,23".toList = false := by decide
example : isGrouped "".toList = false := by decide
-- the hypotheses of `withCommas_strip` / `withCommas_grouped` are met by "1234567"
example : ∀ c ∈ "1234567".toList, c ≠ ',' := by decide
example : ∀ c ∈ "1234567".toList, isDigit c = true := by decide
example : stripCommas (withCommas "1234567".toList) = "1234567".toList :=
  withCommas_strip _ (by decide)
example : isGrouped (withCommas "1234567".toList) = true :=
  withCommas_grouped _ (by decide) (by decide)
-- the digit hypothesis of `withCommas_grouped` is needed: a non-digit is not grouped
example : isGrouped (withCommas "12a4".toList) = false := by decide
example : addThousandSeparators "1234567.25".toList = "1,234,567.25".toList := by decide
example : addThousandSeparators "-1234.5".toList = "-1,234.5".toList := by decide
example : addThousandSeparators "-1234.5".toList = '-' :: (withCommas "1234".toList ++ ".5".toList) :=
  addThousandSeparators_signed "1234".toList ".5".toList (by decide) (by decide)
example : addThousandSeparators "999".toList = "999".toList :=
  addThousandSeparators_unsigned "999".toList [] (by decide) (by decide) (Or.inl rfl)
example : formatIntegerWithSeparators (-1234567) = "-1,234,567".toList := by decide
example : formatIntegerWithSeparators 0 = "0".toList := by decide
example : trimEnd '0' "12.500".toList = "12.5".toList := by decide
example : trimEnd '0' "000".toList = [] := by decide
example : ∃ n, "12.500".toList = trimEnd '0' "12.500".toList ++ List.replicate n '0' :=
  trimEnd_replicate _ _
example : trimFraction "12.500".toList = "12.5".toList := by decide
example : trimFraction "12.000".toList = "12".toList := by decide
example : trimFraction "1200".toList = "1200".toList := by decide
example : trimFraction "0.00012300".toList = "0.000123".toList := by decide
example : decValue "12.500".toList = (12500, 1000) := by decide
example : decValue "12.5".toList = (125, 10) := by decide
example : ratEq (decValue (trimFraction "12.500".toList)) (decValue "12.500".toList) :=
  trimFraction_value_digits "12".toList "500".toList (by decide) (by decide)
example : ratEq (decValue (trimEnd '.' (trimEnd '0' "3.00000000000000".toList)))
    (decValue "3.00000000000000".toList) :=
  formatMantissa_trims_value_digits "3".toList "00000000000000".toList (by decide) (by decide)
-- `ratEq` separates different values
example : ¬ ratEq (decValue "12.5".toList) (decValue "12.05".toList) := by decide

end Blots.Display
