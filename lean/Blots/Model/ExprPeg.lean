import Blots.Model.Ident
import Blots.Model.Pratt
import Blots.Model.NumText
import Blots.Gen.Builtins
/-
  Character-level PEG model of the `expression` rule of `grammar.pest` for a FRAGMENT
  (C10: precedence / layout / redundant parentheses at the level of TEXT).

  The rules followed (texts pinned by the translator, `tools/gen_tables.py` `PINNED_RULES`;
  the alternatives of `infix_op` / `natural_infix_op` and the literal of every operator rule
  are the GENERATED tables `Gen.infixOrder`, `Gen.naturalOrder`, `Gen.grammarLit`):

      WHITESPACE        = _{ " " | "\t" }
      plain_newline     = _{ "\r\n" | "\n" }
      NEWLINE           = _{ inline_comment? ~ plain_newline }
      inline_comment    = _{ "//" ~ (!plain_newline ~ ANY)* }
      infix_usage       = _{ (WHITESPACE | NEWLINE)+ ~ natural_infix_op ~ WHITESPACE+
                           | (WHITESPACE | NEWLINE)* ~ infix_op ~ (WHITESPACE | NEWLINE)* }
      prefix_op         = _{ negation | invert }
      natural_prefix_op = _{ natural_not }
      prefix_usage      = _{ natural_prefix_op ~ WHITESPACE+ | prefix_op }
      postfix_op        = _{ factorial | access | call_list | dot_access }
      access            =  { "[" ~ NEWLINE* ~ expression ~ NEWLINE* ~ "]" }
      dot_access        =  { "." ~ identifier }
      call_list         = !{ "(" ~ NEWLINE* ~ (spreadable_expression ~ ("," ~ NEWLINE* ~
                             spreadable_expression)*)? ~ ("," ~ NEWLINE)? ~ NEWLINE* ~ ")" }
      spread_operator       =  { "..." }
      spread_expression     = ${ spread_operator ~ expression }
      spreadable_expression = _{ spread_expression | expression }
      expression        = ${ prefix_usage* ~ term ~ postfix_op*
                             ~ (infix_usage ~ prefix_usage* ~ term ~ postfix_op*)* }
      nested_expression = _{ "(" ~ (WHITESPACE | NEWLINE)* ~ expression ~ (WHITESPACE | NEWLINE)* ~ ")" }
      term              = _{ conditional | do_block | lambda | assignment | list | record | bool
                           | string | null | input_reference | identifier | number | nested_expression }
      comment           = @{ "//" ~ (!plain_newline ~ ANY)* }           (eol_comment: the same)
      list_item         =  { spreadable_expression ~ (WHITESPACE* ~ eol_comment)? }
      list              = !{ "[]" | "[" ~ (comment ~ (WHITESPACE | plain_newline)+ | WHITESPACE
                             | plain_newline)* ~ (list_item ~ ("," ~ (comment ~ (WHITESPACE |
                             plain_newline)+ | WHITESPACE | plain_newline)* ~ list_item)*)? ~
                             ("," ~ (WHITESPACE | plain_newline)*)? ~ (comment ~ (WHITESPACE |
                             plain_newline)* | WHITESPACE | plain_newline)* ~ "]" }

      conditional       = ${ "if" ~ WHITESPACE+ ~ expression ~ (WHITESPACE | NEWLINE)+ ~ "then" ~
                             (WHITESPACE | NEWLINE)+ ~ expression ~ (WHITESPACE | NEWLINE)+ ~ "else" ~
                             (WHITESPACE | NEWLINE)+ ~ expression }
      lambda            = ${ argument_list ~ WHITESPACE* ~ "=>" ~ (WHITESPACE | NEWLINE)* ~ lambda_expression }
      lambda_expression = ${ prefix_usage* ~ lambda_term ~ postfix_op*
                             ~ (lambda_infix_usage ~ prefix_usage* ~ lambda_term ~ postfix_op*)* }
      lambda_term       = _{ …the alternatives of `term`… }
      lambda_infix_usage = _{ (WHITESPACE | NEWLINE)+ ~ lambda_natural_infix_op ~ WHITESPACE+
                            | (WHITESPACE | NEWLINE)* ~ infix_op ~ (WHITESPACE | NEWLINE)* }
      lambda_natural_infix_op = _{ natural_and | natural_or }
      argument_list     = !{ argument | "(" ~ NEWLINE* ~ (argument ~ ("," ~ NEWLINE* ~ argument)*)?
                             ~ ("," ~ NEWLINE)? ~ NEWLINE* ~ ")" }
      argument          = _{ optional_arg | required_arg | rest_arg }
      required_arg = { identifier }   optional_arg = { identifier ~ "?" }   rest_arg = { "..." ~ identifier }

  ATOMICITY.  `expression` is compound-atomic (`$`): NO implicit whitespace between its parts,
  layout is consumed only where `infix_usage`, `prefix_usage` and `nested_expression` say so.
  `access` and `dot_access` are normal rules: they inherit the atomicity of the `expression`
  they are reached from — inside `[ ]` only `NEWLINE*` (line breaks, with their comments) is
  layout, NOT blanks; nothing around the `.`.  `call_list`, `list`, `record`, `record_pair` and
  `argument_list` are non-atomic (`!`), and so are the normal rules `list_item`, `record_item`,
  `record_key_static`, `record_key_dynamic`, `record_shorthand` reached from them: pest inserts
  `skip` = `WHITESPACE*` between the parts of every sequence and repetition of the rule (and
  of the silent rules `NEWLINE`, `inline_comment` it reaches; the grammar has no `COMMENT`
  rule); inside an argument the `$` rules `expression` / `spread_expression` are atomic again.
  PEG semantics as in `Model/Ident.lean`: ordered choice commits to the first alternative
  that matches, repetitions are greedy and never give characters back; a failed alternative
  restores the position.

      string_value      = @{ (!PEEK ~ ANY)* }
      string            = ${ PUSH("\"" | "'") ~ string_value ~ POP }

      record_key_static  =  { identifier | string }
      record_key_dynamic =  { "[" ~ expression ~ "]" }
      record_key         = _{ record_key_static | record_key_dynamic }
      record_pair        = !{ record_key ~ ":" ~ NEWLINE* ~ expression }
      record_shorthand   =  { identifier }
      record_item        =  { (record_pair | record_shorthand | spread_expression) ~ (WHITESPACE* ~ eol_comment)? }
      record             = !{ "{}" | "{" ~ (comment ~ (WHITESPACE | plain_newline)+ | WHITESPACE
                              | plain_newline)* ~ (record_item ~ ("," ~ (comment ~ (WHITESPACE |
                              plain_newline)+ | WHITESPACE | plain_newline)* ~ record_item)*)? ~
                              ("," ~ (WHITESPACE | plain_newline)*)? ~ (comment ~ (WHITESPACE |
                              plain_newline)* | WHITESPACE | plain_newline)* ~ "}" }

      do_statement     =  { (expression | comment) ~ (WHITESPACE* ~ comment)? }
      return_statement = ${ WHITESPACE* ~ "return" ~ WHITESPACE+ ~ expression }
      do_block         = ${ "do" ~ (WHITESPACE | plain_newline)+ ~ "{" ~ (comment ~ (WHITESPACE |
                            plain_newline)+ | WHITESPACE | plain_newline)* ~ (WHITESPACE* ~
                            do_statement ~ WHITESPACE* ~ (plain_newline+ | ";") ~ (comment ~
                            (WHITESPACE | plain_newline)+ | WHITESPACE | plain_newline)*)* ~
                            (comment ~ (WHITESPACE | plain_newline)* | WHITESPACE | plain_newline)*
                            ~ return_statement ~ (WHITESPACE | plain_newline)* ~ "}" }

  THE FRAGMENT.  Of `term` the alternatives modelled are, in grammar order,
      conditional | do_block | lambda | assignment | list | record | bool | string | null
        | identifier | number | nested_expression
  (`assignment = !{ identifier ~ "=" ~ expression }`, non-atomic) with `number` restricted to the subset ASCII_DIGIT+ of `decimal_number` (no sign, no `_`
  groups, no fraction, no exponent, no `0b` / `0x` form); `postfix_op` completely.
  The model answers what pest answers on every text on which the alternatives left out cannot
  match at any term position it reaches:
    * input_reference needs `#`;
    * a digit run followed by `_`digit, `.`digit, `e`/`E`[sign]digit, or starting `0b` / `0x`,
      or a sign directly in front of a digit where a term is expected (`+1`), is a longer
      `number` for pest.
  The harness compares model and pest only on texts whose real parse (if any) uses the
  fragment's rules (`c10.model.expr-peg`).

  OUTPUT: the flat item sequence pest hands to the Pratt parser, as the harness builds it from
  the real pairs (`fmtcommon.rs::pitems`): operators by rule name, a term converted to its
  tree — for a `nested_expression` by the recursive `pairs_to_expr` call, here `prattParse`
  on the inner items; `access` with its converted index, `call_list` with its converted
  arguments (`...e` ↦ `Spread e`), `dot_access` with the field name.
-/
namespace Blots.ExprPeg
open Blots.Ident

/-- three-valued result: `out` = the fuel ran out (never with the fuel `fuelFor` gives, see
    `Lemmas/ExprPegFuel.lean` `exprR_fuel_suffices`), `fail` = the rule does not match
    (position restored by the caller), `ok` = matched -/
inductive Res (α : Type) where
  | out : Res α
  | fail : Res α
  | ok : α → Res α
  deriving Inhabited

/-! ### layout -/

def isWs (c : Char) : Bool := c == ' ' || c == '\t'

/-- `WHITESPACE = _{ " " | "\t" }` -/
def whitespace : List Char → Option (List Char)
  | [] => none
  | c :: r => if isWs c then some r else none

/-- `plain_newline = _{ "\r\n" | "\n" }` -/
def plainNewline : List Char → Option (List Char) := orElse (lit ['\r', '\n']) (lit ['\n'])

/-- `(!plain_newline ~ ANY)*` : up to (not including) the next line break, or to the end -/
def commentBody : List Char → List Char
  | [] => []
  | c :: r => if (plainNewline (c :: r)).isSome then c :: r else commentBody r

/-- `inline_comment = _{ "//" ~ (!plain_newline ~ ANY)* }` -/
def inlineComment (cs : List Char) : Option (List Char) := (lit ['/', '/'] cs).map commentBody

/-- `NEWLINE = _{ inline_comment? ~ plain_newline }` (the optional comment is committed: a
    comment that runs to the end of input makes NEWLINE fail) -/
def newline (cs : List Char) : Option (List Char) :=
  plainNewline (match inlineComment cs with | some r => r | none => cs)

/-- `WHITESPACE | NEWLINE` -/
def layoutAtom : List Char → Option (List Char) := orElse whitespace newline

/-- `(WHITESPACE | NEWLINE)*` -/
def layoutStar (cs : List Char) : List Char := star layoutAtom (cs.length + 1) cs

/-- `(WHITESPACE | NEWLINE)+` -/
def layoutPlus (cs : List Char) : Option (List Char) := (layoutAtom cs).map layoutStar

/-- `WHITESPACE+` -/
def wsPlus : List Char → Option (List Char) := plus isWs

/-! ### operators -/

/-- literal of an operator rule (`rule = { "lit" }`) -/
def ruleLit (rule : String) : Option (List Char) :=
  (Gen.grammarLit.find? (fun x => x.1 == rule)).map (·.2.toList)

/-- an ordered choice of operator rules with their literals -/
def litTable (rules : List String) : List (String × List Char) :=
  rules.filterMap fun r => (ruleLit r).map fun l => (r, l)

/-- ordered choice over operator rules: the first rule whose literal is a prefix of the
    input wins -/
def firstRule : List (String × List Char) → List Char → Option (String × List Char)
  | [], _ => none
  | (rule, s) :: more, cs =>
    match lit s cs with
    | some r => some (rule, r)
    | none => firstRule more cs

/-- `infix_op` -/
def infixLits : List (String × List Char) := litTable Gen.infixOrder
/-- `natural_infix_op` -/
def naturalLits : List (String × List Char) := litTable Gen.naturalOrder
/-- `prefix_op = _{ negation | invert }` -/
def prefixLits : List (String × List Char) := litTable ["negation", "invert"]
/-- `lambda_natural_infix_op = _{ natural_and | natural_or }` -/
def lamNaturalLits : List (String × List Char) := litTable ["natural_and", "natural_or"]
/-- `natural_prefix_op = _{ natural_not }` -/
def naturalPrefixLits : List (String × List Char) := litTable ["natural_not"]
/-- the literal alternative of `postfix_op`: `factorial` -/
def postfixLits : List (String × List Char) := litTable ["factorial"]

/-- `infix_usage` (`lam = false`) / `lambda_infix_usage` (`lam = true`: the same with
    `lambda_natural_infix_op` — no `via` / `into` / `where` at the top level of a lambda body):
    the matched operator rule and the rest -/
def infixUsage (lam : Bool) (cs : List Char) : Option (String × List Char) :=
  let alt1 : Option (String × List Char) :=
    match layoutPlus cs with
    | some r =>
      (match firstRule (if lam then lamNaturalLits else naturalLits) r with
       | some (rule, r1) => (wsPlus r1).map fun r2 => (rule, r2)
       | none => none)
    | none => none
  match alt1 with
  | some x => some x
  | none =>
    match firstRule infixLits (layoutStar cs) with
    | some (rule, r1) => some (rule, layoutStar r1)
    | none => none

/-- `prefix_usage` -/
def prefixUsage (cs : List Char) : Option (PItem × List Char) :=
  let alt1 : Option (String × List Char) :=
    match firstRule naturalPrefixLits cs with
    | some (rule, r) => (wsPlus r).map fun r1 => (rule, r1)
    | none => none
  match alt1 with
  | some (rule, r) => some (.pre rule, r)
  | none => (firstRule prefixLits cs).map fun x => (.pre x.1, x.2)

/-- greedy `e*` collecting items; `fuel` bounds the iterations -/
def starItems (e : List Char → Option (PItem × List Char)) : Nat → List Char → List PItem × List Char
  | 0, cs => ([], cs)
  | fuel + 1, cs =>
    match e cs with
    | some (it, r) => let p := starItems e fuel r; (it :: p.1, p.2)
    | none => ([], cs)

/-- `prefix_usage*` -/
def prefixStar (cs : List Char) : List PItem × List Char := starItems prefixUsage (cs.length + 1) cs

/-! ### terms -/

/-- `Rule::identifier` in `pairs_to_expr`: a built-in function name becomes `BuiltIn`
    (printed by `name()`), everything else an identifier -/
def nameTerm (w : String) : Expr :=
  match Gen.fromIdent.find? (fun r => r.1 == w) with
  | some r =>
    (match Gen.builtins.find? (fun b => b.1 == r.2) with
     | some b => .builtin b.2.1
     | none => .ident w)
  | none => .ident w

/-- the characters `cs` starts with up to `rest` (a suffix of `cs`) -/
def consumed (cs rest : List Char) : List Char := cs.take (cs.length - rest.length)

/-- `string = ${ PUSH("\"" | "'") ~ string_value ~ POP }`, `string_value = @{ (!PEEK ~ ANY)* }` :
    an opening quote `q` of either kind, then every character up to (not including) the next
    `q` — `(!PEEK ~ ANY)*` is greedy, cannot skip a `q`, and takes ANY other character (line
    breaks, `//`, the other quote: there are no escapes) —, then that `q` (`POP`).
    Result: (content, rest); `none` = the rule fails (no quote here, or no closing quote). -/
def stringRule : List Char → Option (List Char × List Char)
  | [] => none
  | q :: cs =>
    if q == '"' || q == '\'' then
      match cs.dropWhile (· != q) with
      | [] => none
      | _ :: rest => some (cs.takeWhile (· != q), rest)
    else none

/-- the word / literal alternatives of `term`, in grammar order:
    `bool | string | null | identifier | number` (number: ASCII_DIGIT+) with the conversion of
    `pairs_to_expr` (a string literal: its `string_value`, character for character); `none`
    for a conversion error as well -/
def termAtom (cs : List Char) : Option (Expr × List Char) :=
  match boolRule cs with
  | some (b, r) => some (.bool b, r)
  | none =>
    match stringRule cs with
    | some (s, r) => some (.str (String.ofList s), r)
    | none =>
      match nullRule cs with
      | some r => some (.null, r)
      | none =>
        match identifier cs with
        | some r => some (nameTerm (String.ofList (consumed cs r)), r)
        | none =>
          match plus isDigit cs with
          | some r => (NumText.literalValue (String.ofList (consumed cs r))).map fun x => (.num x, r)
          | none => none

/-! ### layout inside `access` and `call_list` -/

/-- the implicit `skip` between the parts of a NON-ATOMIC rule (`!{ … }`): `WHITESPACE*`
    (the grammar defines no `COMMENT` rule) -/
def skipWs (cs : List Char) : List Char := cs.dropWhile isWs

/-- `NEWLINE*` in an atomic context (`access` is a normal rule reached from the compound-atomic
    `expression`, so it is atomic: line breaks, with their comments, but NO blanks) -/
def nlStar (cs : List Char) : List Char := star newline (cs.length + 1) cs

/-- `spread_operator = { "..." }` -/
def spreadLit : List Char := (ruleLit "spread_operator").getD []

/-- `("," ~ skip ~ NEWLINE)?` : a trailing comma counts only when a line break follows it -/
def trailComma (cs : List Char) : List Char :=
  match cs with
  | ',' :: r => (match newline (skipWs r) with | some r' => r' | none => cs)
  | _ => cs

/-- the end of `call_list`, after the last argument (or after `"(" ~ NEWLINE*` when there is
    none):  `("," ~ NEWLINE)? ~ NEWLINE* ~ ")"` with the implicit skips of the non-atomic rule,
        skip ~ ("," ~ skip ~ NEWLINE)? ~ skip ~ (NEWLINE ~ (skip ~ NEWLINE)*)? ~ skip ~ ")".
    Behind a non-blank character the non-atomic NEWLINE (`inline_comment? ~ skip ~
    plain_newline`) is the atomic one, and `skip ~ (NEWLINE ~ (skip ~ NEWLINE)*)? ~ skip`
    consumes exactly what `(WHITESPACE | NEWLINE)*` consumes (`layoutStar`).  A trailing comma
    must be followed by a line break (`f(a, )` is rejected, `f(a,⏎)` is a call). -/
def callClose (cs : List Char) : Option (List Char) :=
  match layoutStar (trailComma (skipWs cs)) with
  | ')' :: r => some r
  | _ => none

/-! ### layout inside `list` -/

/-- `WHITESPACE | plain_newline` -/
def wnAtom : List Char → Option (List Char) := orElse whitespace plainNewline

/-- `(WHITESPACE | plain_newline)*` (with the skips of the non-atomic rule: the same) -/
def wnStar (cs : List Char) : List Char := star wnAtom (cs.length + 1) cs

/-- one step of `(comment ~ (WHITESPACE | plain_newline)+ | WHITESPACE | plain_newline)*`:
    `comment = @{ "//" ~ (!plain_newline ~ ANY)* }` must be followed by a blank or line break
    (the rest of the `+` is consumed by the following steps) -/
def gAtom (cs : List Char) : Option (List Char) :=
  match inlineComment cs with
  | some r => wnAtom r
  | none => wnAtom cs

/-- one step of `(comment ~ (WHITESPACE | plain_newline)* | WHITESPACE | plain_newline)*` -/
def hAtom (cs : List Char) : Option (List Char) :=
  match inlineComment cs with
  | some r => some r
  | none => wnAtom cs

/-- `skip ~ (comment ~ (WHITESPACE | plain_newline)+ | WHITESPACE | plain_newline)* ~ skip` :
    the layout behind `[` and behind a comma of a list — blanks, PLAIN line breaks, and
    comments that are followed by a line break (the comments become `comment` pairs, which the
    conversion without `preserve_comments` drops) -/
def gapG (cs : List Char) : List Char := star gAtom (cs.length + 1) cs

/-- the same in front of `]`, where a comment need not be followed by anything -/
def gapH (cs : List Char) : List Char := star hAtom (cs.length + 1) cs

/-- the end of `list_item = { spreadable_expression ~ (WHITESPACE* ~ eol_comment)? }` inside
    the non-atomic `list`: `skip`, then optionally a comment up to the end of the line -/
def itemTrail (cs : List Char) : List Char :=
  match inlineComment (skipWs cs) with
  | some r => r
  | none => skipWs cs

/-- the end of `list`, after the last item (or after the layout behind `[` when there is
    none):  `("," ~ (WHITESPACE | plain_newline)*)? ~ (comment ~ (WHITESPACE | plain_newline)*
    | WHITESPACE | plain_newline)* ~ "]"` with the implicit skips.  (Unlike `call_list` a
    trailing comma needs no line break.) -/
def listClose (cs : List Char) : Option (List Char) :=
  match gapH (match skipWs cs with | ',' :: r => wnStar r | c1 => c1) with
  | ']' :: r => some r
  | _ => none

/-- the items of a list as `pairs_to_expr` (without `preserve_comments`) builds them -/
def mkItems (es : List Expr) : List Item := es.map fun e => Item.mk [] e none

/-! ### layout inside `record` -/

/-- the end of `record`, after the last item (or after the layout behind `{` when there is
    none): the rule of `list` with `}` -/
def recordClose (cs : List Char) : Option (List Char) :=
  match gapH (match skipWs cs with | ',' :: r => wnStar r | c1 => c1) with
  | '}' :: r => some r
  | _ => none

/-! ### the head of a lambda -/

/-- `argument = _{ optional_arg | required_arg | rest_arg }` inside the non-atomic
    `argument_list` (so `x ?` and `... r` with blanks are arguments too):
      required_arg = { identifier }   optional_arg = { identifier ~ "?" }
      rest_arg     = { "..." ~ identifier } -/
def argumentR (cs : List Char) : Option (LArg × List Char) :=
  match identifier cs with
  | some r =>
    (match skipWs r with
     | '?' :: r' => some (.opt (String.ofList (consumed cs r)), r')
     | _ => some (.req (String.ofList (consumed cs r)), r))
  | none =>
    match lit spreadLit cs with
    | some r =>
      (match identifier (skipWs r) with
       | some r' => some (.rest (String.ofList (consumed (skipWs r) r')), r')
       | none => none)
    | none => none

/-- `("," ~ NEWLINE* ~ argument)*` with the skips of the non-atomic rule; an iteration that
    fails gives its comma back -/
def argumentsTail : Nat → List Char → List LArg × List Char
  | 0, cs => ([], cs)
  | fuel + 1, cs =>
    match skipWs cs with
    | ',' :: r =>
      (match argumentR (layoutStar r) with
       | some (a, r1) => let p := argumentsTail fuel r1; (a :: p.1, p.2)
       | none => ([], cs))
    | _ => ([], cs)

/-- the arguments behind the first one, and the end of the list -/
def argumentTailClose (a : LArg) (r2 : List Char) : Option (List LArg × List Char) :=
  (callClose (argumentsTail (r2.length + 1) r2).2).map fun r4 =>
    (a :: (argumentsTail (r2.length + 1) r2).1, r4)

/-- the parenthesised alternative of `argument_list`, behind its `(` -/
def argumentListParen (r1 : List Char) : Option (List LArg × List Char) :=
  match argumentR (layoutStar r1) with
  | some (a, r2) => argumentTailClose a r2
  | none => (callClose (layoutStar r1)).map fun r4 => ([], r4)

/-- `argument_list = !{ argument | "(" ~ NEWLINE* ~ (argument ~ ("," ~ NEWLINE* ~ argument)*)?
    ~ ("," ~ NEWLINE)? ~ NEWLINE* ~ ")" }` : the same layout rules as `call_list` -/
def argumentList (cs : List Char) : Option (List LArg × List Char) :=
  match argumentR cs with
  | some (a, r) => some ([a], r)
  | none =>
    match cs with
    | '(' :: r1 => argumentListParen r1
    | _ => none

/-- the part of `lambda = ${ argument_list ~ WHITESPACE* ~ "=>" ~ (WHITESPACE | NEWLINE)* ~
    lambda_expression }` in front of the body: the arguments and where the body starts -/
def lambdaHead (cs : List Char) : Option (List LArg × List Char) :=
  match argumentList cs with
  | some (args, r) => (lit ['=', '>'] (skipWs r)).map fun r' => (args, layoutStar r')
  | none => none

/-! ### the keywords of a conditional -/

/-- `"if" ~ WHITESPACE+` -/
def ifHead (cs : List Char) : Option (List Char) :=
  match lit ['i', 'f'] cs with
  | some r => wsPlus r
  | none => none

/-- `(WHITESPACE | NEWLINE)+ ~ kw ~ (WHITESPACE | NEWLINE)+` for `kw` = `then` / `else` -/
def kwGap (kw : List Char) (cs : List Char) : Option (List Char) :=
  match layoutPlus cs with
  | some r =>
    (match lit kw r with
     | some r' => layoutPlus r'
     | none => none)
  | none => none

def thenLit : List Char := ['t', 'h', 'e', 'n']
def elseLit : List Char := ['e', 'l', 's', 'e']

/-! ### the fixed parts of a do-block -/

/-- `(WHITESPACE | plain_newline)+` -/
def wnPlus (cs : List Char) : Option (List Char) := (wnAtom cs).map wnStar

/-- `"do" ~ (WHITESPACE | plain_newline)+ ~ "{" ~ (comment ~ (WHITESPACE | plain_newline)+ |
    WHITESPACE | plain_newline)*` : where the statements start -/
def doHead (cs : List Char) : Option (List Char) :=
  match lit ['d', 'o'] cs with
  | some r =>
    (match wnPlus r with
     | some ('{' :: r') => some (gapG r')
     | _ => none)
  | none => none

/-- `plain_newline+ | ";"` : what separates the statements -/
def stmtSep (cs : List Char) : Option (List Char) :=
  match plainNewline cs with
  | some r => some (star plainNewline (r.length + 1) r)
  | none =>
    match cs with
    | ';' :: r => some r
    | _ => none

/-- the start of `return_statement = ${ WHITESPACE* ~ "return" ~ WHITESPACE+ ~ expression }` -/
def retHead (cs : List Char) : Option (List Char) :=
  match lit ['r', 'e', 't', 'u', 'r', 'n'] (skipWs cs) with
  | some r => wsPlus r
  | none => none

/-- the start of `assignment = !{ identifier ~ "=" ~ expression }` (non-atomic: `skip` between
    its parts): the name and where the expression starts -/
def asgHead (cs : List Char) : Option (String × List Char) :=
  match identifier cs with
  | some r =>
    (match skipWs r with
     | '=' :: r' => some (String.ofList (consumed cs r), skipWs r')
     | _ => none)
  | none => none

/-- a statement of a do-block that is an expression becomes an item without comments (the
    conversion without `preserve_comments`); a comment statement is dropped -/
def consStmt (oe : Option Expr) (more : List Item) : List Item :=
  match oe with
  | some e => Item.mk [] e none :: more
  | none => more

/-! ### expression -/

mutual
/-- `expression` (`lam = false`) / `lambda_expression` (`lam = true`) : items and rest -/
def exprR (lam : Bool) : Nat → List Char → Res (List PItem × List Char)
  | 0, _ => .out
  | fuel + 1, cs =>
    match operandR lam fuel cs with
    | .ok (its, r) =>
      (match tailR lam fuel r with
       | .ok (more, r') => .ok (its ++ more, r')
       | .fail => .fail
       | .out => .out)
    | .fail => .fail
    | .out => .out
/-- `(infix_usage ~ prefix_usage* ~ term ~ postfix_op*)*` : never fails; an iteration that
    fails after its `infix_usage` gives the operator back -/
def tailR (lam : Bool) : Nat → List Char → Res (List PItem × List Char)
  | 0, _ => .out
  | fuel + 1, cs =>
    match infixUsage lam cs with
    | none => .ok ([], cs)
    | some (rule, r) =>
      match operandR lam fuel r with
      | .ok (its, r') =>
        (match tailR lam fuel r' with
         | .ok (more, r'') => .ok (.inf rule :: (its ++ more), r'')
         | .fail => .fail
         | .out => .out)
      | .fail => .ok ([], cs)
      | .out => .out
/-- `prefix_usage* ~ term ~ postfix_op*` (`lambda_term` has the alternatives of `term`, so the
    flag is not used) -/
def operandR (_lam : Bool) : Nat → List Char → Res (List PItem × List Char)
  | 0, _ => .out
  | fuel + 1, cs =>
    match termR fuel (prefixStar cs).2 with
    | .ok (e, r1) =>
      (match postR fuel r1 with
       | .ok (post, r2) => .ok ((prefixStar cs).1 ++ .prim e :: post, r2)
       | .fail => .fail
       | .out => .out)
    | .fail => .fail
    | .out => .out
/-- `term` (fragment): `conditional` first, then `do_block`, then `lambda`, then `assignment` —
    when one of them does not match, the following alternatives are tried at the same position -/
def termR : Nat → List Char → Res (Expr × List Char)
  | 0, _ => .out
  | fuel + 1, cs =>
    match condR fuel cs with
    | .ok x => .ok x
    | .fail =>
      (match doR fuel cs with
       | .ok x => .ok x
       | .fail =>
         (match lamR fuel cs with
          | .ok x => .ok x
          | .fail =>
            (match asgR fuel cs with
             | .ok x => .ok x
             | .fail => term2R fuel cs
             | .out => .out)
          | .out => .out)
       | .out => .out)
    | .out => .out
/-- `do_block` (compound-atomic: every blank and line break is spelled out by the rule): the
    head, the statements, `(comment ~ (WHITESPACE | plain_newline)* | WHITESPACE |
    plain_newline)*`, the `return` statement, `(WHITESPACE | plain_newline)*`, `}` -/
def doR : Nat → List Char → Res (Expr × List Char)
  | 0, _ => .out
  | fuel + 1, cs =>
    match doHead cs with
    | some r1 =>
      (match doStmtsR fuel r1 with
       | .ok (stmts, r2) =>
         (match retHead (gapH r2) with
          | some r3 =>
            (match exprR false fuel r3 with
             | .ok (its, r4) =>
               (match wnStar r4 with
                | '}' :: r5 =>
                  (match prattParse its with
                   | some e => .ok (.doBlock stmts (.mk [] e none), r5)
                   | none => .fail)
                | _ => .fail)
             | .fail => .fail
             | .out => .out)
          | none => .fail)
       | .fail => .fail
       | .out => .out)
    | none => .fail
/-- `(WHITESPACE* ~ do_statement ~ WHITESPACE* ~ (plain_newline+ | ";") ~ (comment ~ (WHITESPACE
    | plain_newline)+ | WHITESPACE | plain_newline)*)*` : never fails; an iteration that fails —
    no statement here (e.g. at `return`), or no separator behind it — gives everything back -/
def doStmtsR : Nat → List Char → Res (List Item × List Char)
  | 0, _ => .out
  | fuel + 1, cs =>
    match doStmtR fuel (skipWs cs) with
    | .ok (oe, r1) =>
      (match stmtSep (skipWs r1) with
       | some r2 =>
         (match doStmtsR fuel (gapG r2) with
          | .ok (more, r3) => .ok (consStmt oe more, r3)
          | .fail => .fail
          | .out => .out)
       | none => .ok ([], cs))
    | .fail => .ok ([], cs)
    | .out => .out
/-- `do_statement = { (expression | comment) ~ (WHITESPACE* ~ comment)? }` (atomic here): the
    converted expression (`none` for a comment) and the rest behind the optional trailing
    comment; the blanks in front of a missing comment are skipped by the caller anyway -/
def doStmtR : Nat → List Char → Res (Option Expr × List Char)
  | 0, _ => .out
  | fuel + 1, cs =>
    match exprR false fuel cs with
    | .ok (its, r) =>
      (match prattParse its with
       | some e => .ok (some e, itemTrail r)
       | none => .fail)
    | .fail =>
      (match inlineComment cs with
       | some r => .ok (none, itemTrail r)
       | none => .fail)
    | .out => .out
/-- `conditional = ${ "if" ~ WHITESPACE+ ~ expression ~ (WHITESPACE | NEWLINE)+ ~ "then" ~
    (WHITESPACE | NEWLINE)+ ~ expression ~ (WHITESPACE | NEWLINE)+ ~ "else" ~ (WHITESPACE |
    NEWLINE)+ ~ expression }` : the three parts are `expression`s (also inside a lambda body) -/
def condR : Nat → List Char → Res (Expr × List Char)
  | 0, _ => .out
  | fuel + 1, cs =>
    match ifHead cs with
    | some r1 =>
      (match exprR false fuel r1 with
       | .ok (its1, r2) =>
         (match kwGap thenLit r2 with
          | some r3 =>
            (match exprR false fuel r3 with
             | .ok (its2, r4) =>
               (match kwGap elseLit r4 with
                | some r5 =>
                  (match exprR false fuel r5 with
                   | .ok (its3, r6) =>
                     (match prattParse its1, prattParse its2, prattParse its3 with
                      | some c, some t, some e => .ok (.cond c t e, r6)
                      | _, _, _ => .fail)
                   | .fail => .fail
                   | .out => .out)
                | none => .fail)
             | .fail => .fail
             | .out => .out)
          | none => .fail)
       | .fail => .fail
       | .out => .out)
    | none => .fail
/-- `lambda` -/
def lamR : Nat → List Char → Res (Expr × List Char)
  | 0, _ => .out
  | fuel + 1, cs =>
    match lambdaHead cs with
    | some (args, r) =>
      (match exprR true fuel r with
       | .ok (its, r') =>
         (match prattParse its with
          | some e => .ok (.lambda args e, r')
          | none => .fail)
       | .fail => .fail
       | .out => .out)
    | none => .fail
/-- `assignment = !{ identifier ~ "=" ~ expression }` : the value is an `expression` (also inside
    a lambda body) -/
def asgR : Nat → List Char → Res (Expr × List Char)
  | 0, _ => .out
  | fuel + 1, cs =>
    match asgHead cs with
    | some (n, r) =>
      (match exprR false fuel r with
       | .ok (its, r') =>
         (match prattParse its with
          | some e => .ok (.assign n e, r')
          | none => .fail)
       | .fail => .fail
       | .out => .out)
    | none => .fail
/-- the alternatives of `term` behind `assignment`: `list`, `record`, the word / literal alternatives,
    `nested_expression`, converted as `pairs_to_expr` does (a nested expression by the Pratt
    parser on its items) -/
def term2R : Nat → List Char → Res (Expr × List Char)
  | 0, _ => .out
  | fuel + 1, cs =>
    match termAtom cs with
    | some (e, r) => .ok (e, r)
    | none =>
      match cs with
      | '(' :: r1 =>
        (match exprR false fuel (layoutStar r1) with
         | .ok (its, r2) =>
           (match layoutStar r2 with
            | ')' :: r3 =>
              (match prattParse its with
               | some e => .ok (e, r3)
               | none => .fail)
            | _ => .fail)
         | .fail => .fail
         | .out => .out)
      -- list = !{ "[]" | "[" ~ … ~ "]" } : the first alternative is subsumed by the second
      | '[' :: r1 =>
        (match argR true fuel (gapG r1) with
         | .ok (a, r2) =>
           (match argsTailR true fuel r2 with
            | .ok (more, r3) =>
              (match listClose r3 with
               | some r4 => .ok (.list (mkItems (a :: more)), r4)
               | none => .fail)
            | .fail => .fail
            | .out => .out)
         | .fail =>
           (match listClose (gapG r1) with
            | some r4 => .ok (.list [], r4)
            | none => .fail)
         | .out => .out)
      -- record = !{ "{}" | "{" ~ … ~ "}" } : the first alternative is subsumed by the second
      | '{' :: r1 =>
        (match recItemR fuel (gapG r1) with
         | .ok (e, r2) =>
           (match recTailR fuel r2 with
            | .ok (more, r3) =>
              (match recordClose r3 with
               | some r4 => .ok (.record (e :: more), r4)
               | none => .fail)
            | .fail => .fail
            | .out => .out)
         | .fail =>
           (match recordClose (gapG r1) with
            | some r4 => .ok (.record [], r4)
            | none => .fail)
         | .out => .out)
      | _ => .fail
/-- `record_key = _{ record_key_static | record_key_dynamic }` inside the non-atomic
    `record_pair`:  `record_key_static = { identifier | string }` (the key is the word / the
    `string_value`),  `record_key_dynamic = { "[" ~ expression ~ "]" }` with the implicit skips:
    blanks (no line breaks) between the brackets and the expression -/
def recKeyR : Nat → List Char → Res (Key × List Char)
  | 0, _ => .out
  | fuel + 1, cs =>
    match identifier cs with
    | some r => .ok (.static (String.ofList (consumed cs r)), r)
    | none =>
      match stringRule cs with
      | some (s, r) => .ok (.static (String.ofList s), r)
      | none =>
        match cs with
        | '[' :: r1 =>
          (match exprR false fuel (skipWs r1) with
           | .ok (its, r2) =>
             (match skipWs r2 with
              | ']' :: r3 =>
                (match prattParse its with
                 | some e => .ok (.dyn e, r3)
                 | none => .fail)
              | _ => .fail)
           | .fail => .fail
           | .out => .out)
        | _ => .fail
/-- `record_pair = !{ record_key ~ ":" ~ NEWLINE* ~ expression }` : `skip` in front of the
    colon; behind it `skip ~ NEWLINE* ~ skip` = `(WHITESPACE | NEWLINE)*` -/
def recPairR : Nat → List Char → Res (Entry × List Char)
  | 0, _ => .out
  | fuel + 1, cs =>
    match recKeyR fuel cs with
    | .ok (k, r1) =>
      (match skipWs r1 with
       | ':' :: r2 =>
         (match exprR false fuel (layoutStar r2) with
          | .ok (its, r3) =>
            (match prattParse its with
             | some v => .ok (.mk [] k v none, r3)
             | none => .fail)
          | .fail => .fail
          | .out => .out)
       | _ => .fail)
    | .fail => .fail
    | .out => .out
/-- `record_item = { (record_pair | record_shorthand | spread_expression) ~ (WHITESPACE* ~
    eol_comment)? }` converted as `parse_record_entry` does (without `preserve_comments`): when
    `record_pair` does not match, the other alternatives are tried at the same position; a
    shorthand and a spread entry carry the value `null`; the key of a spread entry is the
    converted `spread_expression`, i.e. the prefix `...` applied to the expression -/
def recItemR : Nat → List Char → Res (Entry × List Char)
  | 0, _ => .out
  | fuel + 1, cs =>
    match recPairR fuel cs with
    | .ok (e, r) => .ok (e, itemTrail r)
    | .out => .out
    | .fail =>
      match identifier cs with
      | some r => .ok (.mk [] (.short (String.ofList (consumed cs r))) .null none, itemTrail r)
      | none =>
        match lit spreadLit cs with
        | some r1 =>
          (match exprR false fuel r1 with
           | .ok (its, r2) =>
             (match prattParse its with
              | some e => .ok (.mk [] (.spread (.spread e)) .null none, itemTrail r2)
              | none => .fail)
           | .fail => .fail
           | .out => .out)
        | none => .fail
/-- `("," ~ (comment ~ (WHITESPACE | plain_newline)+ | WHITESPACE | plain_newline)* ~
    record_item)*` : as for `list`; never fails, an iteration that fails gives its comma back -/
def recTailR : Nat → List Char → Res (List Entry × List Char)
  | 0, _ => .out
  | fuel + 1, cs =>
    match skipWs cs with
    | ',' :: r =>
      (match recItemR fuel (gapG r) with
       | .ok (e, r1) =>
         (match recTailR fuel r1 with
          | .ok (more, r2) => .ok (e :: more, r2)
          | .fail => .fail
          | .out => .out)
       | .fail => .ok ([], cs)
       | .out => .out)
    | _ => .ok ([], cs)
/-- `postfix_op*` : never fails -/
def postR : Nat → List Char → Res (List PItem × List Char)
  | 0, _ => .out
  | fuel + 1, cs =>
    match postOpR fuel cs with
    | .ok (it, r) =>
      (match postR fuel r with
       | .ok (more, r') => .ok (it :: more, r')
       | .fail => .fail
       | .out => .out)
    | .fail => .ok ([], cs)
    | .out => .out
/-- `postfix_op = _{ factorial | access | call_list | dot_access }` with the payload converted
    as `fmtcommon.rs::pitems` does:
      access     =  { "[" ~ NEWLINE* ~ expression ~ NEWLINE* ~ "]" }            (atomic here)
      call_list  = !{ "(" ~ NEWLINE* ~ (spreadable_expression ~ ("," ~ NEWLINE* ~
                       spreadable_expression)*)? ~ ("," ~ NEWLINE)? ~ NEWLINE* ~ ")" }
      dot_access =  { "." ~ identifier }                                         (atomic here) -/
def postOpR : Nat → List Char → Res (PItem × List Char)
  | 0, _ => .out
  | fuel + 1, cs =>
    match firstRule postfixLits cs with
    | some (_, r) => .ok (.postFact, r)
    | none =>
      match cs with
      | '[' :: r1 =>
        (match exprR false fuel (nlStar r1) with
         | .ok (its, r2) =>
           (match nlStar r2 with
            | ']' :: r3 =>
              (match prattParse its with
               | some e => .ok (.postAccess e, r3)
               | none => .fail)
            | _ => .fail)
         | .fail => .fail
         | .out => .out)
      | '(' :: r1 =>
        (match argR false fuel (layoutStar r1) with
         | .ok (a, r2) =>
           (match argsTailR false fuel r2 with
            | .ok (more, r3) =>
              (match callClose r3 with
               | some r4 => .ok (.postCall (a :: more), r4)
               | none => .fail)
            | .fail => .fail
            | .out => .out)
         | .fail =>
           (match callClose (layoutStar r1) with
            | some r4 => .ok (.postCall [], r4)
            | none => .fail)
         | .out => .out)
      | '.' :: r1 =>
        (match identifier r1 with
         | some r2 => .ok (.postDot (String.ofList (consumed r1 r2)), r2)
         | none => .fail)
      | _ => .fail
/-- `spreadable_expression = _{ spread_expression | expression }`,
    `spread_expression = ${ spread_operator ~ expression }`, converted: `...e` is the prefix
    `spread_operator` applied to the converted expression.  (When `...` is not followed by an
    expression the second alternative is tried at the `...`, where no expression starts.)
    With `lst` this is `list_item`: the blanks and the `eol_comment` behind the expression
    belong to the item. -/
def argR (lst : Bool) : Nat → List Char → Res (Expr × List Char)
  | 0, _ => .out
  | fuel + 1, cs =>
    match lit spreadLit cs with
    | some r1 =>
      (match exprR false fuel r1 with
       | .ok (its, r2) =>
         (match prattParse its with
          | some e => .ok (.spread e, if lst then itemTrail r2 else r2)
          | none => .fail)
       | .fail => .fail
       | .out => .out)
    | none =>
      (match exprR false fuel cs with
       | .ok (its, r2) =>
         (match prattParse its with
          | some e => .ok (e, if lst then itemTrail r2 else r2)
          | none => .fail)
       | .fail => .fail
       | .out => .out)
/-- `("," ~ NEWLINE* ~ spreadable_expression)*` of `call_list` (`lst = false`) and
    `("," ~ (comment ~ (WHITESPACE | plain_newline)+ | WHITESPACE | plain_newline)* ~
    list_item)*` of `list` (`lst = true`), both non-atomic: `skip` in front of every iteration
    and after the comma; in front of an argument `skip ~ NEWLINE* ~ skip` = `(WHITESPACE |
    NEWLINE)*`, in front of a list item `gapG`; never fails, an iteration that fails gives its
    comma back -/
def argsTailR (lst : Bool) : Nat → List Char → Res (List Expr × List Char)
  | 0, _ => .out
  | fuel + 1, cs =>
    match skipWs cs with
    | ',' :: r =>
      (match argR lst fuel (if lst then gapG r else layoutStar r) with
       | .ok (a, r1) =>
         (match argsTailR lst fuel r1 with
          | .ok (more, r2) => .ok (a :: more, r2)
          | .fail => .fail
          | .out => .out)
       | .fail => .ok ([], cs)
       | .out => .out)
    | _ => .ok ([], cs)
end

/-- fuel that always suffices (`exprR_fuel_suffices`, `fuel_suffices` in Lemmas/ExprPegFuel.lean) -/
def fuelFor (cs : List Char) : Nat := 8 * cs.length + 8

/-- the `expression` rule at the start of `cs`: the item sequence and the unconsumed rest;
    `none` = no match (or fuel ran out) -/
def exprItems (fuel : Nat) (cs : List Char) : Option (List PItem × List Char) :=
  match exprR false fuel cs with
  | .ok x => some x
  | _ => none

/-- a whole text as ONE expression of the fragment, converted by the Pratt parser -/
def parseText (s : String) : Option Expr :=
  match exprItems (fuelFor s.toList) s.toList with
  | some (its, []) => prattParse its
  | _ => none

end Blots.ExprPeg
