import Blots.Model.Print
/-
  `formatter.rs`: width-driven layout.  `fmtImplP w indent e` is `format_expr_impl`, as a
  list of pieces (text / comment) whose `render` is the Rust string; `fmtImpl` = its rendering.
  All functions are total (structural recursion).  Lengths are byte lengths (`str::len`), as
  in the Rust code.  Theorems: `Lemmas/FormatLemmas.lean` (single-line path),
  `Lemmas/FormatPieces.lean` (comment preservation of every layout), `Lemmas/FormatSquash*.lean`
  (the layouts change only layout), `Lemmas/FormatFragment.lean` (the formatted text as a
  re-layout of the printed text, character level), `Props/C07–C09`.
-/
namespace Blots

def INDENT_SIZE : Nat := 2
def DEFAULT_MAX_COLUMNS : Nat := 80

def makeIndent (n : Nat) : String := String.ofList (List.replicate n ' ')

def blen (s : String) : Nat := s.utf8ByteSize

def hasNewline (s : String) : Bool := s.toList.contains '\n'

/-- the first line of `str::lines()` on characters: up to the first `'\n'`, without the
    `'\r'` in front of it -/
def firstLineL : List Char → List Char
  | [] => []
  | c :: t =>
    if c == '\n' then []
    else if c == '\r' && t.head? == some '\n' then []
    else c :: firstLineL t

/-- `s.lines().next().unwrap_or(s)` : text before the first line break (a `\r` in front of
    that line break is stripped by `lines()`); for the empty string `lines()` yields nothing -/
def firstLine (s : String) : String := String.ofList (firstLineL s.toList)

def lambdaArgsPart (args : List LArg) : String :=
  match args with
  | [.req n] => n
  | _ => "(" ++ ", ".intercalate (args.map lambdaArgToSource) ++ ")"

mutual
/-- `contains_comments` -/
def containsComments : Expr → Bool
  | .list items => itemsHaveComments items
  | .record es => entriesHaveComments es
  | .lambda _ b => containsComments b
  | .cond c t e => containsComments c || containsComments t || containsComments e
  | .doBlock ss r => stmtsContainComments ss || itemContainsComments r
  | .assign _ v => containsComments v
  | .output e => containsComments e
  | .call f as => containsComments f || exprsContainComments as
  | .access e i => containsComments e || containsComments i
  | .dot e _ => containsComments e
  | .bin _ l r => containsComments l || containsComments r
  | .un _ e => containsComments e
  | .fact e => containsComments e
  | .spread e => containsComments e
  | _ => false
def exprsContainComments : List Expr → Bool
  | [] => false
  | e :: es => containsComments e || exprsContainComments es
def itemHasOrContains : Item → Bool
  | .mk l e t => !l.isEmpty || t.isSome || containsComments e
def itemsHaveComments : List Item → Bool
  | [] => false
  | i :: is => itemHasOrContains i || itemsHaveComments is
def itemContainsComments : Item → Bool
  | .mk _ e _ => containsComments e
def stmtsContainComments : List Item → Bool
  | [] => false
  | i :: is => itemContainsComments i || stmtsContainComments is
def entryHasOrContains : Entry → Bool
  | .mk l k v t => !l.isEmpty || t.isSome || keyContains k (containsComments v)
def entriesHaveComments : List Entry → Bool
  | [] => false
  | e :: es => entryHasOrContains e || entriesHaveComments es
def keyContains : Key → Bool → Bool
  | .static _, vc => vc
  | .dyn k, vc => containsComments k || vc
  | .short _, _ => false
  | .spread e, _ => containsComments e
end

mutual
/-- `format_single_line` -/
def fmtSingle : Expr → String
  | .assign n v => n ++ " = " ++ fmtSingle v
  | .output e => "output " ++ fmtSingle e
  | .lambda args body =>
    let b := fmtSingle body
    if lambdaBodyNeedsParens body then lambdaArgsPart args ++ " => (" ++ b ++ ")"
    else lambdaArgsPart args ++ " => " ++ b
  | .call f args =>
    parenIf (needsParens f .postfix_) (fmtSingle f) ++ "(" ++ ", ".intercalate (fmtSingleList args) ++ ")"
  | .list items =>
    if items.any Item.hasComments then "[\n]"
    else "[" ++ ", ".intercalate (fmtSingleItems items) ++ "]"
  | .record es =>
    if es.any Entry.hasComments then "{\n}"
    else "{" ++ ", ".intercalate (fmtSingleEntries es) ++ "}"
  | e => if containsComments e then "\n" else exprToSource e
def fmtSingleList : List Expr → List String
  | [] => []
  | e :: es => fmtSingle e :: fmtSingleList es
def fmtSingleItem : Item → String
  | .mk _ e _ => fmtSingle e
def fmtSingleItems : List Item → List String
  | [] => []
  | i :: is => fmtSingleItem i :: fmtSingleItems is
def fmtSingleEntry : Entry → String
  | .mk _ k v _ => fmtSingleKeyed k (fmtSingle v)
def fmtSingleEntries : List Entry → List String
  | [] => []
  | e :: es => fmtSingleEntry e :: fmtSingleEntries es
def fmtSingleKeyed : Key → String → String
  | .static k, vs => formatRecordKey k ++ ": " ++ vs
  | .dyn ke, vs => "[" ++ fmtSingle ke ++ "]: " ++ vs
  | .short n, _ => n
  | .spread e, _ => fmtSingle e
end

/-! ### pieces

  The layout functions produce a list of PIECES instead of a string, so that the comments
  copied from the tree stay identifiable in the output: `render` concatenates the pieces and
  is the text `formatter.rs` returns.  A comment piece is the text of a comment of the tree,
  unchanged: no function of `formatter.rs` rewrites text it has already formatted (until
  repo commit 6027914 `format_binary_op_multiline` did, through `lines()` / `join("\n")`). -/

inductive Piece where
  | text (s : String)
  | comment (s : String)
  deriving Repr, DecidableEq, Inhabited

def Piece.shown : Piece → String
  | .text s => s
  | .comment s => s

/-- the formatter's output text -/
def render (ps : List Piece) : String := String.join (ps.map Piece.shown)

/-- the comments in the output, in output order -/
def commentPieces (ps : List Piece) : List String :=
  ps.filterMap fun | .comment s => some s | .text _ => none

/-- leading comments, each on its own line (`for comment in &item.leading { … }`) -/
def leadP (indentStr : String) : List String → List Piece
  | [] => []
  | c :: cs => .text ("\n" ++ indentStr) :: .comment c :: leadP indentStr cs

/-- trailing comment on the line of its item -/
def trailP : Option String → List Piece
  | some t => [.text "  ", .comment t]
  | none => []

def parenP (b : Bool) (ps : List Piece) : List Piece :=
  if b then .text "(" :: (ps ++ [.text ")"]) else ps

/-- `protect_statement_start` on pieces -/
def protectP (ps : List Piece) : List Piece :=
  if protectDecide (render ps).toList then .text "(" :: (ps ++ [.text ")"]) else ps

/-! #### the layouts

  In `formatter.rs` the layout functions call each other on the *same* node
  (`format_expr_impl` → `format_multiline` → `format_conditional_multiline` → …) before they
  descend.  Here `fmtImplP` does the whole dispatch for one node, so that every recursive
  call is on a child and the definition is structural (total, no fuel); the per-kind layouts
  are the non-recursive `…Layout` functions, which get the formatted children as arguments —
  as thunks where `formatter.rs` formats a child only on one branch.  `fmtMultiP`,
  `fmtLambdaP`, `fmtCondP`, `fmtBinP` below restate the functions of `formatter.rs` one by
  one, and `fmtImplP_eq` says `fmtImplP` is `format_expr_impl` over them. -/

/-- tail of `format_expr_impl`: the single-line text if it is one line and fits -/
def orSingle (w indent : Nat) (e : Expr) (multi : Unit → List Piece) : List Piece :=
  let single := fmtSingle e
  if !hasNewline single && indent + blen (firstLine single) ≤ w then [.text single]
  else multi ()

/-- `format_lambda`; `b` = body at `indent`, `bIn` = body one level deeper -/
def lambdaLayout (w indent : Nat) (args : List LArg) (body : Expr) (b : List Piece)
    (bIn : Unit → List Piece) : List Piece :=
  let argsPart := lambdaArgsPart args ++ " =>"
  if lambdaBodyNeedsParens body then .text (argsPart ++ " (") :: (b ++ [.text ")"])
  else
    match body with
    | .doBlock _ _ => .text (argsPart ++ " ") :: b
    | _ =>
      let single := argsPart ++ " " ++ render b
      if !hasNewline single && indent + blen single ≤ w then .text (argsPart ++ " ") :: b
      else .text (argsPart ++ "\n" ++ makeIndent (indent + INDENT_SIZE)) :: bIn ()

/-- the `else` part of a conditional: `chain` = the layout of the else-expression when it is
    itself a conditional (`else if …` stays flat), `plain` = the else-expression one level
    deeper -/
def elseLayout (indent : Nat) (chain : Option (List Piece)) (plain : Unit → List Piece) :
    List Piece :=
  match chain with
  | some ps => .text "else " :: ps
  | none => .text ("else\n" ++ makeIndent (indent + INDENT_SIZE)) :: plain ()

/-- `format_conditional_multiline`; `cP` = condition at `indent`, `cIn` = condition one level
    deeper, `tIn` = then-expression one level deeper, `elseP` = `elseLayout …` -/
def condLayout (w indent : Nat) (cP : List Piece) (cIn : Unit → List Piece) (tIn : List Piece)
    (elseP : List Piece) : List Piece :=
  let inner := indent + INDENT_SIZE
  let ifThen := "if " ++ render cP ++ " then"
  if indent + blen ifThen ≤ w then
    .text "if " :: (cP ++ .text (" then\n" ++ makeIndent inner) ::
      (tIn ++ .text ("\n" ++ makeIndent indent) :: elseP))
  else
    .text "if " :: (cIn () ++ .text ("\n" ++ makeIndent indent ++ "then\n" ++ makeIndent inner) ::
      (tIn ++ .text ("\n" ++ makeIndent indent) :: elseP))

def isLambda : Expr → Bool
  | .lambda _ _ => true
  | _ => false

/-- `format_binary_op_multiline`; `lP` = left operand at `indent`, `rSame` = right operand at
    `indent`, `rIn` = right operand one level deeper -/
def binLayout (w indent : Nat) (op : BinOp) (l r : Expr) (lP : List Piece)
    (rSame rIn : Unit → List Piece) : List Piece :=
  let opStr := fmtSpelling op
  let rp := needsParens r (.binRight op)
  let lsP := parenP (needsParens l (.binLeft op)) lP
  let isChain := op == .via || op == .into || op == .where_
  if isChain && isLambda r then
    let rsP := parenP rp (rSame ())
    let rs := render rsP
    let combined := render lsP ++ " " ++ opStr ++ " " ++ firstLine rs
    if indent + blen combined ≤ w then lsP ++ .text (" " ++ opStr ++ " ") :: rsP
    else lsP ++ .text ("\n" ++ makeIndent indent ++ opStr ++ " ") :: rsP
  else
    lsP ++ .text ("\n" ++ makeIndent (indent + INDENT_SIZE) ++ opStr ++ " ") :: parenP rp (rIn ())

/-- a node `format_multiline` has no layout for (literals, names): `expr_to_source` -/
def leafP (w indent : Nat) (e : Expr) : List Piece :=
  orSingle w indent e fun _ => [.text (exprToSource e)]

mutual
/-- `format_expr_impl` -/
def fmtImplP (w indent : Nat) : Expr → List Piece
  | .lambda args body =>
    lambdaLayout w indent args body (fmtImplP w indent body)
      (fun _ => fmtImplP w (indent + INDENT_SIZE) body)
  | .doBlock ss r =>
    .text "do {" :: (fmtStmtsP w (indent + INDENT_SIZE) ss ++
      (fmtRetP w (indent + INDENT_SIZE) r ++ [.text ("\n" ++ makeIndent indent ++ "}")]))
  | .output e => orSingle w indent (.output e) fun _ => .text "output " :: fmtImplP w indent e
  | .assign n v => orSingle w indent (.assign n v) fun _ => .text (n ++ " = ") :: fmtImplP w indent v
  | .list items => orSingle w indent (.list items) fun _ =>
    if items.isEmpty then [.text "[]"]
    else .text "[" :: (fmtItemsP w (indent + INDENT_SIZE) items ++
      [.text ("\n" ++ makeIndent indent ++ "]")])
  | .record es => orSingle w indent (.record es) fun _ =>
    if es.isEmpty then [.text "{}"]
    else .text "{" :: (fmtEntriesP w (indent + INDENT_SIZE) es ++
      [.text ("\n" ++ makeIndent indent ++ "}")])
  | .cond c t e => orSingle w indent (.cond c t e) fun _ =>
    condLayout w indent (fmtImplP w indent c) (fun _ => fmtImplP w (indent + INDENT_SIZE) c)
      (fmtImplP w (indent + INDENT_SIZE) t)
      (elseLayout indent (fmtChainP w indent e) (fun _ => fmtImplP w (indent + INDENT_SIZE) e))
  | .call f args => orSingle w indent (.call f args) fun _ =>
    if args.isEmpty then parenP (needsParens f .postfix_) (fmtImplP w indent f) ++ [.text "()"]
    else parenP (needsParens f .postfix_) (fmtImplP w indent f) ++
      .text "(" :: (fmtArgsP w (indent + INDENT_SIZE) args ++
        [.text ("\n" ++ makeIndent indent ++ ")")])
  | .bin op l r => orSingle w indent (.bin op l r) fun _ =>
    binLayout w indent op l r (fmtImplP w indent l) (fun _ => fmtImplP w indent r)
      (fun _ => fmtImplP w (indent + INDENT_SIZE) r)
  | .un op e => orSingle w indent (.un op e) fun _ =>
    .text (unaryOpToSource op) :: parenP (needsParens e .prefix_) (fmtImplP w indent e)
  | .fact e => orSingle w indent (.fact e) fun _ =>
    parenP (needsParens e .postfix_) (fmtImplP w indent e) ++ [.text "!"]
  | .access e i => orSingle w indent (.access e i) fun _ =>
    parenP (needsParens e .postfix_) (fmtImplP w indent e) ++
      .text "[" :: (fmtImplP w indent i ++ [.text "]"])
  | .dot e f => orSingle w indent (.dot e f) fun _ =>
    parenP (needsParens e .postfix_) (fmtImplP w indent e) ++ [.text ("." ++ f)]
  | .spread e => orSingle w indent (.spread e) fun _ => .text "..." :: fmtImplP w indent e
  | .num x => leafP w indent (.num x)
  | .str s => leafP w indent (.str s)
  | .bool b => leafP w indent (.bool b)
  | .null => leafP w indent .null
  | .ident n => leafP w indent (.ident n)
  | .inref f => leafP w indent (.inref f)
  | .builtin n => leafP w indent (.builtin n)
/-- `format_conditional_multiline` of an else-expression that is itself a conditional
    (the `if let Expr::Conditional { .. } = &else_expr.node` arms); `none` for anything else -/
def fmtChainP (w indent : Nat) : Expr → Option (List Piece)
  | .cond c t e =>
    some (condLayout w indent (fmtImplP w indent c) (fun _ => fmtImplP w (indent + INDENT_SIZE) c)
      (fmtImplP w (indent + INDENT_SIZE) t)
      (elseLayout indent (fmtChainP w indent e) (fun _ => fmtImplP w (indent + INDENT_SIZE) e)))
  | _ => none
/-- one item of `format_list_multiline`, on its own line at `inner` -/
def fmtItemP (w inner : Nat) : Item → List Piece
  | .mk lead e tr =>
    leadP (makeIndent inner) lead ++ .text ("\n" ++ makeIndent inner) ::
      (fmtImplP w inner e ++ .text "," :: trailP tr)
def fmtItemsP (w inner : Nat) : List Item → List Piece
  | [] => []
  | i :: rest => fmtItemP w inner i ++ fmtItemsP w inner rest
/-- one entry of `format_record_multiline` -/
def fmtEntryP (w inner : Nat) : Entry → List Piece
  | .mk lead k v tr =>
    leadP (makeIndent inner) lead ++ .text ("\n" ++ makeIndent inner) ::
      (fmtKeyedP w inner k (fmtImplP w inner v) ++ .text "," :: trailP tr)
def fmtEntriesP (w inner : Nat) : List Entry → List Piece
  | [] => []
  | e :: rest => fmtEntryP w inner e ++ fmtEntriesP w inner rest
/-- `format_record_entry` given the formatted value -/
def fmtKeyedP (w inner : Nat) : Key → List Piece → List Piece
  | .static k, vs => .text (formatRecordKey k ++ ": ") :: vs
  | .dyn ke, vs => .text "[" :: (fmtImplP w inner ke ++ .text "]: " :: vs)
  | .short n, _ => [.text n]
  | .spread e, _ => fmtImplP w inner e
/-- the arguments of `format_call_multiline` -/
def fmtArgsP (w inner : Nat) : List Expr → List Piece
  | [] => []
  | a :: rest =>
    .text ("\n" ++ makeIndent inner) :: (fmtImplP w inner a ++ .text "," :: fmtArgsP w inner rest)
/-- one statement of `format_do_block_multiline` -/
def fmtStmtP (w inner : Nat) : Item → List Piece
  | .mk lead e tr =>
    leadP (makeIndent inner) lead ++ .text ("\n" ++ makeIndent inner) ::
      (protectP (fmtImplP w inner e) ++ trailP tr)
def fmtStmtsP (w inner : Nat) : List Item → List Piece
  | [] => []
  | i :: rest => fmtStmtP w inner i ++ fmtStmtsP w inner rest
/-- the `return` of a do-block: its leading comments and the expression; a trailing comment
    of the item is NOT printed (`format_do_block_multiline` never reads
    `return_expr.trailing`; the parser always leaves it `None`) -/
def fmtRetP (w inner : Nat) : Item → List Piece
  | .mk lead e _ =>
    leadP (makeIndent inner) lead ++ .text ("\n" ++ makeIndent inner ++ "return ") ::
      fmtImplP w inner e
end

/-! #### the functions of `formatter.rs`, one by one (not recursive: they call `fmtImplP`) -/

/-- `format_lambda` -/
def fmtLambdaP (w indent : Nat) (args : List LArg) (body : Expr) : List Piece :=
  lambdaLayout w indent args body (fmtImplP w indent body)
    (fun _ => fmtImplP w (indent + INDENT_SIZE) body)

/-- `format_conditional_multiline` -/
def fmtCondP (w indent : Nat) (c t e : Expr) : List Piece :=
  condLayout w indent (fmtImplP w indent c) (fun _ => fmtImplP w (indent + INDENT_SIZE) c)
    (fmtImplP w (indent + INDENT_SIZE) t)
    (elseLayout indent (fmtChainP w indent e) (fun _ => fmtImplP w (indent + INDENT_SIZE) e))

/-- `format_binary_op_multiline` -/
def fmtBinP (w indent : Nat) (op : BinOp) (l r : Expr) : List Piece :=
  binLayout w indent op l r (fmtImplP w indent l) (fun _ => fmtImplP w indent r)
    (fun _ => fmtImplP w (indent + INDENT_SIZE) r)

/-- `format_multiline`.  The last arm is `_ => expr_to_source(expr)`: literals and names, and
    a lambda — which `format_expr_impl` never passes on to `format_multiline`. -/
def fmtMultiP (w indent : Nat) : Expr → List Piece
  | .output e => .text "output " :: fmtImplP w indent e
  | .assign n v => .text (n ++ " = ") :: fmtImplP w indent v
  | .list items =>
    if items.isEmpty then [.text "[]"]
    else .text "[" :: (fmtItemsP w (indent + INDENT_SIZE) items ++
      [.text ("\n" ++ makeIndent indent ++ "]")])
  | .record es =>
    if es.isEmpty then [.text "{}"]
    else .text "{" :: (fmtEntriesP w (indent + INDENT_SIZE) es ++
      [.text ("\n" ++ makeIndent indent ++ "}")])
  | .cond c t e => fmtCondP w indent c t e
  | .call f args =>
    if args.isEmpty then parenP (needsParens f .postfix_) (fmtImplP w indent f) ++ [.text "()"]
    else parenP (needsParens f .postfix_) (fmtImplP w indent f) ++
      .text "(" :: (fmtArgsP w (indent + INDENT_SIZE) args ++
        [.text ("\n" ++ makeIndent indent ++ ")")])
  | .bin op l r => fmtBinP w indent op l r
  | .doBlock ss r =>
    .text "do {" :: (fmtStmtsP w (indent + INDENT_SIZE) ss ++
      (fmtRetP w (indent + INDENT_SIZE) r ++ [.text ("\n" ++ makeIndent indent ++ "}")]))
  | .un op e => .text (unaryOpToSource op) :: parenP (needsParens e .prefix_) (fmtImplP w indent e)
  | .fact e => parenP (needsParens e .postfix_) (fmtImplP w indent e) ++ [.text "!"]
  | .access e i =>
    parenP (needsParens e .postfix_) (fmtImplP w indent e) ++
      .text "[" :: (fmtImplP w indent i ++ [.text "]"])
  | .dot e f => parenP (needsParens e .postfix_) (fmtImplP w indent e) ++ [.text ("." ++ f)]
  | .spread e => .text "..." :: fmtImplP w indent e
  | e => [.text (exprToSource e)]

/-- `format_expr_impl` as a string -/
def fmtImpl (w indent : Nat) (e : Expr) : String := render (fmtImplP w indent e)

/-- the pieces of `format_expr`'s result -/
def formatExprP (e : Expr) (maxColumns : Option Nat) : List Piece :=
  protectP (fmtImplP (maxColumns.getD DEFAULT_MAX_COLUMNS) 0 e)

/-- `format_expr` -/
def formatExpr (e : Expr) (maxColumns : Option Nat) : String :=
  protectStatementStart (fmtImpl (maxColumns.getD DEFAULT_MAX_COLUMNS) 0 e)

/-- `join_statements_with_spacing`: (text, start line, end line) -/
def joinStatementsWithSpacing : List (String × Nat × Nat) → String
  | [] => ""
  | [(s, _, _)] => s
  | (s, _, endLine) :: (s2, start2, e2) :: rest =>
    let gap := (start2 - endLine) - 1
    let newlines := min (gap + 1) 3
    s ++ String.ofList (List.replicate newlines '\n') ++ joinStatementsWithSpacing ((s2, start2, e2) :: rest)

end Blots
