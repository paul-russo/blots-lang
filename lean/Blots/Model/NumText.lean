import Blots.Model.Num
/-
  Numbers ↔ text outside the display path:

  * `literalValue`  — the numeric-literal conversion of `expressions.rs:1892-1934`
    (`Rule::number`): `0b…` / `0x…` through `i64::from_str_radix` (overflow = error),
    decimal through `str::parse::<f64>` after removing `_`;
  * `srcNumber`     — number printing in emitted source (`ast_to_source.rs:49-55, 283-289,
    458-464`): `{:.0}` when integral and |x| < 1e15, else `to_string`;
  * `toStringNum` / `toNumberStr` / `toNumberBool` — the `to_string` / `to_number`
    built-ins on numbers, strings, booleans (`functions.rs:1205-1223`, `values.rs` stringify);
  * `jsonNumber`    — the text serde_json writes for a finite double (ryu's `format_finite`
    layout around the shortest round-trip digits); the *reader* of serde_json is
    `jsonReadNumber` in `Model/JsonText.lean` (it is compared with `parseDec` by the harness).
-/
namespace Blots.NumText

open Blots

/-! ### `i64::from_str_radix` -/

/-- value of one digit character in the given radix (`char::to_digit(radix)`) -/
def digitOf (radix : Nat) (c : Char) : Option Nat :=
  match hexVal c with
  | some v => if v < radix then some v else none
  | none => none

/-- digits → natural number, `none` on an invalid digit -/
def digitsRadix (radix : Nat) : List Char → Nat → Option Nat
  | [], acc => some acc
  | c :: cs, acc =>
    match digitOf radix c with
    | some v => digitsRadix radix cs (acc * radix + v)
    | none => none

/-- `i64::from_str_radix(s, radix)` : empty → error; one optional leading `+`/`-`
    (a lone sign → error); every other character a digit; out of i64 range → error. -/
def fromStrRadixI64 (radix : Nat) (cs : List Char) : Option Int :=
  if cs.isEmpty then none else
  let (negative, ds) := match cs with
    | '-' :: r => (true, r)
    | '+' :: r => (false, r)
    | r => (false, r)
  if ds.isEmpty then none else
  match digitsRadix radix ds 0 with
  | none => none
  | some n =>
    let v : Int := if negative then - Int.ofNat n else Int.ofNat n
    if v < -(2 ^ 63) || v > 2 ^ 63 - 1 then none else some v

/-- `sign * v` for `sign ∈ {1.0, -1.0}` (exact in IEEE arithmetic for every non-NaN `v`) -/
def mulSign (negative : Bool) (v : F64) : F64 := if negative then v.negate else v

def removeUnderscores (cs : List Char) : List Char := cs.filter (· ≠ '_')

/-- the three-way prefix test `starts_with("0b") || starts_with("-0b") || starts_with("+0b")`
    and the `strip_prefix` chain: `some (negative, digits)` when the literal has that radix
    marker (`m` = 'b' or 'x') -/
def radixSplit (m : Char) (cs : List Char) : Option (Bool × List Char) :=
  match cs with
  | '-' :: '0' :: c :: r => if c = m then some (true, r) else none
  | '+' :: '0' :: c :: r => if c = m then some (false, r) else none
  | '0' :: c :: r => if c = m then some (false, r) else none
  | _ => none

/-- `Rule::number` → f64 (`none` = the conversion returns `Err`).  `parsed as f64` is the
    correctly rounded i64 → f64 cast, `F64.ofInt`. -/
def literalValue (s : String) : Option F64 :=
  let cs := s.toList
  match radixSplit 'b' cs with
  | some (negative, digits) =>
    match fromStrRadixI64 2 (removeUnderscores digits) with
    | some parsed => some (mulSign negative (F64.ofInt parsed))
    | none => none
  | none =>
    match radixSplit 'x' cs with
    | some (negative, digits) =>
      match fromStrRadixI64 16 (removeUnderscores digits) with
      | some parsed => some (mulSign negative (F64.ofInt parsed))
      | none => none
    | none => F64.parseDec (String.ofList (removeUnderscores cs))

/-! ### printing -/

/-- `1e15` -/
def srcThreshold : F64 := F64.ofNatBits 0x430C6BF526340000

/-- `if n.fract() == 0.0 && n.abs() < 1e15 { format!("{:.0}", n) } else { n.to_string() }` -/
def srcNumber (x : F64) : String :=
  if x.isIntegral && F64.flt x.abs srcThreshold then F64.toFixed x 0 else F64.toDisplay x

/-- `to_string(x)` on a number: `f64::to_string` -/
def toStringNum (x : F64) : String := F64.toDisplay x

/-- `to_number(s)` on a string: `s.parse::<f64>()` -/
def toNumberStr (s : String) : Option F64 := F64.parseDec s

/-- `to_number(b)` on a boolean -/
def toNumberBool (b : Bool) : F64 := if b then F64.one else F64.zero

/-- serde_json / ryu `format_finite` for a finite double: shortest round-trip digits `D`
    (n of them) and exponent `k` (value = D × 10^k), `kk = n + k`:
      0 ≤ k, kk ≤ 16   → `D` zeros `.0`
      0 < kk ≤ 16      → `D` with a point after kk digits
      -5 < kk ≤ 0      → `0.` zeros `D`
      otherwise        → `d[.ddd]e[-]x`  (x = kk - 1) -/
def jsonNumber (x : F64) : String :=
  let sign := if x.neg then "-" else ""
  if x.isZero then sign ++ "0.0"
  else
    let (d, k) := x.shortestDigitsWith false
    let ds := F64.natDigits d
    let n : Int := Int.ofNat ds.length
    let kk : Int := n + k
    if 0 ≤ k && kk ≤ 16 then sign ++ ds ++ F64.zeros k.toNat ++ ".0"
    else if 0 < kk && kk ≤ 16 then
      sign ++ String.ofList (ds.toList.take kk.toNat) ++ "." ++ String.ofList (ds.toList.drop kk.toNat)
    else if -5 < kk && kk ≤ 0 then sign ++ "0." ++ F64.zeros (-kk).toNat ++ ds
    else
      let e := kk - 1
      let mant := if ds.length = 1 then ds
                  else String.ofList (ds.toList.take 1) ++ "." ++ String.ofList (ds.toList.drop 1)
      sign ++ mant ++ "e" ++ toString e

end Blots.NumText
